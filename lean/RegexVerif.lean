import RegexVerif.Sexp
import RegexVerif.Lemmas.ParserTac
import RegexVerif.Props.C01
import RegexVerif.Props.C02
import RegexVerif.Props.C03
import RegexVerif.Props.C04
import RegexVerif.Props.C05
import RegexVerif.Props.C06
import RegexVerif.Props.C07
import RegexVerif.Props.C08
import RegexVerif.Props.C09
import RegexVerif.Props.C10
import RegexVerif.Props.C11
import RegexVerif.Props.C12
import RegexVerif.Props.C13
import RegexVerif.Props.C14
import RegexVerif.Props.C15
import RegexVerif.Props.C16
import RegexVerif.Props.C17
import RegexVerif.Props.C18
import RegexVerif.Props.C19
import RegexVerif.Props.C20
import RegexVerif.Driver.C01
import RegexVerif.Driver.C02
import RegexVerif.Driver.C03
import RegexVerif.Driver.C04
import RegexVerif.Driver.C05
import RegexVerif.Driver.C06
import RegexVerif.Driver.C07
import RegexVerif.Driver.C08
import RegexVerif.Driver.C09
import RegexVerif.Driver.C10
import RegexVerif.Driver.C11
import RegexVerif.Driver.C12
import RegexVerif.Driver.C13
import RegexVerif.Driver.C14
import RegexVerif.Driver.C15
import RegexVerif.Driver.C16
import RegexVerif.Driver.C17
import RegexVerif.Driver.C18
import RegexVerif.Driver.C19
import RegexVerif.Driver.C20
