/-
Of the four parts of C02 (head of Props/C02.lean) this file serves two: A, the bool-only program `quickCode` reports
the same overall match as the full program at every position; B, every entry point of `Model/Api.lean` performs the
same scans.  It holds the lemmas for B (`scanAt_congr` and what follows from it), and the bridge from A: the specification of a
pattern and of its bool-only program satisfy `Programs.Agree`, and a pattern without `\G` is `OriginFree`.
`Engine.Sound`, which `Programs.Agree` asks of both programs as "sound accelerators", includes the shape of the
attempts.
-/
import RegexVerif.Model.Api
import RegexVerif.Lemmas.Scan
import RegexVerif.Lemmas.Quick
import RegexVerif.Lemmas.Facts

namespace RegexVerif.Api
open RegexVerif.Scan RegexVerif.Lemmas.Scan

/-! ### the naive scan only looks at the attempts inside the input -/

theorem naiveFrom_congr (a b : Nat → Option (Nat × Nat)) (rtl : Bool) (n pos : Nat) (hpos : pos ≤ n)
    (h : ∀ p, p ≤ n → a p = b p) : naiveFrom a rtl n pos = naiveFrom b rtl n pos := by
  unfold naiveFrom
  have : ∀ (l : List Nat), (∀ p ∈ l, p ≤ n) → l.findSome? a = l.findSome? b := by
    intro l
    induction l with
    | nil => intro _; rfl
    | cons x l ih =>
      intro hl
      simp only [List.findSome?_cons, h x (hl x (by simp))]
      rw [ih (fun p hp => hl p (by simp [hp]))]
  apply this
  intro p hp
  rw [mem_scanOrder] at hp
  cases rtl <;> simp at hp <;> omega

theorem naive_congr (a b : Nat → Option (Nat × Nat)) (rtl : Bool) (n start : Nat) (prevLen : Int) (hs : start ≤ n)
    (h : ∀ p, p ≤ n → a p = b p) : naive a start prevLen rtl n = naive b start prevLen rtl n := by
  unfold naive
  split
  · split
    · rfl
    · rename_i hne
      exact naiveFrom_congr a b rtl n _ (bump_spec rtl n start hs hne).1 h
  · exact naiveFrom_congr a b rtl n _ hs h

theorem scanAt_congr (Q E : Engine) (rtl : Bool) (n : Nat) (hQ : Q.Sound rtl n) (hE : E.Sound rtl n)
    (start : Nat) (prevLen : Int) (hs : start ≤ n) (h : ∀ p, p ≤ n → Q.attempt start p = E.attempt start p) :
    scanAt Q rtl n start prevLen = scanAt E rtl n start prevLen := by
  rw [scanAt_eq_naive Q rtl n hQ start prevLen hs, scanAt_eq_naive E rtl n hE start prevLen hs,
    naive_congr _ _ rtl n start prevLen hs h]

theorem firstMatch_congr (P : Programs) (rtl : Bool) (n : Nat) (hP : P.Agree rtl n) :
    firstMatch P.quick rtl n = firstMatch P.full rtl n :=
  scanAt_congr _ _ rtl n hP.quick hP.full _ _ (firstStart_le rtl n) (fun p hp => hP.same _ p (firstStart_le rtl n) hp)

theorem iterFrom_congr (P : Programs) (rtl : Bool) (n : Nat) (hP : P.Agree rtl n) :
    ∀ (fuel : Nat) (o : Option Hit), (∀ m, o = some m → m.Valid rtl n) →
      iterFrom P.quick rtl n fuel o = iterFrom P.full rtl n fuel o := by
  intro fuel
  induction fuel with
  | zero => intro o _; rfl
  | succ fuel ih =>
    intro o hv
    cases o with
    | none => rfl
    | some m =>
      have hm := hv m rfl
      have htp := valid_textpos_le hm
      have hnext : nextMatch P.quick rtl n m = nextMatch P.full rtl n m :=
        scanAt_congr _ _ rtl n hP.quick hP.full _ _ htp (fun p hp => hP.same _ p htp hp)
      simp only [iterFrom, hnext]
      rw [ih]
      intro m' hm'
      exact (nextMatch_spec P.full rtl n hP.full m m' hm hm').1

theorem iterate_congr (P : Programs) (rtl : Bool) (n : Nat) (hP : P.Agree rtl n) :
    iterate P.quick rtl n = iterate P.full rtl n := by
  unfold iterate
  rw [firstMatch_congr P rtl n hP]
  exact iterFrom_congr P rtl n hP _ _ (fun m hm => firstMatch_valid P.full rtl n hP.full m hm)

/-! ### the string prefix filter -/

theorem clampStart_le (n c : Nat) : clampStart n c ≤ n := by
  unfold clampStart; split <;> omega

theorem stringStart_le {filter : Nat → Option Nat} {rtl : Bool} {n c : Nat} (h : stringStart filter rtl n = some c) :
    c ≤ n := by
  unfold stringStart at h
  cases rtl with
  | true => cases h; exact Nat.le_refl n
  | false =>
    obtain ⟨c', _, rfl⟩ := Option.map_eq_some_iff.mp h
    exact clampStart_le n c'

/-- restarting a left-to-right search at the filter's candidate (which rebinds `\G` to it) finds what
    the search from 0 finds; "no" from the filter means the search from 0 finds nothing -/
theorem stringStart_scan (E : Engine) (n : Nat) (hE : E.Sound false n) (hO : OriginFree E n)
    (filter : Nat → Option Nat) (hF : FilterSound (E.attempt 0) n filter) :
    (match stringStart filter false n with
     | none => none
     | some c => scanAt E false n c (-1)) = firstMatch E false n := by
  have hfirst : firstMatch E false n = (naiveFrom (E.attempt 0) false n 0).map (Hit.ofSpan false) := by
    unfold firstMatch
    rw [scanAt_eq_naive E false n hE _ _ (firstStart_le false n)]
    simp [naive, firstStart]
  rw [hfirst]
  simp only [stringStart, Bool.false_eq_true, if_false]
  cases hf : filter 0 with
  | none =>
    simp only [Option.map_none]
    rw [naiveFrom_eq_none]
    · rfl
    · intro p hp
      rw [mem_scanOrder] at hp
      exact hF.1 hf p (by simpa using hp)
  | some c =>
    simp only [Option.map_some]
    have hc := clampStart_le n c
    rw [scanAt_eq_naive E false n hE _ _ hc]
    have : naive (E.attempt (clampStart n c)) (clampStart n c) (-1) false n
        = naiveFrom (E.attempt 0) false n (clampStart n c) := by
      simp only [naive, show ((-1 : Int) = 0) = False from by simp, if_false]
      exact naiveFrom_congr _ _ false n _ hc (fun p hp => hO _ _ p hc (Nat.zero_le n) hp)
    rw [this]
    congr 1
    symm
    apply naiveFrom_skip (E.attempt 0) false n 0 (clampStart n c) (Nat.zero_le n) hc (Nat.zero_le _)
    intro p hp
    simp only [Bool.false_eq_true, if_false] at hp
    have hpc : p < c := by
      have := hp.2
      unfold clampStart at this
      split at this <;> omega
    exact hF.2 c hf p hpc (by omega)

theorem stringStart_rtl (filter : Nat → Option Nat) (n : Nat) : stringStart filter true n = some (firstStart true n) := by
  simp [stringStart, firstStart]

/-! ### the replace loop -/

theorem replaceLoop_eq (E : Engine) (rtl : Bool) (n : Nat) :
    ∀ (fuel : Nat) (o : Option Hit) (count : Int), count ≠ 0 →
      replaceLoop E rtl n fuel o count = takeK count (iterFrom E rtl n fuel o) := by
  intro fuel
  induction fuel with
  | zero => intro o count _; simp [replaceLoop, iterFrom, takeK_nil]
  | succ fuel ih =>
    intro o count hc
    cases o with
    | none => simp [replaceLoop, iterFrom, takeK_nil]
    | some m =>
      simp only [replaceLoop, iterFrom]
      rw [takeK_cons count m _ hc]
      congr 1
      by_cases h1 : count - 1 = 0
      · have : count = 1 := by omega
        subst this
        simp [takeK_zero]
      · simp only [h1, if_false]
        rw [ih _ _ h1]
        by_cases hpos : count > 0
        · simp [hpos]
        · simp only [hpos, if_false]
          rw [takeK_of_neg (show count < 0 by omega), takeK_of_neg (show count - 1 < 0 by omega)]

/-! ### the specification as an engine (bridge from part A) -/

open RegexVerif.Spec

/-- the overall span `(index, length)` one attempt of the specification reports, for `\G` origin `ts` -/
def specAttempt (e : Env) (p : Pat) (rtl : Bool) (ts pos : Nat) : Option (Nat × Nat) :=
  (attempt { e with textstart := ts } p rtl pos).bind (fun st => lastCap st.caps 0)

/-- the specification as an engine without accelerators -/
def specEngine (e : Env) (p : Pat) (rtl : Bool) : Engine :=
  { finder := fun _ pos => (true, pos), after := fun _ q => q, attempt := specAttempt e p rtl, minLen := 0 }

def specPrograms (e : Env) (p : Pat) (rtl : Bool) : Programs :=
  { full := specEngine e p rtl, quick := specEngine e (quickPat p) rtl }

theorem specAttempt_shape (e : Env) (p : Pat) (rtl : Bool) (ts : Nat) :
    AttemptShape rtl e.n (specAttempt e p rtl ts) := by
  intro pos i l hpos h
  unfold specAttempt at h
  cases hat : attempt { e with textstart := ts } p rtl pos with
  | none => rw [hat] at h; cases h
  | some st =>
    rw [hat, Option.bind_some] at h
    obtain ⟨y, idx, len, hy, hcap, _, hi, hend⟩ := Facts.attempt_span _ p rtl pos st hat
    cases hcap.symm.trans h
    have hwf : y.pos ≤ e.n := (m_wf { e with textstart := ts } p rtl { pos := pos, caps := [] } (St.wf_start hpos) y hy).1
    cases rtl
    · have hend : i + l = y.pos := hend
      exact ⟨hi, hend ▸ hwf⟩
    · exact hi

theorem specEngine_sound (e : Env) (p : Pat) (rtl : Bool) : (specEngine e p rtl).Sound rtl e.n :=
  plainEngine_sound rtl e.n _ fun ts _ => specAttempt_shape e p rtl ts

theorem specAttempt_quick (e : Env) (p : Pat) (rtl : Bool) (ts pos : Nat) :
    specAttempt e (quickPat p) rtl ts pos = specAttempt e p rtl ts pos := by
  unfold specAttempt quickPat
  rw [attempt_strip _ _ p (slotsInUse_refs p) rtl pos]
  cases attempt { e with textstart := ts } p rtl pos with
  | none => rfl
  | some st =>
    simp only [Option.map_some, Option.bind_some, eraseCaps_caps]
    exact lastCap_filter _ st.caps 0 (kept_zero _)

theorem specPrograms_agree (e : Env) (p : Pat) (rtl : Bool) : (specPrograms e p rtl).Agree rtl e.n where
  full := specEngine_sound e p rtl
  quick := specEngine_sound e (quickPat p) rtl
  same := fun ts pos _ _ => specAttempt_quick e p rtl ts pos

/-! ### patterns without `\G` -/

/-- the pattern contains `\G` (`Code.UsesStartAnchor`) -/
def usesStart : Pat → Bool
  | .empty => false
  | .nothing => false
  | .chr _ => false
  | .anchor a => a == .start
  | .seq a b => usesStart a || usesStart b
  | .alt a b => usesStart a || usesStart b
  | .quant _ _ _ body => usesStart body
  | .cap _ body => usesStart body
  | .look _ _ body => usesStart body
  | .atomic body => usesStart body
  | .ref _ _ => false
  | .refCond _ yes no => usesStart yes || usesStart no
  | .exprCond c yes no => usesStart c || usesStart yes || usesStart no

theorem anchorHolds_textstart (e : Env) (ts : Nat) (a : Anchor) (h : a ≠ .start) (p : Nat) :
    anchorHolds { e with textstart := ts } a p = anchorHolds e a p := by
  cases a <;> first | rfl | exact absurd rfl h

theorem m_textstart (e : Env) (ts : Nat) (p : Pat) (h : usesStart p = false) :
    ∀ (rtl : Bool), m { e with textstart := ts } p rtl = m e p rtl := by
  induction p with
  | empty | nothing | ref g ci => intro rtl; rfl
  | chr p =>
    intro rtl; funext st
    simp only [m, Pred.test_congr e { e with textstart := ts } rfl rfl]
    rfl
  | anchor a =>
    intro rtl; funext st
    simp only [m]
    rw [anchorHolds_textstart e ts a (by intro ha; subst ha; simp [usesStart] at h)]
  | seq a b iha ihb | alt a b iha ihb | refCond _ a b iha ihb =>
    intro rtl; funext st
    simp only [usesStart, Bool.or_eq_false_iff] at h
    simp only [m, iha h.1, ihb h.2]
  | quant _ _ _ body ih =>
    intro rtl; funext st
    simp only [m, ih (by simpa [usesStart] using h)]
    rfl
  | cap _ body ih | look _ _ body ih | atomic body ih =>
    intro rtl; funext st
    simp only [m, ih (by simpa [usesStart] using h)]
  | exprCond c yes no ihc ihy ihn =>
    intro rtl; funext st
    simp only [usesStart, Bool.or_eq_false_iff] at h
    simp only [m, ihc h.1.1, ihy h.1.2, ihn h.2]

theorem specEngine_originFree (e : Env) (p : Pat) (rtl : Bool) (h : usesStart p = false) :
    OriginFree (specEngine e p rtl) e.n := by
  intro ts ts' pos _ _ _
  simp only [specEngine, specAttempt, attempt]
  have hc : usesStart (.cap 0 p) = false := by simpa [usesStart] using h
  rw [m_textstart e ts _ hc, m_textstart e ts' _ hc]

end RegexVerif.Api
