/-
Compiler correctness: the general loops `Loop` / `Lazyloop` —
`Setmark|Nullmark … Branchmark|Lazybranchmark` and the counted forms `Setcount|Nullcount … Branchcount|Lazybranchcount`,
all their `|Back` / `|Back2` cases — against `Spec.iter`, for arbitrary bodies (the empty-iteration rule included) and
either direction (these instructions do not read the direction; only the termination argument does).

Every tail instruction satisfies one contract (`TailOK`); the induction over the fuel of `Spec.iter` (`gloop_delivers`)
is done once, against the contract.
-/
import RegexVerif.Lemmas.CompileStep
import RegexVerif.Lemmas.Facts

namespace RegexVerif.Compile
open RegexVerif.VM RegexVerif.Code RegexVerif.Writer RegexVerif.Generated.Opcodes RegexVerif RegexVerif.Spec
open RegexVerif.Lemmas.Scan (dist dist_le dist_lt)  -- Lemmas/Dir.lean

/-- the grouping stack at the tail of a loop: the start `q` of the last iteration (`-1`: none yet) and, in a counted
    loop, the number of iterations done minus the minimum -/
def loopStk (counted : Bool) (lo : Nat) (S : List Int) (q : Int) (k : Nat) : List Int :=
  if counted then ((k : Int) - (lo : Int)) :: q :: S else q :: S

/-- **contract of the tail instruction at `L`** of a loop with body at `bd` and exit `b`: reached at `p` after `k`
    iterations, the last one started at `q`, it delivers the specification's `tailList`, provided another round of the
    body — entered above one more frame with the stack of iteration `k + 1` — delivers `rest`.
    `adj q p` is the mark the instruction leaves on the grouping stack when it fails: `q`, except that `Lazybranchmark`
    replaces the initial `-1` by the position (`lbmAdj`).  The hypothesis `k < lo + 2147483647` keeps the counter of a
    counted loop, `k - lo`, below the limit operand `MaxInt32` of an unbounded `Branchcount`. -/
def TailOK (X : Setup) (L bd b : Nat) (counted lzy : Bool) (lo : Nat) (hi : Option Nat) (S : List Int)
    (adj : Int → Nat → Int) : Prop :=
  ∀ (k p : Nat) (q : Int) (C : List (Nat × Nat × Nat)) (T : List Int) (v : Int) (rest : List St) (s : VMState),
    p ≤ X.se.n → (counted = false → lo ≤ k) →
    (¬ (q = (p : Int) ∧ lo ≤ k) → hi = none → k < lo + 2147483647) →
    Entry X L p (T ++ [v]) (loopStk counted lo S q k) C s →
    ((canGo hi k && !(decide (q = (p : Int)) && decide (lo ≤ k))) = true → ∀ (s1 : VMState) (F : List Int) (v' : Int),
      Framed X.p F → Entry X bd p (F ++ T ++ [v']) (loopStk counted lo S (p : Int) (k + 1)) C s1 →
      Delivers X b (F ++ T) (loopStk counted lo S (p : Int) (k + 1)) S C rest s1) →
    Delivers X b T (loopStk counted lo S (adj q p) k) S C (tailList lzy lo hi k q ⟨p, C⟩ rest) s

/-- **the loop, against the contract of its tail**, by induction on the fuel of `Spec.iter`.
    The premise after `St.wf` and `lo ≤ cnt + 1` is the termination measure: unless this arrival is the empty iteration
    that ends the loop, the runes ahead plus the iterations still owed to the minimum are below the fuel, and the count
    stays within `lo + n`.  A round of the body that moves leaves fewer runes ahead (`dist_lt`); one that does not move
    is below the minimum (else it would have ended the loop) and lowers `lo - cnt`. -/
theorem gloop_delivers {X : Setup} {L bd b : Nat} {counted lzy : Bool} {lo : Nat} {hi : Option Nat} {S : List Int}
    {adj : Int → Nat → Int} {f : St → List St} {d : Bool}
    (htail : TailOK X L bd b counted lzy lo hi S adj) (hadj : ∀ (q p : Nat), adj (q : Int) p = (q : Int))
    (hn : X.se.n < 2147483647)
    (hdir : ∀ st, ∀ st' ∈ f st, Facts.Fwd d st.pos st'.pos)
    (hfwf : ∀ st, St.wf X.se.n st → ∀ st' ∈ f st, St.wf X.se.n st')
    (hbody : ∀ (p : Nat) (C : List (Nat × Nat × Nat)) (T S' : List Int) (v : Int) (s : VMState), St.wf X.se.n ⟨p, C⟩ →
      Entry X bd p (T ++ [v]) S' C s → Delivers X L T S' S' C (f ⟨p, C⟩) s) :
    ∀ (fuel cnt p q : Nat) (C : List (Nat × Nat × Nat)) (T : List Int) (v : Int) (s : VMState), St.wf X.se.n ⟨p, C⟩ →
      (counted = false → lo ≤ cnt + 1) →
      (¬ (q = p ∧ lo ≤ cnt + 1) →
        dist d X.se.n p + (lo - (cnt + 1)) < fuel ∧ cnt + 1 + dist d X.se.n p ≤ lo + X.se.n) →
      Entry X L p (T ++ [v]) (loopStk counted lo S (q : Int) (cnt + 1)) C s →
      Delivers X b T (loopStk counted lo S (q : Int) (cnt + 1)) S C (iterNext f lzy lo hi fuel cnt q ⟨p, C⟩) s := by
  -- an empty iteration at or above the minimum ends the loop, whatever the fuel
  have hstop : ∀ (fuel cnt p q : Nat) (C : List (Nat × Nat × Nat)) (T : List Int) (v : Int) (s : VMState), p ≤ X.se.n →
      (counted = false → lo ≤ cnt + 1) → q = p ∧ lo ≤ cnt + 1 →
      Entry X L p (T ++ [v]) (loopStk counted lo S (q : Int) (cnt + 1)) C s →
      Delivers X b T (loopStk counted lo S (q : Int) (cnt + 1)) S C (iterNext f lzy lo hi fuel cnt q ⟨p, C⟩) s := by
    intro fuel cnt p q C T v s hp hk hem he
    have hq : (q : Int) = ((⟨p, C⟩ : St).pos : Int) := by simp [hem.1]
    have := htail (cnt + 1) p (q : Int) C T v [] s hp hk (fun h => absurd ⟨by simp [hem.1], hem.2⟩ h) he
      (fun hgo => by simp [hem.1, hem.2] at hgo)
    rw [tailList_stop hq hem.2, hadj] at this
    simpa [iterNext, hem.1, hem.2] using this
  intro fuel
  induction fuel with
  | zero =>
    intro cnt p q C T v s hwf hk hinv he
    by_cases hem : q = p ∧ lo ≤ cnt + 1
    · exact hstop 0 cnt p q C T v s hwf.1 hk hem he
    · have := (hinv hem).1
      omega
  | succ fuel ih =>
    intro cnt p q C T v s hwf hk hinv he
    by_cases hem : q = p ∧ lo ≤ cnt + 1
    · exact hstop _ cnt p q C T v s hwf.1 hk hem he
    · obtain ⟨hm1, hm2⟩ := hinv hem
      have hemI : ¬ ((q : Int) = (p : Int) ∧ lo ≤ cnt + 1) := fun h => hem ⟨by omega, h.2⟩
      have hpn : p ≤ X.se.n := hwf.1
      have hrn := dist_le d hpn
      have := htail (cnt + 1) p (q : Int) C T v ((f ⟨p, C⟩).flatMap (iterNext f lzy lo hi fuel (cnt + 1) p)) s hwf.1 hk
        (fun _ _ => by omega) he ?_
      · rw [tailList_go (f := f) (st := ⟨p, C⟩) hemI, hadj] at this
        have hne : (p == q && decide (lo ≤ cnt + 1)) = false := by
          rw [Bool.eq_false_iff]; intro h
          simp only [Bool.and_eq_true, beq_iff_eq, decide_eq_true_eq] at h
          exact hem ⟨h.1.symm, h.2⟩
        simpa [iterNext, hne] using this
      · intro _ s1 F v1 hF he1
        refine Delivers.bind _ s1 (hbody p C (F ++ T) _ v1 s1 hwf he1) fun r hr F' s' v2 hF' he' => ?_
        have hrwf := hfwf _ hwf r hr
        have hrd : Facts.Fwd d p r.pos := hdir _ r hr
        have hrn' := dist_le d hrwf.1
        refine ih (cnt + 1) r.pos p r.caps (F' ++ (F ++ T)) v2 s' hrwf (fun h => by have := hk h; omega)
          ?_ he'
        -- the measure goes down: the round did not move and the minimum is still owed, or fewer runes are ahead
        intro hne
        by_cases hrp : r.pos = p
        · have : ¬ lo ≤ cnt + 1 + 1 := fun h => hne ⟨hrp.symm, h⟩
          rw [hrp]
          omega
        · have := dist_lt hrd hrp hpn hrwf.1
          omega

section branchmark
variable {X : Setup} {L bd : Nat} {S : List Int}

/-- leaving a greedy uncounted loop: the `Back2` frame `[-L, q]` restores the mark -/
theorem branchmark_exit (hL : L ≠ 0) (hia : InstrAt X.p L (i1 opBranchmark (bd : Int))) {p : Nat} {q v : Int} {T : List Int}
    {C : List (Nat × Nat × Nat)} {s1 : VMState} (he1 : Entry X (L + 2) p ((-(L : Int)) :: q :: (T ++ [v])) S C s1) :
    Delivers X (L + 2) T (q :: S) S C [⟨p, C⟩] s1 := by
  refine Delivers.cons (v := v) [-(L : Int), q] (frame_neg (w := decode opBranchmark) hia.fetch hL [q] rfl) (Leads.here he1) ?_
  intro s'' v' hf
  exact Delivers.fail (v := v') (fail_through2 (w := decode opBranchmark) hf hL hia.fetch fun _ _ => rfl)

theorem branchmark_tail {lo : Nat} (hL : L ≠ 0) (hia : InstrAt X.p L (i1 opBranchmark (bd : Int)))
    (hfb : ∃ w, VM.fetch X.p (L + 2) = .ok w) (hfbd : ∃ w, VM.fetch X.p bd = .ok w) :
    TailOK X L bd (L + 2) false false lo none S (fun q _ => q) := by
  intro k p q C T v rest s _ hk _ he hprem
  have hlo : lo ≤ k := hk rfl
  simp only [loopStk, Bool.false_eq_true, if_false] at he hprem ⊢
  obtain ⟨cap, rfl, hc⟩ := he.eq (t := opBranchmark) hia rfl
  by_cases hq : q = (p : Int)
  · rw [tailList_stop (by simpa using hq) hlo]
    have hb : VM.body X.p X.env ⟨L, decode opBranchmark, p, T ++ [v], q :: S, cap⟩ =
        .ok (⟨L, decode opBranchmark, p, -(L : Int) :: q :: (T ++ [v]), S, cap⟩, .advance 1) := by
      show VM.caseBranchmark X.p ⟨L, _, p, _, q :: S, cap⟩ = _
      simp [caseBranchmark, hq, VM.pushNeg1]
    exact Delivers.of_leads (leads_of_advance hb hfb rfl hc) fun s1 he1 => branchmark_exit hL hia he1
  · have hgo : (canGo none k && !(decide (q = (p : Int)) && decide (lo ≤ k))) = true := by simp [canGo, hq]
    have htl : tailList false lo none k q ⟨p, C⟩ rest = rest ++ [⟨p, C⟩] := by
      simp [tailList, canGo, hq, hlo]
    rw [htl]
    have hz : ((p : Int) - q != 0) = true := by rw [bne_iff_ne]; omega
    have hb : VM.body X.p X.env ⟨L, decode opBranchmark, p, T ++ [v], q :: S, cap⟩ =
        .ok (⟨L, decode opBranchmark, p, (L : Int) :: (p : Int) :: q :: (T ++ [v]), (p : Int) :: S, cap⟩, .goto (bd : Int)) := by
      show VM.caseBranchmark X.p ⟨L, _, p, _, q :: S, cap⟩ = _
      simp only [caseBranchmark, hz, if_true, hia.operand_at 0 _ rfl]; rfl
    have hfr : Framed X.p [(L : Int), (p : Int), q] := frame_pos (w := decode opBranchmark) hia.fetch [(p : Int), q] rfl
    refine Delivers.of_leads (leads_of_goto hb hfbd rfl hc) fun s1 he1 =>
      Delivers.append hfr rest s1 (hprem hgo s1 _ v hfr he1) ?_
    -- the body failed: `Branchmark|Back` leaves the loop at `p`
    intro s'' v' hf
    obtain ⟨tp, cap', chk, hst, hc'⟩ := fail_back (w := decode opBranchmark) hf hia.fetch
    exact Delivers.of_step hst (Delivers.of_leads (leads_of_advance (k := 1)
      (s1 := ⟨L, { decode opBranchmark with back := true }, p, -(L : Int) :: q :: (T ++ [v']), S, cap'⟩) rfl hfb rfl hc')
      fun s2 he2 => branchmark_exit hL hia he2)

/-- the mark `Lazybranchmark` keeps: the first time (mark `-1`) it records the text position instead -/
def lbmAdj (q : Int) (p : Nat) : Int := if q = -1 then (p : Int) else q

theorem lazybranchmark_back2 (hL : L ≠ 0) (hia : InstrAt X.p L (i1 opLazybranchmark (bd : Int))) {q : Int} {T S0 : List Int}
    {C : List (Nat × Nat × Nat)} {s : VMState} {np : Int} (hnp : (np = 0 ∧ S0 = S) ∨ (np = 1 ∧ ∃ u, S0 = u :: S))
    (hf : FailAt X ((-(L : Int)) :: np :: q :: T) S0 C s) : Leads X s (FailAt X T (q :: S) C) := by
  rcases hnp with ⟨rfl, rfl⟩ | ⟨rfl, u, rfl⟩ <;>
    exact fail_through2 (w := decode opLazybranchmark) hf hL hia.fetch fun _ _ => rfl

theorem lazybranchmark_tail {lo : Nat} (hL : L ≠ 0) (hia : InstrAt X.p L (i1 opLazybranchmark (bd : Int)))
    (hfb : ∃ w, VM.fetch X.p (L + 2) = .ok w) (hfbd : ∃ w, VM.fetch X.p bd = .ok w) :
    TailOK X L bd (L + 2) false true lo none S lbmAdj := by
  intro k p q C T v rest s _ hk _ he hprem
  have hlo : lo ≤ k := hk rfl
  simp only [loopStk, Bool.false_eq_true, if_false] at he hprem ⊢
  obtain ⟨cap, rfl, hc⟩ := he.eq (t := opLazybranchmark) hia rfl
  by_cases hq : q = (p : Int)
  · rw [tailList_stop (by simpa using hq) hlo]
    have hadj : lbmAdj q p = q := by simp only [lbmAdj]; rw [if_neg (by omega)]
    rw [hadj]
    have hb : VM.body X.p X.env ⟨L, decode opLazybranchmark, p, T ++ [v], q :: S, cap⟩ =
        .ok (⟨L, decode opLazybranchmark, p, -(L : Int) :: 0 :: q :: (T ++ [v]), S, cap⟩, .advance 1) := by
      show VM.caseLazybranchmark ⟨L, _, p, _, q :: S, cap⟩ = _
      simp [caseLazybranchmark, hq, VM.pushNeg2]
    refine Delivers.of_leads (leads_of_advance hb hfb rfl hc) fun s1 he1 => ?_
    refine Delivers.cons (v := v) [-(L : Int), 0, q] (frame_neg (w := decode opLazybranchmark) hia.fetch hL [0, q] rfl)
      (Leads.here he1) fun s'' v' hf => ?_
    exact Delivers.fail (v := v') (lazybranchmark_back2 hL hia (Or.inl ⟨rfl, rfl⟩) hf)
  · have hgo : (canGo none k && !(decide (q = (p : Int)) && decide (lo ≤ k))) = true := by simp [canGo, hq]
    have htl : tailList true lo none k q ⟨p, C⟩ rest = ⟨p, C⟩ :: rest := by
      simp [tailList, canGo, hq, hlo]
    rw [htl]
    have hb : VM.body X.p X.env ⟨L, decode opLazybranchmark, p, T ++ [v], q :: S, cap⟩ =
        .ok (⟨L, decode opLazybranchmark, p, (L : Int) :: (p : Int) :: lbmAdj q p :: (T ++ [v]), S, cap⟩, .advance 1) := by
      show VM.caseLazybranchmark ⟨L, _, p, _, q :: S, cap⟩ = _
      have hz : ((p : Int) != q) = true := by rw [bne_iff_ne]; omega
      simp only [caseLazybranchmark, hz, if_true, lbmAdj]
      by_cases h1 : q = -1
      · subst h1; rfl
      · rw [if_pos (bne_iff_ne.2 h1), if_neg h1]; rfl
    have hfr : Framed X.p [(L : Int), (p : Int), lbmAdj q p] :=
      frame_pos (w := decode opLazybranchmark) hia.fetch [(p : Int), lbmAdj q p] rfl
    refine Delivers.of_leads (leads_of_advance hb hfb rfl hc) fun s1 he1 => ?_
    refine Delivers.cons (v := v) [(L : Int), (p : Int), lbmAdj q p] hfr (Leads.here he1) fun s'' v' hf => ?_
    -- the continuation failed: `Lazybranchmark|Back` runs the body once more
    obtain ⟨tp, cap', chk, hst, hc'⟩ := fail_back (w := decode opLazybranchmark) hf hia.fetch
    have hfr2 : Framed X.p [-(L : Int), 1, lbmAdj q p] :=
      frame_neg (w := decode opLazybranchmark) hia.fetch hL [1, lbmAdj q p] rfl
    refine Delivers.of_step hst (Delivers.of_leads (leads_of_goto
      (s1 := ⟨L, { decode opLazybranchmark with back := true }, p, -(L : Int) :: 1 :: lbmAdj q p :: (T ++ [v']), (p : Int) :: S,
        cap'⟩) (congrArg (Except.map _) (hia.operand_at 0 (bd : Int) rfl ..)) hfbd rfl hc') fun s2 he2 => ?_)
    exact Delivers.under hfr2 (hprem hgo s2 _ v' hfr2 he2) fun s3 v3 hf3 =>
      lazybranchmark_back2 hL hia (Or.inr ⟨rfl, _, rfl⟩) hf3

end branchmark

/-- the limit operand of `Branchcount` / `Lazybranchcount` against the specification's bounds -/
def limOK (lo : Nat) (hi : Option Nat) (lim : Int) : Prop :=
  match hi with
  | some h => lim = (h : Int) - (lo : Int) ∧ lo ≤ h
  | none => lim = 2147483647

theorem limOK.nonneg {lo : Nat} {hi : Option Nat} {lim : Int} (hl : limOK lo hi lim) : 0 ≤ lim := by
  cases hi <;> simp only [limOK] at hl <;> omega

/-- the specification's condition for another round (`canGo`, and the last round was not an empty one at or above the minimum)
    in the terms of the counted tail instructions; `2147483647` is the limit operand of an unbounded loop -/
theorem go_iff {lo k p : Nat} {hi : Option Nat} {lim q : Int} (hl : limOK lo hi lim)
    (hb : ¬ (q = (p : Int) ∧ lo ≤ k) → hi = none → k < lo + 2147483647) :
    (canGo hi k && !(decide (q = (p : Int)) && decide (lo ≤ k))) = true ↔
      (k : Int) - (lo : Int) < lim ∧ ¬ (q = (p : Int) ∧ lo ≤ k) := by
  by_cases hq : q = (p : Int) ∧ lo ≤ k
  · simp [hq.1, hq.2]
  · have hd : (decide (q = (p : Int)) && decide (lo ≤ k)) = false := by simpa using hq
    simp only [hd, Bool.not_false, Bool.and_true, hq, not_false_eq_true, and_true]
    cases hi with
    | none => have := hb hq rfl; simp only [limOK] at hl; simp [canGo]; omega
    | some h => simp only [limOK] at hl; simp [canGo]; omega

section branchcount
variable {X : Setup} {TPx : TP} {sets : List (List Nat)} {L bd : Nat} {S : List Int} {lim : Int}

/-- leaving a greedy counted loop: the `Back2` frame `[-L, count, mark]` restores both -/
theorem branchcount_exit (hL : L ≠ 0) (hia : InstrAt X.p L (i2 opBranchcount (bd : Int) lim)) {p : Nat} {q c v : Int}
    {T : List Int} {C : List (Nat × Nat × Nat)} {s1 : VMState}
    (he1 : Entry X (L + 3) p ((-(L : Int)) :: c :: q :: (T ++ [v])) S C s1) :
    Delivers X (L + 3) T (c :: q :: S) S C [⟨p, C⟩] s1 := by
  refine Delivers.cons (v := v) [-(L : Int), c, q] (frame_neg (w := decode opBranchcount) hia.fetch hL [c, q] rfl)
    (Leads.here he1) fun s'' v' hf => ?_
  exact Delivers.fail (v := v') (fail_through2 (w := decode opBranchcount) hf hL hia.fetch fun _ _ => rfl)

theorem branchcount_tail {lo : Nat} {hi : Option Nat} (hrel : EnvRel TPx sets X.env X.se) (hL : L ≠ 0)
    (hia : InstrAt X.p L (i2 opBranchcount (bd : Int) lim)) (hfb : ∃ w, VM.fetch X.p (L + 3) = .ok w)
    (hfbd : ∃ w, VM.fetch X.p bd = .ok w) (hl : limOK lo hi lim) :
    TailOK X L bd (L + 3) true false lo hi S (fun q _ => q) := by
  intro k p q C T v rest s hpn _ hbnd he hprem
  simp only [loopStk, if_true, Int.natCast_add, Int.natCast_one] at he hprem ⊢
  obtain ⟨cap, hs, hc⟩ := he.eq (t := opBranchcount) hia rfl
  have hcase : VM.body X.p X.env s = VM.caseBranchcount X.p s := by rw [hs]; rfl
  subst hs
  simp only [caseBranchcount, bind, Except.bind, hia.operand_at 1 lim rfl, hia.operand_at 0 (bd : Int) rfl] at hcase
  by_cases hE : (k : Int) - (lo : Int) ≥ lim ∨ ((p : Int) - q = 0 ∧ (k : Int) - (lo : Int) ≥ 0)
  · have hlo : lo ≤ k := by have := hl.nonneg; omega
    have hgo : (canGo hi k && !(decide (q = (p : Int)) && decide (lo ≤ k))) = false := by
      rw [Bool.eq_false_iff, Ne, go_iff hl hbnd]; omega
    have htl : tailList false lo hi k q ⟨p, C⟩ rest = [⟨p, C⟩] := by
      simp only [tailList, Bool.false_eq_true, if_false]
      rw [hgo]; simp [hlo]
    rw [htl]
    rw [if_pos hE] at hcase
    exact Delivers.of_leads (leads_of_advance hcase hfb rfl hc) fun s1 he1 => branchcount_exit hL hia he1
  · have hgo := (go_iff hl hbnd).2 (by omega)
    have htl : tailList false lo hi k q ⟨p, C⟩ rest = rest ++ (if lo ≤ k then [⟨p, C⟩] else []) := by
      simp only [tailList, Bool.false_eq_true, if_false]
      rw [hgo]; simp
    rw [htl]
    rw [if_neg hE] at hcase
    have hfr : Framed X.p [(L : Int), q] := frame_pos (w := decode opBranchcount) hia.fetch [q] rfl
    have hcnt : (k : Int) - (lo : Int) + 1 = (k : Int) + 1 - (lo : Int) := by omega
    rw [hcnt] at hcase
    refine Delivers.of_leads (leads_of_goto hcase hfbd rfl hc) fun s1 he1 =>
      Delivers.append hfr rest s1 (hprem hgo s1 _ v hfr he1) ?_
    -- the body failed: `Branchcount|Back`
    intro s'' v' hf
    obtain ⟨tp, cap', chk, hst, hc'⟩ := fail_back (w := decode opBranchcount) hf hia.fetch
    have hc1 : (k : Int) + 1 - (lo : Int) - 1 = (k : Int) - (lo : Int) := by omega
    have hcase2 : VM.body X.p X.env ⟨L, { decode opBranchcount with back := true }, tp, q :: (T ++ [v']),
        ((k : Int) + 1 - (lo : Int)) :: (p : Int) :: S, cap'⟩ = VM.caseBranchcountBack X.env
          ⟨L, { decode opBranchcount with back := true }, tp, q :: (T ++ [v']), ((k : Int) + 1 - (lo : Int)) :: (p : Int) :: S, cap'⟩ :=
      rfl
    simp only [caseBranchcountBack, hc1] at hcase2
    by_cases hlo : lo ≤ k
    · rw [if_pos hlo]
      have hrange : (0 : Int) ≤ (p : Int) ∧ (p : Int) ≤ X.env.len := by rw [env_len hrel]; omega
      rw [if_pos (by omega), VM.texttoStack, if_pos hrange] at hcase2
      exact Delivers.of_step hst (Delivers.of_leads (leads_of_advance hcase2 hfb rfl hc') fun s2 he2 => branchcount_exit hL hia he2)
    · rw [if_neg hlo]
      rw [if_neg (by omega)] at hcase2
      exact Delivers.fail (v := v') (Leads.of_step hst (Leads.here ⟨_, hcase2, rfl, rfl, hc'⟩))

end branchcount

section lazybranchcount
variable {X : Setup} {L bd : Nat} {S : List Int} {lim : Int}

/-- `Lazybranchcount|Back2`: the body of an iteration failed; count and mark of the iteration before are restored -/
theorem lazybranchcount_back2 (hL : L ≠ 0) (hia : InstrAt X.p L (i2 opLazybranchcount (bd : Int) lim)) {q c v : Int}
    {T : List Int} {C : List (Nat × Nat × Nat)} {s : VMState}
    (hf : FailAt X ((-(L : Int)) :: q :: T) (c :: v :: S) C s) : Leads X s (FailAt X T ((c - 1) :: q :: S) C) :=
  fail_through2 (w := decode opLazybranchcount) hf hL hia.fetch fun _ _ => rfl

theorem lazybranchcount_tail {lo : Nat} {hi : Option Nat} (hL : L ≠ 0)
    (hia : InstrAt X.p L (i2 opLazybranchcount (bd : Int) lim)) (hfb : ∃ w, VM.fetch X.p (L + 3) = .ok w)
    (hfbd : ∃ w, VM.fetch X.p bd = .ok w) (hl : limOK lo hi lim) :
    TailOK X L bd (L + 3) true true lo hi S (fun q _ => q) := by
  intro k p q C T v rest s _ _ hbnd he hprem
  simp only [loopStk, if_true, Int.natCast_add, Int.natCast_one] at he hprem ⊢
  obtain ⟨cap, hs, hc⟩ := he.eq (t := opLazybranchcount) hia rfl
  have hcase : VM.body X.p X.env s = VM.caseLazybranchcount X.p s := by rw [hs]; rfl
  subst hs
  have hcnt : (k : Int) - (lo : Int) + 1 = (k : Int) + 1 - (lo : Int) := by omega
  have hc1 : (k : Int) + 1 - (lo : Int) - 1 = (k : Int) - (lo : Int) := by omega
  have hfr2 : Framed X.p [-(L : Int), q] := frame_neg (w := decode opLazybranchcount) hia.fetch hL [q] rfl
  -- one more round of the body above the `Back2` frame, then the failure into the stack of this arrival
  have hround : ∀ (s1 : VMState) (v1 : Int), (canGo hi k && !(decide (q = (p : Int)) && decide (lo ≤ k))) = true →
      Entry X bd p (-(L : Int) :: q :: (T ++ [v1])) (((k : Int) + 1 - (lo : Int)) :: (p : Int) :: S) C s1 →
      Delivers X (L + 3) T (((k : Int) - (lo : Int)) :: q :: S) S C rest s1 := by
    intro s1 v1 hgo he1
    exact Delivers.under hfr2 (hprem hgo s1 _ v1 hfr2 he1) fun s3 v3 hf3 => hc1 ▸ lazybranchcount_back2 hL hia hf3
  simp only [caseLazybranchcount, hia.operand_at 0 (bd : Int) rfl, Except.map, hcnt] at hcase
  by_cases hneg : (k : Int) - (lo : Int) < 0
  · have hlo : ¬ lo ≤ k := by omega
    have hgo := (go_iff hl hbnd).2 ⟨by have := hl.nonneg; omega, fun h => hlo h.2⟩
    have htl : tailList true lo hi k q ⟨p, C⟩ rest = rest := by
      simp only [tailList, if_true]; rw [hgo]; simp [hlo]
    rw [htl]
    rw [if_pos hneg] at hcase
    exact Delivers.of_leads (leads_of_goto hcase hfbd rfl hc) fun s1 he1 => hround s1 v hgo he1
  · have hlo : lo ≤ k := by omega
    rw [if_neg hneg] at hcase
    have hfr : Framed X.p [(L : Int), (p : Int), (k : Int) - (lo : Int), q] :=
      frame_pos (w := decode opLazybranchcount) hia.fetch [(p : Int), (k : Int) - (lo : Int), q] rfl
    have htl : tailList true lo hi k q ⟨p, C⟩ rest =
        ⟨p, C⟩ :: (if (canGo hi k && !(decide (q = (p : Int)) && decide (lo ≤ k))) = true then rest else []) := by
      simp [tailList, hlo]
    rw [htl]
    refine Delivers.of_leads (leads_of_advance hcase hfb rfl hc) fun s1 he1 =>
      Delivers.cons (v := v) [(L : Int), (p : Int), (k : Int) - (lo : Int), q] hfr (Leads.here he1) fun s'' v' hf => ?_
    obtain ⟨tp, cap', chk, hst, hc'⟩ := fail_back (w := decode opLazybranchcount) hf hia.fetch
    have hcase2 : VM.body X.p X.env ⟨L, { decode opLazybranchcount with back := true }, tp,
        (p : Int) :: ((k : Int) - (lo : Int)) :: q :: (T ++ [v']), S, cap'⟩ = VM.caseLazybranchcountBack X.p
          ⟨L, { decode opLazybranchcount with back := true }, tp, (p : Int) :: ((k : Int) - (lo : Int)) :: q :: (T ++ [v']), S, cap'⟩ :=
      rfl
    simp only [caseLazybranchcountBack, bind, Except.bind, hia.operand_at 1 lim rfl, hia.operand_at 0 (bd : Int) rfl, hcnt]
      at hcase2
    by_cases hgo : (canGo hi k && !(decide (q = (p : Int)) && decide (lo ≤ k))) = true
    · rw [if_pos hgo]
      have hcond : (k : Int) - (lo : Int) < lim ∧ (p : Int) ≠ q :=
        ((go_iff hl hbnd).1 hgo).imp_right fun h e => h ⟨e.symm, hlo⟩
      rw [if_pos hcond] at hcase2
      exact Delivers.of_step hst (Delivers.of_leads (leads_of_goto hcase2 hfbd rfl hc') fun s2 he2 => hround s2 v' hgo he2)
    · rw [if_neg hgo]
      have hcond : ¬ ((k : Int) - (lo : Int) < lim ∧ (p : Int) ≠ q) :=
        fun h => hgo ((go_iff hl hbnd).2 (h.imp_right fun h2 e => h2 e.1.symm))
      rw [if_neg hcond] at hcase2
      exact Delivers.fail (v := v') (Leads.of_step hst (Leads.here ⟨_, hcase2, rfl, rfl, hc'⟩))

end lazybranchcount

/-- a loop behind its head, the tail (contract `htail`) given abstractly: `lo = 0` — the head has led to the tail with mark
    `-1` and no iteration done; `lo ≥ 1` — the head has led into the body.  The first round is done here, the others by
    `gloop_delivers` with fuel `n + lo` -/
theorem gloop_node {X : Setup} {L bd b : Nat} {counted lzy : Bool} {lo : Nat} {hi : Option Nat} {S : List Int}
    {adj : Int → Nat → Int} {f : St → List St} {d : Bool} {i : Nat} {T : List Int} {v : Int} {C : List (Nat × Nat × Nat)}
    (htail : TailOK X L bd b counted lzy lo hi S adj) (hadj : ∀ (q p : Nat), adj (q : Int) p = (q : Int))
    (hn : X.se.n < 2147483647)
    (hdir : ∀ st, ∀ st' ∈ f st, Facts.Fwd d st.pos st'.pos)
    (hfwf : ∀ st, St.wf X.se.n st → ∀ st' ∈ f st, St.wf X.se.n st')
    (hbody : ∀ (p : Nat) (C : List (Nat × Nat × Nat)) (T S' : List Int) (v : Int) (s : VMState), St.wf X.se.n ⟨p, C⟩ →
      Entry X bd p (T ++ [v]) S' C s → Delivers X L T S' S' C (f ⟨p, C⟩) s)
    (hhi : ∀ h, hi = some h → lo ≤ h) (hcu : counted = false → lo ≤ 1)
    (hwf : St.wf X.se.n ⟨i, C⟩) :
    (lo = 0 → ∀ s1, Entry X L i (T ++ [v]) (loopStk counted lo S (-1) 0) C s1 →
      Delivers X b T (loopStk counted lo S (adj (-1) i) 0) S C (iter f lzy lo hi (X.se.n + lo + 1) 0 ⟨i, C⟩) s1) ∧
    (lo ≠ 0 → ∀ s1, Entry X bd i (T ++ [v]) (loopStk counted lo S (i : Int) 1) C s1 →
      Delivers X b T (loopStk counted lo S (i : Int) 1) S C (iter f lzy lo hi (X.se.n + lo + 1) 0 ⟨i, C⟩) s1) := by
  have hin : i ≤ X.se.n := hwf.1
  have hround : ∀ (T' : List Int) (v1 : Int) (s1 : VMState), Entry X bd i (T' ++ [v1]) (loopStk counted lo S (i : Int) 1) C s1 →
      Delivers X b T' (loopStk counted lo S (i : Int) 1) S C
        ((f ⟨i, C⟩).flatMap (iterNext f lzy lo hi (X.se.n + lo) 0 i)) s1 := by
    intro T' v1 s1 he1
    have hb := hbody i C T' _ v1 s1 hwf he1
    refine Delivers.bind _ s1 hb ?_
    intro r hr F' s' v2 hF' he'
    have hrwf := hfwf _ hwf r hr
    have hrd : Facts.Fwd d i r.pos := hdir _ r hr
    have hrn := dist_le d hrwf.1
    have hin' := dist_le d hin
    refine gloop_delivers htail hadj hn hdir hfwf hbody (X.se.n + lo) 0 r.pos i r.caps (F' ++ T') v2 s' hrwf
      (fun h => by have := hcu h; omega) ?_ he'
    -- the measure fits the fuel `n + lo`: with no minimum the first round moved; else `dist ≤ n` and `lo - 1 < lo`
    intro hne
    by_cases hl0 : lo = 0
    · have hrp : r.pos ≠ i := fun h => hne ⟨h.symm, by omega⟩
      have := dist_lt hrd hrp hin hrwf.1
      omega
    · omega
  refine ⟨fun hl0 s1 he1 => ?_, fun hl0 s1 he1 => ?_⟩
  · have hq : ¬ ((-1 : Int) = (((⟨i, C⟩ : St).pos : Nat) : Int) ∧ lo ≤ 0) := by
      intro h; have := h.1; simp at this
    have := htail 0 i (-1) C T v ((f ⟨i, C⟩).flatMap (iterNext f lzy lo hi (X.se.n + lo) 0 i)) s1 hin
      (fun _ => by omega) (fun _ _ => by omega) he1
      (fun _ s2 F v2 hF he2 => hround (F ++ T) v2 s2 he2)
    rwa [tailList_go (f := f) (st := ⟨i, C⟩) hq] at this
  · have hcg : canGo hi 0 = true := by
      cases hhi' : hi with
      | none => rfl
      | some h => have := hhi h hhi'; simp [canGo]; omega
    have hit : iter f lzy lo hi (X.se.n + lo + 1) 0 ⟨i, C⟩ = (f ⟨i, C⟩).flatMap (iterNext f lzy lo hi (X.se.n + lo) 0 i) := by
      have : ¬ lo ≤ 0 := by omega
      rw [iter_succ, iterMore_eq, hcg, if_pos rfl, if_neg this, List.nil_append, List.append_nil, ite_self]
    rw [hit]
    exact hround T v s1 he1

/-- what `emitNode` puts in front of the body of a `Loop` / `Lazyloop` with minimum `m` (`cnt`: the loop needs a counter):
    `Nullmark|Nullcount 0; Goto after` for a minimum of 0, else `Setmark|Setcount (1 - m)` -/
abbrev loopHead (cnt : Bool) (m after : Int) : Code :=
  (if cnt then (if m == 0 then [i1 opNullcount 0] else [i1 opSetcount (1 - m)])
    else (if m == 0 then [i0 opNullmark] else [i0 opSetmark])) ++ (if m == 0 then [i1 opGoto after] else [])

/-- … and behind it: `Branchcount|Lazybranchcount body lim` or `Branchmark|Lazybranchmark body` -/
abbrev loopTail (cnt lzy : Bool) (bd lim : Int) : Code :=
  if cnt then [i2 (opBranchcount + (if lzy then 1 else 0)) bd lim] else [i1 (opBranchmark + (if lzy then 1 else 0)) bd]

theorem tail_of_code {X : Setup} {TPx : TP} {sets : List (List Nat)} (hrel : EnvRel TPx sets X.env X.se) {L bd : Nat}
    {counted lzy : Bool} {lo : Nat} {hi : Option Nat} {lim : Int} (S : List Int) (hL : L ≠ 0)
    (hcode : CodeAt X.p L (loopTail counted lzy (bd : Int) lim))
    (hfbd : ∃ w, VM.fetch X.p bd = .ok w) (hl : limOK lo hi lim) (hhin : counted = false → hi = none) :
    ∃ adj, TailOK X L bd (L + (if counted then 3 else 2)) counted lzy lo hi S adj ∧
      ∀ (q p : Nat), adj (q : Int) p = (q : Int) := by
  cases counted with
  | false =>
    obtain rfl := hhin rfl
    cases lzy with
    | false => exact ⟨_, branchmark_tail hL hcode.instr hcode.fetch_end hfbd, fun _ _ => rfl⟩
    | true =>
      refine ⟨_, lazybranchmark_tail hL hcode.instr hcode.fetch_end hfbd, fun q p => ?_⟩
      simp only [lbmAdj]; rw [if_neg (by omega)]
  | true =>
    cases lzy with
    | false =>
      exact ⟨_, branchcount_tail hrel hL hcode.instr hcode.fetch_end hfbd hl, fun _ _ => rfl⟩
    | true =>
      exact ⟨_, lazybranchcount_tail hL hcode.instr hcode.fetch_end hfbd hl, fun _ _ => rfl⟩

/-- an instruction in front of a fragment: it pushes the frame `[a]` and something on the grouping stack, and its `Back`
    case clears whatever the fragment leaves there when it fails -/
theorem Delivers.behind {X : Setup} {a b c j : Nat} {T S S' Sm Sm' : List Int} {C : List (Nat × Nat × Nat)} {s : VMState}
    {v : Int} {xs : List St} (hl : Leads X s (Entry X c j ((a : Int) :: (T ++ [v])) Sm C)) (hF : Framed X.p [(a : Int)])
    (hback : ∀ s'' v', FailAt X ((a : Int) :: (T ++ [v'])) Sm' C s'' → Leads X s'' (FailAt X (T ++ [v']) S C))
    (hk : ∀ s1, Entry X c j ((a : Int) :: (T ++ [v])) Sm C s1 → Delivers X b ((a : Int) :: T) Sm' S' C xs s1) :
    Delivers X b T S S' C xs s :=
  Delivers.of_leads hl fun s1 he1 => Delivers.under (F := [(a : Int)]) hF (hk s1 he1) hback

/-- the head of an emitted loop in front of the rest of it: for a minimum of 0 the tail is entered with mark `-1` and no
    iteration done, else the body is entered for the first round with the text position as mark -/
theorem head_delivers {X : Setup} {a after b : Nat} {counted : Bool} {m : Int} {i : Nat} {T S S' : List Int} {v : Int}
    {C : List (Nat × Nat × Nat)} {s : VMState} {xs : List St} {q0 q1 : Int} {k0 k1 : Nat} (h0 : 0 ≤ m)
    (hcode : CodeAt X.p a (loopHead counted m (after : Int)))
    (hfa : ∃ w, VM.fetch X.p after = .ok w) (he : Entry X a i (T ++ [v]) S C s)
    (hk0 : m.toNat = 0 → ∀ s1, Entry X after i ((a : Int) :: (T ++ [v])) (loopStk counted m.toNat S (-1) 0) C s1 →
      Delivers X b ((a : Int) :: T) (loopStk counted m.toNat S q0 k0) S' C xs s1)
    (hk1 : m.toNat ≠ 0 → ∀ s1, Entry X (a + (if counted then 2 else 1)) i ((a : Int) :: (T ++ [v]))
        (loopStk counted m.toNat S (i : Int) 1) C s1 →
      Delivers X b ((a : Int) :: T) (loopStk counted m.toNat S q1 k1) S' C xs s1) :
    Delivers X b T S S' C xs s := by
  by_cases hm : m = 0
  · subst hm
    simp only [loopHead, beq_self_eq_true, if_true] at hcode
    cases counted with
    | true =>
      obtain ⟨hh, h⟩ := hcode.cons1
      obtain ⟨hg, -⟩ := h.cons1
      obtain ⟨cap, rfl, hc⟩ := he.eq (t := opNullcount) hh rfl
      obtain ⟨s1, hr1, he1⟩ : Leads X ⟨a, decode opNullcount, i, T ++ [v], S, cap⟩
          (Entry X (a + 2) i ((a : Int) :: (T ++ [v])) ((0 : Int) :: (-1 : Int) :: S) C) :=
        leads_of_advance (k := 1) (s1 := ⟨a, decode opNullcount, i, (a : Int) :: (T ++ [v]), (0 : Int) :: (-1 : Int) :: S, cap⟩)
          (congrArg (Except.map _) (hh.operand_at 0 0 rfl ..)) ⟨_, hg.fetch⟩ rfl hc
      exact Delivers.behind (Leads.of_reach hr1 (goto_leads he1 hg hfa)) (frame_pos (w := decode opNullcount) hh.fetch [] rfl)
        (fun _ _ hf => fail_through (w := decode opNullcount) hf hh.fetch fun _ _ => rfl) (hk0 rfl)
    | false =>
      obtain ⟨hh, h⟩ := hcode.cons0
      obtain ⟨hg, -⟩ := h.cons1
      obtain ⟨cap, rfl, hc⟩ := he.eq hh rfl
      obtain ⟨s1, hr1, he1⟩ : Leads X ⟨a, decode opNullmark, i, T ++ [v], S, cap⟩
          (Entry X (a + 1) i ((a : Int) :: (T ++ [v])) ((-1 : Int) :: S) C) :=
        leads_of_advance (k := 0) (s1 := ⟨a, _, i, (a : Int) :: (T ++ [v]), (-1 : Int) :: S, cap⟩) rfl ⟨_, hg.fetch⟩ rfl hc
      exact Delivers.behind (Leads.of_reach hr1 (goto_leads he1 hg hfa)) (frame_pos (w := decode opNullmark) hh.fetch [] rfl)
        (fun _ _ hf => fail_through (w := decode opNullmark) hf hh.fetch fun _ _ => rfl) (hk0 rfl)
  · have hmb : (m == 0) = false := by simpa using hm
    have hmt : m.toNat ≠ 0 := by omega
    have hmc : ((1 : Nat) : Int) - ((m.toNat : Nat) : Int) = 1 - m := by omega
    simp only [loopHead, hmb, Bool.false_eq_true, if_false, List.append_nil] at hcode
    have hf := hcode.fetch_end
    cases counted with
    | true =>
      have hh : InstrAt X.p a (i1 opSetcount (1 - m)) := hcode.instr
      obtain ⟨cap, rfl, hc⟩ := he.eq (t := opSetcount) hh rfl
      have hl : Leads X ⟨a, decode opSetcount, i, T ++ [v], S, cap⟩
          (Entry X (a + 2) i ((a : Int) :: (T ++ [v])) ((1 - m) :: (i : Int) :: S) C) :=
        leads_of_advance (k := 1) (s1 := ⟨a, decode opSetcount, i, (a : Int) :: (T ++ [v]), (1 - m) :: (i : Int) :: S, cap⟩)
          (congrArg (Except.map _) (hh.operand_at 0 (1 - m) rfl ..)) hf rfl hc
      rw [← hmc] at hl
      exact Delivers.behind hl (frame_pos (w := decode opSetcount) hh.fetch [] rfl)
        (fun _ _ hf => fail_through (w := decode opSetcount) hf hh.fetch fun _ _ => rfl) (hk1 hmt)
    | false =>
      have hh : InstrAt X.p a (i0 opSetmark) := hcode.instr
      obtain ⟨cap, rfl, hc⟩ := he.eq hh rfl
      exact Delivers.behind (leads_of_advance (k := 0) (s1 := ⟨a, _, i, (a : Int) :: (T ++ [v]), (i : Int) :: S, cap⟩) rfl hf rfl hc)
        (frame_pos (w := decode opSetmark) hh.fetch [] rfl)
        (fun _ _ hf => fail_through (w := decode opSetmark) hf hh.fetch fun _ _ => rfl) (hk1 hmt)

theorem limOK_repArg {m n : Int} (h0 : 0 ≤ m) (hmn : m ≤ n) : limOK m.toNat (hiOf n) (repArg m n) := by
  unfold hiOf repArg
  by_cases h : n = maxInt32
  · simp [h, limOK, maxInt32]
  · have : (n == maxInt32) = false := by simpa using h
    simp only [this, Bool.false_eq_true, if_false, limOK]
    omega

theorem loopHead_len (m n : Int) (after : Int) :
    codeLen (loopHead (counted m n) m after) = loopHeadLen m n := by
  unfold loopHeadLen loopHead
  cases counted m n <;> cases (m == 0) <;> simp [codeLen]

/-- **`Loop` / `Lazyloop`** as `emitNode` writes it, around a body that computes the successes of its pattern: `gloop_node`
    behind the head, with the tail read off the code (`head_delivers`, `tail_of_code`) -/
theorem Computes.gloop {X : Setup} {TPx : TP} {sets : List (List Nat)} (hrel : EnvRel TPx sets X.env X.se)
    (hn : X.se.n < 2147483647) {a sz : Nat} {lzy : Bool} {m n : Int} {body : Code} {pat : Pat} {d : Bool}
    (h0 : 0 ≤ m) (hmn : m ≤ n) (hnm : n ≤ maxInt32) (hsz : codeLen body = sz)
    (hbody : Computes X (a + loopHeadLen m n) body (Spec.m X.se pat d)) :
    Computes X a
      (loopHead (counted m n) m ((a + loopHeadLen m n + sz : Nat) : Int) ++ body ++
        loopTail (counted m n) lzy ((a + loopHeadLen m n : Nat) : Int) (repArg m n))
      (Spec.m X.se (.quant lzy m.toNat (hiOf n) pat) d) := by
  intro hcode i T S v C s hwf he
  have hhl := loopHead_len m n ((a + loopHeadLen m n + sz : Nat) : Int)
  refine Delivers.cast (b := a + loopHeadLen m n + sz + (if counted m n then 3 else 2)) ?_
    (by rw [codeLen_append, codeLen_append, hhl, hsz, Nat.add_assoc, Nat.add_assoc, Nat.add_assoc]; congr 3; split <;> rfl) rfl
  have hchead := (hcode.left').left'
  have hbody' : ∀ (p : Nat) (C : List (Nat × Nat × Nat)) (T S' : List Int) (v : Int) (s : VMState), St.wf X.se.n ⟨p, C⟩ →
      Entry X (a + loopHeadLen m n) p (T ++ [v]) S' C s →
      Delivers X (a + loopHeadLen m n + sz) T S' S' C (Spec.m X.se pat d ⟨p, C⟩) s :=
    fun p C T S' v s hw he => hsz ▸ hbody (hhl ▸ (hcode.left').right) p T S' v C s hw he
  have hctail := hcode.drop _ rfl (by rw [codeLen_append, hhl, hsz, ← Nat.add_assoc])
  have hfbd : ∃ w, VM.fetch X.p (a + loopHeadLen m n) = .ok w := hhl ▸ hchead.fetch_end
  have hfL : ∃ w, VM.fetch X.p (a + loopHeadLen m n + sz) = .ok w := hcode.fetch_at _ rfl (by rw [codeLen_append, hhl, hsz, ← Nat.add_assoc])
  have hL : a + loopHeadLen m n + sz ≠ 0 := by unfold loopHeadLen; split <;> omega
  have hhin : counted m n = false → hiOf n = none := by
    intro h
    simp only [counted, Bool.or_eq_false_iff, decide_eq_false_iff_not] at h
    have : n = maxInt32 := by omega
    simp [hiOf, this]
  obtain ⟨adj, htail, hadj⟩ := tail_of_code hrel (lo := m.toNat) (hi := hiOf n) S hL hctail hfbd (limOK_repArg h0 hmn) hhin
  have hhi : ∀ h, hiOf n = some h → m.toNat ≤ h := by
    intro h hh
    unfold hiOf at hh
    split at hh
    · cases hh
    · next hne =>
      have : n ≠ maxInt32 := by simpa using hne
      cases hh
      omega
  have hcu : counted m n = false → m.toNat ≤ 1 := by
    intro h
    simp only [counted, Bool.or_eq_false_iff, decide_eq_false_iff_not] at h
    omega
  obtain ⟨g0, g1⟩ := gloop_node (T := (a : Int) :: T) (v := v) htail hadj hn (Facts.m_fwd X.se pat d)
    (fun st hst => m_wf X.se pat d st hst) hbody' hhi hcu hwf
  refine head_delivers h0 hchead hfL he g0 fun hne s1 he1 => g1 hne s1 ?_
  have hmb : (m == 0) = false := by
    rw [Bool.eq_false_iff]; intro h; rw [beq_iff_eq] at h; rw [h] at hne; exact hne rfl
  have e : a + loopHeadLen m n = a + (if counted m n then 2 else 1) := by simp [loopHeadLen, hmb]
  exact e ▸ he1

end RegexVerif.Compile
