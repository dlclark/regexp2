/-
The building operations of classes.  While `scanCharSet` reads a class every addition is an `Adds` step (`addItem_spec`,
`buildItems_spec`): `BuildInv` stays, the positive side becomes the union, well-formed ranges stay so.  `addSet` and
`addCaseEquivalences` go through `canonicalize_mem`.

The membership laws (`Adds.pos`) need `BuildInv` only, and of an item `Item.Ok` (a `[:^name:]` table is `NegOk`); `Flat.Wf`
and `Item.Wf` enter only `Adds.wf` (ranges stay non-empty intervals), from which `Flat.canonicalize_canon` gives the
finished class the canonical ranges the lookups of `charInSlow` need.
-/
import RegexVerif.Lemmas.ClassCanon

namespace RegexVerif.Class

/-- `anything`, when set, really means everything (among valid runes) on the positive side -/
def Flat.AnyOk (cat : Nat → Nat → Bool) (f : Flat) : Prop :=
  f.anything = true → ∀ ch, ch ≤ maxRune → f.pos cat ch = true

/-! ## the complement construction -/

/-- what `addNegativeRanges` expects of its argument: ascending disjoint non-empty ranges, none
ending at U+10FFFE (the code tests `hi < MaxRune`, strictly) -/
def NegOk (rs : List (Nat × Nat)) : Prop :=
  rs.Pairwise (fun a b => a.2 < b.1) ∧ (∀ r ∈ rs, r.1 ≤ r.2) ∧ (∀ r ∈ rs, r.2 + 1 ≠ maxRune)

instance (rs : List (Nat × Nat)) : Decidable (NegOk rs) := by unfold NegOk; infer_instance

/-- `hi ≠ maxRune`: the code tests `hi < MaxRune` strictly and would drop the last rune (cf. `NegOk`). -/
theorem negGo_mem (ch : Nat) (hch : ch ≤ maxRune) :
    ∀ (rs : List (Nat × Nat)) (hi : Nat), hi ≠ maxRune → (∀ r ∈ rs, hi ≤ r.1) → NegOk rs →
      inRanges (negGo hi rs) ch = (decide (hi ≤ ch) && !inRanges rs ch) := by
  -- the range `[lo, x)` that is put in front of a range starting at `x`
  have gap : ∀ lo x : Nat, inRanges (if lo < x then [(lo, x - 1)] else []) ch = (decide (lo ≤ ch) && decide (ch < x)) := by
    intro lo x
    apply Bool.eq_iff_iff.mpr
    split
    · simp only [inRanges_cons, inRanges_nil, Bool.or_false, inRange_iff, Bool.and_eq_true, decide_eq_true_eq]; omega
    · simp only [inRanges_nil, Bool.and_eq_true, decide_eq_true_eq, Bool.false_eq_true, false_iff]; omega
  intro rs
  induction rs with
  | nil =>
    intro hi hne _ _
    rw [negGo, inRanges_nil, Bool.not_false, Bool.and_true]
    apply Bool.eq_iff_iff.mpr
    split
    · simp only [inRanges_cons, inRanges_nil, Bool.or_false, inRange_iff, decide_eq_true_eq]; omega
    · simp only [inRanges_nil, decide_eq_true_eq, Bool.false_eq_true, false_iff]; omega
  | cons r rs ih =>
    intro hi hne hlo ⟨hp, hw, hm⟩
    rw [List.pairwise_cons] at hp
    have hr1 := hlo r (List.mem_cons_self ..)
    have hrw := hw r (List.mem_cons_self ..)
    rw [negGo, inRanges_append, gap, inRanges_cons,
      ih (r.2 + 1) (hm r (List.mem_cons_self ..)) (fun b hb => hp.1 b hb)
        ⟨hp.2, fun b hb => hw b (List.mem_cons_of_mem _ hb), fun b hb => hm b (List.mem_cons_of_mem _ hb)⟩]
    cases hR : inRanges rs ch
    · apply Bool.eq_iff_iff.mpr
      simp only [Bool.not_false, Bool.and_true, Bool.or_false, Bool.or_eq_true, Bool.and_eq_true, decide_eq_true_eq,
        Bool.not_eq_true', ← Bool.not_eq_true, inRange_iff]
      omega
    · -- `ch` lies in a later range, so beyond `r`
      obtain ⟨b, hb, hb1, hb2⟩ := (inRanges_iff rs ch).mp hR
      have := hp.1 b hb
      have : decide (ch < r.1) = false := decide_eq_false (by omega)
      rw [this]; simp

theorem negGo_zero_mem (rs : List (Nat × Nat)) (hok : NegOk rs) (ch : Nat) (hch : ch ≤ maxRune) :
    inRanges (negGo 0 rs) ch = !inRanges rs ch := by
  rw [negGo_mem ch hch rs 0 (by decide) (fun _ _ => Nat.zero_le _) hok, decide_eq_true (Nat.zero_le ch), Bool.true_and]

theorem negGo_wf : ∀ (rs : List (Nat × Nat)) (hi : Nat), ∀ r ∈ negGo hi rs, r.1 ≤ r.2 := by
  have gap : ∀ lo x : Nat, ∀ r ∈ (if lo < x then [(lo, x - 1)] else []), r.1 ≤ r.2 := by
    intro lo x r hr
    split at hr
    · rw [List.mem_singleton.mp hr]; exact Nat.le_sub_one_of_lt ‹_›
    · cases hr
  intro rs
  induction rs with
  | nil =>
    intro hi r hr
    unfold negGo at hr
    split at hr
    · rw [List.mem_singleton.mp hr]; exact Nat.le_of_lt ‹_›
    · cases hr
  | cons a rs ih =>
    intro hi r hr
    unfold negGo at hr
    exact (List.mem_append.mp hr).elim (gap _ _ r) (ih _ r)

/-! ## categories -/

theorem inCats_of_mem (cat : Nat → Nat → Bool) {d : Nat × Bool} {cs : List (Nat × Bool)} {ch : Nat} (hd : d ∈ cs)
    (h : catAccepts cat d ch = true) : inCats cat cs ch = true :=
  List.any_eq_true.mpr ⟨d, hd, h⟩

/-- when `findCat` gives up (`none`) the same name is in the list with the opposite sign; when it says "present"
(`some true`) the entry is in the list -/
theorem findCat_spec (c : Nat × Bool) (cs : List (Nat × Bool)) :
    (findCat c cs = none → (c.1, !c.2) ∈ cs) ∧ (findCat c cs = some true → c ∈ cs) := by
  induction cs with
  | nil => exact ⟨nofun, nofun⟩
  | cons d rest ih =>
    rw [findCat]
    by_cases hid : c.1 = d.1
    · rw [if_pos hid]
      by_cases hneg : (c.2 != d.2) = true
      · have : d = (c.1, !c.2) := Prod.ext hid.symm (by revert hneg; cases c.2 <;> cases d.2 <;> simp)
        rw [if_pos hneg]
        exact ⟨fun _ => List.mem_cons.mpr (.inl this.symm), nofun⟩
      · have : d = c := Prod.ext hid.symm (by revert hneg; cases c.2 <;> cases d.2 <;> simp)
        rw [if_neg hneg]
        exact ⟨nofun, fun _ => List.mem_cons.mpr (.inl this.symm)⟩
    · rw [if_neg hid]
      exact ⟨fun h => List.mem_cons_of_mem _ (ih.1 h), fun h => List.mem_cons_of_mem _ (ih.2 h)⟩

/-- `addCategories` does nothing to a class but append an entry or call `makeAnything` -/
theorem addCatsGo_induction {P : Flat → Prop} (hany : ∀ g, P g → P g.makeAnything)
    (happ : ∀ g c, P g → P { g with cats := g.cats ++ [c] }) :
    ∀ (cs : List (Nat × Bool)) (f : Flat), P f → P (addCatsGo f cs)
  | [], _, h => h
  | c :: rest, f, h => by
    unfold addCatsGo
    split
    · exact hany f h
    · exact addCatsGo_induction hany happ rest f h
    · exact addCatsGo_induction hany happ rest _ (happ f c h)

theorem addCatsGo_fields (cs : List (Nat × Bool)) (f : Flat) :
    (addCatsGo f cs).neg = f.neg ∧ (addCatsGo f cs).building = f.building :=
  addCatsGo_induction (P := fun g => g.neg = f.neg ∧ g.building = f.building) (fun _ h => h) (fun _ _ h => h)
    cs f ⟨rfl, rfl⟩

theorem addCatsGo_spec (cat : Nat → Nat → Bool) (ch : Nat) (hch : ch ≤ maxRune) :
    ∀ (cs : List (Nat × Bool)) (f : Flat),
      (addCatsGo f cs).pos cat ch = (f.pos cat ch || inCats cat cs ch) := by
  intro cs
  induction cs with
  | nil => intro f; simp [addCatsGo]
  | cons c rest ih =>
    intro f
    unfold addCatsGo
    split
    · next hn =>
      -- the name is there with the other sign: one of the two entries accepts
      have hmem := (findCat_spec c f.cats).1 hn
      rw [makeAnything_pos cat f ch hch, inCats_cons]
      cases hB : catAccepts cat c ch
      · have : catAccepts cat (c.1, !c.2) ch = true := by
          revert hB; unfold catAccepts; cases cat c.1 ch <;> cases c.2 <;> simp
        rw [Flat.pos, inCats_of_mem cat hmem this]; simp
      · simp
    · next hn =>
      rw [ih f, inCats_cons]
      cases hB : catAccepts cat c ch
      · rfl
      · rw [Flat.pos, inCats_of_mem cat ((findCat_spec c f.cats).2 hn) hB]; simp
    · rw [ih]
      simp only [Flat.pos, inCats_append, inCats_cons, inCats_nil, Bool.or_false, Bool.or_assoc]

/-! ## one parser step -/

/-- requirements on an item: only `[:^name:]` tables have one -/
def Item.Ok : Item → Prop
  | .negRanges rs => NegOk rs
  | _ => True

/-- the ranges an item adds are non-empty intervals -/
def Item.Wf : Item → Prop
  | .range lo hi => lo ≤ hi
  | .ranges rs => ∀ r ∈ rs, r.1 ≤ r.2
  | _ => True

/-- the state of a class while `scanCharSet` adds items -/
structure BuildInv (cat : Nat → Nat → Bool) (neg : Bool) (f : Flat) : Prop where
  building : f.building = true
  negEq : f.neg = neg
  anyOk : f.AnyOk cat

/-- What adding `m` to the positive side of `f` gives while `scanCharSet` reads a class; `hw`: the item's ranges are
well-formed. -/
structure Adds (cat : Nat → Nat → Bool) (neg : Bool) (f : Flat) (m : Nat → Bool) (hw : Prop) (g : Flat) : Prop where
  inv : BuildInv cat neg g
  pos : ∀ ch, ch ≤ maxRune → g.pos cat ch = (f.pos cat ch || m ch)
  wf : f.Wf → hw → g.Wf

/-- The common step of `addRange`, `addRanges` and `addNegativeRanges`: append ranges, then `canonicalize`, which under
`building` only sorts and merges. -/
theorem merge_step (cat : Nat → Nat → Bool) (neg : Bool) (f : Flat) (extra : List (Nat × Nat))
    (hinv : BuildInv cat neg f) :
    Adds cat neg f (inRanges extra) (∀ r ∈ extra, r.1 ≤ r.2)
      (Flat.canonicalize cat false { f with ranges := f.ranges ++ extra }) := by
  have hpos : ∀ ch, ch ≤ maxRune →
      ({ f with ranges := mergeRanges (f.ranges ++ extra) } : Flat).pos cat ch = (f.pos cat ch || inRanges extra ch) := by
    intro ch hch
    simp only [Flat.pos, mergeRanges_mem _ ch hch, inRanges_append, Bool.or_assoc, Bool.or_comm (inRanges extra ch)]
  have hb : ({ f with ranges := f.ranges ++ extra } : Flat).building = true := hinv.building
  refine ⟨?_, ?_, fun h he => (Flat.canonicalize_canon cat false _ fun r hr => (List.mem_append.mp hr).elim (h r) (he r)).2⟩
  · rw [Flat.canonicalize_of_building cat false _ hb]
    exact ⟨hinv.building, hinv.negEq, fun ha ch hch => by rw [hpos ch hch, hinv.anyOk ha ch hch]; rfl⟩
  · rw [Flat.canonicalize_of_building cat false _ hb]
    exact hpos

theorem addItem_spec (cat : Nat → Nat → Bool) (neg : Bool) (f : Flat) (it : Item)
    (hinv : BuildInv cat neg f) (hok : it.Ok) : Adds cat neg f (it.mem cat) it.Wf (f.addItem cat it) := by
  -- `anything` is set: the operation returns at once, and nothing can be added to everything
  have hany : f.anything = true → ∀ (m : Nat → Bool) (hw : Prop), Adds cat neg f m hw f := fun ha m hw =>
    ⟨hinv, fun ch hch => by rw [hinv.anyOk ha ch hch]; rfl, fun h _ => h⟩
  cases it with
  | range lo hi =>
    obtain ⟨h1, h2, h3⟩ := merge_step cat neg f [(lo, hi)] hinv
    refine ⟨h1, fun ch hch => (h2 ch hch).trans ?_, fun h hi => h3 h fun r hr => List.mem_singleton.mp hr ▸ hi⟩
    rw [inRanges_cons, inRanges_nil, Bool.or_false]; rfl
  | ranges rs =>
    exact ite_cases (fun ha => hany ha _ _) fun _ => merge_step cat neg f rs hinv
  | negRanges rs =>
    obtain ⟨h1, h2, h3⟩ := merge_step cat neg f (negGo 0 rs) hinv
    refine ite_cases (fun ha => hany ha _ _) fun _ => ⟨h1, fun ch hch => ?_, fun h _ => h3 h (negGo_wf rs 0)⟩
    rw [h2 ch hch, negGo_zero_mem rs hok ch hch]
    rfl
  | cats cs =>
    obtain ⟨hn, hb⟩ := addCatsGo_fields cs f
    have hok : (addCatsGo f cs).AnyOk cat := by
      refine addCatsGo_induction (fun g _ _ ch hch => makeAnything_pos cat g ch hch) (fun g c hg ha ch hch => ?_) cs f
        hinv.anyOk
      have := hg ha ch hch
      rw [Flat.pos, Bool.or_eq_true] at this ⊢
      exact this.imp_right fun h => by rw [inCats_append, h]; rfl
    exact ite_cases (fun ha => hany ha _ _) fun _ =>
      ⟨⟨hb ▸ hinv.building, hn ▸ hinv.negEq, hok⟩,
        fun ch hch => addCatsGo_spec cat ch hch cs f,
        fun h _ => addCatsGo_induction (fun _ _ _ hr => List.mem_singleton.mp hr ▸ Nat.zero_le _) (fun _ _ h => h) cs f h⟩

theorem foldl_addItem_spec (cat : Nat → Nat → Bool) (neg : Bool) :
    ∀ (items : List Item) (f : Flat), BuildInv cat neg f → (∀ it ∈ items, it.Ok) →
      Adds cat neg f (fun ch => items.any (fun it => it.mem cat ch)) (∀ it ∈ items, it.Wf)
        (items.foldl (Flat.addItem cat) f)
  | [], f, hinv, _ => ⟨hinv, fun ch _ => by simp, fun h _ => h⟩
  | it :: rest, f, hinv, hok => by
    obtain ⟨h1, h2, h3⟩ := addItem_spec cat neg f it hinv (hok it (List.mem_cons_self ..))
    obtain ⟨k1, k2, k3⟩ := foldl_addItem_spec cat neg rest _ h1 (fun x hx => hok x (List.mem_cons_of_mem _ hx))
    refine ⟨k1, fun ch hch => ?_, fun h hw => k3 (h3 h (hw it (List.mem_cons_self ..)))
      fun x hx => hw x (List.mem_cons_of_mem _ hx)⟩
    rw [List.foldl_cons, k2 ch hch, h2 ch hch]
    simp only [List.any_cons, Bool.or_assoc]

theorem buildItems_spec (cat : Nat → Nat → Bool) (neg : Bool) (items : List Item) (hok : ∀ it ∈ items, it.Ok) :
    Adds cat neg { neg := neg, building := true } (fun ch => items.any (fun it => it.mem cat ch)) (∀ it ∈ items, it.Wf)
      (buildItems cat neg items) :=
  foldl_addItem_spec cat neg items _ ⟨rfl, rfl, fun h => nomatch h⟩ hok

/-! ## `addSet` -/

theorem Flat.addSet_mem (cat : Nat → Nat → Bool) (hs : Bool) (f s : Flat) (hf : f.AnyOk cat) (hsa : s.AnyOk cat)
    (ch : Nat) (hch : ch ≤ maxRune) :
    (f.addSet cat hs s).memAlg cat ch = ((f.pos cat ch || s.pos cat ch) != f.neg) := by
  unfold Flat.addSet
  split
  · next ha => simp [Flat.memAlg, hf ha ch hch]
  · split
    · next hb =>
      simp only [Flat.memAlg, makeAnything_pos cat f ch hch, hsa hb ch hch, Bool.or_true]
      rfl
    · next ha hb =>
      rw [Flat.canonicalize_mem cat hs _ ch hch]
      unfold Flat.addCategories
      have haf : f.anything = false := by simpa using ha
      simp only [haf, Bool.false_eq_true, if_false]
      simp only [Flat.memAlg, addCatsGo_spec cat ch hch, (addCatsGo_fields s.cats _).1]
      simp only [Flat.pos, inRanges_append]
      cases inRanges f.ranges ch <;> cases inRanges s.ranges ch <;> cases inCats cat f.cats ch <;> simp

/-! ## case equivalences -/

/-- some member of some range has `ch` among its case equivalents -/
def foldHit (orbit : Nat → List Nat) (rs : List (Nat × Nat)) (ch : Nat) : Bool :=
  inRanges (caseEquivRanges orbit rs) ch

theorem foldHit_iff (orbit : Nat → List Nat) (rs : List (Nat × Nat)) (ch : Nat) :
    foldHit orbit rs ch = true ↔ ∃ r ∈ rs, ∃ i, r.1 ≤ i ∧ i ≤ r.2 ∧ ch ∈ orbit i := by
  unfold foldHit caseEquivRanges
  rw [inRanges_iff]
  simp only [List.mem_flatMap, List.mem_map, List.mem_range']
  constructor
  · rintro ⟨x, ⟨r, hr, i, ⟨k, hk, rfl⟩, e, he, rfl⟩, h1, h2⟩
    refine ⟨r, hr, r.1 + 1 * k, by omega, by omega, ?_⟩
    have : ch = e := by simp only at h1 h2; omega
    subst this; exact he
  · rintro ⟨r, hr, i, h1, h2, he⟩
    exact ⟨(ch, ch), ⟨r, hr, i, ⟨i - r.1, by omega, by omega⟩, ch, he, rfl⟩, Nat.le_refl _, Nat.le_refl _⟩

/-- membership of one level after `addCaseEquivalences` -/
def Flat.memFold (cat : Nat → Nat → Bool) (orbit : Nat → List Nat) (f : Flat) (ch : Nat) : Bool :=
  (f.pos cat ch || foldHit orbit f.ranges ch) != f.neg

/-- the specification of a case-insensitive class: every level is closed under case equivalence on
its code-point side, then negated, then the (likewise folded) subtractor is removed -/
def memAlgFold (cat : Nat → Nat → Bool) (orbit : Nat → List Nat) : Class → Nat → Bool
  | .leaf f, ch => f.memFold cat orbit ch
  | .minus f s, ch => f.memFold cat orbit ch && !(memAlgFold cat orbit s ch)

theorem Flat.addCaseEquivalences_mem (cat : Nat → Nat → Bool) (orbit : Nat → List Nat) (hs : Bool) (f : Flat)
    (hf : f.AnyOk cat) (ch : Nat) (hch : ch ≤ maxRune) :
    (f.addCaseEquivalences cat orbit hs).memAlg cat ch = f.memFold cat orbit ch := by
  unfold Flat.addCaseEquivalences Flat.memFold
  split
  · next ha => simp [Flat.memAlg, hf ha ch hch]
  · rw [Flat.canonicalize_mem cat hs _ ch hch]
    simp only [Flat.memAlg, Flat.pos, inRanges_append, foldHit]
    cases inRanges f.ranges ch <;> cases inCats cat f.cats ch <;> simp

/-- `anything` is truthful on every level -/
def Class.AnyOk (cat : Nat → Nat → Bool) : Class → Prop
  | .leaf f => f.AnyOk cat
  | .minus f s => f.AnyOk cat ∧ Class.AnyOk cat s

theorem Class.addCaseEquivalences_mem (cat : Nat → Nat → Bool) (orbit : Nat → List Nat) (c : Class)
    (hc : Class.AnyOk cat c) (ch : Nat) (hch : ch ≤ maxRune) :
    memAlg cat (Class.addCaseEquivalences cat orbit c) ch = memAlgFold cat orbit c ch := by
  induction c with
  | leaf f => exact Flat.addCaseEquivalences_mem cat orbit false f hc ch hch
  | minus f s ih =>
    simp only [Class.addCaseEquivalences, memAlg, memAlgFold, ih hc.2,
      Flat.addCaseEquivalences_mem cat orbit true f hc.1 ch hch]

end RegexVerif.Class
