/-
The bool-only program agrees with the full one (property C02, part A): stripping the capture groups
that the pattern never reads back changes nothing in the ordered list of successes except that the
capture log lacks the stripped groups.

`m_strip` starts the stripped pattern at the ERASED state `eraseCaps keep st` and the pattern at `st`: the induction
passes through `seq` and the loops, where the second component starts from the log the first one left, and there the
two logs differ by exactly the erased entries.  (Started both at `st`, only positions agree; that needs `m_strip` on `p`
and on `stripCaps keep p`, which meet at `eraseCaps keep st`.)

Which groups survive is spelt four ways: `keep : Nat → Bool` is the caller's choice; `kept keep g = (g == 0 || keep g)` adds
group 0, which `captureSlotsInUse` always marks — the lemmas here take `kept keep g = true`, the theorems of Props/C02.lean
`keep g = true` (`kept_of_keep` bridges); `inUse (slotsInUse p)` is the `keep` the specification computes from the
pattern (`Ref` / `Testref` operands); `Compile.quickKeep ti t` (Lemmas/QuickCompile.lean) is the `keep` the second writer
realises on a tree, which contains the former (`quickKeep_refs`).
-/
import RegexVerif.Model.Quick
import RegexVerif.Lemmas.Spec

namespace RegexVerif.Spec

@[simp] theorem eraseCaps_pos (keep : Nat → Bool) (st : St) : (eraseCaps keep st).pos = st.pos := rfl

@[simp] theorem eraseCaps_caps (keep : Nat → Bool) (st : St) :
    (eraseCaps keep st).caps = st.caps.filter (fun c => kept keep c.1) := rfl

theorem eraseCaps_nil (keep : Nat → Bool) (i : Nat) : eraseCaps keep { pos := i, caps := [] } = { pos := i, caps := [] } := rfl

@[simp] theorem kept_zero (keep : Nat → Bool) : kept keep 0 = true := rfl

/-- from the hypothesis form of Props/C02.lean (`keep g = true`) to the one of this file (`kept keep g = true`) -/
theorem kept_of_keep {keep : Nat → Bool} {g : Nat} (h : keep g = true) : kept keep g = true := by
  simp [kept, h]

theorem lastCap_filter (keep : Nat → Bool) (caps : List (Nat × Nat × Nat)) (g : Nat) (hg : kept keep g = true) :
    lastCap (caps.filter (fun c => kept keep c.1)) g = lastCap caps g := by
  unfold lastCap
  congr 1
  rw [← List.filter_reverse]
  generalize caps.reverse = l
  induction l with
  | nil => rfl
  | cons c l ih =>
    by_cases hk : kept keep c.1 = true
    · rw [List.filter_cons_of_pos (p := fun c : Nat × Nat × Nat => kept keep c.1) hk, List.find?_cons, List.find?_cons, ih]
    · rw [List.filter_cons_of_neg (p := fun c : Nat × Nat × Nat => kept keep c.1) hk, List.find?_cons, ih]
      have hc : (c.1 == g) = false := by
        rw [beq_eq_false_iff_ne]; intro hc; rw [hc] at hk; exact hk hg
      rw [hc]

theorem hasCap_filter (keep : Nat → Bool) (caps : List (Nat × Nat × Nat)) (g : Nat) (hg : kept keep g = true) :
    hasCap (caps.filter (fun c => kept keep c.1)) g = hasCap caps g := by
  unfold hasCap
  induction caps with
  | nil => rfl
  | cons c l ih =>
    by_cases hk : kept keep c.1 = true
    · rw [List.filter_cons_of_pos (p := fun c : Nat × Nat × Nat => kept keep c.1) hk, List.any_cons, List.any_cons, ih]
    · rw [List.filter_cons_of_neg (p := fun c : Nat × Nat × Nat => kept keep c.1) hk, List.any_cons, ih]
      have hc : (c.1 == g) = false := by
        rw [beq_eq_false_iff_ne]; intro hc; rw [hc] at hk; exact hk hg
      rw [hc, Bool.false_or]

/-- a loop whose body commutes with a position-preserving map commutes with it -/
theorem iter_map_comm (φ : St → St) (f g : St → List St)
    (hfg : ∀ st, g (φ st) = (f st).map φ) (hpos : ∀ st, (φ st).pos = st.pos)
    (lzy : Bool) (lo : Nat) (hi : Option Nat) (fuel cnt : Nat) (st : St) :
    iter g lzy lo hi fuel cnt (φ st) = (iter f lzy lo hi fuel cnt st).map φ :=
  (iter_map_conj (fun _ => True) φ f g (fun _ _ _ _ => trivial) (fun s _ => (hfg s).symm)
    (fun s s' _ _ => by rw [hpos, hpos]) lzy lo hi fuel cnt st trivial).symm

/-- **stripping groups the pattern does not read back commutes with matching**: the successes of `stripCaps keep p` from an
    erased state are the erased successes of `p` (what C02 reads as: the bool-only program agrees with the full one) -/
theorem m_strip (e : Env) (keep : Nat → Bool) (p : Pat) (h : ∀ g ∈ refsOf p, kept keep g = true) :
    ∀ (rtl : Bool) (st : St),
      m e (stripCaps keep p) rtl (eraseCaps keep st) = (m e p rtl st).map (eraseCaps keep) := by
  induction p with
  | empty => intro rtl st; rfl
  | nothing => intro rtl st; rfl
  | chr p =>
    intro rtl st
    simp only [m, stripCaps, eraseCaps_pos]
    cases stepChar e rtl st.pos with
    | none => rfl
    | some x =>
      obtain ⟨r, q⟩ := x
      simp only
      cases p.test e r <;> rfl
  | anchor a =>
    intro rtl st
    simp only [m, stripCaps, eraseCaps_pos]
    by_cases ha : anchorHolds e a st.pos = true <;> simp [ha]
  | seq a b iha ihb =>
    intro rtl st
    have ha := iha (fun g hg => h g (by simp [refsOf, hg]))
    have hb := ihb (fun g hg => h g (by simp [refsOf, hg]))
    cases rtl with
    | true =>
      simp only [m, stripCaps, if_true]
      rw [hb true st, List.map_flatMap, List.flatMap_map]
      exact flatMap_congr_mem _ _ _ (fun x _ => ha true x)
    | false =>
      simp only [m, stripCaps, Bool.false_eq_true, if_false]
      rw [ha false st, List.map_flatMap, List.flatMap_map]
      exact flatMap_congr_mem _ _ _ (fun x _ => hb false x)
  | alt a b iha ihb =>
    intro rtl st
    have ha := iha (fun g hg => h g (by simp [refsOf, hg]))
    have hb := ihb (fun g hg => h g (by simp [refsOf, hg]))
    simp only [m, stripCaps, List.map_append, ha rtl st, hb rtl st]
  | quant lzy lo hi body ih =>
    intro rtl st
    have hb := ih (fun g hg => h g (by simpa [refsOf] using hg))
    simp only [m, stripCaps]
    exact iter_map_comm (eraseCaps keep) _ _ (fun s => hb rtl s) (fun _ => rfl) lzy lo hi _ 0 st
  | cap g body ih =>
    intro rtl st
    have hb := ih (fun g' hg => h g' (by simpa [refsOf] using hg))
    by_cases hk : kept keep g = true
    · simp only [stripCaps, hk, if_true, m]
      rw [hb rtl st, List.map_map, List.map_map]
      apply List.map_congr_left
      intro y _
      simp [Function.comp, eraseCaps, List.filter_append, hk]
    · simp only [stripCaps, hk, m, Bool.false_eq_true, if_false]
      rw [hb rtl st, List.map_map]
      apply List.map_congr_left
      intro y _
      simp [Function.comp, eraseCaps, List.filter_append, hk]
  | look behind neg body ih =>
    intro rtl st
    have hb := ih (fun g hg => h g (by simpa [refsOf] using hg))
    simp only [m, stripCaps]
    rw [hb behind st]
    cases m e body behind st with
    | nil => cases neg <;> rfl
    | cons y ys => cases neg <;> rfl
  | atomic body ih =>
    intro rtl st
    have hb := ih (fun g hg => h g (by simpa [refsOf] using hg))
    simp only [m, stripCaps]
    rw [hb rtl st, List.map_take]
  | ref g ci =>
    intro rtl st
    have hg : kept keep g = true := h g (by simp [refsOf])
    simp only [m, stripCaps, eraseCaps_caps, eraseCaps_pos, lastCap_filter keep st.caps g hg]
    cases lastCap st.caps g with
    | none => rfl
    | some x =>
      obtain ⟨s, len⟩ := x
      simp only
      cases refMatch e ci rtl s len st.pos with
      | none => rfl
      | some q => rfl
  | refCond g yes no ihy ihn =>
    intro rtl st
    have hg : kept keep g = true := h g (by simp [refsOf])
    have hy := ihy (fun g' hg' => h g' (by simp [refsOf, hg']))
    have hn := ihn (fun g' hg' => h g' (by simp [refsOf, hg']))
    simp only [m, stripCaps, eraseCaps_caps, hasCap_filter keep st.caps g hg]
    split
    · exact hy rtl st
    · exact hn rtl st
  | exprCond c yes no ihc ihy ihn =>
    intro rtl st
    have hc := ihc (fun g' hg' => h g' (by simp [refsOf, hg']))
    have hy := ihy (fun g' hg' => h g' (by simp [refsOf, hg']))
    have hn := ihn (fun g' hg' => h g' (by simp [refsOf, hg']))
    simp only [m, stripCaps]
    rw [hc rtl st]
    cases m e c rtl st with
    | nil => exact hn rtl st
    | cons y ys => exact hy rtl { pos := st.pos, caps := y.caps }

theorem findSome?_map_comm {α β γ : Type} (φ : β → γ) (f : α → Option γ) (g : α → Option β)
    (h : ∀ x, f x = (g x).map φ) (l : List α) : l.findSome? f = (l.findSome? g).map φ := by
  induction l with
  | nil => rfl
  | cons a l ih =>
    simp only [List.findSome?_cons, h a]
    cases g a with
    | none => simpa using ih
    | some y => rfl

/-- one attempt of the bool-only program: the attempt of the full program with the stripped groups
    erased from its capture log -/
theorem attempt_strip (e : Env) (keep : Nat → Bool) (p : Pat) (h : ∀ g ∈ refsOf p, kept keep g = true)
    (rtl : Bool) (i : Nat) :
    attempt e (stripCaps keep p) rtl i = (attempt e p rtl i).map (eraseCaps keep) := by
  unfold attempt
  have := m_strip e keep (.cap 0 p) (by simpa [refsOf] using h) rtl { pos := i, caps := [] }
  simp only [stripCaps, kept_zero, if_true, eraseCaps_nil] at this
  rw [this, List.head?_map]

theorem find_strip (e : Env) (keep : Nat → Bool) (p : Pat) (h : ∀ g ∈ refsOf p, kept keep g = true)
    (rtl : Bool) (start : Nat) :
    find e (stripCaps keep p) rtl start = (find e p rtl start).map (eraseCaps keep) := by
  unfold find
  exact findSome?_map_comm _ _ _ (fun i => attempt_strip e keep p h rtl i) _

theorem slotsInUse_refs (p : Pat) : ∀ g ∈ refsOf p, kept (inUse (slotsInUse p)) g = true := by
  intro g hg
  apply kept_of_keep
  simp [inUse, slotsInUse, hg]

theorem stripCaps_id (keep : Nat → Bool) (p : Pat) (h : ∀ g ∈ capsOf p, kept keep g = true) :
    stripCaps keep p = p := by
  induction p with
  | empty => rfl
  | nothing => rfl
  | chr p => rfl
  | anchor a => rfl
  | seq a b iha ihb =>
    simp only [stripCaps, iha (fun g hg => h g (by simp [capsOf, hg])), ihb (fun g hg => h g (by simp [capsOf, hg]))]
  | alt a b iha ihb =>
    simp only [stripCaps, iha (fun g hg => h g (by simp [capsOf, hg])), ihb (fun g hg => h g (by simp [capsOf, hg]))]
  | quant lzy lo hi body ih => simp only [stripCaps, ih (fun g hg => h g (by simpa [capsOf] using hg))]
  | cap g body ih =>
    simp only [stripCaps, h g (by simp [capsOf]), if_true, ih (fun g' hg => h g' (by simp [capsOf, hg]))]
  | look behind neg body ih => simp only [stripCaps, ih (fun g hg => h g (by simpa [capsOf] using hg))]
  | atomic body ih => simp only [stripCaps, ih (fun g hg => h g (by simpa [capsOf] using hg))]
  | ref g ci => rfl
  | refCond g yes no ihy ihn =>
    simp only [stripCaps, ihy (fun g hg => h g (by simp [capsOf, hg])), ihn (fun g hg => h g (by simp [capsOf, hg]))]
  | exprCond c yes no ihc ihy ihn =>
    simp only [stripCaps, ihc (fun g hg => h g (by simp [capsOf, hg])), ihy (fun g hg => h g (by simp [capsOf, hg])),
      ihn (fun g hg => h g (by simp [capsOf, hg]))]

end RegexVerif.Spec
