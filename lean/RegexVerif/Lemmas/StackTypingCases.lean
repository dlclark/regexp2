/-
Soundness of the grouping-stack typing, the cases: every case of the switch preserves the typing part of the invariant of
Lemmas/StackTypingSound.lean (`TBodyOk`, which includes the capture invariant `CapOk`) and raises none of the discipline faults `stackUnderflow`,
`tracktoRange`, `textposRange`, `crawlUnderflow`, `capRange`.
-/
import RegexVerif.Lemmas.StackTypingSound

namespace RegexVerif.Lemmas.StackTypingSound
open RegexVerif RegexVerif.Code RegexVerif.VM RegexVerif.StackTyping RegexVerif.Lemmas.VM
open RegexVerif.Lemmas.StackTypingCap

/-- a computation that raises none of the discipline faults: the five that are not `Fault.structural` -/
def NoDisc {α : Type} (x : M α) : Prop := ∀ f, x = .error f → f.structural = true

theorem operand_nodisc (p : Prog) (s : VMState) (i : Nat) : NoDisc (operand p s i) := by
  intro f h; unfold operand at h; split at h <;> cases h; rfl

theorem charAt_nodisc (env : Env) (j : Int) : NoDisc (charAt env j) := by
  intro f h; unfold charAt at h; split at h
  · split at h <;> cases h; rfl
  · cases h; rfl

theorem map_nodisc {α β : Type} {x : M α} (g : α → β) (h : NoDisc x) : NoDisc (x.map g) := by
  intro f hf
  cases x with
  | error e => simp [Except.map] at hf; subst hf; exact h _ rfl
  | ok v => simp [Except.map] at hf

/-- sequencing: what holds of every error without a discipline fault and of every continuation holds of the bind.
    For `TBodyOk` the error clause `hP` is the identity, its default. -/
theorem NoDisc.bind {α : Type} {m : M α} {k : α → Res} {P : Res → Prop} (hm : NoDisc m) (hk : ∀ x, m = .ok x → P (k x))
    (hP : ∀ f, f.structural = true → P (.error f) := by exact fun _ h => h) : P (m >>= k) := by
  cases m with
  | error f => exact hP f (hm f rfl)
  | ok x => exact hk x rfl

theorem NoDisc.map {α : Type} {m : M α} {g : α → VMState × Exit} {P : Res → Prop} (hm : NoDisc m)
    (hk : ∀ x, m = .ok x → P (.ok (g x))) (hP : ∀ f, f.structural = true → P (.error f) := by exact fun _ h => h) :
    P (m.map g) := by
  cases m with
  | error f => exact hP f (hm f rfl)
  | ok x => exact hk x rfl

section cases
variable {p : Prog} {bs : List Nat} {env : Env} {a : Assign} {s : VMState} {w : Word} {o : Op}

theorem refmatch_nodisc (env : Env) (s : VMState) (index len : Int) (h0 : 0 ≤ index) (hl : 0 ≤ len)
    (hn : index + len ≤ env.len) : NoDisc (refmatch env s index len) := by
  intro f h
  unfold refmatch at h
  rw [if_neg (by omega)] at h
  split at h
  · cases h
  · simp only at h
    split at h
    · next e he =>
      cases h
      refine cmpBack_err env _ _ (·.structural = true) _ _ _ (fun i h1 h2 f h => ?_) (fun j _ _ => charAt_nodisc _ _) _ he
      obtain ⟨ch, hch⟩ := charAt_ok env i (by omega) (by omega)
      rw [hch] at h; cases h
    · cases h
    · cases h

theorem isMatched_nodisc (s : VMState) (c : Int) : NoDisc (isMatched s c) := by
  intro f h; unfold isMatched at h; split at h <;> cases h; rfl

theorem matched_slot {c : Int} {b : Bool} (hcap : CapOk env.len p.capsize s.cap) (h : isMatched s c = .ok b)
    (hb : b = true) : MatchBuilder.isMatched s.cap.m c.toNat = true ∧ c.toNat < p.capsize := by
  unfold isMatched at h
  split at h
  · cases h
  · cases h
    refine ⟨hb, ?_⟩
    unfold MatchBuilder.isMatched at hb
    simp only [Bool.and_eq_true, decide_eq_true_eq] at hb
    have := reach_len hcap.1
    omega

theorem caseRef_nodisc (hcap : CapOk env.len p.capsize s.cap) : NoDisc (caseRef p env s) := by
  have err : ∀ f, f.structural = true → NoDisc (.error f : Res) := fun _ h _ e => by cases e; exact h
  have ok : ∀ x, NoDisc (.ok x : Res) := fun _ _ e => by cases e
  unfold caseRef
  refine NoDisc.bind (operand_nodisc _ _ _) (fun i _ => ?_) err
  refine NoDisc.bind (isMatched_nodisc _ _) (fun b hb => ?_) err
  split
  · next hbt =>
    -- the group is matched: it is a slot, and its innermost capture lies inside the text
    obtain ⟨hm, hlt⟩ := matched_slot hcap hb hbt
    obtain ⟨r0, r1, r2⟩ := capOk_ref hcap i.toNat hlt hm
    refine NoDisc.bind (refmatch_nodisc _ _ _ _ r0 r1 r2) (fun r _ => ?_) err
    cases r <;> exact ok _
  · split <;> exact ok _

/-- forward mode: the chain, the stack and the type assigned to the current instruction -/
structure FwdH (p : Prog) (bs : List Nat) (env : Env) (a : Assign) (s : VMState) (S : STy) (σ : RTy)
    (core : List Int) (tp : Int) : Prop where
  hS : a.get s.codepos = some S
  sub : subTy (erase σ) S = true
  tr : s.track = core ++ [tp]
  good : Good p bs env.len a core σ (crawlLen s)
  vals : Vals env.len s.stack σ
  cap : CapOk env.len p.capsize s.cap

/-- the assigned type at `q` is above the plain type `S`; `Succ a q τ` is `NextOk a q (erase τ)` -/
def NextOk (a : Assign) (q : Nat) (S : STy) : Prop := ∃ Sn, a.get q = some Sn ∧ subTy S Sn = true

section fwd
variable {S R : STy} {K : Kind} {σ τ : RTy} {core : List Int} {tp : Int}

theorem NextOk.succ {q : Nat} (h : NextOk a q S) (hs : subTy (erase σ) S = true) : Succ a q σ := by
  obtain ⟨Sn, h1, h2⟩ := h
  exact ⟨Sn, h1, subTy_trans hs h2⟩

/-- forward mode, a frame of the current instruction is pushed: the chain of the new state, whose stack has type `τ`.
    By default `τ` is at most two slots higher than `σ` by arithmetic on `List.length_cons`, the new backtracking stack
    (`htr`) and the size of the frame (`hd`) hold by `rfl`, and the instruction is not the `Lazybranch` at 0 (`hne`). -/
theorem FwdH.push {s1 : VMState} (c : Ctx p bs env s w o)
    (h : FwdH p bs env a s S σ core tp) (b2 : Bool) (d : List Int)
    (hft : FrameTy p env.len s.codepos o b2 S d ((core.length : Int) + 1) τ (crawlLen s1) σ (crawlLen s))
    (hv : Vals env.len s1.stack τ) (hcap : CapOk env.len p.capsize s1.cap)
    (hlen : τ.length ≤ σ.length + 2 := by simp only [List.length_cons]; omega)
    (htr : s1.track = (if b2 then -(s.codepos : Int) else (s.codepos : Int)) :: (d ++ s.track) := by rfl)
    (hd : frameData o b2 = some d.length := by rfl) (hne : b2 = true → o ≠ .lazybranch := by nofun) :
    ChainS p bs env.len a s1 τ :=
  ⟨_ :: (d ++ core), tp, by rw [htr, h.tr, ← List.append_assoc]; rfl,
    good_push c b2 d core S τ σ _ _ hd hne h.hS hft h.good (by rw [← sub_len h.sub]; exact hlen), hv, hcap⟩

/-- forward mode, a neutral case: the chain stays, possibly under a new frame that expects the stack as it is -/
theorem neutral_fwd (c : Ctx p bs env s w o)
    (h : FwdH p bs env a s S σ core tp) (hn : NextOk a (s.codepos + o.size) S)
    (hft : ∀ (d : List Int) (dl : Int) (τ : RTy) (cl : Int), frameData o false = some d.length →
      subTy (erase τ) S = true → FrameTy p env.len s.codepos o false S d dl τ cl τ cl)
    {r : Res} (he : Neutral env s o s.track r) (hd : o = .ref → NoDisc r) : TBodyOk p bs env.len a s r := by
  match r, he with
  | .error f, he => exact hd he.2 f rfl
  | .ok (s1, e), ⟨⟨tp', t, e1⟩, _, _, hx⟩ =>
    subst e1
    have hch : (t = s.track ∨ ∃ d, t = (s.codepos : Int) :: (d ++ s.track) ∧ frameData o false = some d.length ∧
        posOk env.len o false s.oper.rtl d) → ChainS p bs env.len a { s with textpos := tp', track := t } σ := by
      rintro (rfl | ⟨d, rfl, hd, _⟩)
      · exact ⟨core, tp, h.tr, h.good, h.vals, h.cap⟩
      · exact h.push c false d (hft d _ σ _ hd h.sub) h.vals h.cap (Nat.le_add_right _ _) rfl hd
    rcases hx with ⟨ht, rfl⟩ | ⟨ht, i, rfl, hi⟩
    · exact ⟨σ, hch (.inl ht)⟩
    · refine ⟨σ, hch ht, ?_⟩
      have : s.codepos + i + 1 = s.codepos + o.size := by omega
      rw [this]
      exact hn.succ h.sub

theorem neutral_flow (hn : neutral o = true) (pc : Nat) (S : STy) : flow p pc o S = some [(pc + o.size, S)] := by
  cases o <;> first | rfl | cases hn

/-- a neutral opcode pushes no frame, or (the six single-character loops) a frame that expects the stack it was pushed
    under -/
theorem neutral_frameTy (hn : neutral o = true) (pc : Nat) (d : List Int) (dl : Int) (τ : RTy) (cl : Int)
    (hd : frameData o false = some d.length) (hs : subTy (erase τ) S = true) :
    FrameTy p env.len pc o false S d dl τ cl τ cl := by
  cases o <;> first | exact ⟨hs, rfl, rfl⟩ | cases hd | cases hn

theorem operand_val {i : Nat} {v : Int} (h : operand p s i = .ok v) : p.codes[s.codepos + i + 1]? = some v := by
  unfold operand at h
  split at h
  · next u hu => cases h; exact hu
  · cases h

theorem target_spec {pc t' : Nat} (h : target p pc = some t') : ∀ t, p.codes[pc + 1]? = some t → t.toNat = t' := by
  intro t ht
  unfold target at h
  rw [ht] at h
  split at h
  · next u hu => cases hu; cases h; rfl
  · cases h

section flowfacts

/-- the typing at `pc`: `flow` is defined there, and the type assigned to every successor is above what it computes -/
def FlowOk (a : Assign) (p : Prog) (pc : Nat) (o : Op) (S : STy) : Prop :=
  ∃ succs, flow p pc o S = some succs ∧ ∀ x ∈ succs, NextOk a x.1 x.2

theorem flow_at (hty : TypingW p bs a) (c : Ctx p bs env s w o) {S : STy} (hS : a.get s.codepos = some S) :
    FlowOk a p s.codepos o S := by
  obtain ⟨o', succs, ho', hfl, hs⟩ := hty.closed s.codepos c.pcIn S hS
  rw [ctx_opAt c] at ho'
  cases ho'
  exact ⟨succs, hfl, hs⟩

variable {S : STy} {pc : Nat}

theorem flow_next (h : FlowOk a p pc o S) {q : Nat} {T : STy} (hshape : flow p pc o S = some [(q, T)]) :
    NextOk a q T := by
  obtain ⟨succs, hflow, hsucc⟩ := h
  rw [hshape] at hflow
  cases hflow
  exact hsucc (q, T) (by simp)

theorem flow_target (ho : o = .goto ∨ o = .lazybranch) (h : FlowOk a p pc o S) :
    (∀ t, p.codes[pc + 1]? = some t → NextOk a t.toNat S) ∧ (o = .lazybranch → NextOk a (pc + 2) S) := by
  obtain ⟨succs, hflow, hsucc⟩ := h
  rcases ho with rfl | rfl
  · simp only [flow, Option.map_eq_some_iff] at hflow
    obtain ⟨t', ht', rfl⟩ := hflow
    refine ⟨fun t ht => ?_, fun h => by cases h⟩
    rw [target_spec ht' t ht]; exact hsucc (t', S) (by simp)
  · simp only [flow, Option.map_eq_some_iff] at hflow
    obtain ⟨t', ht', rfl⟩ := hflow
    refine ⟨fun t ht => ?_, fun _ => hsucc (pc + 2, S) (by simp [Op.size])⟩
    rw [target_spec ht' t ht]; exact hsucc (t', S) (by simp)

theorem flow_mark (ho : o = .branchmark ∨ o = .lazybranchmark) (h : FlowOk a p pc o S) :
    ∃ K R, S = K :: R ∧ StackTyping.isMark K = true ∧ NextOk a (pc + 2) R ∧
      ∀ t, p.codes[pc + 1]? = some t → NextOk a t.toNat (.pos :: R) := by
  obtain ⟨succs, hflow, hsucc⟩ := h
  cases S with
  | nil => rcases ho with rfl | rfl <;> simp [flow] at hflow
  | cons K R =>
    have : StackTyping.isMark K = true ∧ ∃ t', target p pc = some t' ∧ succs = [(pc + 2, R), (t', .pos :: R)] := by
      rcases ho with rfl | rfl <;>
      · simp only [flow] at hflow
        split at hflow
        · next hm =>
          simp only [Option.map_eq_some_iff] at hflow
          obtain ⟨t', ht', rfl⟩ := hflow
          exact ⟨hm, t', ht', rfl⟩
        · cases hflow
    obtain ⟨hm, t', ht', rfl⟩ := this
    refine ⟨K, R, rfl, hm, hsucc (pc + 2, R) (by simp), fun t ht => ?_⟩
    rw [target_spec ht' t ht]; exact hsucc (t', .pos :: R) (by simp)

theorem flow_count (ho : o = .branchcount ∨ o = .lazybranchcount) (h : FlowOk a p pc o S) :
    ∃ K R, S = .count :: K :: R ∧ StackTyping.isMark K = true ∧ NextOk a (pc + 3) R ∧
      ∀ t, p.codes[pc + 1]? = some t → NextOk a t.toNat (.count :: .pos :: R) := by
  obtain ⟨succs, hflow, hsucc⟩ := h
  have : ∃ K R, S = .count :: K :: R ∧ StackTyping.isMark K = true ∧
      ∃ t', target p pc = some t' ∧ succs = [(pc + 3, R), (t', .count :: .pos :: R)] := by
    rcases ho with rfl | rfl <;>
    · simp only [flow] at hflow
      split at hflow
      · next K R =>
        split at hflow
        · next hm =>
          simp only [Option.map_eq_some_iff] at hflow
          obtain ⟨t', ht', rfl⟩ := hflow
          exact ⟨K, R, rfl, hm, t', ht', rfl⟩
        · cases hflow
      · cases hflow
  obtain ⟨K, R, rfl, hm, t', ht', rfl⟩ := this
  refine ⟨K, R, rfl, hm, hsucc (pc + 3, R) (by simp), fun t ht => ?_⟩
  rw [target_spec ht' t ht]; exact hsucc (t', .count :: .pos :: R) (by simp)

theorem flow_pos (ho : o = .getmark ∨ o = .capturemark) (h : FlowOk a p pc o S) : ∃ R, S = .pos :: R ∧ NextOk a (pc + o.size) R := by
  obtain ⟨succs, hflow, hsucc⟩ := h
  rcases ho with rfl | rfl
  · simp only [flow] at hflow
    split at hflow
    · next R => cases hflow; exact ⟨R, rfl, hsucc (pc + Op.size .getmark, R) (by simp)⟩
    · cases hflow
  · simp only [flow] at hflow
    split at hflow
    · next R => cases hflow; exact ⟨R, rfl, hsucc (pc + Op.size .capturemark, R) (by simp)⟩
    · cases hflow

theorem flow_pair (ho : o = .backjump ∨ o = .forejump) (h : FlowOk a p pc o S) :
    ∃ R, S = .cdepth :: .tdepth :: R ∧ (o = .forejump → NextOk a (pc + 1) R) := by
  obtain ⟨succs, hflow, hsucc⟩ := h
  rcases ho with rfl | rfl
  · simp only [flow] at hflow
    split at hflow
    · next R => exact ⟨R, rfl, fun h => by cases h⟩
    · cases hflow
  · simp only [flow] at hflow
    split at hflow
    · next R => cases hflow; exact ⟨R, rfl, fun _ => hsucc (pc + 1, R) (by simp [Op.size])⟩
    · cases hflow

end flowfacts

theorem lazybranch_fwd (c : Ctx p bs env s w .lazybranch)
    (h : FwdH p bs env a s S σ core tp) (hn : NextOk a (s.codepos + 2) S) :
    TBodyOk p bs env.len a s (.ok (push1 s s.textpos, .advance 1)) := by
  exact ⟨σ, h.push c false [s.textpos] ⟨h.sub, rfl, rfl⟩ h.vals h.cap (Nat.le_add_right _ _),
    hn.succ h.sub⟩

theorem lazybranch_init (ht : s.track = []) (hst : s.stack = []) (hcr : s.cap.crawl = [])
    (hpc : s.codepos = 0) (hcap : CapOk env.len p.capsize s.cap) (hn : Succ a 2 []) :
    TBodyOk p bs env.len a s (.ok (push1 s s.textpos, .advance 1)) := by
  refine ⟨[], ⟨[0], s.textpos, by simp [push1, ht, hpc], ?_, by simp [push1, hst, Vals], hcap⟩, by rw [hpc]; exact hn⟩
  have : crawlLen (push1 s s.textpos) = 0 := by simp [crawlLen, push1, hcr]
  rw [this]; exact Good.root

theorem goto_fwd (h : FwdH p bs env a s S σ core tp)
    (hn : ∀ t, p.codes[s.codepos + 1]? = some t → NextOk a t.toNat S) :
    TBodyOk p bs env.len a s (caseGoto p s) := by
  unfold caseGoto
  refine NoDisc.map (operand_nodisc _ _ _) fun t h0 => ?_
  exact Or.inl ⟨σ, ⟨core, tp, h.tr, h.good, h.vals, h.cap⟩, (hn t (operand_val h0)).succ h.sub⟩

theorem setmark_fwd (c : Ctx p bs env s w o) (v : Int) (k : RK)
    (hk : (o = .setmark ∧ k = .pos) ∨ (o = .nullmark ∧ k = .mark))
    (hv : valOk env.len k v) (h : FwdH p bs env a s S σ core tp) (hn : NextOk a (s.codepos + 1) (k.erase :: S)) :
    TBodyOk p bs env.len a s (.ok (push0 (spush s v), .advance 0)) := by
  refine ⟨k :: σ, h.push c false [] ?_ ⟨hv, h.vals⟩ h.cap (hd := ?_),
    hn.succ (subTy_cons (Kind.sub_refl _) h.sub)⟩
  · rcases hk with ⟨rfl, rfl⟩ | ⟨rfl, rfl⟩ <;> exact ⟨rfl, rfl⟩
  · rcases hk with ⟨rfl, _⟩ | ⟨rfl, _⟩ <;> rfl

theorem setcount_fwd (c : Ctx p bs env s w o)
    (mark : Int) (k : RK) (hk : (o = .setcount ∧ k = .pos) ∨ (o = .nullcount ∧ k = .mark))
    (hv : valOk env.len k mark) (h : FwdH p bs env a s S σ core tp)
    (hn : NextOk a (s.codepos + 2) (.count :: k.erase :: S)) :
    TBodyOk p bs env.len a s (caseSetcount p mark s) := by
  unfold caseSetcount
  refine NoDisc.map (operand_nodisc _ _ _) fun v h0 => ?_
  refine ⟨.count :: k :: σ, h.push c false [] ?_ ⟨trivial, hv, h.vals⟩ h.cap (hd := ?_),
    hn.succ (subTy_cons (Kind.sub_refl _) (subTy_cons (Kind.sub_refl _) h.sub))⟩
  · rcases hk with ⟨rfl, rfl⟩ | ⟨rfl, rfl⟩ <;> exact ⟨rfl, rfl⟩
  · rcases hk with ⟨rfl, _⟩ | ⟨rfl, _⟩ <;> rfl

theorem setjump_fwd (c : Ctx p bs env s w .setjump)
    (h : FwdH p bs env a s S σ core tp) (hn : NextOk a (s.codepos + 1) (.cdepth :: .tdepth :: S)) :
    TBodyOk p bs env.len a s (caseSetjump s) := by
  unfold caseSetjump
  have hlen : ((s.track.length : Nat) : Int) = (core.length : Int) + 1 := by rw [h.tr]; simp
  exact ⟨.cd (crawlLen s) :: .td ((core.length : Int) + 1) :: σ,
    h.push c false [] ⟨rfl, rfl, by unfold crawlLen; omega⟩ ⟨rfl, hlen, h.vals⟩ h.cap,
    hn.succ (subTy_cons (Kind.sub_refl _) (subTy_cons (Kind.sub_refl _) h.sub))⟩

theorem cutFrames_cut {t t' : List Int} (h : Cut p t t') (T : List Int) : ∀ fuel, t.length ≤ fuel →
    cutFrames p fuel (t.length - t'.length) (t ++ T) = some (t' ++ T) := by
  induction h with
  | refl t => intro fuel _; cases fuel <;> simp [cutFrames]
  | step c d rest t' hs hcut ih =>
    intro fuel hf
    have hle := hcut.length_le
    obtain ⟨f, rfl⟩ : ∃ f, fuel = f + 1 := ⟨fuel - 1, by simp at hf; omega⟩
    have hk : (c :: (d ++ rest)).length - t'.length = d.length + (rest.length - t'.length) + 1 := by
      simp; omega
    rw [hk, List.cons_append, List.append_assoc, cutFrames_cons hs, if_pos (by omega), Nat.add_sub_cancel_left]
    exact ih f (by simp at hf; omega)

theorem trackto_cut {tr' : List Int} (s1 : VMState) (ht : s1.track = core ++ [tp])
    (hc : Cut p core tr') (y : Int) (hy : (tr'.length : Int) + 1 = y) :
    trackto p s1 y = .ok { s1 with track := tr' ++ [tp] } := by
  have hle := hc.length_le
  have := trackto_of_cut (p := p) (s1 := s1) (t := tr' ++ [tp]) (by simp) (by rw [ht]; simpa using hle) (by
    rw [ht]
    simpa using cutFrames_cut hc [tp] (core ++ [tp]).length (by simp))
  rw [← hy]
  simpa using this

theorem uncaptureTo_spec (N : Int) (k : Nat) (target : Int) : ∀ (fuel : Nat) (s1 : VMState), 0 ≤ target →
    target ≤ crawlLen s1 → crawlLen s1 - target ≤ fuel → CapOk N k s1.cap →
    ∃ s2, uncaptureTo target fuel s1 = .ok s2 ∧ SameButCap s1 s2 ∧ crawlLen s2 = target ∧ CapOk N k s2.cap := by
  intro fuel
  induction fuel with
  | zero =>
    intro s1 h0 h1 h2 hc
    have : (s1.cap.crawl.length : Int) = target := by unfold crawlLen at h1 h2; omega
    exact ⟨s1, by simp [uncaptureTo, this], ⟨rfl, rfl, rfl, rfl, rfl⟩, this, hc⟩
  | succ fuel ih =>
    intro s1 h0 h1 h2 hc
    unfold uncaptureTo
    by_cases he : (s1.cap.crawl.length : Int) = target
    · exact ⟨s1, by simp [he], ⟨rfl, rfl, rfl, rfl, rfl⟩, he, hc⟩
    · rw [if_neg he]
      unfold crawlLen at h1 h2
      cases hcr : s1.cap.crawl with
      | nil => rw [hcr] at h1 he; simp at h1 he; omega
      | cons x rest =>
        have hu : uncapture s1 = .ok { s1 with cap := MatchBuilder.uncapture s1.cap } := by simp [uncapture, hcr]
        have hlen : crawlLen { s1 with cap := MatchBuilder.uncapture s1.cap } = (rest.length : Int) := by
          simp [crawlLen, MatchBuilder.uncapture, hcr]
        have hc' : CapOk N k (MatchBuilder.uncapture s1.cap) := capOk_uncapture hc (by rw [hcr]; simp)
        rw [hcr] at h1 h2 he
        simp only [List.length_cons] at h1 h2 he
        obtain ⟨s2, e, hsame, hl, hc2⟩ := ih { s1 with cap := MatchBuilder.uncapture s1.cap } h0 (by rw [hlen]; omega)
          (by rw [hlen]; omega) hc'
        refine ⟨s2, by simp only [hu]; exact e, ?_, hl, hc2⟩
        obtain ⟨b1, b2, b3, b4, b5⟩ := hsame
        exact ⟨b1, b2, b3, b4, b5⟩

theorem fwd_top
    (h : FwdH p bs env a s S σ core tp) (hS : S = K :: R) :
    ∃ k ρ v rest, σ = k :: ρ ∧ k.erase.sub K = true ∧ subTy (erase ρ) R = true ∧ s.stack = v :: rest ∧
      valOk env.len k v ∧ Vals env.len rest ρ := by
  have hsub := h.sub
  rw [hS] at hsub
  obtain ⟨k, ρ, rfl, h1, h2⟩ := subTy_cons_right hsub
  obtain ⟨v, rest, e, h3, h4⟩ := h.vals.cons_inv
  exact ⟨k, ρ, v, rest, rfl, h1, h2, e, h3, h4⟩

theorem getmark_fwd (c : Ctx p bs env s w .getmark)
    (h : FwdH p bs env a s S σ core tp) (hfl : FlowOk a p s.codepos .getmark S) :
    TBodyOk p bs env.len a s (caseGetmark env s) := by
  obtain ⟨R, hS, hn⟩ := flow_pos (Or.inl rfl) hfl
  obtain ⟨k, ρ, v, rest, rfl, hk, hρ, hst, hv, hvals⟩ := fwd_top h hS
  have := RK.sub_pos hk; subst this
  unfold caseGetmark
  rw [hst]
  simp only [texttoStack, if_pos (show 0 ≤ v ∧ v ≤ env.len from hv), Except.map]
  exact ⟨ρ, h.push c false [v] ⟨⟨.pos, rfl, rfl, hv⟩, rfl⟩ hvals h.cap, hn.succ hρ⟩

theorem branchmark_fwd (c : Ctx p bs env s w .branchmark) (h : FwdH p bs env a s S σ core tp) 
    (hfl : FlowOk a p s.codepos .branchmark S) : TBodyOk p bs env.len a s (caseBranchmark p s) := by
  obtain ⟨K, R, hS, hK, hn, hj⟩ := flow_mark (Or.inl rfl) hfl
  obtain ⟨k, ρ, mark, rest, rfl, hk, hρ, hst, hv, hvals⟩ := fwd_top h hS
  have hkm := RK.sub_isMark hk hK
  unfold caseBranchmark
  rw [hst]
  simp only
  split
  · refine NoDisc.map (operand_nodisc _ _ _) fun t h0 => ?_
    exact Or.inl ⟨.pos :: ρ,
        h.push c false [s.textpos, mark] ⟨⟨ρ, k, K, R, rfl, hS, hρ, rfl, hkm, hv⟩, rfl⟩
          ⟨⟨c.tp0, c.tpn⟩, hvals⟩ h.cap,
        (hj t (operand_val h0)).succ (subTy_cons (Kind.sub_refl _) hρ)⟩
  · exact ⟨ρ, h.push c true [mark] ⟨⟨k, rfl, hkm, hv⟩, rfl⟩ hvals h.cap, hn.succ hρ⟩

theorem lazybranchmark_fwd (c : Ctx p bs env s w .lazybranchmark) (h : FwdH p bs env a s S σ core tp) 
    (hfl : FlowOk a p s.codepos .lazybranchmark S) : TBodyOk p bs env.len a s (caseLazybranchmark s) := by
  obtain ⟨K, R, hS, hK, hn, _⟩ := flow_mark (Or.inr rfl) hfl
  obtain ⟨k, ρ, old, rest, rfl, hk, hρ, hst, hv, hvals⟩ := fwd_top h hS
  have hkm := RK.sub_isMark hk hK
  unfold caseLazybranchmark
  rw [hst]
  simp only
  split
  · split
    · exact ⟨ρ, h.push c false [s.textpos, old] ⟨⟨k, K, R, hS, hρ, c.tp0, c.tpn, rfl, hkm, hv⟩, rfl⟩
        hvals h.cap, hn.succ hρ⟩
    · exact ⟨ρ, h.push c false [s.textpos, s.textpos]
        ⟨⟨k, K, R, hS, hρ, c.tp0, c.tpn, rfl, hkm, valOk_isMark hkm c.tp0 c.tpn⟩, rfl⟩ hvals h.cap, hn.succ hρ⟩
  · exact ⟨ρ, h.push c true [0, old] ⟨⟨k, hkm, hv, by simp⟩, rfl⟩ hvals h.cap, hn.succ hρ⟩

theorem fwd_top2
    (h : FwdH p bs env a s S σ core tp) (hS : S = .count :: K :: R) :
    ∃ k ρ cnt mark rest, σ = .count :: k :: ρ ∧ k.erase.sub K = true ∧ subTy (erase ρ) R = true ∧
      s.stack = cnt :: mark :: rest ∧ valOk env.len k mark ∧ Vals env.len rest ρ := by
  obtain ⟨k1, ρ1, cnt, rest1, rfl, hk1, hρ1, hst, _, hvals1⟩ := fwd_top h hS
  have := RK.sub_count hk1; subst this
  obtain ⟨k, ρ, rfl, hk, hρ⟩ := subTy_cons_right hρ1
  obtain ⟨mark, rest, rfl, hv, hvals⟩ := hvals1.cons_inv
  exact ⟨k, ρ, cnt, mark, rest, rfl, hk, hρ, hst, hv, hvals⟩

theorem branchcount_fwd (c : Ctx p bs env s w .branchcount) (h : FwdH p bs env a s S σ core tp) 
    (hfl : FlowOk a p s.codepos .branchcount S) : TBodyOk p bs env.len a s (caseBranchcount p s) := by
  obtain ⟨K, R, hS, hK, hn, hj⟩ := flow_count (Or.inl rfl) hfl
  obtain ⟨k, ρ, cnt, mark, rest, rfl, hk, hρ, hst, hv, hvals⟩ := fwd_top2 h hS
  have hkm := RK.sub_isMark hk hK
  unfold caseBranchcount
  rw [hst]
  simp only
  refine NoDisc.bind (operand_nodisc _ _ _) fun lim _ => ?_
  split
  · exact ⟨ρ, h.push c true [cnt, mark] ⟨⟨k, rfl, hkm, hv⟩, rfl⟩ hvals h.cap, hn.succ hρ⟩
  · refine NoDisc.bind (operand_nodisc _ _ _) fun t ht => ?_
    exact Or.inl ⟨.count :: .pos :: ρ,
      h.push c false [mark] ⟨⟨ρ, k, K, R, rfl, hS, hρ, rfl, hkm, hv⟩, rfl⟩
        ⟨trivial, ⟨c.tp0, c.tpn⟩, hvals⟩ h.cap,
      (hj t (operand_val ht)).succ (subTy_cons (Kind.sub_refl _) (subTy_cons (Kind.sub_refl _) hρ))⟩

theorem lazybranchcount_fwd (c : Ctx p bs env s w .lazybranchcount) (h : FwdH p bs env a s S σ core tp) 
    (hfl : FlowOk a p s.codepos .lazybranchcount S) : TBodyOk p bs env.len a s (caseLazybranchcount p s) := by
  obtain ⟨K, R, hS, hK, hn, hj⟩ := flow_count (Or.inr rfl) hfl
  obtain ⟨k, ρ, cnt, mark, rest, rfl, hk, hρ, hst, hv, hvals⟩ := fwd_top2 h hS
  have hkm := RK.sub_isMark hk hK
  unfold caseLazybranchcount
  rw [hst]
  simp only
  split
  · refine NoDisc.map (operand_nodisc _ _ _) fun t h0 => ?_
    exact Or.inl ⟨.count :: .pos :: ρ, h.push c true [mark] ⟨⟨ρ, k, rfl, rfl, hkm, hv⟩, rfl⟩
        ⟨trivial, ⟨c.tp0, c.tpn⟩, hvals⟩ h.cap,
        (hj t (operand_val h0)).succ (subTy_cons (Kind.sub_refl _) (subTy_cons (Kind.sub_refl _) hρ))⟩
  · exact ⟨ρ,
      h.push c false [s.textpos, cnt, mark] ⟨⟨k, K, R, hS, hρ, c.tp0, c.tpn, rfl, hkm, hv⟩, rfl⟩ hvals h.cap,
      hn.succ hρ⟩

theorem fwd_pair
    (h : FwdH p bs env a s S σ core tp) (hS : S = .cdepth :: .tdepth :: R) :
    ∃ x y ρ rest, σ = .cd x :: .td y :: ρ ∧ subTy (erase ρ) R = true ∧ s.stack = x :: y :: rest ∧
      Vals env.len rest ρ := by
  obtain ⟨k1, ρ1, x, rest1, rfl, hk1, hρ1, hst, hv1, hvals1⟩ := fwd_top h hS
  obtain ⟨x', rfl⟩ := RK.sub_cdepth hk1
  obtain ⟨k2, ρ, rfl, hk2, hρ⟩ := subTy_cons_right hρ1
  obtain ⟨y', rfl⟩ := RK.sub_tdepth hk2
  obtain ⟨y, rest, rfl, hv2, hvals⟩ := hvals1.cons_inv
  have hx : x = x' := hv1
  have hy : y = y' := hv2
  subst hx hy
  exact ⟨x, y, ρ, rest, rfl, hρ, hst, hvals⟩

theorem backjump_fwd
    (h : FwdH p bs env a s S σ core tp) (hfl : FlowOk a p s.codepos .backjump S) :
    TBodyOk p bs env.len a s (caseBackjump p s) := by
  obtain ⟨R, hS, _⟩ := flow_pair (Or.inl rfl) hfl
  obtain ⟨x, y, ρ, rest, rfl, hρ, hst, hvals⟩ := fwd_pair h hS
  obtain ⟨tr', hcut, hlen, hg, hx0, hxl⟩ := pair_lookup h.good [] x y ρ rfl
  unfold caseBackjump
  rw [hst]
  simp only [bind, Except.bind]
  rw [trackto_cut (p := p) (tp := tp) { s with stack := rest } h.tr hcut y hlen]
  simp only
  obtain ⟨s2, e, ⟨b1, b2, b3, b4, b5⟩, hl, hc2⟩ := uncaptureTo_spec env.len p.capsize x s.cap.crawl.length
    { s with stack := rest, track := tr' ++ [tp] } hx0 hxl (by simp only [crawlLen]; omega) h.cap
  rw [e]
  exact ⟨ρ, tr', tp, b1, by rw [hl]; exact hg, by rw [b5]; exact hvals, hc2⟩

theorem forejump_fwd (c : Ctx p bs env s w .forejump)
    (h : FwdH p bs env a s S σ core tp) (hfl : FlowOk a p s.codepos .forejump S) :
    TBodyOk p bs env.len a s (caseForejump p s) := by
  obtain ⟨R, hS, hn⟩ := flow_pair (Or.inr rfl) hfl
  have hn := hn rfl
  obtain ⟨x, y, ρ, rest, rfl, hρ, hst, hvals⟩ := fwd_pair h hS
  obtain ⟨tr', hcut, hlen, hg, hx0, hxl⟩ := pair_lookup h.good [] x y ρ rfl
  unfold caseForejump
  rw [hst]
  simp only
  rw [trackto_cut (p := p) (tp := tp) { s with stack := rest } h.tr hcut y hlen]
  simp only [Except.map]
  refine ⟨ρ, ⟨(s.codepos : Int) :: ([x] ++ tr'), tp, by simp [push1], ?_, hvals, h.cap⟩, hn.succ hρ⟩
  exact good_push c false [x] tr' S ρ ρ _ x rfl (by intro h; cases h) h.hS ⟨rfl, rfl, hx0, hxl⟩ hg
      (by have := sub_len h.sub; simp only [List.length_cons] at this ⊢ <;> omega)

theorem updatebumpalong_fwd
    (h : FwdH p bs env a s S σ core tp) (hn : NextOk a (s.codepos + 1) S) :
    TBodyOk p bs env.len a s (caseUpdateBumpalong s) := by
  unfold caseUpdateBumpalong
  have hl : s.track.getLast? = some tp := by rw [h.tr]; simp
  rw [hl]
  simp only
  split
  · refine ⟨σ, ⟨core, s.textpos, ?_, h.good, h.vals, h.cap⟩, hn.succ h.sub⟩
    show s.track.dropLast ++ [s.textpos] = core ++ [s.textpos]
    rw [h.tr]; simp
  · exact ⟨σ, ⟨core, tp, h.tr, h.good, h.vals, h.cap⟩, hn.succ h.sub⟩

theorem capture_crawl (r : MatchBuilder.Runner) (c : Nat) (x y : Int) :
    (MatchBuilder.capture r c x y).crawl.length = r.crawl.length + 1 := by
  unfold MatchBuilder.capture; split <;> simp

theorem transferCapture_crawl (r : MatchBuilder.Runner) (c0 : Int) (c1 : Nat) (x y : Int) :
    (MatchBuilder.transferCapture r c0 c1 x y).crawl.length = r.crawl.length + (if c0 ≠ -1 then 2 else 1) := by
  unfold MatchBuilder.transferCapture
  simp only
  split <;> simp

theorem capturemark_fwd (c : Ctx p bs env s w .capturemark)
    (h : FwdH p bs env a s S σ core tp) (hfl : FlowOk a p s.codepos .capturemark S) :
    TBodyOk p bs env.len a s (caseCapturemark p s) := by
  obtain ⟨R, hS, hn⟩ := flow_pos (Or.inr rfl) hfl
  obtain ⟨k, ρ, v, rest, rfl, hk, hρ, hst, hv, hvals⟩ := fwd_top h hS
  have := RK.sub_pos hk; subst this
  unfold caseCapturemark
  refine NoDisc.bind (operand_nodisc _ _ _) fun c0 h0 => ?_
  refine NoDisc.bind (operand_nodisc _ _ _) fun c1 h1 => ?_
  have e0 := operand_val h0
  have e1 := operand_val h1
  have hK : capK p s.codepos = if c0 ≠ -1 ∧ c1 ≠ -1 then 2 else 1 := by
    unfold capK; simp only [e0, e1, Option.getD_some, bne_iff_ne, ne_eq, Bool.and_eq_true]
  -- the frame pushed by both capturing branches
  have key : ∀ (cap' : MatchBuilder.Runner), (cap'.crawl.length : Int) = crawlLen s + capK p s.codepos →
      CapOk env.len p.capsize cap' →
      TMid p bs env.len a s (push1 { s with stack := rest, cap := cap' } v) (.advance 2) := by
    intro cap' hc hcap'
    have hcl : crawlLen (push1 { s with stack := rest, cap := cap' } v) = crawlLen s + capK p s.codepos := hc
    have hp := capK_pos p s.codepos
    exact ⟨ρ, h.push c false [v]
      ⟨⟨.pos, rfl, rfl, hv⟩, by rw [hcl]; omega, by rw [hcl]; unfold crawlLen; omega⟩ hvals hcap',
      hn.succ hρ⟩
  simp only
  by_cases hc1 : c1 = -1
  · subst hc1
    simp only [bne_self_eq_false, Bool.false_eq_true, ite_false, pure, Except.pure, bind, Except.bind, hst]
    split
    · next hok =>
      have hlt : c0.toNat < p.capsize := by
        simp only [capOk, Bool.and_eq_true, decide_eq_true_eq] at hok; exact hok.2
      refine key _ ?_ (capOk_capture h.cap c0.toNat hlt v s.textpos hv.1 hv.2 c.tp0 c.tpn)
      rw [capture_crawl, hK]
      simp [crawlLen]
    · rfl
  · have hne : (c1 != -1) = true := by simp [hc1]
    simp only [hne, ite_true]
    refine NoDisc.bind (map_nodisc _ (isMatched_nodisc _ _)) fun um hum => ?_
    split
    · exact ⟨.pos :: ρ, core, tp, h.tr, h.good, h.vals, h.cap⟩
    · next hnum =>
      -- the group to pop is matched, hence a slot
      obtain ⟨b, hb, rfl⟩ : ∃ b, isMatched s c1 = .ok b ∧ um = !b := by
        cases hx : isMatched s c1 with
        | error f => rw [hx] at hum; cases hum
        | ok b => rw [hx] at hum; cases hum; exact ⟨b, rfl, rfl⟩
      obtain ⟨hm, hlt1⟩ := matched_slot h.cap hb (by simpa using hnum)
      rw [hst]
      simp only
      split
      · next hcond =>
        have hc0' : c0 = -1 ∨ (0 ≤ c0 ∧ c0.toNat < p.capsize) := by
          rcases hcond with h' | h'
          · exact Or.inl h'
          · simp only [capOk, Bool.and_eq_true, decide_eq_true_eq] at h'; exact Or.inr h'
        refine key _ ?_ (capOk_transfer h.cap c0 c1.toNat hc0' hlt1 hm v s.textpos hv.1 hv.2 c.tp0 c.tpn)
        rw [transferCapture_crawl, hK]
        by_cases hc0 : c0 = -1 <;> simp [crawlLen, hc1, hc0]
      · rfl

end fwd

/-- Back / Back2 mode: the data `d` of the popped frame on the chain `core`, the frame's typing, the stack.  `ft` reduces to
    the opcode's arm of `FrameTy` once `slots1` … `slots3` (Lemmas/VM.lean) on `fd` have given `d` its slots -/
structure BackH (p : Prog) (bs : List Nat) (env : Env) (a : Assign) (s : VMState) (o : Op) (b2 : Bool) (S : STy)
    (d core : List Int) (tp : Int) (τ τ' : RTy) (cl' : Int) : Prop where
  tr : s.track = d ++ (core ++ [tp])
  fd : frameData o b2 = some d.length
  hS : a.get s.codepos = some S
  ft : FrameTy p env.len s.codepos o b2 S d ((core.length : Int) + 1) τ (crawlLen s) τ' cl'
  good : Good p bs env.len a core τ' cl'
  vals : Vals env.len s.stack τ
  cap : CapOk env.len p.capsize s.cap

section back
variable {S : STy} {d core : List Int} {tp : Int} {τ τ' : RTy} {cl' : Int}

/-- Back / Back2 mode, the frame is popped and another frame of the current instruction pushed: the chain of the new
    state, whose stack has type `υ`.  By default `htr` and `hd` hold by `rfl` and `hne` by `nofun`, as in `FwdH.push`. -/
theorem BackH.push {υ : RTy} {b2 : Bool} {s1 : VMState}
    (c : Ctx p bs env s w o) (b : BackH p bs env a s o b2 S d core tp τ τ' cl') (b2' : Bool) (d' : List Int)
    (hft : FrameTy p env.len s.codepos o b2' S d' ((core.length : Int) + 1) υ (crawlLen s1) τ' cl')
    (hlen : υ.length ≤ S.length + 2) (hv : Vals env.len s1.stack υ) (hcap : CapOk env.len p.capsize s1.cap)
    (htr : s1.track = (if b2' then -(s.codepos : Int) else (s.codepos : Int)) :: (d' ++ (core ++ [tp])) := by rfl)
    (hd : frameData o b2' = some d'.length := by rfl) (hne : b2' = true → o ≠ .lazybranch := by nofun) :
    ChainS p bs env.len a s1 υ :=
  ⟨_ :: (d' ++ core), tp, by rw [htr, ← List.append_assoc]; rfl,
    good_push c b2' d' core S υ τ' _ _ hd hne b.hS hft b.good hlen, hv, hcap⟩

/-- Back mode of the single-character loops: the frame is popped, the chain under it stays, possibly under a new frame of
    the same instruction -/
theorem neutral_back (c : Ctx p bs env s w o)
    (ho : o = .oneloop ∨ o = .notoneloop ∨ o = .setloop ∨ o = .onelazy ∨ o = .notonelazy ∨ o = .setlazy)
    (b : BackH p bs env a s o false S d core tp τ τ' cl') (hn : NextOk a (s.codepos + 3) S)
    {r : Res} (he : Neutral env s o (core ++ [tp]) r) : TBodyOk p bs env.len a s r := by
  have hft : subTy (erase τ) S = true ∧ τ' = τ ∧ cl' = crawlLen s := by
    have := b.ft
    rcases ho with rfl | rfl | rfl | rfl | rfl | rfl <;> exact this
  obtain ⟨hsub, rfl, rfl⟩ := hft
  match r, he with
  | .error f, he => rcases ho with rfl | rfl | rfl | rfl | rfl | rfl <;> cases he.2
  | .ok (s1, e), ⟨⟨tp', t, e1⟩, _, _, hx⟩ =>
    subst e1
    have hch : (t = core ++ [tp] ∨ ∃ d', t = (s.codepos : Int) :: (d' ++ (core ++ [tp])) ∧
        frameData o false = some d'.length ∧ posOk env.len o false s.oper.rtl d') →
        ChainS p bs env.len a { s with textpos := tp', track := t } τ' := by
      rintro (rfl | ⟨d', rfl, hd', _⟩)
      · exact ⟨core, tp, rfl, b.good, b.vals, b.cap⟩
      · refine b.push c false d' ?_ (by have := sub_len hsub; omega) b.vals b.cap rfl hd'
        rcases ho with rfl | rfl | rfl | rfl | rfl | rfl <;> exact ⟨hsub, rfl, rfl⟩
    rcases hx with ⟨ht, rfl⟩ | ⟨ht, i, rfl, hi⟩
    · exact ⟨τ', hch (.inl ht)⟩
    · refine ⟨τ', hch ht, ?_⟩
      have : s.codepos + i + 1 = s.codepos + 3 := by
        rcases ho with rfl | rfl | rfl | rfl | rfl | rfl <;> simp only [Op.size] at hi <;> omega
      rw [this]
      exact hn.succ hsub

theorem lazybranch_back (b : BackH p bs env a s .lazybranch false S d core tp τ τ' cl')
    (hj : ∀ t, p.codes[s.codepos + 1]? = some t → NextOk a t.toNat S) :
    TBodyOk p bs env.len a s (caseLazybranchBack p s) := by
  obtain ⟨tp', rfl⟩ := slots1 b.fd
  obtain ⟨hsub, rfl, rfl⟩ := b.ft
  unfold caseLazybranchBack
  rw [b.tr]
  simp only [List.cons_append, List.nil_append]
  refine NoDisc.map (operand_nodisc _ _ _) fun t h0 => ?_
  exact Or.inl ⟨τ', ⟨core, tp, rfl, b.good, b.vals, b.cap⟩, (hj t (operand_val h0)).succ hsub⟩

theorem lazybranch_back_root (c : Ctx p bs env s w o) (hpc : s.codepos = 0) (ht : s.track = [tp]) :
    TBodyOk p bs env.len a s (caseLazybranchBack p s) := by
  unfold caseLazybranchBack
  rw [ht]
  simp only
  refine NoDisc.map (operand_nodisc _ _ _) fun t h0 => ?_
  refine Or.inr ⟨rfl, rfl, ?_⟩
  obtain ⟨t0, wt, hc1, _, hf, hs⟩ := c.wf.rootTarget
  have := operand_val h0
  rw [hpc] at this
  simp only [Nat.zero_add] at this
  rw [hc1] at this
  cases this
  exact ⟨wt, hf, hs⟩

theorem pop1_back (ho : o = .setmark ∨ o = .nullmark)
    (b : BackH p bs env a s o false S d core tp τ τ' cl') :
    TBodyOk p bs env.len a s (casePop1Back s) := by
  have hd : d = [] := by rcases ho with rfl | rfl <;> exact slots0 b.fd
  subst hd
  obtain ⟨k, hτ, hcl⟩ : ∃ k, τ = k :: τ' ∧ cl' = crawlLen s := by
    have := b.ft
    rcases ho with rfl | rfl <;> exact ⟨_, this.1, this.2⟩
  subst hτ hcl
  obtain ⟨v, rest, hst, _, hvals⟩ := b.vals.cons_inv
  unfold casePop1Back
  rw [hst]
  exact ⟨τ', core, tp, b.tr, b.good, hvals, b.cap⟩

theorem pop2_back
    (ho : o = .setcount ∨ o = .nullcount ∨ o = .setjump)
    (b : BackH p bs env a s o false S d core tp τ τ' cl') :
    TBodyOk p bs env.len a s (casePop2Back s) := by
  have hd : d = [] := by rcases ho with rfl | rfl | rfl <;> exact slots0 b.fd
  subst hd
  obtain ⟨k1, k2, hτ, hcl⟩ : ∃ k1 k2, τ = k1 :: k2 :: τ' ∧ cl' = crawlLen s := by
    have := b.ft
    rcases ho with rfl | rfl | rfl <;> first | exact ⟨_, _, this.1, this.2⟩ | exact ⟨_, _, this.1, this.2.1⟩
  subst hτ hcl
  obtain ⟨v1, rest1, hst, _, hvals1⟩ := b.vals.cons_inv
  obtain ⟨v2, rest, rfl, _, hvals⟩ := hvals1.cons_inv
  unfold casePop2Back
  rw [hst]
  exact ⟨τ', core, tp, b.tr, b.good, hvals, b.cap⟩

theorem restore_back {b2 : Bool}
    (ho : (o = .getmark ∧ b2 = false) ∨ (o = .branchmark ∧ b2 = true))
    (b : BackH p bs env a s o b2 S d core tp τ τ' cl') :
    TBodyOk p bs env.len a s (caseRestoreBack s) := by
  obtain ⟨v, rfl⟩ : ∃ v, d = [v] := by rcases ho with ⟨rfl, rfl⟩ | ⟨rfl, rfl⟩ <;> exact slots1 b.fd
  obtain ⟨⟨k, rfl, hk, hv⟩, rfl⟩ :
      (∃ k, τ' = k :: τ ∧ k.isMark = true ∧ valOk env.len k v) ∧ cl' = crawlLen s := by
    have := b.ft
    rcases ho with ⟨rfl, rfl⟩ | ⟨rfl, rfl⟩ <;> exact this
  unfold caseRestoreBack restoreMark
  rw [b.tr]
  simp only [List.cons_append, List.nil_append, Except.map]
  exact ⟨k :: τ, core, tp, rfl, b.good, ⟨hv, b.vals⟩, b.cap⟩

theorem uncapture_spec (N : Int) (k : Nat) (s1 : VMState) (h : 1 ≤ crawlLen s1) (hc : CapOk N k s1.cap) :
    ∃ s2, uncapture s1 = .ok s2 ∧ SameButCap s1 s2 ∧ crawlLen s2 = crawlLen s1 - 1 ∧ CapOk N k s2.cap := by
  unfold crawlLen at h
  cases hcr : s1.cap.crawl with
  | nil => rw [hcr] at h; simp at h
  | cons x rest =>
    refine ⟨{ s1 with cap := MatchBuilder.uncapture s1.cap }, by simp [uncapture, hcr], ⟨rfl, rfl, rfl, rfl, rfl⟩, ?_,
      capOk_uncapture hc (by rw [hcr]; simp)⟩
    simp [crawlLen, MatchBuilder.uncapture, hcr]

theorem capturemark_back (b : BackH p bs env a s .capturemark false S d core tp τ τ' cl') :
    TBodyOk p bs env.len a s (caseCapturemarkBack p s) := by
  obtain ⟨v, rfl⟩ := slots1 b.fd
  obtain ⟨⟨k, rfl, hk, hv⟩, rfl, hK⟩ := b.ft
  unfold caseCapturemarkBack restoreMark
  refine NoDisc.bind (operand_nodisc _ _ _) fun c0 h0 => ?_
  refine NoDisc.bind (operand_nodisc _ _ _) fun c1 h1 => ?_
  have e0 := operand_val h0
  have e1 := operand_val h1
  have hKd : capK p s.codepos = if (c0 != -1 && c1 != -1) = true then 2 else 1 := by
    unfold capK; simp only [e0, e1, Option.getD_some]
  have hp := capK_pos p s.codepos
  rw [b.tr]
  simp only [List.cons_append, List.nil_append, bind, Except.bind]
  obtain ⟨s2, e2, ⟨a1, a2, a3, a4, a5⟩, hl2, hc2⟩ := uncapture_spec env.len p.capsize
    (spush { s with track := core ++ [tp] } v) (by simp only [crawlLen, spush] at hK ⊢; omega) b.cap
  rw [e2]
  simp only
  have hl2' : crawlLen s2 = crawlLen s - 1 := by rw [hl2]; simp [crawlLen, spush]
  split
  · next hc =>
    rw [if_pos hc] at hKd
    obtain ⟨s3, e3, ⟨b1, b2, b3, b4, b5⟩, hl3, hc3⟩ := uncapture_spec env.len p.capsize s2 (by omega) hc2
    rw [e3]
    refine ⟨k :: τ, core, tp, by rw [b1, a1]; rfl, ?_, ?_, hc3⟩
    · have : crawlLen s3 = crawlLen s - capK p s.codepos := by omega
      rw [this]; exact b.good
    · rw [b5, a5]; exact ⟨hv, b.vals⟩
  · next hc =>
    rw [if_neg hc] at hKd
    refine ⟨k :: τ, core, tp, by rw [a1]; rfl, ?_, ?_, hc2⟩
    · have : crawlLen s2 = crawlLen s - capK p s.codepos := by omega
      rw [this]; exact b.good
    · rw [a5]; exact ⟨hv, b.vals⟩

theorem branchmark_back (c : Ctx p bs env s w .branchmark) (b : BackH p bs env a s .branchmark false S d core tp τ τ' cl')
    (hfl : FlowOk a p s.codepos .branchmark S) : TBodyOk p bs env.len a s (caseBranchmarkBack s) := by
  obtain ⟨K', R', hS', _, hn, _⟩ := flow_mark (Or.inl rfl) hfl
  obtain ⟨tp', mark, rfl⟩ := slots2 b.fd
  obtain ⟨⟨r, k, K, R, rfl, hS, hr, rfl, hk, hv⟩, rfl⟩ := b.ft
  cases hS.symm.trans hS'
  obtain ⟨x, srest, hst, _, hvals⟩ := b.vals.cons_inv
  unfold caseBranchmarkBack
  rw [b.tr, hst]
  simp only [List.cons_append, List.nil_append]
  exact ⟨r, b.push c true [mark] ⟨⟨k, rfl, hk, hv⟩, rfl⟩
    (by have := sub_len hr; rw [hS]; simp only [List.length_cons]; omega) hvals b.cap, hn.succ hr⟩

theorem lazybranchmark_back (c : Ctx p bs env s w .lazybranchmark) (b : BackH p bs env a s .lazybranchmark false S d core tp τ τ' cl')
    (hfl : FlowOk a p s.codepos .lazybranchmark S) : TBodyOk p bs env.len a s (caseLazybranchmarkBack p s) := by
  obtain ⟨K', R', hS', _, _, hj⟩ := flow_mark (Or.inr rfl) hfl
  obtain ⟨pos, old, rfl⟩ := slots2 b.fd
  obtain ⟨⟨k, K, R, hS, hr, hp0, hpn, rfl, hk, hv⟩, rfl⟩ := b.ft
  cases hS.symm.trans hS'
  unfold caseLazybranchmarkBack
  rw [b.tr]
  simp only [List.cons_append, List.nil_append]
  refine NoDisc.map (operand_nodisc _ _ _) fun t h0 => ?_
  exact Or.inl ⟨.pos :: τ, b.push c true [1, old] ⟨⟨k, hk, hv, by simp⟩, rfl⟩
      (by have := sub_len hr; rw [hS]; simp only [List.length_cons]; omega) ⟨⟨hp0, hpn⟩, b.vals⟩ b.cap,
      (hj t (operand_val h0)).succ (subTy_cons (Kind.sub_refl _) hr)⟩

theorem lazybranchmark_back2
    (b : BackH p bs env a s .lazybranchmark true S d core tp τ τ' cl') :
    TBodyOk p bs env.len a s (caseLazybranchmarkBack2 s) := by
  obtain ⟨np, old, rfl⟩ := slots2 b.fd
  obtain ⟨⟨k, hk, hv, hif⟩, rfl⟩ := b.ft
  unfold caseLazybranchmarkBack2
  rw [b.tr]
  simp only [List.cons_append, List.nil_append]
  split
  · next hnp =>
    rw [if_pos hnp] at hif
    obtain ⟨r, rfl, rfl⟩ := hif
    obtain ⟨x, srest, hst, _, hvals⟩ := b.vals.cons_inv
    rw [hst]
    exact ⟨k :: r, core, tp, rfl, b.good, ⟨hv, hvals⟩, b.cap⟩
  · next hnp =>
    rw [if_neg hnp] at hif
    subst hif
    exact ⟨k :: τ, core, tp, rfl, b.good, ⟨hv, b.vals⟩, b.cap⟩

theorem branchcount_back (c : Ctx p bs env s w .branchcount) (b : BackH p bs env a s .branchcount false S d core tp τ τ' cl')
    (hfl : FlowOk a p s.codepos .branchcount S) : TBodyOk p bs env.len a s (caseBranchcountBack env s) := by
  obtain ⟨K', R', hS', _, hn, _⟩ := flow_count (Or.inl rfl) hfl
  obtain ⟨pmark, rfl⟩ := slots1 b.fd
  obtain ⟨⟨r, k, K, R, rfl, hS, hr, rfl, hk, hv⟩, rfl⟩ := b.ft
  cases hS.symm.trans hS'
  obtain ⟨cnt, rest1, hst, _, hvals1⟩ := b.vals.cons_inv
  obtain ⟨mark, srest, rfl, hm, hvals⟩ := hvals1.cons_inv
  unfold caseBranchcountBack
  rw [b.tr, hst]
  simp only [List.cons_append, List.nil_append]
  split
  · simp only [texttoStack, if_pos (show 0 ≤ mark ∧ mark ≤ env.len from hm), Except.map]
    exact ⟨r, b.push c true [cnt - 1, pmark] ⟨⟨k, rfl, hk, hv⟩, rfl⟩
      (by have := sub_len hr; rw [hS]; simp only [List.length_cons]; omega) hvals b.cap, hn.succ hr⟩
  · exact ⟨.count :: k :: r, core, tp, rfl, b.good, ⟨trivial, hv, hvals⟩, b.cap⟩

theorem branchcount_back2
    (b : BackH p bs env a s .branchcount true S d core tp τ τ' cl') :
    TBodyOk p bs env.len a s (caseBranchcountBack2 s) := by
  obtain ⟨cnt, mark, rfl⟩ := slots2 b.fd
  obtain ⟨⟨k, rfl, hk, hv⟩, rfl⟩ := b.ft
  unfold caseBranchcountBack2
  rw [b.tr]
  simp only [List.cons_append, List.nil_append]
  exact ⟨.count :: k :: τ, core, tp, rfl, b.good, ⟨trivial, hv, b.vals⟩, b.cap⟩

theorem lazybranchcount_back (c : Ctx p bs env s w .lazybranchcount) (b : BackH p bs env a s .lazybranchcount false S d core tp τ τ' cl')
    (hfl : FlowOk a p s.codepos .lazybranchcount S) : TBodyOk p bs env.len a s (caseLazybranchcountBack p s) := by
  obtain ⟨K', R', hS', _, _, hj⟩ := flow_count (Or.inr rfl) hfl
  obtain ⟨tp', cnt, mark, rfl⟩ := slots3 b.fd
  obtain ⟨⟨k, K, R, hS, hr, hp0, hpn, rfl, hk, hv⟩, rfl⟩ := b.ft
  cases hS.symm.trans hS'
  unfold caseLazybranchcountBack
  rw [b.tr]
  simp only [List.cons_append, List.nil_append]
  refine NoDisc.bind (operand_nodisc _ _ _) fun lim _ => ?_
  split
  · refine NoDisc.bind (operand_nodisc _ _ _) fun t ht => ?_
    exact Or.inl ⟨.count :: .pos :: τ, b.push c true [mark] ⟨⟨τ, k, rfl, rfl, hk, hv⟩, rfl⟩
      (by have := sub_len hr; rw [hS]; simp only [List.length_cons]; omega) ⟨trivial, ⟨hp0, hpn⟩, b.vals⟩ b.cap,
      (hj t (operand_val ht)).succ (subTy_cons (Kind.sub_refl _) (subTy_cons (Kind.sub_refl _) hr))⟩
  · exact ⟨.count :: k :: τ, core, tp, rfl, b.good, ⟨trivial, hv, b.vals⟩, b.cap⟩

theorem lazybranchcount_back2
    (b : BackH p bs env a s .lazybranchcount true S d core tp τ τ' cl') :
    TBodyOk p bs env.len a s (caseLazybranchcountBack2 s) := by
  obtain ⟨pmark, rfl⟩ := slots1 b.fd
  obtain ⟨⟨r, k, rfl, rfl, hk, hv⟩, rfl⟩ := b.ft
  obtain ⟨cnt, rest1, hst, _, hvals1⟩ := b.vals.cons_inv
  obtain ⟨mark, srest, rfl, hm, hvals⟩ := hvals1.cons_inv
  unfold caseLazybranchcountBack2
  rw [b.tr, hst]
  simp only [List.cons_append, List.nil_append]
  exact ⟨.count :: k :: r, core, tp, rfl, b.good, ⟨trivial, hv, hvals⟩, b.cap⟩

theorem forejump_back
    (b : BackH p bs env a s .forejump false S d core tp τ τ' cl') :
    TBodyOk p bs env.len a s (caseForejumpBack s) := by
  obtain ⟨cp, rfl⟩ := slots1 b.fd
  obtain ⟨rfl, rfl, h0, hl⟩ := b.ft
  unfold caseForejumpBack
  rw [b.tr]
  simp only [List.cons_append, List.nil_append]
  obtain ⟨s2, e, ⟨b1, b2, b3, b4, b5⟩, hl2, hc2⟩ := uncaptureTo_spec env.len p.capsize cl' s.cap.crawl.length
    { s with track := core ++ [tp] } h0 hl (by simp only [crawlLen]; omega) b.cap
  rw [e]
  exact ⟨τ', core, tp, b1, by rw [hl2]; exact b.good, by rw [b5]; exact b.vals, hc2⟩

end back

end cases
end RegexVerif.Lemmas.StackTypingSound
