/-
Helper lemmas for the strict variants of `Model/ReplaceStrict.lean`:
* `Refines D s t`: `s` is the indexed (Go) form of the total lookup `t` — where it returns it returns `t`, and it
  returns whenever `D` holds; one such statement per lookup, closed under `map`, `if` and `collect`;
* a strict run that does not panic returns what the total run of `Model/Replace.lean` returns, and strict
  runs agree with total ones on well-formed matches (`MatchOk`), rules that name existing slots (`pieceOk`)
  and string indices inside the table (`RulesWF`);
* the scanner / `NewReplacerData` only produce such rules for well-formed tables (`envOk`, `capsOk`):
  `parse_pieceOk`, `newReplacerData_pieceOk`.
The no-panic statement at the level of pieces (`∀ p ∈ pieces, pieceOk c p`, `MatchOk c text m` for the matches:
`replaceStrict … = replace …`) is `replaceWith_agree` applied to `(expand?_refines …).ok` and
`(expandRTL?_refines …).ok`; `Props.C09.replace_no_panic_parsed` is that with `parse_pieceOk` in front and
`replace_inbounds` behind.  Integer rules: `expandData?_refines`; evaluator: `replaceFuncStrict_agree`; `Split`:
`splitLoopStrict_agree` with `capTexts?_refines`.
-/
import RegexVerif.Model.ReplaceStrict
import RegexVerif.Lemmas.Replace

namespace RegexVerif.Lemmas.ReplaceStrict
open RegexVerif.Replace RegexVerif.Lemmas.Replace

/-! ### indexed lookups against total ones -/

structure Refines {α : Type} (D : Prop) (s : Option α) (t : α) : Prop where
  eq : ∀ x, s = some x → x = t
  ok : D → s = some t

namespace Refines
variable {α β : Type} {D D' : Prop} {s : Option α} {t : α}

theorem some (t : α) : Refines D (some t) t := ⟨fun _ h => (Option.some.inj h).symm, fun _ => rfl⟩

theorem none_of_not (h : ¬ D) : Refines D (none : Option α) t := ⟨nofun, fun d => absurd d h⟩

theorem imp (h : Refines D s t) (hd : D' → D) : Refines D' s t := ⟨h.eq, fun d => h.ok (hd d)⟩

theorem map (h : Refines D s t) (f : α → β) : Refines D (s.map f) (f t) :=
  ⟨fun _ hx => by obtain ⟨a, ha, rfl⟩ := Option.map_eq_some_iff.mp hx; rw [h.eq a ha],
    fun d => by rw [h.ok d]; rfl⟩

theorem ite {c : Prop} [Decidable c] {s' : Option α} (h1 : c → Refines D s t) (h2 : ¬ c → Refines D s' t) :
    Refines D (if c then s else s') t :=
  ite_cases (P := (Refines D · t)) h1 h2

theorem collect {γ : Type} {f : γ → Option α} {g : γ → α} {P : γ → Prop} : ∀ (l : List γ),
    (∀ x ∈ l, Refines (P x) (f x) (g x)) → Refines (∀ x ∈ l, P x) (Replace.collect (l.map f)) (l.map g)
  | [], _ => .some _
  | a :: rest, h => by
    obtain ⟨ha, hr⟩ := List.forall_mem_cons.mp h
    rw [List.map_cons]
    cases hfa : f a with
    | none => exact .none_of_not fun d => by have := ha.ok (d a List.mem_cons_self); rw [hfa] at this; cases this
    | some b =>
      rw [ha.eq b hfa]
      exact ((collect rest hr).map (g a :: ·)).imp fun d x hx => d x (List.mem_cons_of_mem _ hx)

end Refines

theorem collect_map_none {α β : Type} (f : α → Option β) : ∀ (l : List α) (x : α), x ∈ l → f x = none → collect (l.map f) = none := by
  intro l
  induction l with
  | nil => intro x hx; cases hx
  | cons a rest ih =>
    intro x hx hf
    rw [List.map_cons]
    cases hfa : f a with
    | none => rfl
    | some b =>
      rcases List.mem_cons.mp hx with rfl | h
      · rw [hf] at hfa; cases hfa
      · rw [collect, ih x h hf]; rfl

theorem sliceLoop_refines (text : List Nat) (a b : Nat) : Refines (b ≤ text.length) (sliceLoop text a b) (slice text a b) :=
  .ite (fun h => .none_of_not (Nat.not_le_of_lt h.2)) fun _ => .some _

theorem sliceExpr_refines (text : List Nat) (a b : Nat) :
    Refines (a ≤ b ∧ b ≤ text.length) (sliceExpr text a b) (slice text a b) :=
  .ite (fun _ => .some _) fun h => .none_of_not h

theorem MatchOk_parts {capsize : Nat} {text : List Nat} {m : Match} (h : MatchOk capsize text m = true) :
    m.groups.length + 1 = capsize ∧ m.index + m.len ≤ text.length ∧ ∀ g ∈ m.groups, spanOk text g = true := by
  simpa [MatchOk, and_assoc] using h

/-! the domain is that of a match of a regex with `c` slots: the slot exists and its span lies in the text -/

theorem groupText?_refines (text : List Nat) (m : Match) (slot : Nat) :
    Refines (∃ c, MatchOk c text m = true ∧ slot < c) (groupText? text m slot) (groupText text m slot) := by
  unfold groupText? groupText
  cases slot with
  | zero => exact (sliceLoop_refines text _ _).imp fun h => h.elim fun _ d => (MatchOk_parts d.1).2.1
  | succ k =>
    rw [groupSpan?, groupSpan, List.getD_eq_getElem?_getD]
    cases hg : m.groups[k]? with
    | none =>
      refine .none_of_not fun h => h.elim fun _ d => ?_
      have := (MatchOk_parts d.1).1
      rw [List.getElem?_eq_none_iff] at hg; omega
    | some g =>
      rcases g with _ | ⟨i, l⟩
      · exact .some _
      · exact (sliceLoop_refines text i (i + l)).imp fun h => h.elim fun _ d =>
          of_decide_eq_true ((MatchOk_parts d.1).2.2 _ (List.mem_of_getElem? hg))

theorem pieceText?_refines (text : List Nat) (m : Match) (p : Piece) :
    Refines (∃ c, MatchOk c text m = true ∧ pieceOk c p = true) (pieceText? text m p) (pieceText text m p) := by
  cases p with
  | group slot => exact (groupText?_refines text m slot).imp (Exists.imp fun _ d => ⟨d.1, of_decide_eq_true d.2⟩)
  | lastGroup =>
    exact (groupText?_refines text m _).imp (Exists.imp fun _ d => ⟨d.1, by have := (MatchOk_parts d.1).1; omega⟩)
  | leftPortion =>
    exact (sliceLoop_refines text 0 m.index).imp fun h => h.elim fun _ d =>
      Nat.le_trans (Nat.le_add_right _ _) (MatchOk_parts d.1).2.1
  | _ => exact .some _

theorem decodeRule?_refines (strings : List (List Nat)) (r : Int) :
    Refines (0 ≤ r → r.toNat < strings.length) (decodeRule? strings r) (decodeRule strings r) := by
  unfold decodeRule?
  refine .ite (fun h0 => ?_) fun _ => .some _
  rw [decodeRule, if_pos h0, List.getD_eq_getElem?_getD]
  cases hs : strings[r.toNat]? with
  | none => exact .none_of_not fun d => by rw [List.getElem?_eq_none_iff] at hs; have := d h0; omega
  | some s => exact .some _

theorem ruleText?_refines (strings : List (List Nat)) (text : List Nat) (m : Match) (r : Int) :
    Refines ((0 ≤ r → r.toNat < strings.length) ∧ ∃ c, MatchOk c text m = true ∧ pieceOk c (decodeRule strings r) = true)
      (ruleText? strings text m r) (pieceText text m (decodeRule strings r)) := by
  unfold ruleText?
  have hd := decodeRule?_refines strings r
  cases hx : decodeRule? strings r with
  | none => exact .none_of_not fun d => by have := hd.ok d.1; rw [hx] at this; cases this
  | some p => rw [← hd.eq p hx]; exact (pieceText?_refines text m p).imp fun d => hd.eq p hx ▸ d.2

theorem capTexts?_refines (text : List Nat) (m : Match) :
    Refines (∃ c, MatchOk c text m = true) (capTexts? text m) (capTexts text m) := by
  refine (Refines.collect (P := fun g => spanOk text g = true) m.groups ?_).imp fun h => h.elim fun _ d => (MatchOk_parts d).2.2
  rintro (_ | ⟨i, l⟩) _
  · exact .some _
  · exact (sliceExpr_refines text i (i + l)).imp fun d => ⟨Nat.le_add_right _ _, of_decide_eq_true d⟩

theorem expand?_refines (pieces : List Piece) (text : List Nat) (m : Match) :
    Refines (∃ c, MatchOk c text m = true ∧ ∀ p ∈ pieces, pieceOk c p = true) (expand? pieces text m) (expand pieces text m) := by
  rw [expand, List.flatMap_def]
  exact ((Refines.collect pieces fun p _ => pieceText?_refines text m p).map List.flatten).imp
    fun h p hp => h.imp fun _ d => ⟨d.1, d.2 p hp⟩

theorem expandRTL?_refines (pieces : List Piece) (text : List Nat) (m : Match) :
    Refines (∃ c, MatchOk c text m = true ∧ ∀ p ∈ pieces, pieceOk c p = true)
      (expandRTL? pieces text m) (pieces.reverse.map (pieceText text m)) :=
  (Refines.collect pieces.reverse fun p _ => pieceText?_refines text m p).imp
    fun h p hp => h.imp fun _ d => ⟨d.1, d.2 p (List.mem_reverse.mp hp)⟩

theorem expandDataRTL?_refines (d : ReplacerData) (text : List Nat) (m : Match) :
    Refines (RulesWF d.strings d.rules ∧ ∃ c, MatchOk c text m = true ∧ ∀ p ∈ d.pieces, pieceOk c p = true)
      (expandDataRTL? d text m) (d.pieces.reverse.map (pieceText text m)) := by
  rw [ReplacerData.pieces, ← List.map_reverse, List.map_map]
  exact (Refines.collect d.rules.reverse fun r _ => ruleText?_refines d.strings text m r).imp
    fun h r hr => ⟨h.1 r (List.mem_reverse.mp hr),
      h.2.imp fun _ d => ⟨d.1, d.2 _ (List.mem_map_of_mem (List.mem_reverse.mp hr))⟩⟩

theorem expandData?_refines (d : ReplacerData) (text : List Nat) (m : Match) :
    Refines (RulesWF d.strings d.rules ∧ ∃ c, MatchOk c text m = true ∧ ∀ p ∈ d.pieces, pieceOk c p = true)
      (expandData? d text m) (expand d.pieces text m) := by
  rw [expand, ReplacerData.pieces, List.flatMap_def, List.map_map]
  exact ((Refines.collect d.rules fun r _ => ruleText?_refines d.strings text m r).map List.flatten).imp
    fun h r hr => ⟨h.1 r hr, h.2.imp fun _ d => ⟨d.1, d.2 _ (List.mem_map_of_mem hr)⟩⟩

/-! ### the strict loops are loops of the same shape, with an expansion that may panic -/

theorem isLoop_LTRStrict (text : List Nat) (ex : Match → Option (List Nat)) :
    IsLoop (fun m => m.index + m.len) (stepL (sliceLoop text) ex) (finishLTR text) (loopLTRStrict text ex) where
  nil _ _ _ := rfl
  cons m rest p b c := by
    rw [loopLTRStrict, stepL]
    generalize (if m.index ≠ p then _ else _) = g
    cases g with
    | none => rfl
    | some g => cases ex m <;> rfl

theorem isLoop_FuncLTRStrict (text : List Nat) (ev : Match → Option (List Nat)) :
    IsLoop (fun m => m.index + m.len) (stepL (sliceExpr text) ev) (finishFuncLTR text) (loopFuncLTRStrict text ev) where
  nil _ _ _ := rfl
  cons m rest p b c := by
    rw [loopFuncLTRStrict, stepL]
    generalize (if m.index ≠ p then _ else _) = g
    cases g with
    | none => rfl
    | some g => cases ev m <;> rfl

theorem isLoop_RTLStrict (text : List Nat) (exR : Match → Option (List (List Nat))) :
    IsLoop (·.index) (stepR text exR) (finishRTL text) (loopRTLStrict text exR) where
  nil _ _ _ := rfl
  cons m rest p b c := by
    rw [loopRTLStrict, stepR]
    generalize (if m.index + m.len ≠ p then _ else _) = g
    cases g with
    | none => rfl
    | some al => cases exR m <;> rfl

theorem isLoop_FuncRTLStrict (text : List Nat) (ev : Match → Option (List Nat)) :
    IsLoop (·.index) (stepR text fun m => (ev m).map ([·])) (finishFuncRTL text) (loopFuncRTLStrict text ev) where
  nil _ _ _ := rfl
  cons m rest p b c := by
    rw [loopFuncRTLStrict, stepR]
    generalize (if m.index + m.len ≠ p then _ else _) = g
    cases g with
    | none => rfl
    | some al => cases ev m <;> rfl

theorem replaceWith_eq (text : List Nat) (ms : List Match) (pieces : List Piece)
    (ex : Match → Option (List Nat)) (exR : Match → Option (List (List Nat)))
    (hex : ∀ m x, ex m = some x → x = expand pieces text m)
    (hexR : ∀ m es, exR m = some es → es = pieces.reverse.map (pieceText text m))
    (count : Int) (rtl : Bool) (h : replaceWith text ms ex exR count rtl ≠ .panic) :
    replaceWith text ms ex exR count rtl = replace text ms pieces count rtl := by
  refine frame_mono (fun r => ?_) h
  cases rtl with
  | true =>
    exact (isLoop_RTLStrict text exR).mono (isLoop_RTL text pieces) ms _ _ _ r fun m _ =>
      stepR_mono fun x hx => congrArg some (hexR m x hx).symm
  | false =>
    exact (isLoop_LTRStrict text ex).mono (isLoop_LTR text pieces) ms _ _ _ r fun m _ =>
      stepL_mono fun x hx => congrArg some (hex m x hx).symm

theorem replaceWith_agree (text : List Nat) (ms : List Match) (pieces : List Piece)
    (ex : Match → Option (List Nat)) (exR : Match → Option (List (List Nat)))
    (hex : ∀ m ∈ ms, ex m = some (expand pieces text m))
    (hexR : ∀ m ∈ ms, exR m = some (pieces.reverse.map (pieceText text m)))
    (count : Int) (rtl : Bool) :
    replaceWith text ms ex exR count rtl = replace text ms pieces count rtl := by
  refine congrArg (frame text ms count) ?_
  cases rtl with
  | true =>
    exact (isLoop_RTLStrict text exR).congr (isLoop_RTL text pieces) ms _ _ _ fun m hm => stepR_congr (hexR m hm)
  | false =>
    exact (isLoop_LTRStrict text ex).congr (isLoop_LTR text pieces) ms _ _ _ fun m hm => stepL_congr (hex m hm)

theorem replaceFuncStrict_eq (text : List Nat) (ms : List Match) (ev : Match → Option (List Nat)) (ev' : Match → List Nat)
    (hev : ∀ m x, ev m = some x → x = ev' m) (count : Int) (rtl : Bool)
    (h : replaceFuncStrict text ms ev count rtl ≠ .panic) :
    replaceFuncStrict text ms ev count rtl = replaceFunc text ms ev' count rtl := by
  refine frame_mono (fun r => ?_) h
  cases rtl with
  | true =>
    refine (isLoop_FuncRTLStrict text ev).mono (isLoop_FuncRTL text ev') ms _ _ _ r fun m _ => stepR_mono fun x hx => ?_
    obtain ⟨e, he, rfl⟩ := Option.map_eq_some_iff.mp hx
    rw [hev m e he]
  | false =>
    exact (isLoop_FuncLTRStrict text ev).mono (isLoop_FuncLTR text ev') ms _ _ _ r fun m _ =>
      stepL_mono fun x hx => congrArg some (hev m x hx).symm

theorem replaceFuncStrict_agree (text : List Nat) (ms : List Match) (ev : Match → Option (List Nat)) (ev' : Match → List Nat)
    (hev : ∀ m ∈ ms, ev m = some (ev' m)) (count : Int) (rtl : Bool) :
    replaceFuncStrict text ms ev count rtl = replaceFunc text ms ev' count rtl := by
  refine congrArg (frame text ms count) ?_
  cases rtl with
  | true =>
    exact (isLoop_FuncRTLStrict text ev).congr (isLoop_FuncRTL text ev') ms _ _ _ fun m hm =>
      stepR_congr (congrArg (Option.map _) (hev m hm))
  | false =>
    exact (isLoop_FuncLTRStrict text ev).congr (isLoop_FuncLTR text ev') ms _ _ _ fun m hm => stepL_congr (hev m hm)

theorem splitLoopStrict_mono (text : List Nat) (rtl : Bool) :
    ∀ (ms : List Match) (prior : Nat) (ret : List (List Nat)) (count : Int) (r : List (List Nat)),
      splitLoopStrict text rtl ms prior ret count = some r → splitLoop text rtl ms prior ret count = some r := by
  intro ms
  induction ms with
  | nil => intro prior ret count r h; exact h
  | cons m rest ih =>
    intro prior ret count r
    rw [splitLoopStrict, splitLoop]
    by_cases hc : count > 0
    · rw [if_pos hc, if_pos hc]
      cases (if rtl then sliceExpr text (m.index + m.len) prior else sliceExpr text prior m.index) with
      | none => exact id
      | some g =>
        cases hx : capTexts? text m with
        | none => nofun
        | some caps => rw [(capTexts?_refines text m).eq caps hx]; exact ih _ _ _ _
    · rw [if_neg hc, if_neg hc]; exact id

theorem splitLoopStrict_agree (text : List Nat) (rtl : Bool) :
    ∀ (ms : List Match) (prior : Nat) (ret : List (List Nat)) (count : Int),
      (∀ m ∈ ms, capTexts? text m = some (capTexts text m)) →
      splitLoopStrict text rtl ms prior ret count = splitLoop text rtl ms prior ret count := by
  intro ms
  induction ms with
  | nil => intro prior ret count _; rfl
  | cons m rest ih =>
    intro prior ret count hex
    obtain ⟨hm, hr⟩ := List.forall_mem_cons.mp hex
    rw [splitLoopStrict, splitLoop, hm]
    by_cases hc : count > 0
    · rw [if_pos hc, if_pos hc]
      cases (if rtl then sliceExpr text (m.index + m.len) prior else sliceExpr text prior m.index) with
      | none => rfl
      | some g => exact ih _ _ _ hr
    · rw [if_neg hc, if_neg hc]

/-! ### the scanner and `NewReplacerData` only name slots below `capsize` -/

theorem slotOf_lt (env : Env) (hc : capsOk env = true) (n : Nat) (h : isCaptureSlot env n = true) :
    slotOf env n < env.capsize := by
  unfold isCaptureSlot at h
  unfold slotOf
  unfold capsOk at hc
  cases hcaps : env.caps with
  | none => rw [hcaps] at h; exact of_decide_eq_true h
  | some l =>
    rw [hcaps] at h hc
    dsimp only at h hc ⊢
    cases hl : l.lookup n with
    | none => rw [hl] at h; cases h
    | some v =>
      have hmem := mem_of_lookup hl
      rw [if_pos (List.length_pos_of_mem hmem)]
      exact of_decide_eq_true (List.all_eq_true.mp hc _ hmem)

theorem refPiece_pieceOk (env : Env) (hc : capsOk env = true) (n : Int) (h : RefOk env (.ref n)) :
    pieceOk env.capsize (refPiece env n) = true := by
  unfold refPiece
  by_cases hn : 0 ≤ n
  · rw [if_pos hn]; exact decide_eq_true (slotOf_lt env hc _ (h.1 hn))
  · rw [if_neg hn]
    simp only [apply_ite (pieceOk env.capsize)]
    simp only [pieceOk, ite_self]

theorem piecesOf_pieceOk (env : Env) (hc : capsOk env = true) :
    ∀ (toks : List Tok) (sb : List Nat), (∀ t ∈ toks, RefOk env t) → ∀ p ∈ piecesOf env toks sb, pieceOk env.capsize p = true := by
  have hlit : ∀ sb : List Nat, ∀ p ∈ (if sb ≠ [] then [Piece.lit sb] else []), pieceOk env.capsize p = true := by
    intro sb p hp
    split at hp
    · rw [List.mem_singleton.mp hp]; rfl
    · cases hp
  intro toks
  induction toks with
  | nil => intro sb _; exact hlit sb
  | cons t rest ih =>
    intro sb ht p hp
    obtain ⟨ht0, htr⟩ := List.forall_mem_cons.mp ht
    cases t with
    | ch c => exact ih _ htr p hp
    | ref n =>
      rcases List.mem_append.mp hp with hp | hp
      · exact hlit sb p hp
      · rcases List.mem_cons.mp hp with rfl | hp
        · exact refPiece_pieceOk env hc n ht0
        · exact ih _ htr p hp

theorem newReplacerData_pieceOk (isWord : Nat → Bool) (env : Env) (henv : envOk env = true) (hc : capsOk env = true)
    (rep : List Nat) (d : ReplacerData) (h : newReplacerData isWord env rep = .ok d) :
    RulesWF d.strings d.rules ∧ ∀ p ∈ d.pieces, pieceOk env.capsize p = true := by
  obtain ⟨hn, h0⟩ := envOk_names env henv
  unfold newReplacerData at h
  split at h
  · cases h
  · rename_i toks hs
    cases h
    have hok := scanLoop_ok isWord env hn h0 rep 0 toks hs
    have hwf0 : RulesWF ([] : List (List Nat)) ([] : List Int) := nofun
    refine ⟨buildData_wf env toks [] [] [] hok hwf0, ?_⟩
    rw [buildData_pieces env toks [] [] [] hok hwf0]
    exact piecesOf_pieceOk env hc toks [] hok

theorem parse_pieceOk (isWord : Nat → Bool) (env : Env) (henv : envOk env = true) (hc : capsOk env = true)
    (rep : List Nat) (pieces : List Piece) (h : parse isWord env rep = .ok pieces) :
    ∀ p ∈ pieces, pieceOk env.capsize p = true := by
  unfold parse at h
  split at h
  · cases h
  · rename_i d hd
    cases h
    exact (newReplacerData_pieceOk isWord env henv hc rep d hd).2

/-! ### a slot the match does not have panics -/

theorem groupText?_none (text : List Nat) (m : Match) (slot : Nat) (h : m.groups.length < slot) :
    groupText? text m slot = none := by
  cases slot with
  | zero => cases h
  | succ k => rw [groupText?, groupSpan?, List.getElem?_eq_none (Nat.le_of_lt_succ h)]

theorem expand?_none (pieces : List Piece) (text : List Nat) (m : Match) (slot : Nat)
    (hp : Piece.group slot ∈ pieces) (h : m.groups.length < slot) :
    expand? pieces text m = none ∧ expandRTL? pieces text m = none := by
  have hn : pieceText? text m (.group slot) = none := groupText?_none text m slot h
  exact ⟨by rw [expand?, collect_map_none _ pieces _ hp hn]; rfl,
    collect_map_none _ pieces.reverse _ (List.mem_reverse.mpr hp) hn⟩

end RegexVerif.Lemmas.ReplaceStrict
