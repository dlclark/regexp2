/-
The mirrors of `helpers/indexof.go` (Model/IndexOf.lean): every loop is shown EQUAL to the specified search `findUp`
of Model/Finders.lean (`rangeLoop_findUp`: a test of one rune; `fwdLoop_findUp`: a head test, then a body that may
fault) — which is also the connection to the candidate-finder models — and never faults under the callers'
precondition.  `findUp_firstIdx` turns "equal to `findUp`" into `FirstIdx` (Go's `-1` encoding, Lemmas/First.lean);
a downward loop is `LastIdx` by `downward_lastIdx`; call sites on `text[s:]` by `absIdx_findUp_shift`.
`rangeLoop_firstP` / `downLoop_lastP` state the one-rune loops with the tests of Props/C03.lean (`RuneAt`);
`eq_and_sound` carries `FinderSound` over an equality of finders (the `finder_*_uses_*` of C03).
-/
import RegexVerif.Model.IndexOf
import RegexVerif.Lemmas.Finders
import RegexVerif.Lemmas.First

namespace RegexVerif.Lemmas.IndexOf
open RegexVerif RegexVerif.Finders RegexVerif.IndexOf RegexVerif.Lemmas.Finders

/-! ### facts about the specified search `findUp` -/

theorem findUp_firstIdx (P : Nat → Bool) (k : Nat) (hP : ∀ i, P i = true → i < k) :
    FirstIdx (fun i => P i = true) (toInt (findUp P k 0)) :=
  firstIdx_toInt ((Lemmas.Finders.findUp_first P k 0).congr fun i =>
    ⟨fun h => h.2.2, fun h => ⟨Nat.zero_le i, (Nat.zero_add k).symm ▸ hP i h, h⟩⟩)

theorem findUp_congr (P Q : Nat → Bool) : ∀ (k q : Nat), (∀ p, q ≤ p → p < q + k → P p = Q p) →
    findUp P k q = findUp Q k q := by
  intro k
  induction k with
  | zero => intro q _; rfl
  | succ k ih =>
    intro q h
    unfold findUp
    rw [h q (Nat.le_refl _) (by omega), ih (q + 1) (fun p h1 h2 => h p (by omega) (by omega))]

theorem findUp_extend (P : Nat → Bool) : ∀ (k k' q : Nat), k ≤ k' → (∀ p, q + k ≤ p → p < q + k' → P p = false) →
    findUp P k' q = findUp P k q := by
  intro k
  induction k with
  | zero =>
    intro k' q _ h
    cases hf : findUp P k' q with
    | none => rfl
    | some r =>
      obtain ⟨h1, h2, h3, _⟩ := findUp_some P k' q r hf
      rw [h r (by omega) h2] at h3; exact Bool.noConfusion h3
  | succ k ih =>
    intro k' q hk h
    cases k' with
    | zero => omega
    | succ k' =>
      unfold findUp
      rw [ih k' (q + 1) (by omega) (fun p h1 h2 => h p (by omega) (by omega))]

theorem findUp_shift (P : Nat → Bool) (s : Nat) : ∀ (k q : Nat),
    findUp P k (q + s) = (findUp (fun i => P (i + s)) k q).map (· + s) := by
  intro k
  induction k with
  | zero => intro q; rfl
  | succ k ih =>
    intro q
    unfold findUp
    by_cases hP : P (q + s) = true
    · simp [hP]
    · simp only [hP, if_false, Bool.false_eq_true]
      have := ih (q + 1)
      rw [show q + 1 + s = q + s + 1 by omega] at this
      exact this

theorem find?_range' (C : Nat → Bool) : ∀ (k q : Nat), (List.range' q k).find? C = findUp C k q := by
  intro k
  induction k with
  | zero => intro q; rfl
  | succ k ih => intro q; rw [List.range'_succ, List.find?_cons, findUp, ih]; cases C q <;> rfl

theorem find?_range_reverse (C : Nat → Bool) : ∀ (q : Nat), (List.range (q + 1)).reverse.find? C = findDown C q := by
  intro q
  induction q with
  | zero => rw [findDown]; cases h : C 0 <;> simp [List.range_succ, h]
  | succ q ih =>
    rw [List.range_succ, List.reverse_append, List.reverse_singleton, List.singleton_append, List.find?_cons, findDown, ih]
    cases C (q + 1) <;> rfl

theorem absIdx_toInt (s : Nat) (o : Option Nat) : absIdx s (some (toInt o)) = o.map (· + s) := by
  cases o with
  | none => simp [absIdx, toInt]
  | some q =>
    have h0 : ¬ ((q : Int) < 0) := by omega
    simp [absIdx, toInt, h0]
    omega

theorem absIdx_findUp_shift (P : Nat → Bool) (s k : Nat) :
    absIdx s (some (toInt (findUp (fun i => P (i + s)) k 0))) = findUp P k s := by
  rw [absIdx_toInt, ← Nat.zero_add s, findUp_shift, Nat.zero_add]

/-! ### `for i, c := range in` -/

theorem rangeLoop_findUp (test : Nat → Bool) : ∀ (l : List Nat) (i : Nat),
    rangeLoop test l i = toInt ((findUp (memAt test l) l.length 0).map (· + i)) := by
  intro l
  induction l with
  | nil => intro i; rfl
  | cons c rest ih =>
    intro i
    rw [rangeLoop, List.length_cons, findUp, show memAt test (c :: rest) 0 = test c from rfl]
    by_cases ht : test c = true
    · rw [if_pos ht, if_pos ht]; exact congrArg Int.ofNat (Nat.zero_add i).symm
    · rw [if_neg ht, if_neg ht, ih (i + 1), findUp_shift (memAt test (c :: rest)) 1 rest.length 0, Option.map_map]
      exact congrArg (fun g => toInt ((findUp (memAt test rest) rest.length 0).map g))
        (funext fun q => (Nat.add_assoc q 1 i).trans (congrArg (q + ·) (Nat.add_comm 1 i))).symm

theorem rangeLoop_eq (test : Nat → Bool) (inp : List Nat) :
    rangeLoop test inp 0 = toInt (findUp (memAt test inp) inp.length 0) := by
  rw [rangeLoop_findUp]; cases findUp (memAt test inp) inp.length 0 <;> rfl

theorem memAt_drop (test : Nat → Bool) (text : List Nat) (s : Nat) :
    memAt test (text.drop s) = fun i => memAt test text (i + s) := by
  funext i; rw [memAt, memAt, List.getElem?_drop, Nat.add_comm]

theorem absIdx_rangeLoop (test : Nat → Bool) (text : List Nat) (s : Nat) :
    absIdx s (some (rangeLoop test (text.drop s) 0)) = findUp (memAt test text) (text.length - s) s := by
  rw [rangeLoop_eq, memAt_drop, List.length_drop, absIdx_findUp_shift]

theorem rangeLoop_congr (t1 t2 : Nat → Bool) (h : ∀ c, t1 c = t2 c) (l : List Nat) (i : Nat) :
    rangeLoop t1 l i = rangeLoop t2 l i := by
  have : t1 = t2 := funext h
  rw [this]

theorem foundIn_eq (c : Nat) : ∀ (bad : List Nat), foundIn c bad = bad.contains c := by
  intro bad
  induction bad with
  | nil => rfl
  | cons b rest ih =>
    unfold foundIn
    rw [List.contains_cons, ih]
    by_cases h : b = c
    · subst h; simp
    · have h' : (c == b) = false := by simp; exact fun e => h e.symm
      simp [h, h']

/-! ### `for i := k - 1; i >= 0; i--` -/

/-- any `f` with the step equation of a downward loop from `K - 1` is `findDown M (K - 1)` -/
theorem downward_lastIdx (M : Nat → Bool) (f : Nat → Option Int) (K : Nat) (h0 : f 0 = some (-1))
    (hs : ∀ k, k < K → f (k + 1) = if M k = true then some (k : Int) else f k)
    (hM : ∀ i, M i = true → i < K) :
    ∃ r, f K = some r ∧ LastIdx (fun i => M i = true) r := by
  have hf : ∀ q, q < K → f (q + 1) = some (toInt (findDown M q)) := by
    intro q
    induction q with
    | zero => intro h; rw [hs 0 h, h0, findDown]; cases M 0 <;> rfl
    | succ q ih => intro h; rw [hs (q + 1) h, ih (Nat.lt_of_succ_lt h), findDown]; cases M (q + 1) <;> rfl
  cases K with
  | zero => exact ⟨-1, h0, Or.inl ⟨rfl, fun i hi => absurd (hM i hi) (Nat.not_lt_zero i)⟩⟩
  | succ q =>
    exact ⟨_, hf q (Nat.lt_succ_self q), lastIdx_toInt ((findDown_last M q).congr fun i =>
      ⟨And.right, fun h => ⟨Nat.le_of_lt_succ (hM i h), h⟩⟩)⟩

/-! ### the sub-slice searches: `for i := 0; i <= end; i++` -/

/-- `M j` is the loop's test at `j`, performed in two steps: the read `in[j]` succeeds at every index visited; where
    the head test passes, the body (which may fault) answers `M j`; where it fails, `M j` is false -/
theorem fwdLoop_findUp (inp : List Nat) (head : Nat → Bool) (body : Nat → Option Bool) (M : Nat → Bool) :
    ∀ (k i : Nat),
      (∀ j, i ≤ j → j < i + k → ∃ c, inp[j]? = some c ∧
        (head c = true → body j = some (M j)) ∧ (head c = false → M j = false)) →
      fwdLoop inp head body k i = some (toInt (findUp M k i)) := by
  intro k
  induction k with
  | zero => intro i _; rfl
  | succ k ih =>
    intro i h
    obtain ⟨c, hc, hb1, hb2⟩ := h i (Nat.le_refl _) (by omega)
    have ih' := ih (i + 1) (fun j h1 h2 => h j (by omega) (by omega))
    unfold fwdLoop findUp
    rw [hc]
    cases hh : head c with
    | true =>
      simp only [hh, if_true, hb1 hh]
      cases hM : M i with
      | true => simp [toInt]
      | false => simp only [Bool.false_eq_true, if_false]; exact ih'
    | false =>
      simp only [hh, hb2 hh, Bool.false_eq_true, if_false]
      exact ih'

theorem cmpFrom_spec (eq : Nat → Nat → Bool) (inp : List Nat) (i : Nat) : ∀ (rest : List Nat) (j : Nat),
    i + j + rest.length ≤ inp.length → cmpFrom eq inp i rest j = some (prefixOf eq rest (inp.drop (i + j))) := by
  intro rest
  induction rest with
  | nil => intro j _; simp [cmpFrom, prefixOf]
  | cons f rest ih =>
    intro j h
    simp only [List.length_cons] at h
    have hlt : i + j < inp.length := by omega
    unfold cmpFrom
    rw [List.getElem?_eq_getElem hlt, List.drop_eq_getElem_cons hlt]
    simp only [prefixOf]
    by_cases he : eq inp[i + j] f = true
    · simp only [he, if_true, Bool.true_and]
      have := ih (j + 1) (by omega)
      rw [show i + (j + 1) = i + j + 1 by omega] at this
      exact this
    · simp [he]

theorem iterations_lt {inp : List Nat} {f : Nat} {rest : List Nat} {j : Nat} (h : j < 0 + iterations inp (f :: rest)) :
    j + (rest.length + 1) ≤ inp.length := by
  simp only [iterations, List.length_cons] at h; omega

/-- `IndexOfIgnoreCase` / `IndexOfIgnoreCaseAscii` for a needle `f :: rest`: first rune tested by `head`, the others
    by the inner loop, both with the comparison `eq` -/
theorem fwd_cmp_eq (eq : Nat → Nat → Bool) (inp : List Nat) (f : Nat) (rest : List Nat) :
    fwdLoop inp (fun c => eq c f) (fun i => cmpFrom eq inp i rest 1) (iterations inp (f :: rest)) 0 =
      some (toInt (findUp (occursAt eq (f :: rest) inp) (iterations inp (f :: rest)) 0)) := by
  apply fwdLoop_findUp
  intro j _ hj
  have hfit := iterations_lt hj
  have hlt : j < inp.length := by omega
  have hocc : occursAt eq (f :: rest) inp j = (eq inp[j] f && prefixOf eq rest (inp.drop (j + 1))) := by
    unfold occursAt; rw [List.drop_eq_getElem_cons hlt]; rfl
  refine ⟨inp[j], List.getElem?_eq_getElem hlt, fun hh => ?_, fun hh => by rw [hocc, hh]; rfl⟩
  rw [cmpFrom_spec eq inp j rest 1 (by omega), hocc, hh, Bool.true_and]

theorem occursAt_lt_iterations (eq : Nat → Nat → Bool) (inp find : List Nat) (hne : find ≠ []) (i : Nat)
    (h : occursAt eq find inp i = true) : i < iterations inp find := by
  have := occursAt_fits' eq find inp i hne h
  unfold iterations; omega

theorem slice_some (inp : List Nat) (lo hi : Nat) (h1 : lo ≤ hi) (h2 : hi ≤ inp.length) :
    slice inp lo hi = some ((inp.drop lo).take (hi - lo)) := by
  unfold slice; rw [if_pos ⟨h1, h2⟩]

theorem bytesEqual_some (a b : List Nat) (ha : a ≠ []) (hb : b ≠ []) : bytesEqual a b = some (decide (a = b)) := by
  cases a with
  | nil => exact absurd rfl ha
  | cons x xs =>
    cases b with
    | nil => exact absurd rfl hb
    | cons y ys => rfl

theorem take_drop_ne_nil (inp : List Nat) (i m : Nat) (hm : 0 < m) (h : i + m ≤ inp.length) :
    (inp.drop i).take m ≠ [] := by
  intro hnil
  have := congrArg List.length hnil
  simp at this; omega

theorem decide_occurs (find inp : List Nat) (i : Nat) :
    decide ((inp.drop i).take find.length = find) = occursAt eqExact find inp i := by
  by_cases h : (inp.drop i).take find.length = find
  · rw [decide_eq_true h, (occursAt_exact find inp i).mpr h]
  · rw [decide_eq_false h]
    cases ho : occursAt eqExact find inp i with
    | false => rfl
    | true => exact absurd ((occursAt_exact find inp i).mp ho) h

/-- the window test of `IndexOf` / `LastIndexOf` / `StartsWith`: `bytesEqual(in[i:i+len(find)], find)` -/
theorem window_eq (inp find : List Nat) (hne : find ≠ []) (i : Nat) (h : i + find.length ≤ inp.length) :
    (match slice inp i (i + find.length) with
      | none => none
      | some s => bytesEqual s find) = some (occursAt eqExact find inp i) := by
  have hm : 0 < find.length := List.length_pos_iff.mpr hne
  rw [slice_some inp i (i + find.length) (by omega) h, show i + find.length - i = find.length by omega]
  simp only
  rw [bytesEqual_some _ _ (take_drop_ne_nil inp i find.length hm h) hne, decide_occurs]

theorem indexOf_eq (inp find : List Nat) (hne : find ≠ []) :
    indexOf inp find = some (toInt (findUp (occursAt eqExact find inp) (iterations inp find) 0)) := by
  cases find with
  | nil => exact absurd rfl hne
  | cons f rest =>
    unfold indexOf
    simp only [List.getElem?_cons_zero]
    apply fwdLoop_findUp
    intro j _ hj
    have hfit := iterations_lt hj
    have hlt : j < inp.length := by omega
    refine ⟨inp[j], List.getElem?_eq_getElem hlt,
      fun _ => window_eq inp (f :: rest) hne j (by simp only [List.length_cons]; omega), fun hh => ?_⟩
    unfold occursAt; rw [List.drop_eq_getElem_cons hlt]
    simp only [prefixOf, eqExact, hh, Bool.false_and]

theorem eqLowerGo_eq (lower : Nat → Nat) : eqLowerGo lower = eqLower lower := by
  funext t c
  unfold eqLowerGo eqLower
  cases h1 : (t == c) <;> cases h2 : (lower t == c) <;> simp [bne, h1, h2]

theorem not_bne_fold_eq : (fun t c : Nat => !(foldASCII t != foldASCII c)) = eqAsciiFold := by
  funext t c
  unfold eqAsciiFold
  cases h : (foldASCII t == foldASCII c) <;> simp [bne, h]

theorem indexOfIgnoreCase_eq (lower : Nat → Nat) (inp find : List Nat) (hne : find ≠ []) :
    indexOfIgnoreCase lower inp find =
      some (toInt (findUp (occursAt (eqLower lower) find inp) (iterations inp find) 0)) := by
  cases find with
  | nil => exact absurd rfl hne
  | cons f rest =>
    unfold indexOfIgnoreCase
    simp only [List.getElem?_cons_zero, List.drop_succ_cons, List.drop_zero]
    have := fwd_cmp_eq (eqLowerGo lower) inp f rest
    rw [eqLowerGo_eq] at this
    rw [← this, ← eqLowerGo_eq]
    rfl

theorem indexOfIgnoreCaseAscii_eq (inp find : List Nat) (hne : find ≠ []) :
    indexOfIgnoreCaseAscii inp find =
      some (toInt (findUp (occursAt eqAsciiFold find inp) (iterations inp find) 0)) := by
  cases find with
  | nil => exact absurd rfl hne
  | cons f rest =>
    unfold indexOfIgnoreCaseAscii
    simp only [List.length_cons, Nat.add_one_ne_zero, if_false, List.getElem?_cons_zero, List.drop_succ_cons,
      List.drop_zero]
    have := fwd_cmp_eq (fun t c : Nat => !(foldASCII t != foldASCII c)) inp f rest
    rw [not_bne_fold_eq] at this
    rw [← this, ← not_bne_fold_eq]

theorem occursAt_firstIdx (eq : Nat → Nat → Bool) (inp find : List Nat) (hne : find ≠ []) :
    FirstIdx (fun i => occursAt eq find inp i = true) (toInt (findUp (occursAt eq find inp) (iterations inp find) 0)) :=
  findUp_firstIdx _ _ (occursAt_lt_iterations eq inp find hne)

/-! ### `StartsWith`, `StartsWithIgnoreCase`, `Equals`, `EqualsIgnoreCase` -/

theorem occursAt_short (eq : Nat → Nat → Bool) (inp find : List Nat) (i : Nat) (hi : i ≤ inp.length)
    (h : inp.length < i + find.length) :
    occursAt eq find inp i = false := by
  cases ho : occursAt eq find inp i with
  | false => rfl
  | true =>
    rcases occursAt_fits eq find inp i ho with h' | h'
    · omega
    · subst h'; simp at h; omega

theorem startsWith_eq (inp find : List Nat) (hne : find ≠ []) :
    startsWith inp find = some (occursAt eqExact find inp 0) := by
  unfold startsWith
  by_cases hlen : inp.length < find.length
  · rw [if_pos hlen, occursAt_short eqExact inp find 0 (Nat.zero_le _) (by omega)]
  · rw [if_neg hlen]
    have := window_eq inp find hne 0 (by omega)
    simp only [Nat.zero_add] at this
    exact this

theorem swicLoop_eq (lower : Nat → Nat) (inp : List Nat) : ∀ (rest : List Nat) (i : Nat),
    swicLoop lower inp rest i = cmpFrom (eqLower lower) inp 0 rest i := by
  intro rest
  induction rest with
  | nil => intro i; rfl
  | cons f rest ih =>
    intro i
    unfold swicLoop cmpFrom
    rw [Nat.zero_add]
    cases inp[i]? with
    | none => rfl
    | some c =>
      dsimp only
      rw [ih (i + 1)]
      cases h1 : (c == f) <;> cases h2 : (lower c == f) <;> simp [eqLower, bne, h1, h2]

theorem startsWithIgnoreCase_eq (lower : Nat → Nat) (inp find : List Nat) :
    startsWithIgnoreCase lower inp find = some (occursAt (eqLower lower) find inp 0) := by
  unfold startsWithIgnoreCase
  by_cases hlen : inp.length < find.length
  · rw [if_pos hlen, occursAt_short _ inp find 0 (Nat.zero_le _) (by omega)]
  · rw [if_neg hlen, swicLoop_eq, cmpFrom_spec _ inp 0 find 0 (by omega)]
    rfl

theorem equals_eq (inp : List Nat) (start length : Nat) (find : List Nat)
    (hfit : start + length ≤ inp.length) (hwin : find = [] ∨ 0 < length) :
    equals inp start length find = some (decide (find = [] ∨ (inp.drop start).take length = find)) := by
  unfold equals
  by_cases hnil : find = []
  · subst hnil; simp
  · have hl : find.length ≠ 0 := fun h => hnil (List.length_eq_zero_iff.mp h)
    have hpos : 0 < length := by rcases hwin with h | h; exact absurd h hnil; exact h
    rw [if_neg hl, slice_some inp start (start + length) (by omega) hfit,
      show start + length - start = length by omega]
    simp only
    rw [bytesEqual_some _ _ (take_drop_ne_nil inp start length hpos hfit) hnil]
    simp [hnil]

/-- the comparison of `EqualsIgnoreCase`: equal, or equal after `unicode.ToLower` of BOTH runes -/
def eqLowerBoth (lower : Nat → Nat) (t c : Nat) : Bool := t == c || lower t == lower c

theorem eqicLoop_eq (lower : Nat → Nat) (inp : List Nat) (start : Nat) : ∀ (rest : List Nat) (j : Nat),
    eqicLoop lower inp start rest j = cmpFrom (eqLowerBoth lower) inp start rest j := by
  intro rest
  induction rest with
  | nil => intro j; rfl
  | cons f rest ih =>
    intro j
    unfold eqicLoop cmpFrom
    cases inp[start + j]? with
    | none => rfl
    | some c =>
      dsimp only
      rw [ih (j + 1)]
      cases h1 : (c == f) <;> cases h2 : (lower c == lower f) <;> simp [eqLowerBoth, bne, h1, h2]

theorem prefixOf_mono (eq1 eq2 : Nat → Nat → Bool) (h : ∀ t c, eq1 t c = true → eq2 t c = true) :
    ∀ (pat ts : List Nat), prefixOf eq1 pat ts = true → prefixOf eq2 pat ts = true := by
  intro pat
  induction pat with
  | nil => intro ts _; simp [prefixOf]
  | cons c ps ih =>
    intro ts hp
    cases ts with
    | nil => simp [prefixOf] at hp
    | cons t ts =>
      simp only [prefixOf, Bool.and_eq_true] at hp ⊢
      exact ⟨h _ _ hp.1, ih ts hp.2⟩

theorem equalsIgnoreCase_eq (lower : Nat → Nat) (inp : List Nat) (start : Nat) (find : List Nat)
    (hfit : start + find.length ≤ inp.length) :
    equalsIgnoreCase lower inp start find.length find = some (occursAt (eqLowerBoth lower) find inp start) := by
  unfold equalsIgnoreCase
  rw [equals_eq inp start find.length find hfit (by
    cases find with
    | nil => exact Or.inl rfl
    | cons f rest => right; simp)]
  have hloop : eqicLoop lower inp start find 0 = some (occursAt (eqLowerBoth lower) find inp start) := by
    rw [eqicLoop_eq, cmpFrom_spec _ inp start find 0 (by omega)]; rfl
  by_cases hd : find = [] ∨ (inp.drop start).take find.length = find
  · rw [decide_eq_true hd]
    simp only
    have : occursAt (eqLowerBoth lower) find inp start = true := by
      rcases hd with h | h
      · subst h; simp [occursAt, prefixOf]
      · have := (occursAt_exact find inp start).mpr h
        exact prefixOf_mono eqExact (eqLowerBoth lower) (fun t c ht => by simp [eqLowerBoth, eqExact] at ht ⊢; exact Or.inl ht) _ _ this
    rw [this]
  · rw [decide_eq_false hd]
    simp only
    exact hloop

/-! ### `LastIndexOf` -/

/-- one iteration of `LastIndexOf`: the pre-check of the first and the last rune rejects no occurrence -/
theorem lastIndexOfLoop_spec (inp : List Nat) (f : Nat) (rest : List Nat) (last : Nat)
    (hlast : (f :: rest)[rest.length]? = some last) (k : Nat) (hk : k < iterations inp (f :: rest)) :
    lastIndexOfLoop inp (f :: rest) f last rest.length (k + 1) =
      if occursAt eqExact (f :: rest) inp k = true then some (k : Int)
      else lastIndexOfLoop inp (f :: rest) f last rest.length k := by
  have hfit : k + (rest.length + 1) ≤ inp.length := by
    simp only [iterations, List.length_cons] at hk; omega
  have hlt : k < inp.length := by omega
  have hlt2 : k + rest.length < inp.length := by omega
  rw [lastIndexOfLoop, List.getElem?_eq_getElem hlt]
  dsimp only
  by_cases h1 : (inp[k] == f) = true
  · rw [if_pos h1, List.getElem?_eq_getElem hlt2]
    dsimp only
    by_cases h2 : (inp[k + rest.length] == last) = true
    · rw [if_pos h2]
      have hw := window_eq inp (f :: rest) (List.cons_ne_nil f rest) k hfit
      simp only [List.length_cons] at hw
      cases hs : slice inp k (k + (rest.length + 1)) with
      | none => rw [hs] at hw; cases hw
      | some s =>
        rw [hs] at hw
        dsimp only at hw ⊢
        rw [hw]
        cases occursAt eqExact (f :: rest) inp k <;> rfl
    · rw [if_neg h2, if_neg]
      intro ho
      have ht := (occursAt_exact (f :: rest) inp k).mp ho
      have hg : ((inp.drop k).take (f :: rest).length)[rest.length]? = some inp[k + rest.length] := by
        rw [List.getElem?_take_of_lt (by simp), List.getElem?_drop, List.getElem?_eq_getElem hlt2]
      rw [ht, hlast] at hg
      exact h2 (by simp [Option.some.inj hg])
  · rw [if_neg h1, if_neg]
    rw [occursAt, List.drop_eq_getElem_cons hlt]
    simp [prefixOf, eqExact, h1]

theorem lastIndexOf_last (inp find : List Nat) (hne : find ≠ []) :
    ∃ r, lastIndexOf inp find = some r ∧ LastIdx (fun i => occursAt eqExact find inp i = true) r := by
  cases find with
  | nil => exact absurd rfl hne
  | cons f rest =>
    have hlast : (f :: rest)[rest.length]? = some ((f :: rest)[rest.length]'(by simp)) :=
      List.getElem?_eq_getElem (by simp)
    have := downward_lastIdx (occursAt eqExact (f :: rest) inp) _ _ rfl
      (lastIndexOfLoop_spec inp f rest _ hlast) (occursAt_lt_iterations _ _ _ hne)
    unfold lastIndexOf
    simp only [List.getElem?_cons_zero, List.length_cons, Nat.add_sub_cancel]
    rw [hlast]
    exact this

/-! ### the call sites of `runner.go`: a helper on `text[s:]`, `-1` ↦ no candidate, else `s + offset` -/

theorem occursAt_drop (eq : Nat → Nat → Bool) (find text : List Nat) (s i : Nat) :
    occursAt eq find (text.drop s) i = occursAt eq find text (i + s) := by
  unfold occursAt; rw [List.drop_drop, Nat.add_comm]

/-- `k'`: ANY range that covers the loop's (the finder models search `n+1-s` or `n-s` candidates) -/
theorem occursAt_callsite (eq : Nat → Nat → Bool) (text find : List Nat) (hne : find ≠ []) (s k' : Nat)
    (hk : iterations (text.drop s) find ≤ k') :
    absIdx s (some (toInt (findUp (occursAt eq find (text.drop s)) (iterations (text.drop s) find) 0))) =
      findUp (occursAt eq find text) k' s := by
  rw [show occursAt eq find (text.drop s) = fun i => occursAt eq find text (i + s) from
    funext fun i => occursAt_drop eq find text s i, absIdx_findUp_shift]
  refine (findUp_extend _ _ k' s hk ?_).symm
  intro p hp _
  cases ho : occursAt eq find text p with
  | false => rfl
  | true =>
    have := occursAt_fits' eq find text p hne ho
    have hm : 0 < find.length := List.length_pos_iff.mpr hne
    simp only [iterations, List.length_drop] at hp
    omega

theorem indexOf_callsite (text find : List Nat) (hne : find ≠ []) (s k' : Nat)
    (hk : iterations (text.drop s) find ≤ k') :
    absIdx s (indexOf (text.drop s) find) = findUp (occursAt eqExact find text) k' s := by
  rw [indexOf_eq _ _ hne]; exact occursAt_callsite eqExact text find hne s k' hk

theorem indexOfIgnoreCase_callsite (lower : Nat → Nat) (text find : List Nat) (hne : find ≠ []) (s k' : Nat)
    (hk : iterations (text.drop s) find ≤ k') :
    absIdx s (indexOfIgnoreCase lower (text.drop s) find) = findUp (occursAt (eqLower lower) find text) k' s := by
  rw [indexOfIgnoreCase_eq _ _ _ hne]; exact occursAt_callsite _ text find hne s k' hk

theorem indexOfIgnoreCaseAscii_callsite (text find : List Nat) (hne : find ≠ []) (s k' : Nat)
    (hk : iterations (text.drop s) find ≤ k') :
    absIdx s (indexOfIgnoreCaseAscii (text.drop s) find) = findUp (occursAt eqAsciiFold find text) k' s := by
  rw [indexOfIgnoreCaseAscii_eq _ _ hne]; exact occursAt_callsite _ text find hne s k' hk

/-- the three-way choice of `findLeadingStringLeftToRight` / `indexOfLiteralAfterLoop` -/
theorem leadingStringSearch_callsite (lower : Nat → Nat) (pat : List Nat) (ignoreCase : Bool) (text : List Nat)
    (hne : pat ≠ []) (s k' : Nat) (hk : iterations (text.drop s) pat ≤ k') :
    absIdx s (leadingStringSearch lower pat ignoreCase (text.drop s)) =
      findUp (occursAt (stringEq lower ignoreCase pat) pat text) k' s := by
  unfold leadingStringSearch stringEq
  cases ignoreCase with
  | false => simp only [Bool.false_eq_true, if_false]; exact indexOf_callsite text pat hne s k' hk
  | true =>
    simp only [if_true]
    cases isAscii pat with
    | true => simp only [if_true]; exact indexOfIgnoreCaseAscii_callsite text pat hne s k' hk
    | false => simp only [Bool.false_eq_true, if_false]; exact indexOfIgnoreCase_callsite lower text pat hne s k' hk

theorem iterations_drop_le (text find : List Nat) (s : Nat) (hne : find ≠ []) :
    iterations (text.drop s) find ≤ text.length - s := by
  have hm : 0 < find.length := List.length_pos_iff.mpr hne
  simp only [iterations, List.length_drop]; omega

theorem getElem?_beq_eq_memAt (text : List Nat) (c : Nat) :
    (fun i => text[i]? == some c) = memAt (fun x => x == c) text := by
  funext i
  unfold memAt
  cases text[i]? with
  | none => rfl
  | some x => simp

theorem indexOfAny1_callsite (text : List Nat) (c s : Nat) :
    absIdx s (indexOfAny1 (text.drop s) c) = findUp (fun i => text[i]? == some c) (text.length - s) s := by
  rw [getElem?_beq_eq_memAt]; exact absIdx_rangeLoop _ text s

/-- the Go code tests `len(x) > 0` where the finder models test `isEmpty` -/
theorem isEmpty_eq_length (l : List Nat) : l.isEmpty = !decide (l.length > 0) := by cases l <;> rfl

theorem rangeLoop_false : ∀ (l : List Nat) (i : Nat), rangeLoop (fun _ => false) l i = -1 := by
  intro l
  induction l with
  | nil => intro i; rfl
  | cons c rest ih => intro i; simp [rangeLoop, ih]

/-- `IndexOfAny` needs no special case for an empty `find`: the loop finds nothing -/
theorem indexOfAny_eq (inp find : List Nat) : indexOfAny inp find = some (rangeLoop (fun c => find.contains c) inp 0) := by
  unfold indexOfAny
  by_cases h : find.length = 0
  · rw [if_pos h]
    have : find = [] := List.length_eq_zero_iff.mp h
    subst this
    have : (fun c : Nat => ([] : List Nat).contains c) = fun _ => false := by funext c; simp
    rw [this, rangeLoop_false]
  · rw [if_neg h]

theorem indexOfAnyRunes_eq (inp find : List Nat) :
    indexOfAnyRunes inp find = some (rangeLoop (fun c => find.contains c) inp 0) := by
  unfold indexOfAnyRunes
  split
  · rw [← indexOfAny_eq]; rfl
  · unfold indexOfAny1; congr 1
    exact rangeLoop_congr _ _ (fun c => by simp only [List.contains_cons, List.contains_nil, Bool.or_false]) _ _
  · unfold indexOfAny2; congr 1
    exact rangeLoop_congr _ _ (fun c => by simp only [List.contains_cons, List.contains_nil, Bool.or_false]) _ _
  · unfold indexOfAny3; congr 1
    exact rangeLoop_congr _ _ (fun c => by
      simp only [List.contains_cons, List.contains_nil, Bool.or_false, Bool.or_assoc]) _ _
  · exact indexOfAny_eq inp find

theorem indexOfAny_callsite (text find : List Nat) (s : Nat) :
    absIdx s (indexOfAny (text.drop s) find) = findUp (memAt (fun c => find.contains c) text) (text.length - s) s := by
  rw [indexOfAny_eq]; exact absIdx_rangeLoop _ text s

theorem memAt_take (S : Nat → Bool) (text : List Nat) (e i : Nat) (h : i < e) :
    memAt S (text.take e) i = memAt S text i := by
  unfold memAt; rw [List.getElem?_take_of_lt h]

/-- the call of `findLeadingStringsLeftToRight`: `indexOfAnyRunes(r.Runtext[searchAt:latest+1], firstRunes)` -/
theorem indexOfAnyRunes_callsite (text find : List Nat) (s e : Nat) (he : e ≤ text.length) :
    absIdx s (indexOfAnyRunes ((text.take e).drop s) find) = findUp (memAt (fun c => find.contains c) text) (e - s) s := by
  rw [indexOfAnyRunes_eq, absIdx_rangeLoop, List.length_take, Nat.min_eq_left he]
  exact findUp_congr _ _ _ _ (fun p _ h2 => memAt_take _ text e p (by omega))

/-- whichever helper `indexOfSet(chars, set)` selects, it searches with `charInFixedDistanceSet` -/
theorem indexOfSet_eq (inp : List Nat) (st : FDSet) : indexOfSet inp st = some (rangeLoop st.mem inp 0) := by
  unfold indexOfSet
  by_cases hc : st.chars.length > 0
  · have hne : st.chars.isEmpty = false := by rw [isEmpty_eq_length, decide_eq_true hc]; rfl
    cases hn : st.negated with
    | false =>
      simp only [hc, decide_true, Bool.not_false, Bool.and_self, if_true]
      rw [indexOfAny_eq]; congr 1
      exact rangeLoop_congr _ _ (fun c => by simp [FDSet.mem, hne, hn]) _ _
    | true =>
      simp only [hc, decide_true, Bool.not_true, Bool.and_false, Bool.false_eq_true, if_false, Bool.and_self, if_true]
      unfold indexOfAnyExcept; congr 1
      exact rangeLoop_congr _ _ (fun c => by simp [FDSet.mem, hne, hn, foundIn_eq]) _ _
  · have he : st.chars.isEmpty = true := by rw [isEmpty_eq_length, decide_eq_false hc]; rfl
    simp only [hc, decide_false, Bool.false_and, Bool.false_eq_true, if_false]
    cases hr : st.range with
    | none =>
      simp only
      unfold indexFunc; rfl
    | some lohi =>
      obtain ⟨lo, hi⟩ := lohi
      simp only
      cases hn : st.negated with
      | false =>
        simp only [Bool.false_eq_true, if_false]
        unfold indexOfAnyInRange; congr 1
        exact rangeLoop_congr _ _ (fun c => by simp [FDSet.mem, he, hr, hn]) _ _
      | true =>
        simp only [if_true]
        unfold indexOfAnyExceptInRange; congr 1
        refine rangeLoop_congr _ _ (fun c => ?_) _ _
        simp only [FDSet.mem, he, hr, hn, Bool.not_true, Bool.false_eq_true, if_false, if_true]
        by_cases h1 : c > hi
        · have : ¬ c ≤ hi := by omega
          simp [h1, this]
        · by_cases h2 : c < lo
          · have : ¬ lo ≤ c := by omega
            simp [h1, h2, this]
          · have a1 : lo ≤ c := by omega
            have a2 : c ≤ hi := by omega
            simp [h1, h2, a1, a2]

theorem indexOfSet_callsite (text : List Nat) (st : FDSet) (s : Nat) :
    absIdx s (indexOfSet (text.drop s) st) = findUp (memAt st.mem text) (text.length - s) s := by
  rw [indexOfSet_eq]; exact absIdx_rangeLoop _ text s

theorem indexOfLiteralAfterLoop_callsite (lower : Nat → Nat) (l : LitAfterLoop) (text : List Nat) (s : Nat) :
    indexOfLiteralAfterLoop lower l text s = findUp (l.litAt lower text) (text.length - s) s := by
  unfold indexOfLiteralAfterLoop
  by_cases hs : l.str.isEmpty = true
  · have hfun1 : l.litAt lower text =
        (if !l.chars.isEmpty then memAt (fun c => l.chars.contains c) text else fun k => text[k]? == some l.char) := by
      funext k; unfold LitAfterLoop.litAt; simp only [hs, Bool.not_true, Bool.false_eq_true, if_false]
      split <;> rfl
    rw [hfun1]
    simp only [hs, Bool.not_true, Bool.false_eq_true, if_false]
    by_cases hc : l.chars.length > 0
    · have : l.chars.isEmpty = false := by rw [isEmpty_eq_length, decide_eq_true hc]; rfl
      simp only [hc, decide_true, if_true, this, Bool.not_false]
      exact indexOfAny_callsite text l.chars s
    · have : l.chars.isEmpty = true := by rw [isEmpty_eq_length, decide_eq_false hc]; rfl
      simp only [hc, decide_false, Bool.false_eq_true, if_false, this, Bool.not_true]
      exact indexOfAny1_callsite text l.char s
  · have hs' : l.str.isEmpty = false := by simpa using hs
    have hne : l.str ≠ [] := by intro h; rw [h] at hs'; simp at hs'
    have hfun : l.litAt lower text = occursAt (stringEq lower l.strIgnoreCase l.str) l.str text := by
      funext k; unfold LitAfterLoop.litAt; simp [hs']
    rw [hfun]
    simp only [hs', Bool.not_false, if_true]
    have := leadingStringSearch_callsite lower l.str l.strIgnoreCase text hne s (text.length - s)
      (iterations_drop_le text l.str s hne)
    unfold leadingStringSearch at this
    cases hi : l.strIgnoreCase with
    | false => rw [hi] at this; simpa using this
    | true => rw [hi] at this; simpa using this

/-- `helpers.StartsWith(r.Runtext[start:], prefix)` for a non-empty prefix -/
theorem startsWith_callsite (text pre : List Nat) (hne : pre ≠ []) (s : Nat) :
    startsWith (text.drop s) pre = some (occursAt eqExact pre text s) := by
  rw [startsWith_eq _ _ hne, occursAt_drop, Nat.zero_add]

/-- `helpers.StartsWithIgnoreCase(r.Runtext[start:], prefix)` -/
theorem startsWithIgnoreCase_callsite (lower : Nat → Nat) (text pre : List Nat) (s : Nat) :
    startsWithIgnoreCase lower (text.drop s) pre = some (occursAt (eqLower lower) pre text s) := by
  rw [startsWithIgnoreCase_eq, occursAt_drop, Nat.zero_add]

/-! ### the finders with the calls spelled out are the finders of Model/Finders.lean -/

theorem searchLoop_congr (guard : Nat → Bool) (idx idx' : Nat → Option Nat) (step : Nat → Step)
    (h : ∀ s, guard s = true → idx s = idx' s) : ∀ (fuel s : Nat),
    searchLoop guard idx step fuel s = searchLoop guard idx' step fuel s := by
  intro fuel
  induction fuel with
  | zero => intro s; rfl
  | succ fuel ih =>
    intro s
    unfold searchLoop
    by_cases hg : guard s = true
    · simp only [hg, if_true]
      rw [h s hg]
      cases idx' s with
      | none => rfl
      | some i =>
        simp only
        cases step i with
        | found q => rfl
        | giveUp => rfl
        | next => exact ih (i + 1)
    · simp [hg]

theorem eq_and_sound {n : Nat} {f g : Nat → Bool × Nat} {attempt : Nat → Option (Nat × Nat)} (h : ∀ pos, f pos = g pos)
    (hs : Scan.FinderSound false n g attempt) : f = g ∧ Scan.FinderSound false n f attempt :=
  have e : f = g := funext h
  ⟨e, e ▸ hs⟩

theorem finderLeadingStringIx_eq (lower : Nat → Nat) (pat : List Nat) (ignoreCase : Bool) (text : List Nat)
    (minLen pos : Nat) :
    finderLeadingStringIx lower pat ignoreCase text minLen pos = finderLeadingString lower pat ignoreCase text minLen pos := by
  unfold finderLeadingStringIx finderLeadingString
  by_cases he : pat.isEmpty = true
  · simp [he]
  · have hne : pat ≠ [] := by intro h; rw [h] at he; simp at he
    simp only [he, Bool.false_eq_true, if_false]
    rw [leadingStringSearch_callsite lower pat ignoreCase text hne pos (text.length + 1 - pos)
      (by have := iterations_drop_le text pat pos hne; omega)]
    rfl

theorem finderFixedCharIx_eq (c d : Nat) (text : List Nat) (minLen pos : Nat) :
    finderFixedCharIx c d text minLen pos = finderFixedChar c d text minLen pos := by
  unfold finderFixedCharIx finderFixedChar
  simp only
  rw [searchLoop_congr _ _ _ _ (fun s _ => indexOfAny1_callsite text c s)]

theorem finderFixedStringIx_eq (lit : List Nat) (d : Nat) (text : List Nat) (minLen pos : Nat) :
    finderFixedStringIx lit d text minLen pos = finderFixedString lit d text minLen pos := by
  unfold finderFixedStringIx finderFixedString
  by_cases he : lit.isEmpty = true
  · simp [he]
  · have hne : lit ≠ [] := by intro h; rw [h] at he; simp at he
    simp only [he, Bool.false_eq_true, if_false]
    rw [searchLoop_congr _ _ _ _ (fun s _ => indexOf_callsite text lit hne s (text.length + 1 - s)
      (by have := iterations_drop_le text lit s hne; omega))]

theorem finderFixedSetsIx_eq (sets : List FDSet) (text : List Nat) (minLen pos : Nat) :
    finderFixedSetsIx sets text minLen pos = finderFixedSets sets text minLen pos := by
  unfold finderFixedSetsIx finderFixedSets
  cases sets with
  | nil => rfl
  | cons primary rest =>
    simp only
    split
    · rfl
    · rw [searchLoop_congr _ _ _ _ (fun s _ => indexOfSet_callsite text primary s)]

theorem finderLiteralAfterLoopIx_eq (lower : Nat → Nat) (l : LitAfterLoop) (text : List Nat) (minLen pos : Nat) :
    finderLiteralAfterLoopIx lower l text minLen pos = finderLiteralAfterLoop lower l text minLen pos := by
  unfold finderLiteralAfterLoopIx finderLiteralAfterLoop
  cases l.loopSet with
  | none => rfl
  | some S =>
    simp only
    rw [searchLoop_congr _ _ _ _ (fun s _ => indexOfLiteralAfterLoop_callsite lower l text s)]

/-! ### the tests of the `*_spec` theorems of Props/C03.lean, as propositions -/

def RuneAt (inp : List Nat) (Q : Nat → Prop) (i : Nat) : Prop := ∃ c, inp[i]? = some c ∧ Q c

def SubAt (inp find : List Nat) (i : Nat) : Prop := (inp.drop i).take find.length = find

theorem memAt_iff_runeAt (test : Nat → Bool) (Q : Nat → Prop) (h : ∀ c, test c = true ↔ Q c) (inp : List Nat)
    (i : Nat) : memAt test inp i = true ↔ RuneAt inp Q i :=
  memAt_iff.trans
    ⟨fun ⟨c, h1, h2⟩ => ⟨c, h1, (h c).mp h2⟩, fun ⟨c, h1, h2⟩ => ⟨c, h1, (h c).mpr h2⟩⟩

theorem rangeLoop_firstP (test : Nat → Bool) (Q : Nat → Prop) (h : ∀ c, test c = true ↔ Q c) (inp : List Nat) :
    FirstIdx (RuneAt inp Q) (rangeLoop test inp 0) := by
  rw [rangeLoop_eq]
  exact (findUp_firstIdx (memAt test inp) inp.length fun i h => memAt_lt _ _ _ h).congr
    (memAt_iff_runeAt test Q h inp)

theorem downLoop_lastP (test : Nat → Bool) (Q : Nat → Prop) (h : ∀ c, test c = true ↔ Q c) (inp : List Nat) :
    ∃ r, downLoop test inp inp.length = some r ∧ LastIdx (RuneAt inp Q) r := by
  obtain ⟨r, hr, hl⟩ := downward_lastIdx (memAt test inp) (downLoop test inp) inp.length rfl
    (fun k hk => by rw [downLoop, memAt, List.getElem?_eq_getElem hk]) fun i h => memAt_lt _ _ _ h
  exact ⟨r, hr, hl.congr (memAt_iff_runeAt test Q h inp)⟩

theorem prefixOf_pointwise (eq : Nat → Nat → Bool) (pat ts : List Nat) : prefixOf eq pat ts = true ↔
    (pat.length ≤ ts.length ∧ ∀ j, j < pat.length → ∃ t c, ts[j]? = some t ∧ pat[j]? = some c ∧ eq t c = true) :=
  ⟨fun h => ⟨prefixOf_length eq pat ts h, (prefixOf_iff eq pat ts).mp h⟩, fun h => (prefixOf_iff eq pat ts).mpr h.2⟩

theorem occursAt_exact_prefix (pre s : List Nat) (j : Nat) : occursAt eqExact pre s j = true ↔ pre <+: s.drop j :=
  (occursAt_exact pre s j).trans ⟨fun h => h ▸ List.take_prefix _ _, fun h => (List.prefix_iff_eq_take.mp h).symm⟩

end RegexVerif.Lemmas.IndexOf
