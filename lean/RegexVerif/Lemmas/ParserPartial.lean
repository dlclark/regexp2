/-
For J2 (`parse E = .ok t → RawShapeOk t`, Props/C10Chain.lean): a partial-correctness logic for the parser monad (`H`)
and the value facts (`Ret`) of the node-returning scanners — whatever the state, `scanBackslash` and
`scanPythonNamedBackref` return a childless node of a leaf type, `scanGroupOpen` a childless node of a group type; and
what `addToConcatenate` appends, exactly (`runKidsG`, `addToConcatenate_eq`), which the evaluation of
`Lemmas/ParserExact.lean` and `Lemmas/EscapeFull.lean` uses too.  Nothing here is about termination or positions.
-/
import RegexVerif.Lemmas.Parser

namespace RegexVerif.Parser

variable {α β γ : Type}

/-- partial correctness: from a `P`-state, IF `m` returns normally THEN `Q` holds of result and state -/
def H (P : PS → Prop) (m : M α) (Q : α → PS → Prop) : Prop := ∀ s a s', P s → m s = .ok a s' → Q a s'

theorem H.bind {P : PS → Prop} {m : M α} {f : α → M β} {Q1 : α → PS → Prop} {Q : β → PS → Prop}
    (h1 : H P m Q1) (h2 : ∀ a, H (Q1 a) (f a) Q) : H P (m >>= f) Q := by
  intro s b s' hp hm
  change M.bind m f s = _ at hm
  unfold M.bind at hm
  cases hr : m s with
  | ok a s1 => rw [hr] at hm; exact h2 a s1 b s' (h1 s a s1 hp hr) hm
  | err c s1 => rw [hr] at hm; cases hm
  | fault x => rw [hr] at hm; cases hm
  | fuel => rw [hr] at hm; cases hm

theorem H.pure {P : PS → Prop} {a : α} {Q : α → PS → Prop} (h : ∀ s, P s → Q a s) : H P (pure a : M α) Q := by
  intro s b s' hp hm
  change M.pure a s = _ at hm
  unfold M.pure at hm
  cases hm
  exact h _ hp

theorem H.throw {P : PS → Prop} {c : ErrCode} {Q : α → PS → Prop} : H P (throw c : M α) Q := by
  intro s b s' _ hm; cases hm

theorem H.fault {P : PS → Prop} {f : Fault} {Q : α → PS → Prop} : H P (fault f : M α) Q := by
  intro s b s' _ hm; cases hm

theorem H.ite {P : PS → Prop} {c : Prop} [Decidable c] {m1 m2 : M α} {Q : α → PS → Prop}
    (h1 : c → H P m1 Q) (h2 : ¬c → H P m2 Q) : H P (if c then m1 else m2) Q := by
  split
  · exact h1 ‹_›
  · exact h2 ‹_›

theorem H.conseq {P P' : PS → Prop} {m : M α} {Q Q' : α → PS → Prop} (h : H P m Q) (hp : ∀ s, P' s → P s)
    (hq : ∀ a s, Q a s → Q' a s) : H P' m Q' :=
  fun s a s' hp' hm => hq a s' (h s a s' (hp s hp') hm)

theorem H.of_wp {P : PS → Prop} {m : M α} {Q : α → PS → Prop} {R : PS → Prop} (h : ∀ s, P s → wp m Q R s) : H P m Q := by
  intro s a s' hp hm
  have := h s hp
  unfold wp at this
  rw [hm] at this
  exact this

theorem H.bindT {m : M α} {f : α → M β} {Q : β → PS → Prop} (h : ∀ a, H (fun _ => True) (f a) Q) :
    H (fun _ => True) (m >>= f) Q :=
  H.bind (Q1 := fun _ _ => True) (fun _ _ _ _ _ => trivial) h

theorem H_get {P : PS → Prop} : H P get (fun a s' => a = s' ∧ P s') := by
  intro s a s' hp hm
  unfold get at hm
  cases hm
  exact ⟨rfl, hp⟩

theorem H_modify {P : PS → Prop} {f : PS → PS} {Q : Unit → PS → Prop} (h : ∀ s, P s → Q () (f s)) : H P (modify f) Q := by
  intro s a s' hp hm
  unfold modify at hm
  cases hm
  exact h _ hp

theorem H_pre {α : Type} {P : PS → Prop} {C : Prop} {m : M α} {Q : α → PS → Prop} (h : C → H P m Q) :
    H (fun s => P s ∧ C) m Q := by
  intro s a s' hp hm
  exact h hp.2 s a s' hp.1 hm

variable (E : Env)

theorem H_opts {P : PS → Prop} : H P opts (fun _ => P) := by
  intro s a s' hp hm; unfold opts at hm; cases hm; exact hp
theorem H_textpos {P : PS → Prop} : H P textpos (fun p s' => P s' ∧ p = s'.pos) := by
  intro s a s' hp hm; unfold textpos at hm; cases hm; exact ⟨hp, rfl⟩
theorem H_charsRight {P : PS → Prop} : H P (charsRight E) (fun _ => P) := by
  intro s a s' hp hm; unfold charsRight at hm; cases hm; exact hp
theorem H_rightChar {P : PS → Prop} (i : Nat) :
    H P (rightChar E i) (fun c s' => P s' ∧ E.pat[s'.pos + i]? = some c) := by
  intro s c s' hp hm
  unfold rightChar at hm
  split at hm <;> cases hm
  exact ⟨hp, ‹_›⟩
theorem H_moveRightGetChar {P : PS → Prop} : H P (moveRightGetChar E)
    (fun c s' => ∃ s, P s ∧ E.pat[s.pos]? = some c ∧ s' = { s with pos := s.pos + 1 }) :=
  H.bind (H_rightChar E 0) fun _ => H.bind (H_modify fun s h => ⟨s, h.1, h.2, rfl⟩) fun _ => H.pure fun _ h => h
theorem H_rcNe {P : PS → Prop} (i c : Nat) : H P (rcNe E i c) (fun _ => P) :=
  H.bind (H_rightChar E i) fun _ => H.pure fun _ h => h.1
theorem H_andM {P : PS → Prop} {a : Bool} {b : M Bool} (hb : H P b (fun _ => P)) : H P (andM a b) (fun _ => P) :=
  H.ite (fun _ => hb) (fun _ => H.pure fun _ h => h)
theorem H_andMM {P : PS → Prop} {a b : M Bool} (ha : H P a (fun _ => P)) (hb : H P b (fun _ => P)) :
    H P (andMM a b) (fun _ => P) :=
  H.bind ha fun _ => H.ite (fun _ => hb) (fun _ => H.pure fun _ h => h)
theorem H_rightCharIf {P : PS → Prop} (c : Prop) [Decidable c] (i : Nat) :
    H P (if c then rightChar E i else pure 0) (fun x s => P s ∧ (c → E.pat[s.pos + i]? = some x)) :=
  H.ite (fun _ => H.conseq (H_rightChar E i) (fun _ h => h) (fun _ _ h => ⟨h.1, fun _ => h.2⟩))
    (fun h => H.pure fun _ hp => ⟨hp, fun h' => absurd h' h⟩)

/-- a value fact: whatever the state, if `m` returns normally its result satisfies `P` -/
def Ret (m : M α) (P : α → Prop) : Prop := H (fun _ => True) m (fun r _ => P r)

theorem Ret.pure {a : α} {P : α → Prop} (h : P a) : Ret (pure a : M α) P := H.pure (fun _ _ => h)
theorem Ret.throw {c : ErrCode} {P : α → Prop} : Ret (throw c : M α) P := H.throw
theorem Ret.fault {f : Fault} {P : α → Prop} : Ret (fault f : M α) P := H.fault
theorem Ret.bind {m : M α} {f : α → M β} {P : β → Prop} (h : ∀ a, Ret (f a) P) : Ret (m >>= f) P := H.bindT h
theorem Ret.bind' {m : M α} {f : α → M β} {P1 : α → Prop} {P : β → Prop} (h1 : Ret m P1) (h : ∀ a, P1 a → Ret (f a) P) :
    Ret (m >>= f) P :=
  H.bind (Q1 := fun a _ => P1 a) h1 (fun a s b s' hp hm => h a hp s b s' trivial hm)
theorem Ret.ite {c : Prop} [Decidable c] {m1 m2 : M α} {P : α → Prop} (h1 : c → Ret m1 P) (h2 : ¬c → Ret m2 P) :
    Ret (if c then m1 else m2) P := H.ite h1 h2

theorem H_of_ret {α : Type} {P : PS → Prop} {m : M α} {R : α → Prop} (h : Ret m R) : H P m (fun r _ => R r) := by
  exact fun s a s' _ hm => h s a s' trivial hm

theorem H_and {P : PS → Prop} {m : M α} {Q1 Q2 : α → PS → Prop} (h1 : H P m Q1) (h2 : H P m Q2) :
    H P m (fun a s => Q1 a s ∧ Q2 a s) := fun s a s' hp hm => ⟨h1 s a s' hp hm, h2 s a s' hp hm⟩

theorem H_andRet {P : PS → Prop} {m : M α} {Q : α → PS → Prop} {R : α → Prop} (h1 : H P m Q) (h2 : Ret m R) :
    H P m (fun a s => Q a s ∧ R a) := by
  exact fun s a s' hp hm => ⟨h1 s a s' hp hm, h2 s a s' trivial hm⟩

/-- the loop rule (partial correctness: no fuel bookkeeping) -/
theorem H_iter {J : PS → Prop} {f : β → M (Sum β γ)} {Q : γ → PS → Prop}
    (hstep : ∀ b, H J (f b) (fun r s' => match r with | .inl _ => J s' | .inr c => Q c s')) :
    ∀ (n : Nat) (b : β), H J (iter f n b) Q := by
  intro n
  induction n with
  | zero => intro b s a s' _ hm; unfold iter at hm; cases hm
  | succ n ih =>
    intro b s a s' hp hm
    unfold iter at hm
    cases hr : f b s with
    | ok r s1 =>
      rw [hr] at hm
      have h1 := hstep b s r s1 hp hr
      cases r with
      | inl b' => exact ih b' s1 a s' h1 hm
      | inr c =>
        simp only [Res.ok.injEq] at hm
        obtain ⟨rfl, rfl⟩ := hm
        exact h1
    | err c s1 => rw [hr] at hm; cases hm
    | fault x => rw [hr] at hm; cases hm
    | fuel => rw [hr] at hm; cases hm

-- `exact`/`apply` then never unfold `Ret` and the program under it (slow to check)
attribute [irreducible] Ret

/-! ## Shapes of the nodes the scanners build -/

/-- a childless node of a type that has no children (One, Set, Ref, anchors, …) -/
def Leaf (r : RNode) : Prop := r.kids = [] ∧ isLeafType r.t = true

def GroupT (t : NT) : Bool :=
  t == .capture || t == .group || t == .posLook || t == .negLook || t == .atomic || t == .backRefCond || t == .exprCond
/-- a childless node of a type that groups (what `startGroup` is given) -/
def OpenNode (r : RNode) : Prop := r.kids = [] ∧ GroupT r.t = true

theorem leaf_mkNode {t : NT} {o : Opts} (h : isLeafType t = true) : Leaf (mkNode t o) := ⟨rfl, h⟩
theorem leaf_mkNodeM {t : NT} {o : Opts} {m : Int} (h : isLeafType t = true) : Leaf (mkNodeM t o m) := ⟨rfl, h⟩

theorem leaf_nodeSet (o : Opts) (c : Class.Class) : Leaf (nodeSet E o c) := by
  unfold nodeSet
  split <;> exact ⟨rfl, rfl⟩

theorem leaf_nodeCh (t : NT) (ht : isLeafType t = true) (o : Opts) (ch : Nat) : Leaf (nodeCh E t o ch) := by
  unfold nodeCh
  split
  · exact ⟨rfl, rfl⟩
  · exact ⟨rfl, ht⟩

theorem leafType_ite {c : Prop} [Decidable c] {a b : NT} (ha : isLeafType a = true) (hb : isLeafType b = true) :
    isLeafType (if c then a else b) = true := by
  split <;> assumption

theorem leafType_typeFromCode (o : Opts) (ch : Nat) : isLeafType (typeFromCode o ch) = true :=
  leafType_ite (leafType_ite rfl rfl) <| leafType_ite (leafType_ite rfl rfl) <| leafType_ite rfl <|
    leafType_ite rfl <| leafType_ite rfl <| leafType_ite rfl rfl

theorem leaf_dummy : Leaf dummy := ⟨rfl, rfl⟩

theorem leaf_dotNode (o : Opts) : Leaf (dotNode E o) := by
  unfold dotNode
  split
  · exact leaf_nodeSet E _ _
  · split
    · exact leaf_nodeSet E _ _
    · exact leaf_nodeCh E _ rfl _ _

/-! ## The children `addToConcatenate` makes -/

def addKids (c : RNode) (ks : List RNode) : RNode := ks.foldl RNode.addChild c

theorem addKids_mk (t : NT) (o : Opts) (ch : Nat) (str : List Nat) (set : Option Class.Class) (m n : Int)
    (kids ks : List RNode) : addKids (.mk t o ch str set m n kids) ks = .mk t o ch str set m n (kids ++ ks) := by
  induction ks generalizing kids with
  | nil => simp [addKids]
  | cons k ks ih =>
    have := ih (kids ++ [k])
    simp only [addKids, List.foldl_cons, RNode.addChild] at this ⊢
    rw [this]; simp

theorem addKids_append (c : RNode) (a b : List RNode) : addKids c (a ++ b) = addKids (addKids c a) b := by
  simp [addKids, List.foldl_append]

/-- **the children `addToConcatenate` makes of a run of ordinary runes, any options** (`G`: general, IgnoreCase included): nothing for the empty
    run; `newRegexNodeCh(One)` for a single rune; one Multi (with IgnoreCase cleared) for a longer run unless
    IgnoreCase is on and some rune takes part in case conversion — then one `newRegexNodeCh(One)` per rune -/
def runKidsG (o : Opts) (p : List Nat) : List RNode :=
  if p = [] then []
  else if p.length = 1 then [nodeCh E .one o (p.headD 0)]
  else if !o.i || !(p.any E.orc.participates) then [.mk .multi { o with i := false } 0 p none 0 0 []]
  else p.map (nodeCh E .one o)

theorem leaf_runKidsG (o : Opts) (p : List Nat) : ∀ x ∈ runKidsG E o p, Leaf x := by
  unfold runKidsG
  intro x hx
  split at hx
  · cases hx
  split at hx
  · exact List.mem_singleton.mp hx ▸ leaf_nodeCh E _ rfl _ _
  split at hx
  · exact List.mem_singleton.mp hx ▸ ⟨rfl, rfl⟩
  · obtain ⟨ch, _, rfl⟩ := List.mem_map.mp hx
    exact leaf_nodeCh E _ rfl _ _

theorem addToConcatenate_eq (pos cch : Nat) (s : PS) :
    addToConcatenate E pos cch s =
      if cch ≠ 0 ∧ pos + cch > E.pat.length then .fault .slice
      else .ok () { s with concatenation := addKids s.concatenation (runKidsG E s.options ((E.pat.drop pos).take cch)) } := by
  unfold addToConcatenate
  by_cases h0 : cch = 0
  · subst h0; simp [runKidsG, addKids]
  by_cases hle : pos + cch > E.pat.length
  · simp [h0, hle]
  have hlen : ((E.pat.drop pos).take cch).length = cch := by simp; omega
  have hne : (E.pat.drop pos).take cch ≠ [] := fun h => h0 (by rw [h] at hlen; exact hlen.symm)
  simp only [h0, hle, if_false, and_false, ne_eq, not_false_eq_true, runKidsG, hne, hlen]
  by_cases h1 : cch = 1
  · simp [h1, addKids]
  · simp only [h1, if_false]
    generalize (E.pat.drop pos).take cch = q
    by_cases hcond : (!s.options.i || !(q.any E.orc.participates)) = true
    · simp [hcond, addKids]
    · simp [hcond, addKids, List.foldl_map]

/-! ## The node-returning scanners -/

/-- symbolic execution for value facts: binds are skipped, conditionals split, errors are vacuous; nothing is unfolded,
    so the returned nodes and the calls of other scanners are left as goals -/
syntax "ret_run" : tactic
macro_rules
  | `(tactic| ret_run) => `(tactic| repeat' with_reducible (first
      | exact Ret.throw
      | exact Ret.fault
      | (apply Ret.pure)
      | (apply Ret.ite <;> intro _)
      | (apply Ret.bind; intro _)
      | split))

/-- closes `Leaf r` for the nodes the scanners make: `dummy`, `nodeCh`, `mkNodeM`, `mkNode` of an anchor type, `nodeSet` -/
syntax "leaf_close" : tactic
macro_rules
  | `(tactic| leaf_close) => `(tactic| first
      | exact leaf_dummy
      | exact leaf_nodeCh _ _ rfl _ _
      | exact leaf_mkNodeM rfl
      | exact leaf_mkNode (leafType_typeFromCode _ _)
      | exact leaf_nodeSet _ _ _)

theorem ret_bbCharCode (so : Bool) (o : Opts) (bp : Nat) : Ret (bbCharCode E so o bp) Leaf := by
  unfold bbCharCode
  ret_run
  all_goals leaf_close

theorem ret_bbAngledNumber (so : Bool) (o : Opts) (bp close : Nat) : Ret (bbAngledNumber E so o bp close) Leaf := by
  unfold bbAngledNumber
  ret_run
  all_goals first | leaf_close | exact ret_bbCharCode E so o bp

theorem ret_bbNumber (so : Bool) (o : Opts) (bp : Nat) : Ret (bbNumber E so o bp) Leaf := by
  unfold bbNumber
  ret_run
  all_goals first | leaf_close | exact ret_bbCharCode E so o bp

theorem ret_bbName (so : Bool) (o : Opts) (bp close : Nat) (k : Bool) : Ret (bbName E so o bp close k) Leaf := by
  unfold bbName
  ret_run
  all_goals first | leaf_close | exact ret_bbCharCode E so o bp

theorem ret_scanBasicBackslash (so : Bool) : Ret (scanBasicBackslash E so) Leaf := by
  unfold scanBasicBackslash
  ret_run
  all_goals first
    | exact ret_bbAngledNumber E so _ _ _
    | exact ret_bbNumber E so _ _
    | exact ret_bbName E so _ _ _ _
    | exact ret_bbCharCode E so _ _

theorem ret_bsProperty (o : Opts) (ch : Nat) : Ret (bsProperty E o ch) Leaf := by
  unfold bsProperty
  ret_run
  all_goals leaf_close

theorem ret_scanBackslash (so : Bool) : Ret (scanBackslash E so) Leaf := by
  unfold scanBackslash
  ret_run
  all_goals first
    | exact leaf_nodeSet _ _ _
    | exact leaf_mkNode (leafType_typeFromCode _ _)
    | exact ret_bsProperty E _ _
    | exact ret_scanBasicBackslash E so

theorem ret_scanPythonNamedBackref : Ret (scanPythonNamedBackref E) Leaf := by
  unfold scanPythonNamedBackref
  ret_run
  all_goals leaf_close

def OptOpen (r : Option RNode) : Prop := ∀ g, r = some g → OpenNode g

theorem optOpen_some {g : RNode} (h : OpenNode g) : OptOpen (some g) := by
  intro g' hg; cases hg; exact h
theorem optOpen_none : OptOpen none := by intro g hg; cases hg

/-- closes `OptOpen r` for `none` and for `some` of a `mkNode` / `mkNodeM` / `mkNodeMN` of a group type -/
syntax "open_close" : tactic
macro_rules
  | `(tactic| open_close) => `(tactic| first
      | exact optOpen_none
      | exact optOpen_some ⟨rfl, rfl⟩)

theorem ret_breakRecognize (start : Nat) (P : α → Prop) : Ret (breakRecognize E start : M α) P := by
  unfold Ret
  intro s a s' _ hm
  unfold breakRecognize at hm
  split at hm <;> cases hm

theorem ret_gnClose (start close : Nat) (c u : Option Nat) : Ret (gnClose E start close c u) OptOpen := by
  unfold gnClose
  ret_run
  all_goals first
    | open_close
    | exact ret_breakRecognize E _ _

theorem ret_scanGroupName (start close : Nat) : Ret (scanGroupName E start close) OptOpen := by
  unfold scanGroupName
  ret_run
  all_goals exact ret_gnClose E _ _ _ _

theorem ret_condEarly (o : Opts) : Ret (condEarly E o) OptOpen := by
  unfold condEarly
  ret_run
  all_goals open_close

theorem ret_condExpr (o : Opts) (pp : Nat) : Ret (condExpr E o pp) OptOpen := by
  unfold condExpr
  ret_run
  all_goals open_close

theorem ret_scanCondition : Ret (scanCondition E) OptOpen := by
  unfold scanCondition
  apply Ret.bind; intro o
  apply Ret.bind; intro pp
  apply Ret.bind' (ret_condEarly E o)
  intro r hr
  split
  · rename_i nd
    exact Ret.pure (optOpen_some (hr nd rfl))
  · exact ret_condExpr E o pp

-- `ret_run` on the callers would otherwise walk into `scanCondition`, which is proved by hand above
attribute [local irreducible] scanCondition

theorem ret_groupOpenPlain (o : Opts) : Ret (groupOpenPlain o) OptOpen := by
  unfold groupOpenPlain
  ret_run
  all_goals open_close

theorem ret_groupOpenDefault (start : Nat) : Ret (groupOpenDefault E start) OptOpen := by
  unfold groupOpenDefault
  ret_run
  all_goals first
    | open_close
    | exact ret_breakRecognize E _ _

theorem ret_groupOpenAngle (start : Nat) (o : Opts) (close : Nat) : Ret (groupOpenAngle E start o close) OptOpen := by
  unfold groupOpenAngle
  ret_run
  all_goals first
    | open_close
    | exact ret_breakRecognize E _ _
    | exact ret_scanGroupName E _ _

theorem ret_groupOpenPython (start : Nat) (o : Opts) : Ret (groupOpenPython E start o) OptOpen := by
  unfold groupOpenPython
  ret_run
  all_goals first
    | open_close
    | exact ret_breakRecognize E _ _

theorem ret_groupOpenSwitch (start : Nat) (o : Opts) (ch : Nat) : Ret (groupOpenSwitch E start o ch) OptOpen := by
  unfold groupOpenSwitch
  ret_run
  all_goals first
    | open_close
    | exact ret_groupOpenAngle E _ _ _
    | exact ret_scanCondition E
    | exact ret_groupOpenPython E _ _
    | exact ret_groupOpenDefault E _

theorem ret_scanGroupOpen : Ret (scanGroupOpen E) OptOpen := by
  unfold scanGroupOpen
  ret_run
  all_goals first
    | exact ret_groupOpenPlain _
    | exact ret_breakRecognize E _ _
    | exact ret_groupOpenSwitch E _ _ _

end RegexVerif.Parser
