/-
`Parse` as a whole, pre-scan and main scan put together: with any fuel above the length of the pattern `parseFuel`
returns an `ErrorCode` or a tree, never a fault; the root of the tree is the Capture number 0 with exactly one child
(the main scan keeps the Capture 0 it starts with childless at the bottom of the group stack until the final `addGroup`).
-/
import RegexVerif.Lemmas.ParserCount
import RegexVerif.Lemmas.ParserMain

namespace RegexVerif.Parser

variable (E : Env)

theorem parseFuel_spec (n : Nat) (hn : E.pat.length < n) :
    match parseFuel E n with
    | .ok t => t.root.t = .capture ∧ t.root.m = 0 ∧ t.root.kids.length = 1
    | .error _ => True
    | _ => False := by
  unfold parseFuel
  have h1 := wp_countCaptures E { options := E.opts } (Nat.zero_le _) n (by dsimp only; omega)
  rw [wp_eq_resOk] at h1
  cases hcc : countCaptures E n { options := E.opts } with
  | ok t s' =>
    have h2 := wp_scanRegex_root E (resetState E t) (Nat.zero_le _) rfl rfl n (by simp only [resetState]; omega)
    rw [wp_eq_resOk] at h2
    dsimp only
    cases hsr : scanRegex E n (resetState E t) <;> rw [hsr] at h2 <;> dsimp only
    · exact h2 rfl
    · exact h2
    · exact h2
  | err c s' => trivial
  | fault f => rw [hcc] at h1; exact h1
  | fuel => rw [hcc] at h1; exact h1

theorem parseFuel_total (n : Nat) (hn : E.pat.length < n) :
    (∃ t, parseFuel E n = .ok t) ∨ (∃ c, parseFuel E n = .error c) := by
  have := parseFuel_spec E n hn
  cases h : parseFuel E n <;> simp_all

theorem parseFuel_root (n : Nat) (hn : E.pat.length < n) (t : RawTree) (h : parseFuel E n = .ok t) :
    t.root.t = .capture ∧ t.root.m = 0 ∧ t.root.kids.length = 1 := by
  have := parseFuel_spec E n hn
  rw [h] at this
  exact this

end RegexVerif.Parser
