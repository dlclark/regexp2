/-
The search primitives of Model/Finders.lean: `findUp` returns the first and `findDown` the last candidate passing
the test (`findUp_first`, `findDown_last`), `memAt` says that the rune there passes the test (`memAt_iff`), and
`prefixOf`, the comparison loop behind `occursAt`, is read position by position (`prefixOf_iff`).  They stand apart from Lemmas/Finders.lean (same namespace) because Lemmas/BoyerMooreScan.lean needs
them and Lemmas/Finders.lean imports that file.
-/
import RegexVerif.Model.Finders
import RegexVerif.Lemmas.First

namespace RegexVerif.Lemmas.Finders
open RegexVerif.Finders RegexVerif.Lemmas.IndexOf

/-! ### `findUp`, `findDown` -/

theorem findUp_first (P : Nat → Bool) : ∀ (k q : Nat), First (fun p => q ≤ p ∧ p < q + k ∧ P p = true) (findUp P k q) := by
  intro k
  induction k with
  | zero => intro q; exact first_none fun j hj => by omega
  | succ k ih =>
    intro q
    rw [findUp]
    by_cases hP : P q = true
    · rw [if_pos hP]
      exact .here (P := fun p => p < q + (k + 1) ∧ P p = true) ⟨by omega, hP⟩
    · rw [if_neg hP]
      refine ((ih (q + 1)).congr fun i => ?_).skip (lo := q) (P := fun p => p < q + (k + 1) ∧ P p = true)
        (fun j h1 h2 hp => hP (by rw [show q = j by omega]; exact hp.2)) (Nat.le_succ q)
      rw [show q + 1 + k = q + (k + 1) by omega]

theorem findDown_last (P : Nat → Bool) : ∀ (q : Nat), Last (fun p => p ≤ q ∧ P p = true) (findDown P q) := by
  intro q
  induction q with
  | zero =>
    rw [findDown]
    by_cases hP : P 0 = true
    · rw [if_pos hP]; exact last_some ⟨Nat.le_refl _, hP⟩ fun j hj hp => absurd hp.1 (Nat.not_le.mpr hj)
    · rw [if_neg hP]; exact last_none fun j hp => hP (by rw [← Nat.le_zero.mp hp.1]; exact hp.2)
  | succ q ih =>
    rw [findDown]
    by_cases hP : P (q + 1) = true
    · rw [if_pos hP]; exact last_some ⟨Nat.le_refl _, hP⟩ fun j hj hp => absurd hp.1 (Nat.not_le.mpr hj)
    · rw [if_neg hP]
      have hq : ∀ j, j ≤ q + 1 → P j = true → j ≤ q := fun j h1 h2 =>
        Nat.le_of_lt_succ (Nat.lt_of_le_of_ne h1 fun he => hP (by subst he; exact h2))
      exact ⟨fun i hi => let ⟨⟨x1, x2⟩, x3⟩ := ih.1 i hi
          ⟨⟨Nat.le_succ_of_le x1, x2⟩, fun j hj hp => x3 j hj ⟨hq j hp.1 hp.2, hp.2⟩⟩,
        fun hr j hp => ih.2 hr j ⟨hq j hp.1 hp.2, hp.2⟩⟩

theorem memAt_iff {S : Nat → Bool} {text : List Nat} {i : Nat} :
    memAt S text i = true ↔ ∃ c, text[i]? = some c ∧ S c = true := by
  unfold memAt
  cases text[i]? with
  | none => simp
  | some c => simp

/-! ### `prefixOf`, the comparison loop of the string searches -/

theorem prefixOf_iff (eq : Nat → Nat → Bool) : ∀ (pat ts : List Nat),
    prefixOf eq pat ts = true ↔ ∀ j : Nat, j < pat.length → ∃ t c, ts[j]? = some t ∧ pat[j]? = some c ∧ eq t c = true := by
  intro pat
  induction pat with
  | nil => intro ts; simp [prefixOf]
  | cons c ps ih =>
    intro ts
    cases ts with
    | nil =>
      simp only [prefixOf]
      constructor
      · intro h; simp at h
      · intro h; obtain ⟨t, _, ht, _⟩ := h 0 (by simp); simp at ht
    | cons t ts' =>
      simp only [prefixOf, Bool.and_eq_true, ih ts']
      constructor
      · intro ⟨h1, h2⟩ j hj
        cases j with
        | zero => exact ⟨t, c, by simp, by simp, h1⟩
        | succ j =>
          obtain ⟨t', c', x1, x2, x3⟩ := h2 j (by simp at hj; omega)
          exact ⟨t', c', by simpa using x1, by simpa using x2, x3⟩
      · intro h
        constructor
        · obtain ⟨t', c', x1, x2, x3⟩ := h 0 (by simp)
          simp at x1 x2; subst x1; subst x2; exact x3
        · intro j hj
          obtain ⟨t', c', x1, x2, x3⟩ := h (j + 1) (by simp; omega)
          exact ⟨t', c', by simpa using x1, by simpa using x2, x3⟩

theorem prefixOf_length (eq : Nat → Nat → Bool) : ∀ (pat ts : List Nat), prefixOf eq pat ts = true → pat.length ≤ ts.length := by
  intro pat
  induction pat with
  | nil => intro ts _; exact Nat.zero_le _
  | cons c ps ih =>
    intro ts h
    cases ts with
    | nil => cases h
    | cons t ts => exact Nat.succ_le_succ (ih ts (Bool.and_eq_true_iff.mp h).2)

theorem prefixOf_exact : ∀ (pat ts : List Nat), prefixOf eqExact pat ts = true ↔ ts.take pat.length = pat := by
  intro pat
  induction pat with
  | nil => intro ts; simp [prefixOf]
  | cons c ps ih =>
    intro ts
    cases ts with
    | nil => simp [prefixOf]
    | cons t ts =>
      simp only [prefixOf, Bool.and_eq_true, eqExact, beq_iff_eq, List.length_cons, List.take_succ_cons,
        List.cons.injEq]
      rw [← ih ts]

end RegexVerif.Lemmas.Finders
