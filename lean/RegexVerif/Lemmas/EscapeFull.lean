/-
C19, "Escape yields a literal" on the full parser model (`Model/Parser.lean`): exact evaluation of `Parser.parse` on the
pattern `escape isPrint s`.  (`Lemmas/EscapeParse.lean` proves the same about `parseLit`, the parser on the literal
fragment.)

The parser reads a maximal run of runes that `escape` writes raw in ONE turn (`skipOrdinary`), together with the escaped
rune behind it, if any.  So `s` is cut into such chunks (`ef_chunk`), one turn is one chunk (`ef_scanStep_esc`,
`scanStep_end`; one escaped rune is one call of `scanBackslash`, by cases on `Spelled`), and the loop is followed chunk
by chunk (`ef_loop`).  `EscKids` lists the children the chunks contribute; without IgnoreCase they spell `s`.
-/
import RegexVerif.Lemmas.ParserExact
import RegexVerif.Lemmas.EscapeParse

namespace RegexVerif.Parser
open RegexVerif.Escape (escape escapeRune hex2 hex4 hexChar bslash)
open RegexVerif.Lemmas.Escape (plainAfterBackslash letterEscapes Spelled escapeRune_spelled escape_cons escape_append
  meta_plain)
open RegexVerif.Lemmas.EscapeParse (bsPass meta_bsPass letter_bsPass)

variable (E : Env)

/-! ## exact evaluation of the escape scanners -/

theorem ef_hexGo_of_scanHex : ∀ (n acc : Nat) (l : List Nat) (v : Nat) (rest : List Nat) (k : Nat),
    Escape.scanHex n acc l = some (v, rest) → hexGo n l acc k = .ok v (k + n) ∧ l.length = rest.length + n := by
  intro n
  induction n with
  | zero => intro acc l v rest k h; simp [Escape.scanHex] at h; simp [hexGo, h.1, h.2]
  | succ n ih =>
    intro acc l v rest k h
    cases l with
    | nil => simp [Escape.scanHex] at h
    | cons ch t =>
      simp only [Escape.scanHex] at h
      cases hd : Escape.hexDigit ch with
      | none => simp [hd] at h
      | some d =>
        simp only [hd] at h
        have := ih _ _ _ _ (k + 1) h
        simp only [hexGo, hd, this.1, List.length_cons, this.2]
        constructor
        · congr 1; omega
        · omega

theorem ef_scanCharEscape_plain (s : PS) (c : Nat) (r : List Nat) (hD : E.pat.drop s.pos = c :: r)
    (hp : plainAfterBackslash c = true)
    (hw : (!s.options.e && !s.options.re2 && E.orc.isWord c) = false) :
    scanCharEscape E s = .ok c { s with pos := s.pos + 1 } := by
  simp only [plainAfterBackslash, Bool.and_eq_true, Bool.not_eq_true', decide_eq_false_iff_not] at hp
  have ne := Lemmas.Escape.ne_of_not_contains hp.2
  unfold scanCharEscape
  simp [bind, M.bind, moveRightGetChar_drop E hD, textpos, opts, charsRight, rest, pure,
    M.pure, hp.1, hw, ne 120 rfl, ne 117 rfl, ne 97 rfl, ne 98 rfl, ne 101 rfl, ne 102 rfl, ne 110 rfl, ne 114 rfl,
    ne 116 rfl, ne 118 rfl, ne 99 rfl]

theorem ef_scanCharEscape_letter (s : PS) {c v : Nat} (h : (c, v) ∈ letterEscapes) (r : List Nat)
    (hD : E.pat.drop s.pos = c :: r) : scanCharEscape E s = .ok v { s with pos := s.pos + 1 } := by
  simp only [letterEscapes, List.mem_cons, Prod.mk.injEq, List.not_mem_nil, or_false] at h
  unfold scanCharEscape
  rcases h with ⟨rfl, rfl⟩ | ⟨rfl, rfl⟩ | ⟨rfl, rfl⟩ | ⟨rfl, rfl⟩ | ⟨rfl, rfl⟩ | ⟨rfl, rfl⟩ <;>
    simp [bind, M.bind, moveRightGetChar_drop E hD, textpos, opts, charsRight, rest, pure, M.pure]

/-- `\xHH` -/
theorem ef_scanCharEscape_hex2 (s : PS) (v : Nat) (hv : v < 256) (r : List Nat)
    (hD : E.pat.drop s.pos = 120 :: (hex2 v ++ r)) :
    scanCharEscape E s = .ok v { s with pos := s.pos + 3 } := by
  have hr := (drop_cons_facts E hD).2.2
  have hb : hexChar (v / 16) ≠ 123 := Lemmas.Escape.hexChar_ne_brace _ (by omega)
  have hx := ef_hexGo_of_scanHex 2 0 _ _ _ 0 (Lemmas.Escape.scanHex_hex2 v hv r)
  simp only [hex2, List.cons_append, List.nil_append] at hr hx
  unfold scanCharEscape
  simp [bind, M.bind, moveRightGetChar_drop E hD, textpos, opts, charsRight, rest, pure,
    M.pure, hr, attempt, scanHex, liftL, hx.1, hb]

/-- `\uHHHH` -/
theorem ef_scanCharEscape_hex4 (s : PS) (v : Nat) (hv : v < 65536) (r : List Nat)
    (hD : E.pat.drop s.pos = 117 :: (hex4 v ++ r)) :
    scanCharEscape E s = .ok v { s with pos := s.pos + 5 } := by
  have hr := (drop_cons_facts E hD).2.2
  have hb : hexChar (v / 4096) ≠ 123 := Lemmas.Escape.hexChar_ne_brace _ (by omega)
  have hx := ef_hexGo_of_scanHex 4 0 _ _ _ 0 (Lemmas.Escape.scanHex_hex4 v hv r)
  simp only [hex4, List.cons_append, List.nil_append] at hr hx
  unfold scanCharEscape
  simp [bind, M.bind, moveRightGetChar_drop E hD, textpos, opts, charsRight, rest, pure,
    M.pure, hr, attempt, scanHex, liftL, hx.1, hb]

/-- the node of an escaped rune (`scanBasicBackslash`: "Not backreference: must be char code"): under IgnoreCase
    the rune is lower-cased first, and `newRegexNodeCh` turns a cased letter into its set -/
def escNode (o : Opts) (r : Nat) : RNode := nodeCh E .one o (if o.i then E.orc.toLower r else r)

theorem escNode_noI (o : Opts) (r : Nat) (hi : o.i = false) : escNode E o r = .mk .one o r [] none 0 0 [] := by
  simp [escNode, nodeCh, hi]

/-- `scanBackslash` on a rune of `bsPass` hands over to `scanCharEscape` ("Not backreference: must be char
    code") and wraps its rune in a One node -/
theorem ef_scanBackslash (so : Bool) (s s' : PS) (c v : Nat) (r : List Nat) (hD : E.pat.drop s.pos = c :: r)
    (hp : bsPass c = true) (h : scanCharEscape E s = .ok v s') :
    scanBackslash E so s = .ok (if so then dummy else escNode E s.options v) s' := by
  simp only [bsPass, Bool.and_eq_true, Bool.not_eq_true', decide_eq_false_iff_not] at hp
  have ne := Lemmas.Escape.ne_of_not_contains hp.1
  unfold scanBackslash scanBasicBackslash bbHead bbCharCode escNode
  simp [bind, M.bind, rightChar_drop E hD, moveRight, modify, textpos, textto, opts, charsRight_drop, hD, pure, M.pure,
    hasCapnames, hp.2, h, ne 98 rfl, ne 66 rfl, ne 65 rfl, ne 71 rfl, ne 90 rfl, ne 122 rfl, ne 119 rfl, ne 87 rfl,
    ne 115 rfl, ne 83 rfl, ne 100 rfl, ne 68 rfl, ne 112 rfl, ne 80 rfl, ne 107 rfl, ne 60 rfl, ne 39 rfl]
  cases so <;> rfl

/-! ## one escaped rune -/

/-- `escape` writes the rune as itself: printable and not in `meta`, or not printable and above U+FFFF -/
def isRaw (isPrint : Nat → Bool) (r : Nat) : Bool :=
  (isPrint r && !Generated.metaChars.contains r) || (!isPrint r && decide (0x10000 ≤ r))

theorem isRaw_iff (isPrint : Nat → Bool) (r : Nat) : isRaw isPrint r = true ↔
    (isPrint r = true ∧ Generated.metaChars.contains r = false) ∨ (isPrint r = false ∧ 0x10000 ≤ r) := by
  simp [isRaw]

theorem spelled_raw_or_esc {isPrint : Nat → Bool} {r : Nat} {out : List Nat} (h : Spelled isPrint r out) :
    (isRaw isPrint r = true ∧ out = [r]) ∨ (isRaw isPrint r = false ∧ ∃ body, out = 92 :: body) := by
  cases h with
  | raw h => exact .inl ⟨(isRaw_iff isPrint r).mpr h, rfl⟩
  | quoted hp hm => exact .inr ⟨by rw [isRaw, hp, hm]; rfl, _, rfl⟩
  | letter c hp hl =>
    refine .inr ⟨?_, _, rfl⟩
    simp only [letterEscapes, List.mem_cons, Prod.mk.injEq, List.not_mem_nil, or_false] at hl
    simp [isRaw, hp]; omega
  | x hp hx => exact .inr ⟨by simp [isRaw, hp]; omega, _, rfl⟩
  | u hp hu => exact .inr ⟨by simp [isRaw, hp]; omega, _, rfl⟩

theorem ef_escapeRune_raw (isPrint : Nat → Bool) (r : Nat) (h : isRaw isPrint r = true) :
    escapeRune isPrint r = [r] := by
  rcases spelled_raw_or_esc (escapeRune_spelled isPrint r) with ⟨_, h'⟩ | ⟨h', _⟩
  · exact h'
  · rw [h] at h'; cases h'

theorem ef_escapeRune_esc (isPrint : Nat → Bool) (r : Nat) (h : isRaw isPrint r = false) :
    ∃ body, escapeRune isPrint r = 92 :: body := by
  rcases spelled_raw_or_esc (escapeRune_spelled isPrint r) with ⟨h', _⟩ | ⟨_, h'⟩
  · rw [h] at h'; cases h'
  · exact h'

/-- one escaped rune is one call of `scanBackslash` (the backslash consumed), which returns the node of that rune
    (nothing, in the pre-scan) and stands right after the escape -/
theorem ef_scanBackslash_escapeRune (isPrint : Nat → Bool)
    (hW : ∀ c, Generated.metaChars.contains c = true → E.orc.isWord c = false)
    (r : Nat) (body rest : List Nat) (hb : escapeRune isPrint r = 92 :: body)
    (so : Bool) (s : PS) (hD : E.pat.drop s.pos = body ++ rest) :
    scanBackslash E so s =
      .ok (if so then dummy else escNode E s.options r) { s with pos := s.pos + body.length } := by
  have h := escapeRune_spelled isPrint r
  rw [hb] at h
  cases h with
  | raw h =>
    rcases h with ⟨_, hm⟩ | ⟨_, hr⟩
    · exact absurd hm (by decide)
    · exact absurd hr (by decide)
  | quoted _ hm =>
    have hm' : r ∈ Generated.metaChars := by simpa using hm
    exact ef_scanBackslash E so s _ r r rest hD (List.all_eq_true.mp meta_bsPass r hm')
      (ef_scanCharEscape_plain E s r rest hD (List.all_eq_true.mp meta_plain r hm') (by simp [hW r hm]))
  | letter c _ hl =>
    exact ef_scanBackslash E so s _ c r rest hD (List.all_eq_true.mp letter_bsPass _ hl)
      (ef_scanCharEscape_letter E s hl rest hD)
  | x _ hx => exact ef_scanBackslash E so s _ 120 r _ hD (by decide) (ef_scanCharEscape_hex2 E s r hx rest hD)
  | u _ hu => exact ef_scanBackslash E so s _ 117 r _ hD (by decide) (ef_scanCharEscape_hex4 E s r hu rest hD)

/-! ## one turn of `scanRegex` on literal text -/

theorem stop_bslash {tl : List Nat} : Stop 92 tl := ⟨by decide, by decide, fun h => absurd h.1 (by decide)⟩

theorem ef_stepAfter (s : PS) (u : RNode) (hu : s.unit = some u) (h : Quiet (E.pat.drop s.pos)) :
    stepAfter E false s = .ok (.inl false) { s with concatenation := s.concatenation.addChild u, unit := none } := by
  unfold stepAfter
  simp only [bind, M.bind, scanBlank_id E s (h.noBlank _), charsRight]
  by_cases hl : E.pat.length - s.pos > 0
  · simp [hl, isTrueQuantifier_quiet E s h, addConcatenate, hu, pure, M.pure, M.bind]
  · simp [hl, addConcatenate, hu, pure, M.pure, M.bind]

/-- a turn on a run of ordinary runes followed by one escaped rune: the run joins the concatenation as one One/Multi
    node, the escape as a One node; the loop goes on -/
theorem ef_scanStep_esc (isPrint : Nat → Bool)
    (hW : ∀ c, Generated.metaChars.contains c = true → E.orc.isWord c = false)
    (s : PS) (p : List Nat) (r : Nat) (body tl : List Nat) (b : Bool)
    (hb : escapeRune isPrint r = 92 :: body) (hD : E.pat.drop s.pos = p ++ (92 :: (body ++ tl)))
    (hord : ∀ c ∈ p, isStopperXCh c = false) (htl : Quiet tl) :
    scanStep E b s = .ok (.inl false)
      { s with pos := s.pos + p.length + 1 + body.length,
               concatenation := (addKids s.concatenation (runKidsG E s.options p)).addChild (escNode E s.options r),
               unit := none } := by
  obtain ⟨hd1, _⟩ := drop_add_of_append hD
  obtain ⟨_, _, hd2⟩ := drop_cons_facts E hd1
  obtain ⟨hd3, _⟩ := drop_add_of_append hd2
  have e6 := ef_scanBackslash_escapeRune E isPrint hW r body tl hb false
    { s with pos := s.pos + p.length + 1, concatenation := addKids s.concatenation (runKidsG E s.options p) } hd2
  have e7 := ef_stepAfter E
    { s with pos := s.pos + p.length + 1 + body.length,
             concatenation := addKids s.concatenation (runKidsG E s.options p),
             unit := some (escNode E s.options r) } _ rfl (by rw [hd3]; exact htl)
  rw [scanStep_stop E s p 92 _ b hD hord stop_bslash]
  unfold stepSwitch
  simp [bind, M.bind] at e6 ⊢
  simp [e6, setUnit, modify, e7]

/-! ## the spelling of a literal tree -/

/-- the runes a literal leaf denotes: a One, a Multi, or an Empty node (no set, no children) -/
def leafRunes : RNode → Option (List Nat)
  | .mk .one _ ch _ none _ _ [] => some [ch]
  | .mk .multi _ _ str none _ _ [] => some str
  | .mk .empty _ _ _ none _ _ [] => some []
  | _ => none

/-- the runes a list of literal leaves denotes, left to right -/
def kidsRunes : List RNode → Option (List Nat)
  | [] => some []
  | k :: ks =>
    match leafRunes k, kidsRunes ks with
    | some a, some b => some (a ++ b)
    | _, _ => none

theorem leafRunes_ne_concatenate {c : RNode} {w : List Nat} (h : leafRunes c = some w) : c.t ≠ .concatenate := by
  obtain ⟨t, o, ch, str, set, m, n, kids⟩ := c
  rintro rfl
  cases set <;> cases kids <;> simp [leafRunes] at h

theorem kidsRunes_cons {k : RNode} {ks : List RNode} {w : List Nat} (h : kidsRunes (k :: ks) = some w) :
    ∃ a b, leafRunes k = some a ∧ kidsRunes ks = some b ∧ w = a ++ b := by
  rw [kidsRunes] at h
  cases h1 : leafRunes k with
  | none => simp [h1] at h
  | some a =>
    cases h2 : kidsRunes ks with
    | none => simp [h1, h2] at h
    | some b => exact ⟨a, b, rfl, rfl, by simpa [h1, h2] using h.symm⟩

theorem kidsRunes_append (a b : List RNode) (x y : List Nat) (ha : kidsRunes a = some x) (hb : kidsRunes b = some y) :
    kidsRunes (a ++ b) = some (x ++ y) := by
  induction a generalizing x with
  | nil => cases ha; exact hb
  | cons k ks ih =>
    obtain ⟨u, v, h1, h2, rfl⟩ := kidsRunes_cons ha
    simp [kidsRunes, h1, ih v h2]

theorem kidsRunes_runKidsG (o : Opts) (p : List Nat) (hi : o.i = false) : kidsRunes (runKidsG E o p) = some p := by
  unfold runKidsG
  cases p with
  | nil => rfl
  | cons c p =>
    cases p with
    | nil => simp [kidsRunes, leafRunes, nodeCh, hi]
    | cons d p => simp [kidsRunes, leafRunes, hi]

/-! ## the shape of `Escape`'s output -/

theorem ef_raw_ord (isPrint : Nat → Bool) (hP : ∀ c, 9 ≤ c → c ≤ 13 → isPrint c = false) (c : Nat)
    (h : isRaw isPrint c = true) : isStopperXCh c = false := by
  have hr := (isRaw_iff isPrint c).mp h
  obtain ⟨h1, h2⟩ := Lemmas.EscapeParse.raw_not_blank isPrint hP c hr
  rw [isStopperXCh, h1, h2, Lemmas.EscapeParse.raw_not_special hr]; rfl

theorem ef_chunk (isPrint : Nat → Bool) (w : List Nat) :
    ∃ p t, w = p ++ t ∧ (∀ c ∈ p, isRaw isPrint c = true) ∧
      (t = [] ∨ ∃ r t', t = r :: t' ∧ isRaw isPrint r = false) := by
  refine ⟨w.takeWhile (isRaw isPrint), w.dropWhile (isRaw isPrint), List.takeWhile_append_dropWhile.symm,
    List.all_eq_true.mp List.all_takeWhile, ?_⟩
  cases h : w.dropWhile (isRaw isPrint) with
  | nil => exact .inl rfl
  | cons r t' =>
    have := List.head?_dropWhile_not (isRaw isPrint) w
    rw [h] at this
    exact .inr ⟨r, t', rfl, this⟩

theorem ef_escape_raw (isPrint : Nat → Bool) (p : List Nat) (h : ∀ c ∈ p, isRaw isPrint c = true) :
    escape isPrint p = p := by
  induction p with
  | nil => rfl
  | cons c p ih =>
    rw [escape_cons, ef_escapeRune_raw isPrint c (h c (by simp)), ih (fun c' hc' => h c' (by simp [hc']))]
    rfl

theorem quiet_escape (isPrint : Nat → Bool) (hP : ∀ c, 9 ≤ c → c ≤ 13 → isPrint c = false) (w : List Nat) :
    Quiet (escape isPrint w) := by
  cases w with
  | nil => exact fun _ _ h => nomatch h
  | cons r w =>
    rw [escape_cons]
    by_cases hr : isRaw isPrint r = true
    · rw [ef_escapeRune_raw isPrint r hr]
      exact quiet_ord (ef_raw_ord isPrint hP r hr) _
    · obtain ⟨body, hb⟩ := ef_escapeRune_esc isPrint r (by simpa using hr)
      rw [hb]; exact fun _ _ e => by cases e; exact .inr stop_bslash

/-! ## the main loop -/

/-- the body of the loops of `scanRegex` and `countCaptures`: no text left ends the loop, else the step is made -/
def whileText {β : Type} (f : β → M (Sum β Unit)) (b : β) : M (Sum β Unit) := do
  let cr ← charsRight E
  if cr = 0 then pure (.inr ()) else f b

theorem iter_whileText_end {β : Type} (f : β → M (Sum β Unit)) (n : Nat) (b : β) (s : PS) (hD : E.pat.drop s.pos = [])
    (hn : 0 < n) : iter (whileText E f) n b s = .ok () s := by
  obtain ⟨n, rfl⟩ : ∃ m, n = m + 1 := ⟨n - 1, by omega⟩
  exact iter_inr _ _ _ _ _ _ (by simp [whileText, bind, M.bind, charsRight_drop, hD, pure, M.pure])

theorem whileText_step {β : Type} (f : β → M (Sum β Unit)) (b : β) {s : PS} (hD : E.pat.drop s.pos ≠ []) :
    whileText E f b s = f b s := by
  have h : E.pat.length - s.pos ≠ 0 := fun h => hD (List.drop_eq_nil_of_le (by omega))
  simp [whileText, bind, M.bind, charsRight, h]

/-- the children of the concatenation the parser builds for `Escape w` under the options `o` (IgnoreCase included):
    `w` is cut into maximal runs of runes `escape` writes raw, each contributing `runKidsG`, and the escaped runes in
    between, each contributing `escNode` -/
inductive EscKids (isPrint : Nat → Bool) (o : Opts) : List Nat → List RNode → Prop
  | nil : EscKids isPrint o [] []
  | run (p w : List Nat) (ks : List RNode) (hraw : ∀ c ∈ p, isRaw isPrint c = true)
      (hmax : w = [] ∨ ∃ r w', w = r :: w' ∧ isRaw isPrint r = false) :
      EscKids isPrint o w ks → EscKids isPrint o (p ++ w) (runKidsG E o p ++ ks)
  | esc (r : Nat) (w : List Nat) (ks : List RNode) (hr : isRaw isPrint r = false) :
      EscKids isPrint o w ks → EscKids isPrint o (r :: w) (escNode E o r :: ks)

theorem escKids_runes (isPrint : Nat → Bool) (o : Opts) (hi : o.i = false) (w : List Nat) (ks : List RNode)
    (h : EscKids E isPrint o w ks) : kidsRunes ks = some w := by
  induction h with
  | nil => rfl
  | run p w ks _ _ _ ih => exact kidsRunes_append _ _ _ _ (kidsRunes_runKidsG E o p hi) ih
  | esc r w ks _ _ ih =>
    exact kidsRunes_append [_] ks [r] w (by rw [escNode_noI E o r hi]; rfl) ih

/-- the loop of `scanRegex` on `Escape w` ends normally, having added the `EscKids` of `w` to the concatenation -/
theorem ef_loop (isPrint : Nat → Bool)
    (hW : ∀ c, Generated.metaChars.contains c = true → E.orc.isWord c = false)
    (hP : ∀ c, 9 ≤ c → c ≤ 13 → isPrint c = false) :
    ∀ (n : Nat) (w : List Nat), w.length ≤ n → ∀ (s : PS) (fuel : Nat) (b : Bool),
      E.pat.drop s.pos = escape isPrint w → (escape isPrint w).length < fuel →
      ∃ ks s', iter (whileText E (scanStep E)) fuel b s = .ok () s' ∧ EscKids E isPrint s.options w ks ∧
        s'.concatenation = addKids s.concatenation ks ∧ s'.stack = s.stack ∧ s'.group = s.group ∧
        s'.alternation = s.alternation ∧ s'.options = s.options := by
  intro n
  induction n with
  | zero =>
    intro w hw s fuel b hD hf
    obtain rfl : w = [] := List.eq_nil_of_length_eq_zero (Nat.le_zero.mp hw)
    exact ⟨[], s, iter_whileText_end E _ fuel b s hD (by omega), .nil, rfl, rfl, rfl, rfl, rfl⟩
  | succ n ih =>
    intro w hw s fuel b hD hf
    obtain ⟨p, t, hw', hraw, ht⟩ := ef_chunk isPrint w
    have hord : ∀ c ∈ p, isStopperXCh c = false := fun c hc => ef_raw_ord isPrint hP c (hraw c hc)
    rw [hw', escape_append, ef_escape_raw isPrint p hraw] at hD hf
    rcases ht with rfl | ⟨r, t', rfl, hr⟩
    · -- the run ends the pattern
      simp only [show escape isPrint [] = [] from rfl, List.append_nil] at hD hf hw'
      subst hw'
      cases w with
      | nil => exact ⟨[], s, iter_whileText_end E _ fuel b s hD (by omega), .nil, rfl, rfl, rfl, rfl, rfl⟩
      | cons c w =>
        obtain ⟨fuel, rfl⟩ : ∃ m, fuel = m + 1 := ⟨fuel - 1, by omega⟩
        exact ⟨_, { s with pos := s.pos + (c :: w).length,
                            concatenation := addKids s.concatenation (runKidsG E s.options (c :: w)) },
          iter_inr _ _ _ _ _ _ ((whileText_step E _ b (by simp [hD])).trans (scanStep_end E s _ b hD hord)),
          by simpa using EscKids.run (E := E) (o := s.options) _ [] [] hraw (Or.inl rfl) .nil, rfl, rfl, rfl, rfl, rfl⟩
    · -- a run, then an escaped rune
      obtain ⟨fuel, rfl⟩ : ∃ m, fuel = m + 1 := ⟨fuel - 1, by omega⟩
      obtain ⟨body, hb⟩ := ef_escapeRune_esc isPrint r hr
      rw [escape_cons, hb] at hD hf
      simp only [List.cons_append] at hD hf
      have hstep := ef_scanStep_esc E isPrint hW s p r body (escape isPrint t') b hb hD hord
        (quiet_escape isPrint hP t')
      obtain ⟨hd1, _⟩ := drop_add_of_append hD
      obtain ⟨_, _, hd2⟩ := drop_cons_facts E hd1
      obtain ⟨hd3, _⟩ := drop_add_of_append hd2
      have hlen : t'.length ≤ n := by subst hw'; simp at hw; omega
      obtain ⟨ks, s', h1, h2, h3, h4, h5, h6, h7⟩ := ih t' hlen
        { s with pos := s.pos + p.length + 1 + body.length,
                 concatenation := (addKids s.concatenation (runKidsG E s.options p)).addChild (escNode E s.options r),
                 unit := none } fuel false hd3 (by simp at hf; omega)
      refine ⟨runKidsG E s.options p ++ (escNode E s.options r :: ks), s', ?_, ?_, ?_, h4, h5, h6, h7⟩
      · exact (iter_inl _ _ _ false _ _ ((whileText_step E _ b (by simp [hD])).trans hstep)).trans h1
      · rw [hw']
        exact .run p _ _ hraw (Or.inr ⟨r, t', rfl, hr⟩) (.esc r t' ks hr h2)
      · rw [h3, addKids_append]
        simp [addKids]

theorem reverseLeft_concat (o : Opts) (ks : List RNode) :
    reverseLeft (.mk .concatenate o 0 [] none 0 0 ks) =
      .mk .concatenate o 0 [] none 0 0 (if o.r then ks.reverse else ks) := by
  unfold reverseLeft
  cases hr : o.r <;> cases ks <;> simp [RNode.o, RNode.t, RNode.kids, RNode.withKids, hr]

/-- the tree `scanRegex` returns for a literal: the root Capture 0 over the one-branch alternation over
    the concatenation of the leaves `ks` (reversed under RightToLeft) -/
def litRoot (o : Opts) (ks : List RNode) : RNode :=
  .mk .capture o 0 [] none 0 (-1)
    [.mk .alternate o 0 [] none 0 0 [.mk .concatenate o 0 [] none 0 0 (if o.r then ks.reverse else ks)]]

/-- `scanRegex` on `Escape w`, from the state `Parse` starts it in -/
theorem ef_scanRegex (isPrint : Nat → Bool)
    (hW : ∀ c, Generated.metaChars.contains c = true → E.orc.isWord c = false)
    (hP : ∀ c, 9 ≤ c → c ≤ 13 → isPrint c = false)
    (w : List Nat) (hpat : E.pat = escape isPrint w) (s : PS) (hpos : s.pos = 0) (hst : s.stack = [])
    (fuel : Nat) (hf : E.pat.length < fuel) :
    ∃ ks s', scanRegex E fuel s = .ok (litRoot s.options ks) s' ∧ EscKids E isPrint s.options w ks := by
  obtain ⟨ks, s', h1, h2, h3, h4, h5, h6, h7⟩ := ef_loop E isPrint hW hP w.length w (Nat.le_refl _)
    { s with group := mkNodeMN .capture s.options 0 (-1), alternation := mkNode .alternate s.options,
             concatenation := mkNode .concatenate s.options } fuel false
    (by simp [hpos, hpat]) (by rw [← hpat]; exact hf)
  simp only [] at h2 h3 h4 h5 h6 h7
  suffices h : ∃ s'', scanRegex E fuel s = .ok (litRoot s.options ks) s'' by
    obtain ⟨s'', h⟩ := h
    exact ⟨ks, s'', h, h2⟩
  unfold scanRegex
  simp only [bind, M.bind, opts, startGroup, modify, get]
  -- `whileText E (scanStep E)` unfolds to the loop body written inline in `scanRegex`: `erw` sees through it
  erw [h1]
  have hemp : (!s'.stack.isEmpty) = false := by simp [h4, hst]
  have hc : isCond s'.group.t = false := by rw [h5]; rfl
  simp only [hemp, Bool.false_eq_true, if_false, M.bind, addGroup, hc, get]
  simp only [h3, h5, h6, mkNode, mkNodeMN, addKids_mk, List.nil_append, reverseLeft_concat, RNode.addChild,
    pure, M.pure, litRoot]
  exact ⟨_, rfl⟩

/-! ## the capture pre-scan -/

theorem ef_countStep_raw (s : PS) (c : Nat) (tl : List Nat) (hD : E.pat.drop s.pos = c :: tl)
    (hc : isStopperXCh c = false) : countStep E s = .ok () { s with pos := s.pos + 1 } := by
  simp only [isStopperXCh, Bool.or_eq_false_iff, beq_eq_false_iff_ne] at hc
  have ne := Lemmas.Escape.ne_of_not_contains hc.2
  unfold countStep
  simp [bind, M.bind, moveRightGetChar_drop E hD, opts, pure, M.pure, hc.1.2, ne 92 rfl,
    ne 91 rfl, ne 41 rfl, ne 40 rfl]

theorem ef_countStep_esc (isPrint : Nat → Bool)
    (hW : ∀ c, Generated.metaChars.contains c = true → E.orc.isWord c = false)
    (s : PS) (r : Nat) (body tl : List Nat) (hb : escapeRune isPrint r = 92 :: body)
    (hD : E.pat.drop s.pos = 92 :: (body ++ tl)) :
    countStep E s = .ok () { s with pos := s.pos + 1 + body.length } := by
  have hr := (drop_cons_facts E hD).2.2
  have e6 := ef_scanBackslash_escapeRune E isPrint hW r body tl hb true { s with pos := s.pos + 1 } hr
  unfold countStep
  by_cases hl : E.pat.length - (s.pos + 1) > 0
  · simp [bind, M.bind, moveRightGetChar_drop E hD, opts, pure, M.pure, charsRight, hl, ignoreErr, attempt, e6]
  · have : body = [] := by
      have := congrArg List.length hr; simp at this
      exact List.eq_nil_of_length_eq_zero (by omega)
    subst this
    simp [bind, M.bind, moveRightGetChar_drop E hD, opts, pure, M.pure, charsRight, hl]

def countTurn : Unit → M (Sum Unit Unit) := fun _ => do
  countStep E
  pure (.inl ())

/-- the pre-scan of `Escape w` only moves the position -/
theorem ef_countLoop (isPrint : Nat → Bool)
    (hW : ∀ c, Generated.metaChars.contains c = true → E.orc.isWord c = false)
    (hP : ∀ c, 9 ≤ c → c ≤ 13 → isPrint c = false) (w : List Nat) :
    ∀ (s : PS) (fuel : Nat), E.pat.drop s.pos = escape isPrint w → w.length < fuel →
      ∃ p', iter (whileText E (countTurn E)) fuel () s = .ok () { s with pos := p' } := by
  induction w with
  | nil =>
    intro s fuel hD hf
    exact ⟨s.pos, iter_whileText_end E _ fuel () s hD (by omega)⟩
  | cons r w ih =>
    intro s fuel hD hf
    obtain ⟨fuel, rfl⟩ : ∃ m, fuel = m + 1 := ⟨fuel - 1, by omega⟩
    rw [escape_cons] at hD
    by_cases hr : isRaw isPrint r = true
    · rw [ef_escapeRune_raw isPrint r hr] at hD
      simp only [List.cons_append, List.nil_append] at hD
      obtain ⟨p', h⟩ := ih { s with pos := s.pos + 1 } fuel (drop_cons_facts E hD).2.2 (by simp at hf; omega)
      refine ⟨p', (iter_inl _ _ _ () _ _ ((whileText_step E _ () (by simp [hD])).trans ?_)).trans h⟩
      simp [countTurn, bind, M.bind, pure, M.pure, ef_countStep_raw E s r _ hD (ef_raw_ord isPrint hP r hr)]
    · obtain ⟨body, hb⟩ := ef_escapeRune_esc isPrint r (by simpa using hr)
      rw [hb] at hD
      simp only [List.cons_append] at hD
      obtain ⟨hd2, _⟩ := drop_add_of_append (drop_cons_facts E hD).2.2
      obtain ⟨p', h⟩ := ih { s with pos := s.pos + 1 + body.length } fuel hd2 (by simp at hf; omega)
      refine ⟨p', (iter_inl _ _ _ () _ _ ((whileText_step E _ () (by simp [hD])).trans ?_)).trans h⟩
      simp [countTurn, bind, M.bind, pure, M.pure, ef_countStep_esc E isPrint hW s r body _ hb hD]

/-- the capture tables of a pattern without groups: slot 0 only, no names -/
def noGroupTables : Groups.Tables :=
  if E.ord then Groups.assignOrderedNameSlots E.cfg Groups.initState else Groups.assignNameSlots Groups.initState

theorem ef_countCaptures (isPrint : Nat → Bool)
    (hW : ∀ c, Generated.metaChars.contains c = true → E.orc.isWord c = false)
    (hP : ∀ c, 9 ≤ c → c ≤ 13 → isPrint c = false)
    (w : List Nat) (hpat : E.pat = escape isPrint w) (s : PS) (hpos : s.pos = 0)
    (fuel : Nat) (hf : E.pat.length < fuel) :
    ∃ s', countCaptures E fuel s = .ok (noGroupTables E) s' := by
  have hlen : w.length < fuel := by
    have := Lemmas.Escape.length_le_escape isPrint w; rw [← hpat] at this; omega
  obtain ⟨p', h⟩ := ef_countLoop E isPrint hW hP w { s with g := Groups.initState } fuel
    (by simp [hpos, hpat]) hlen
  unfold countCaptures
  simp only [bind, M.bind, modify]
  -- `whileText E (countTurn E)` unfolds to the loop body written inline in `countCaptures`: `erw` sees through it
  erw [h]
  simp only [assignNameSlots, noGroupTables]
  cases E.ord <;> simp [Groups.initState]

/-- `Parse` on `Escape w`, any option set (IgnoreCase included) -/
theorem ef_parse_any (isPrint : Nat → Bool)
    (hW : ∀ c, Generated.metaChars.contains c = true → E.orc.isWord c = false)
    (hP : ∀ c, 9 ≤ c → c ≤ 13 → isPrint c = false)
    (w : List Nat) (hpat : E.pat = escape isPrint w) :
    ∃ ks, parse E = .ok { root := litRoot E.opts ks, tables := noGroupTables E } ∧ EscKids E isPrint E.opts w ks := by
  obtain ⟨s1, h1⟩ := ef_countCaptures E isPrint hW hP w hpat { options := E.opts } rfl
    (E.pat.length + 1) (by omega)
  obtain ⟨ks, s2, h2, h3⟩ := ef_scanRegex E isPrint hW hP w hpat (resetState E (noGroupTables E)) rfl rfl
    (E.pat.length + 1) (by omega)
  refine ⟨ks, ?_, h3⟩
  unfold parse parseFuel
  simp only [h1, h2]
  rfl

/-- … without IgnoreCase: the children are literal leaves spelling `w` -/
theorem ef_parse (isPrint : Nat → Bool)
    (hW : ∀ c, Generated.metaChars.contains c = true → E.orc.isWord c = false)
    (hP : ∀ c, 9 ≤ c → c ≤ 13 → isPrint c = false)
    (w : List Nat) (hpat : E.pat = escape isPrint w) (hi : E.opts.i = false) :
    ∃ ks, parse E = .ok { root := litRoot E.opts ks, tables := noGroupTables E } ∧ kidsRunes ks = some w := by
  obtain ⟨ks, h1, h2⟩ := ef_parse_any E isPrint hW hP w hpat
  exact ⟨ks, h1, escKids_runes E isPrint E.opts hi w ks h2⟩

theorem noGroupTables_caps : (noGroupTables E).caps = [0] ∧ (noGroupTables E).captop = 1 := by
  unfold noGroupTables Env.ord Env.cfg
  cases E.mco <;> cases E.opts.e <;> cases E.opts.n <;> exact ⟨rfl, rfl⟩

end RegexVerif.Parser
