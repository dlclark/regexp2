/-
The mirror theorem for the specification semantics `Spec.m` (property C15): matching in direction
`rtl` on a text is the same as matching the mirrored pattern in direction `!rtl` on the reversed
text, with positions and captures reflected (`p ↦ n - p`, `(s, len) ↦ (n - (s + len), len)`).
-/
import RegexVerif.Lemmas.Spec

namespace RegexVerif.Spec

def revEnv (e : Env) : Env := { e with text := e.text.reverse, textstart := e.n - e.textstart }

/-- position `p` becomes `n - p`, a captured span `[s, s+len)` becomes `[n-(s+len), n-s)` -/
def mirrorSt (n : Nat) (st : St) : St :=
  { pos := n - st.pos, caps := st.caps.map (fun c => (c.1, n - (c.2.1 + c.2.2), c.2.2)) }

/-- the anchor that holds at `n - p` of the reversed text exactly when the given one holds at `p` -/
def mirrorAnchor : Anchor → Anchor
  | .bol => .eol
  | .eol => .bol
  | .beginning => .end
  | .end => .beginning
  | .start => .start
  | .boundary => .boundary
  | .nonboundary => .nonboundary
  | .endz => .begz
  | .begz => .endz

/-- concatenations swapped (`ab` read leftwards on the text is `ba` read rightwards on the reversed text), anchors
    mirrored, lookahead ↔ lookbehind -/
def mirrorPat : Pat → Pat
  | .empty => .empty
  | .nothing => .nothing
  | .chr p => .chr p
  | .anchor a => .anchor (mirrorAnchor a)
  | .seq a b => .seq (mirrorPat b) (mirrorPat a)
  | .alt a b => .alt (mirrorPat a) (mirrorPat b)
  | .quant lzy lo hi body => .quant lzy lo hi (mirrorPat body)
  | .cap g body => .cap g (mirrorPat body)
  | .look behind neg body => .look (!behind) neg (mirrorPat body)
  | .atomic body => .atomic (mirrorPat body)
  | .ref g ci => .ref g ci
  | .refCond g yes no => .refCond g (mirrorPat yes) (mirrorPat no)
  | .exprCond c yes no => .exprCond (mirrorPat c) (mirrorPat yes) (mirrorPat no)

theorem mirrorSt_pos (n : Nat) (st : St) : (mirrorSt n st).pos = n - st.pos := rfl

theorem mirrorSt_caps (n : Nat) (st : St) :
    (mirrorSt n st).caps = st.caps.map (fun c => (c.1, n - (c.2.1 + c.2.2), c.2.2)) := rfl

theorem revEnv_text (e : Env) : (revEnv e).text = e.text.reverse := rfl

@[simp] theorem revEnv_n (e : Env) : (revEnv e).n = e.n := List.length_reverse

theorem revEnv_revEnv (e : Env) (h : e.textstart ≤ e.n) : revEnv (revEnv e) = e := by
  obtain ⟨text, ts, _, _, _⟩ := e
  have h : ts ≤ text.length := h
  simp only [revEnv, Env.n, List.length_reverse, List.reverse_reverse, Nat.sub_sub_self h]

theorem mirrorAnchor_mirrorAnchor (a : Anchor) : mirrorAnchor (mirrorAnchor a) = a := by
  cases a <;> rfl

theorem mirrorPat_mirrorPat (p : Pat) : mirrorPat (mirrorPat p) = p := by
  induction p <;> simp only [mirrorPat, mirrorAnchor_mirrorAnchor, Bool.not_not, *]

theorem reflect_span {n s len : Nat} (h : s + len ≤ n) :
    n - (s + len) + len ≤ n ∧ n - (n - (s + len) + len) = s := by
  rw [Nat.sub_add_eq, Nat.sub_add_cancel (Nat.le_sub_of_add_le' h)]
  exact ⟨Nat.sub_le n s, Nat.sub_sub_self (Nat.le_trans (Nat.le_add_right s len) h)⟩

theorem reflect_inj {n a b : Nat} (ha : a ≤ n) (hb : b ≤ n) : n - b = n - a ↔ b = a :=
  ⟨fun h => by rw [← Nat.sub_sub_self hb, h, Nat.sub_sub_self ha], fun h => h ▸ rfl⟩

theorem mirrorSt_wf (n : Nat) (st : St) (h : st.wf n) : (mirrorSt n st).wf n := by
  refine ⟨Nat.sub_le n st.pos, fun c hc => ?_⟩
  obtain ⟨d, hd, rfl⟩ := List.mem_map.mp hc
  exact (reflect_span (h.2 d hd)).1

theorem mirrorSt_mirrorSt (n : Nat) (st : St) (h : st.wf n) : mirrorSt n (mirrorSt n st) = st := by
  obtain ⟨pos, caps⟩ := st
  simp only [mirrorSt, List.map_map, St.mk.injEq]
  refine ⟨Nat.sub_sub_self h.1, ?_⟩
  conv => rhs; rw [← List.map_id caps]
  exact List.map_congr_left fun c hc => congrArg (fun s => (c.1, s, c.2.2)) (reflect_span (h.2 c hc)).2

theorem map_mirrorSt_mirrorSt (n : Nat) (l : List St) (h : ∀ st ∈ l, st.wf n) :
    (l.map (mirrorSt n)).map (mirrorSt n) = l := by
  rw [List.map_map]
  conv => rhs; rw [← List.map_id l]
  exact List.map_congr_left fun st hst => mirrorSt_mirrorSt n st (h st hst)

theorem Pred.test_revEnv (e : Env) (p : Pred) (r : Nat) : p.test (revEnv e) r = p.test e r :=
  Pred.test_congr e (revEnv e) rfl rfl p r

theorem isWord_revEnv (e : Env) : (revEnv e).isWord = e.isWord := rfl

theorem getElem?_revEnv (e : Env) {i j : Nat} (h : i + j + 1 = e.n) : (revEnv e).text[i]? = e.text[j]? := by
  unfold Env.n at h
  rw [revEnv_text, List.getElem?_reverse (by omega)]
  congr 1
  omega

theorem before_revEnv (e : Env) (p : Nat) (hp : p ≤ e.n) :
    (if e.n - p = 0 then none else (revEnv e).text[e.n - p - 1]?) = e.text[p]? := by
  split
  · exact (List.getElem?_eq_none (by unfold Env.n at *; omega)).symm
  · exact getElem?_revEnv e (by omega)

theorem after_revEnv (e : Env) (p : Nat) (hp : p ≤ e.n) :
    (revEnv e).text[e.n - p]? = (if p = 0 then none else e.text[p - 1]?) := by
  split
  · exact List.getElem?_eq_none (by rw [← Env.n, revEnv_n]; omega)
  · exact getElem?_revEnv e (by omega)

theorem stepChar_mirror (e : Env) (rtl : Bool) (pos : Nat) (hp : pos ≤ e.n) :
    stepChar (revEnv e) (!rtl) (e.n - pos) = (stepChar e rtl pos).map (fun x => (x.1, e.n - x.2)) := by
  cases rtl with
  | true =>
    simp only [stepChar, Bool.not_true, Bool.false_eq_true, if_false, if_true, after_revEnv e pos hp]
    split
    · rfl
    · rw [Option.map_map]
      exact congrArg (Option.map · _) (funext fun r => by simp only [Function.comp]; congr 1; omega)
  | false =>
    simp only [stepChar, Bool.not_false, Bool.false_eq_true, if_false, if_true, ← before_revEnv e pos hp]
    split
    · rfl
    · rw [Option.map_map]; rfl

theorem anchorHolds_mirror (e : Env) (hts : e.textstart ≤ e.n) (a : Anchor) (p : Nat) (hp : p ≤ e.n) :
    anchorHolds (revEnv e) (mirrorAnchor a) (e.n - p) = anchorHolds e a p := by
  have hb := before_revEnv e p hp
  have ha := after_revEnv e p hp
  have hs : (revEnv e).textstart = e.n - e.textstart := rfl
  have h1 : (e.n - p == e.n) = (p == 0) := beq_eq_of_iff (by omega)
  have h2 : (e.n - p == 0) = (p == e.n) := beq_eq_of_iff (by omega)
  have h3 : (e.n - p == e.n - e.textstart) = (p == e.textstart) := beq_eq_of_iff (reflect_inj hts hp)
  have h4 : (e.n - p == 1) = (p + 1 == e.n) := beq_eq_of_iff (by omega)
  have h5 : (e.n - p + 1 == e.n) = (p == 1) := beq_eq_of_iff (by omega)
  cases a <;> simp only [mirrorAnchor, anchorHolds, revEnv_n, hb, ha, hs, h1, h2, h3, h4, h5, isWord_revEnv]
  · exact bne_comm
  · exact Bool.beq_comm

/-! ## slices and backreferences -/

theorem revSlice {α : Type} (l : List α) (s len : Nat) (h : s + len ≤ l.length) :
    (l.reverse.drop (l.length - (s + len))).take len = ((l.drop s).take len).reverse := by
  rw [List.drop_reverse, List.take_reverse, List.length_take, Nat.sub_sub_self h, Nat.min_eq_left h,
    Nat.add_sub_cancel, List.drop_take, Nat.add_sub_cancel_left]

theorem sliceEq_mirror (e : Env) (ci : Bool) (s t len : Nat) (hs : s + len ≤ e.n) (ht : t + len ≤ e.n) :
    sliceEq (revEnv e) ci (e.n - (s + len)) (e.n - (t + len)) len = sliceEq e ci s t len := by
  have hla : ((e.text.drop s).take len).length = len := by
    rw [List.length_take, List.length_drop]; unfold Env.n at hs; omega
  have hlb : ((e.text.drop t).take len).length = len := by
    rw [List.length_take, List.length_drop]; unfold Env.n at ht; omega
  have heq : (revEnv e).eqCi = e.eqCi := rfl
  simp only [sliceEq, heq, revEnv_text, Env.n, revSlice e.text s len hs,
    revSlice e.text t len ht, ← List.reverse_zipWith (hla.trans hlb.symm), List.all_reverse, List.length_reverse]

theorem sliceEq_false_of_short (e : Env) (ci : Bool) (s t len : Nat) (h : e.n < t + len) (hl : 0 < len) :
    sliceEq e ci s t len = false :=
  Bool.eq_false_iff.mpr fun hh => by
    have := sliceEq_bound e ci s t len hh
    unfold Env.n at h; omega

theorem refMatch_mirror (e : Env) (ci rtl : Bool) (s len pos : Nat) (hs : s + len ≤ e.n) (hp : pos ≤ e.n) :
    refMatch (revEnv e) ci (!rtl) (e.n - (s + len)) len (e.n - pos)
      = (refMatch e ci rtl s len pos).map (fun q => e.n - q) := by
  cases rtl with
  | true =>
    simp only [refMatch, Bool.not_true, Bool.false_eq_true, if_false, if_true]
    by_cases hl : pos < len
    · rw [if_pos hl, sliceEq_false_of_short (revEnv e) ci _ _ len (by rw [revEnv_n]; omega) (Nat.zero_lt_of_lt hl)]
      rfl
    · have hpl : pos - len + len = pos := Nat.sub_add_cancel (Nat.le_of_not_lt hl)
      rw [if_neg hl, ← sliceEq_mirror e ci s (pos - len) len hs (hpl.symm ▸ hp), hpl]
      split
      · exact congrArg some (show e.n - pos + len = e.n - (pos - len) by omega)
      · rfl
  | false =>
    simp only [refMatch, Bool.not_false, Bool.false_eq_true, if_false, if_true]
    by_cases hl : e.n - pos < len
    · rw [if_pos hl, sliceEq_false_of_short e ci _ _ len (by omega) (Nat.zero_lt_of_lt hl)]
      rfl
    · rw [if_neg hl, Nat.sub_sub, sliceEq_mirror e ci s pos len hs (by omega)]
      split <;> rfl

theorem hasCap_mirror (n : Nat) (caps : List (Nat × Nat × Nat)) (g : Nat) :
    hasCap (caps.map (fun c => (c.1, n - (c.2.1 + c.2.2), c.2.2))) g = hasCap caps g := by
  simp only [hasCap, List.any_map]; rfl

theorem lastCap_mirror (n : Nat) (caps : List (Nat × Nat × Nat)) (g : Nat) :
    lastCap (caps.map (fun c => (c.1, n - (c.2.1 + c.2.2), c.2.2))) g
      = (lastCap caps g).map (fun x => (n - (x.1 + x.2), x.2)) := by
  simp only [lastCap, ← List.map_reverse, List.find?_map, Option.map_map]; rfl

theorem lastCap_mem (caps : List (Nat × Nat × Nat)) (g s len : Nat) (h : lastCap caps g = some (s, len)) :
    ∃ g', (g', s, len) ∈ caps := by
  obtain ⟨c, hc, hceq⟩ := Option.map_eq_some_iff.mp h
  exact ⟨c.1, hceq ▸ List.mem_reverse.mp (List.mem_of_find?_eq_some hc)⟩

/-! ## the span of a capture -/

theorem mirror_span {n a b : Nat} (ha : a ≤ n) (hb : b ≤ n) :
    n - (min a b + (max a b - min a b)) = min (n - a) (n - b) ∧
      max a b - min a b = max (n - a) (n - b) - min (n - a) (n - b) := by
  rw [Nat.sub_min_sub_left, Nat.sub_max_sub_left,
    Nat.add_sub_cancel' (Nat.le_trans (Nat.min_le_left a b) (Nat.le_max_left a b)), Nat.sub_right_comm,
    Nat.sub_sub_self (Nat.max_le.mpr ⟨ha, hb⟩)]
  exact ⟨rfl, rfl⟩

/-! ## the mirror theorem -/

theorem m_mirror_map (e : Env) (hts : e.textstart ≤ e.n) (p : Pat) : ∀ (rtl : Bool) (st : St), St.wf e.n st →
    (m e p rtl st).map (mirrorSt e.n) = m (revEnv e) (mirrorPat p) (!rtl) (mirrorSt e.n st) := by
  intro rtl st h
  induction p generalizing rtl st with
  | empty | nothing => rfl
  | chr p =>
    rw [mirrorPat, m, m, mirrorSt_pos, stepChar_mirror e rtl st.pos h.1]
    cases stepChar e rtl st.pos with
    | none => rfl
    | some x =>
      simp only [Option.map_some, Pred.test_revEnv]
      split <;> rfl
  | anchor a =>
    rw [mirrorPat, m, m, mirrorSt_pos, anchorHolds_mirror e hts a st.pos h.1]
    split <;> rfl
  | seq a b iha ihb =>
    cases rtl with
    | true =>
      simp only [mirrorPat, m, Bool.not_true, Bool.false_eq_true, if_false, if_true]
      rw [← show _ = m (revEnv e) (mirrorPat b) false _ from ihb true st h, List.map_flatMap, List.flatMap_map]
      exact flatMap_congr_mem _ _ _ fun x hx => iha true x (m_wf e b true st h x hx)
    | false =>
      simp only [mirrorPat, m, Bool.not_false, Bool.false_eq_true, if_false, if_true]
      rw [← show _ = m (revEnv e) (mirrorPat a) true _ from iha false st h, List.map_flatMap, List.flatMap_map]
      exact flatMap_congr_mem _ _ _ fun x hx => ihb false x (m_wf e a false st h x hx)
  | alt a b iha ihb => rw [mirrorPat, m, m, List.map_append, iha rtl st h, ihb rtl st h]
  | quant lzy lo hi body ih =>
    rw [mirrorPat, m, m, revEnv_n]
    exact iter_map_conj (St.wf e.n) (mirrorSt e.n) _ _ (fun s hs => m_wf e body rtl s hs)
      (fun s hs => ih rtl s hs) (fun s s' hs hs' => beq_eq_of_iff (reflect_inj hs.1 hs'.1)) lzy lo hi _ 0 st h
  | cap g body ih =>
    rw [mirrorPat, m, m, ← ih rtl st h, List.map_map, List.map_map]
    refine List.map_congr_left fun y hy => ?_
    have hs := mirror_span h.1 (m_wf e body rtl st h y hy).1
    simp only [Function.comp, mirrorSt, List.map_append, List.map_cons, List.map_nil, hs.1, ← hs.2]
  | look behind neg body ih =>
    rw [mirrorPat, m, m, ← ih behind st h]
    cases m e body behind st <;> cases neg <;> rfl
  | atomic body ih => rw [mirrorPat, m, m, List.map_take, ih rtl st h]
  | ref g ci =>
    rw [mirrorPat, m, m, mirrorSt_caps, lastCap_mirror]
    cases hl : lastCap st.caps g with
    | none => rfl
    | some x =>
      obtain ⟨g', hg'⟩ := lastCap_mem st.caps g x.1 x.2 hl
      simp only [Option.map_some, mirrorSt_pos, refMatch_mirror e ci rtl x.1 x.2 st.pos (h.2 _ hg') h.1]
      cases refMatch e ci rtl x.1 x.2 st.pos <;> rfl
  | refCond g yes no ihy ihn =>
    rw [mirrorPat, m, m, mirrorSt_caps, hasCap_mirror]
    split
    · exact ihy rtl st h
    · exact ihn rtl st h
  | exprCond c yes no ihc ihy ihn =>
    rw [mirrorPat, m, m, ← ihc rtl st h]
    cases hc : m e c rtl st with
    | nil => exact ihn rtl st h
    | cons y ys =>
      exact ihy rtl ⟨st.pos, y.caps⟩ ⟨h.1, (m_wf e c rtl st h y (hc ▸ List.mem_cons_self)).2⟩

/-- `hts` is needed for the anchor `\G` only (`anchorHolds_mirror`), `h` because `p ↦ n - p` is invertible inside
    the text only.  Props/C15.lean states the theorem as `mirror` and, for `rtl = true`, as `rtl_mirror`. -/
theorem m_mirror (e : Env) (hts : e.textstart ≤ e.n) (p : Pat) (rtl : Bool) (st : St) (h : St.wf e.n st) :
    m e p rtl st = (m (revEnv e) (mirrorPat p) (!rtl) (mirrorSt e.n st)).map (mirrorSt e.n) := by
  rw [← m_mirror_map e hts p rtl st h, map_mirrorSt_mirrorSt e.n _ (m_wf e p rtl st h)]

/-! ## attempts and find -/

theorem attempt_mirror (e : Env) (hts : e.textstart ≤ e.n) (p : Pat) (rtl : Bool) (i : Nat) (hi : i ≤ e.n) :
    attempt e p rtl i = (attempt (revEnv e) (mirrorPat p) (!rtl) (e.n - i)).map (mirrorSt e.n) := by
  unfold attempt
  rw [m_mirror e hts (.cap 0 p) rtl { pos := i, caps := [] } (St.wf_start hi), List.head?_map]
  rfl

theorem scanOrder_mirror (rtl : Bool) (start n : Nat) (hs : start ≤ n) :
    scanOrder rtl start n = (scanOrder (!rtl) (n - start) n).map (fun i => n - i) := by
  cases rtl with
  | true =>
    rw [Bool.not_true, scanOrder_rtl, scanOrder_ltr, List.range'_eq_map_range, List.map_map, Nat.succ_sub (Nat.sub_le n start),
      Nat.sub_sub_self hs]
    exact List.map_congr_left fun x _ => by rw [Function.comp, Nat.sub_add_eq, Nat.sub_sub_self hs]
  | false =>
    rw [Bool.not_false, scanOrder_rtl, scanOrder_ltr, List.range'_eq_map_range, List.map_map, Nat.succ_sub hs]
    refine List.map_congr_left fun x hx => ?_
    have hx : start + x ≤ n := Nat.add_le_of_le_sub' hs (Nat.le_of_lt_succ (List.mem_range.mp hx))
    rw [Function.comp, Nat.sub_sub, Nat.sub_sub_self hx]

theorem find_mirror (e : Env) (hts : e.textstart ≤ e.n) (p : Pat) (rtl : Bool) (start : Nat) (hs : start ≤ e.n) :
    find e p rtl start = (find (revEnv e) (mirrorPat p) (!rtl) (e.n - start)).map (mirrorSt e.n) := by
  unfold find
  rw [scanOrder_mirror rtl start e.n hs, revEnv_n, List.findSome?_map, List.map_findSome?]
  apply findSome?_congr_mem
  intro i hi
  have hle := mem_scanOrder_le (!rtl) (e.n - start) e.n i (Nat.sub_le _ _) hi
  simp only [Function.comp]
  rw [attempt_mirror e hts p rtl (e.n - i) (Nat.sub_le _ _), Nat.sub_sub_self hle]

end RegexVerif.Spec
