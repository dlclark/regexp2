/-
J1, the first of the three joints of Props/C10Chain.lean: the tree REDUCER never invents a group number.

`capN sl x` (Model/ChainHyps.lean) asks `capQ sl` of every node of `x` and an option word below the tag base of `toR`.
`capR sl r` is the same on the n-ary tree `RewriteDecisions.RNode` of the reused reductions, where a wrapped node
carries its numbers in its tag (`tagQ`).  Here: every function of `Model/RewriteDecisions.lean` the reducer reuses keeps
`capR` — they only move sub-trees, build leaves, and copy option words / tags.  `Lemmas/ReduceCapsBridge.lean` carries
`capN` across `toR` / `fromR` and through the reducer.

No proof here looks inside `capQ`: every `capR_*` lemma holds word for word of any test of (type, M, N) in its place;
what a test must satisfy is asked only in the Bridge.
-/
import RegexVerif.Lemmas.Reduce
import RegexVerif.Lemmas.RewritePassCases
import RegexVerif.Model.ChainHyps

namespace RegexVerif.Reduce
open RegexVerif.RewriteDecisions

/-- an option word that is a tag of `toR` names a node that satisfies `capQ` -/
def tagQ (sl : Int → Bool) (o : Nat) : Bool :=
  !isTag o || capQ sl (unpackTag o).t (unpackTag o).m (unpackTag o).n

mutual
/-- naked Ref / Capture / BackRefCond nodes satisfy `capQ` (as types 13, 28, 33; a Capture with `N = -1`, which `fromR`
    gives it), and so does every tag: the option words that the rewrites copy from node to node (One, One loops,
    Multi, Alternate, Concatenate) are tags only of good nodes -/
def capR (sl : Int → Bool) : RNode → Bool
  | .chr o p => !RewriteDecisions.isOneCP p || tagQ sl o
  | .cloop o _ p _ _ => !RewriteDecisions.isOneCP p || tagQ sl o
  | .multi o _ => tagQ sl o
  | .empty => true
  | .nothing => true
  | .bump => true
  | .anchor _ => true
  | .ref g _ => capQ sl 13 g 0
  | .alt o cs => tagQ sl o && capRs sl cs
  | .cat o cs => tagQ sl o && capRs sl cs
  | .loop _ _ _ b => capR sl b
  | .cap g b => capQ sl 28 g (-1) && capR sl b
  | .look _ _ b => capR sl b
  | .atomic b => capR sl b
  | .refCond g y n => capQ sl 33 g 0 && capR sl y && capR sl n
  | .exprCond c y n => capR sl c && capR sl y && capR sl n
def capRs (sl : Int → Bool) : List RNode → Bool
  | [] => true
  | x :: xs => capR sl x && capRs sl xs
end

section
variable (sl : Int → Bool)

theorem capRs_nil : capRs sl [] = true := by rw [capRs]
theorem capRs_cons (x : RNode) (xs : List RNode) : capRs sl (x :: xs) = (capR sl x && capRs sl xs) := by rw [capRs]

theorem capRs_append (a b : List RNode) : capRs sl (a ++ b) = (capRs sl a && capRs sl b) := by
  induction a with
  | nil => simp [capRs_nil]
  | cons x xs ih => simp [capRs_cons, ih, Bool.and_assoc]

/-- `capRs` as a statement about the members: the form in which the lemmas about the list walks are chained -/
abbrev CRs (l : List RNode) : Prop := ∀ x ∈ l, capR sl x = true

variable {sl}

theorem capRs_iff : ∀ (l : List RNode), capRs sl l = true ↔ ∀ x ∈ l, capR sl x = true
  | [] => by simp [capRs_nil]
  | x :: xs => by simp [capRs_cons, capRs_iff xs]

theorem CRs_append {a b : List RNode} (ha : CRs sl a) (hb : CRs sl b) : CRs sl (a ++ b) :=
  List.forall_mem_append.mpr ⟨ha, hb⟩

theorem CRs_cons {x : RNode} {l : List RNode} (hx : capR sl x = true) (hl : CRs sl l) : CRs sl (x :: l) :=
  List.forall_mem_cons.mpr ⟨hx, hl⟩

theorem CRs_tail {x : RNode} {l : List RNode} (h : CRs sl (x :: l)) : CRs sl l :=
  (List.forall_mem_cons.mp h).2

theorem CRs_head {x : RNode} {l : List RNode} (h : CRs sl (x :: l)) : capR sl x = true :=
  (List.forall_mem_cons.mp h).1

theorem CRs_sub {a b : List RNode} (hsub : a ⊆ b) (hb : CRs sl b) : CRs sl a :=
  fun x hx => hb x (hsub hx)

theorem CRs_map (g : RNode → RNode) {l : List RNode} (hg : ∀ x, capR sl x = true → capR sl (g x) = true)
    (h : CRs sl l) : CRs sl (l.map g) :=
  List.forall_mem_map.mpr fun x hx => hg x (h x hx)
theorem CRs_nil : CRs sl [] := fun _ h => nomatch h
theorem CRs_single {x : RNode} (h : capR sl x = true) : CRs sl [x] := List.forall_mem_singleton.mpr h

theorem capR_alt_of {o : Nat} {cs : List RNode} (ho : tagQ sl o = true) (h : CRs sl cs) : capR sl (.alt o cs) = true := by
  rw [capR, ho, (capRs_iff cs).mpr h]; rfl
theorem capR_cat_of {o : Nat} {cs : List RNode} (ho : tagQ sl o = true) (h : CRs sl cs) : capR sl (.cat o cs) = true := by
  rw [capR, ho, (capRs_iff cs).mpr h]; rfl
theorem capR_alt_inv {o : Nat} {cs : List RNode} (h : capR sl (.alt o cs) = true) : tagQ sl o = true ∧ CRs sl cs := by
  rw [capR, Bool.and_eq_true] at h
  exact ⟨h.1, (capRs_iff cs).mp h.2⟩
theorem capR_cat_inv {o : Nat} {cs : List RNode} (h : capR sl (.cat o cs) = true) : tagQ sl o = true ∧ CRs sl cs := by
  rw [capR, Bool.and_eq_true] at h
  exact ⟨h.1, (capRs_iff cs).mp h.2⟩

/-! ### flattening; the callback -/

variable (sl)

mutual
theorem capR_flatAlt : ∀ (r : RNode), capR sl r = true → CRs sl (flatAlt r) := by
  intro r h
  cases r with
  | alt o cs => rw [flatAlt]; exact capR_flatAlts cs (capR_alt_inv h).2
  | _ => simp only [flatAlt]; exact CRs_single h
theorem capR_flatAlts : ∀ (l : List RNode), CRs sl l → CRs sl (flatAlts l)
  | [], _ => by rw [flatAlts]; exact CRs_nil
  | x :: xs, h => by
    rw [flatAlts]
    exact CRs_append (capR_flatAlt x (CRs_head h)) (capR_flatAlts xs (CRs_tail h))
end

mutual
theorem capR_flatCat : ∀ (r : RNode), capR sl r = true → CRs sl (flatCat r) := by
  intro r h
  cases r with
  | cat o cs => rw [flatCat]; exact capR_flatCats cs (capR_cat_inv h).2
  | _ => simp only [flatCat]; exact CRs_single h
theorem capR_flatCats : ∀ (l : List RNode), CRs sl l → CRs sl (flatCats l)
  | [], _ => by rw [flatCats]; exact CRs_nil
  | x :: xs, h => by
    rw [flatCats]
    exact CRs_append (capR_flatCat x (CRs_head h)) (capR_flatCats xs (CRs_tail h))
end

abbrev RedCaps (red : Bool → RNode → RNode) : Prop := ∀ (pa : Bool) (r : RNode), capR sl r = true → capR sl (red pa r) = true

variable {sl}

/-! ### `reduceAlternation` -/

theorem capR_mkAlt {o : Nat} {cs : List RNode} (ho : tagQ sl o = true) (h : CRs sl cs) : capR sl (mkAlt o cs) = true := by
  unfold mkAlt
  split
  · rw [capR]
  · exact h _ (List.mem_cons_self ..)
  · exact capR_alt_of ho h

theorem capR_mkCat {o : Nat} {cs : List RNode} (ho : tagQ sl o = true) (h : CRs sl cs) : capR sl (mkCat o cs) = true := by
  unfold mkCat
  split
  · rw [capR]
  · exact h _ (List.mem_cons_self ..)
  · exact capR_cat_of ho h

theorem capR_strNode {o : Nat} (ho : tagQ sl o = true) (cs : List Nat) : capR sl (strNode o cs) = true := by
  unfold strNode
  split
  · rw [capR]
  · rw [capR]; simp [ho]
  · rw [capR]; exact ho

theorem capR_mergeGo (ll : Bool) : ∀ (rest out : List RNode) (w c : Bool), CRs sl out → CRs sl rest →
    CRs sl (mergeGo ll out w c rest)
  | [], out, w, c, ho, _ => by rw [mergeGo]; exact ho
  | nd :: rest, out, w, c, ho, hr => by
    have ih := capR_mergeGo ll rest
    exact mergeGo_cases ll out w c nd rest (fun _ => ih _ _ _ ho (CRs_tail hr))
      (fun _ _ _ => ih _ _ _ (CRs_append ho (CRs_single (CRs_head hr))) (CRs_tail hr))
      (fun _ _ _ _ _ => ih _ _ _ (CRs_append (CRs_sub (List.dropLast_subset _) ho) (CRs_single (by rw [capR]; rfl))) (CRs_tail hr))

theorem tagQ_strOf {r : RNode} {o : Nat} {s : List Nat} (h : capR sl r = true) (hs : strOf r = some (o, s)) :
    tagQ sl o = true := by
  unfold strOf at hs
  split at hs
  · simp only [Option.some.injEq, Prod.mk.injEq] at hs
    rw [capR] at h
    simpa [RewriteDecisions.isOneCP, hs.1] using h
  · simp only [Option.some.injEq, Prod.mk.injEq] at hs
    rw [capR] at h
    rw [← hs.1]; exact h
  · cases hs

theorem tagQ_startOf {r : RNode} {o : Nat} {s : List Nat} (h : capR sl r = true) (hs : startOf r = some (o, s)) :
    tagQ sl o = true := by
  unfold startOf at hs
  split at hs
  · exact tagQ_strOf (CRs_head (capR_cat_inv h).2) hs
  · cases hs
  · exact tagQ_strOf h hs

theorem capR_stripPrefix (k : Nat) {b : RNode} (h : capR sl b = true) : capR sl (stripPrefix k b) = true := by
  unfold stripPrefix
  split
  · rename_i o c cs
    have hi := capR_cat_inv h
    split
    · rename_i so s hso
      exact capR_cat_of hi.1 (CRs_cons (capR_strNode (tagQ_strOf (CRs_head hi.2) hso) _) (CRs_tail hi.2))
    · exact h
  · split
    · rename_i so s hso
      exact capR_strNode (tagQ_strOf h hso) _
    · exact h


theorem capR_atomic_of {b : RNode} (h : capR sl b = true) : capR sl (.atomic b) = true := by rw [capR]; exact h

/-- the node both prefix extractions put in place of a group of branches -/
theorem capR_factored {red : Bool → RNode → RNode} (hred : RedCaps sl red) (pa : Bool) {o : Nat} (ho : tagQ sl o = true)
    {first : RNode} (hf : capR sl first = true) {bs : List RNode} (hbs : CRs sl bs) :
    capR sl (red false (.cat o [first,
      if pa then red false (.atomic (red true (.alt o bs))) else red false (.alt o bs)])) = true := by
  have halt := capR_alt_of ho hbs
  exact hred _ _ (capR_cat_of ho (CRs_cons hf (CRs_single
    (ite_cases_true (fun _ => hred _ _ (capR_atomic_of (hred _ _ halt))) fun _ => hred _ _ halt))))

theorem capR_factorTextGo {red : Bool → RNode → RNode} (hred : RedCaps sl red) (pa : Bool) :
    ∀ (fuel : Nat) (cs : List RNode), CRs sl cs → CRs sl (factorTextGo red pa fuel cs)
  | 0, cs, h => by rw [factorTextGo]; exact h
  | _ + 1, [], h => by rw [factorTextGo]; exact h
  | _ + 1, [x], h => by rw [factorTextGo]; exact h
  | fuel + 1, x :: y :: rest, h => by
    have ih := capR_factorTextGo hred pa fuel
    rw [factorTextGo]
    split
    · exact h
    · rename_i so span hso
      have hso' := tagQ_startOf (CRs_head h) hso
      simp only []
      split
      · exact CRs_cons (CRs_head h) (ih _ (CRs_tail h))
      · exact CRs_cons (capR_factored hred pa hso' (capR_strNode hso' _)
          (CRs_map _ (fun b hb => hred _ _ (hred _ _ (capR_stripPrefix _ hb)))
            (CRs_cons (CRs_head h) (CRs_sub (List.take_subset _ _) (CRs_tail h))))) (ih _ (CRs_sub (List.drop_subset _ _) (CRs_tail h)))

theorem capR_factorText {red : Bool → RNode → RNode} (hred : RedCaps sl red) (pa : Bool) {o : Nat} {cs : List RNode}
    (ho : tagQ sl o = true) (h : CRs sl cs) : capR sl (factorText red pa o cs) = true := by
  unfold factorText
  have := capR_factorTextGo hred pa cs.length cs h
  split
  · rename_i c hc
    rw [hc] at this
    exact CRs_head this
  · exact capR_alt_of ho this

theorem capR_firstOf {r c : RNode} (h : capR sl r = true) (hf : firstOf r = some c) : capR sl c = true := by
  unfold firstOf at hf
  split at hf
  · simp only [Option.some.injEq] at hf
    rw [← hf]
    exact CRs_head (capR_cat_inv h).2
  · cases hf

theorem capR_dropFirst {r : RNode} (h : capR sl r = true) : capR sl (dropFirst r) = true := by
  unfold dropFirst
  split
  · have hi := capR_cat_inv h
    exact capR_cat_of hi.1 (CRs_tail hi.2)
  · exact h

theorem capR_factorSetGo {red : Bool → RNode → RNode} (hred : RedCaps sl red) (fk pa : Bool) {o : Nat}
    (ho : tagQ sl o = true) :
    ∀ (fuel : Nat) (cs : List RNode), CRs sl cs → CRs sl (factorSetGo red fk pa o fuel cs)
  | 0, cs, h => by rw [factorSetGo]; exact h
  | _ + 1, [], h => by rw [factorSetGo]; exact h
  | _ + 1, [x], h => by rw [factorSetGo]; exact h
  | fuel + 1, x :: y :: rest, h => by
    have ih := capR_factorSetGo hred fk pa ho fuel
    have hskip : CRs sl (x :: factorSetGo red fk pa o fuel (y :: rest)) :=
      CRs_cons (CRs_head h) (ih _ (CRs_tail h))
    rw [factorSetGo]
    split
    · exact hskip
    · rename_i req hreq
      split
      · exact hskip
      · simp only []
        split
        · exact hskip
        · exact CRs_cons (capR_factored hred pa ho (capR_firstOf (CRs_head h) hreq)
            (CRs_map _ (fun b hb => hred _ _ (capR_dropFirst hb)) (CRs_cons (CRs_head h) (CRs_sub (List.take_subset _ _) (CRs_tail h)))))
            (ih _ (CRs_sub (List.drop_subset _ _) (CRs_tail h)))

theorem capR_factorSet {red : Bool → RNode → RNode} (hred : RedCaps sl red) (fk pa : Bool) {o : Nat} {cs : List RNode}
    (ho : tagQ sl o = true) (h : CRs sl cs) : capR sl (factorSet red fk pa o cs) = true := by
  unfold factorSet
  split
  · exact capR_mkAlt ho (capR_factorSetGo hred fk pa ho _ _ h)
  · exact capR_alt_of ho h

theorem capR_removeEmptiesGo (ll : Bool) : ∀ (cs : List RNode) (seen : Bool), CRs sl cs → CRs sl (removeEmptiesGo ll seen cs)
  | [], _, h => by rw [removeEmptiesGo]; exact h
  | c :: cs, seen, h => by
    have ih := capR_removeEmptiesGo ll cs
    rw [removeEmptiesGo.eq_def]
    simp only []
    split
    · exact ih _ (CRs_tail h)
    · split
      · exact ih _ (CRs_tail h)
      · exact CRs_cons (CRs_head h) (ih _ (CRs_tail h))
    · exact CRs_cons (CRs_head h) (ih _ (CRs_tail h))

theorem capR_reduceAltFrom {red : Bool → RNode → RNode} (hred : RedCaps sl red) (ll fk on pa rtl : Bool) {r : RNode}
    (h : capR sl r = true) : capR sl (reduceAltFrom red ll fk on pa rtl r) = true := by
  unfold reduceAltFrom
  split
  · rename_i o1 cs1
    have hi := capR_alt_inv h
    have h2 : capR sl (if on && !rtl then factorText red pa o1 cs1 else .alt o1 cs1) = true :=
      ite_cases_true (fun _ => capR_factorText hred pa hi.1 hi.2) fun _ => h
    generalize (if on && !rtl then factorText red pa o1 cs1 else RNode.alt o1 cs1) = r2 at h2
    split
    · rename_i o2 cs2
      have hi2 := capR_alt_inv h2
      have h3 : capR sl (if on && !rtl then factorSet red fk pa o2 cs2 else .alt o2 cs2) = true :=
        ite_cases_true (fun _ => capR_factorSet hred fk pa hi2.1 hi2.2) fun _ => h2
      generalize (if on && !rtl then factorSet red fk pa o2 cs2 else RNode.alt o2 cs2) = r3 at h3
      split
      · rename_i o3 cs3
        have hi3 := capR_alt_inv h3
        exact capR_mkAlt hi3.1 (capR_removeEmptiesGo ll _ _ hi3.2)
      · exact h3
    · exact h2
  · exact h

theorem capR_reduceAlt {red : Bool → RNode → RNode} (hred : RedCaps sl red) (ll fk on pa rtl : Bool) {o : Nat}
    {cs : List RNode} (ho : tagQ sl o = true) (h : CRs sl cs) : capR sl (reduceAlt red ll fk on pa rtl o cs) = true := by
  unfold reduceAlt
  split
  · rw [capR]
  · exact CRs_head h
  · exact capR_reduceAltFrom hred ll fk on pa rtl (capR_mkAlt ho (capR_mergeGo ll _ _ _ _ CRs_nil (capR_flatAlts sl cs h)))

/-! ### `reduceConcatenation` -/


theorem capR_multi_of {o : Nat} (ho : tagQ sl o = true) (cs : List Nat) : capR sl (.multi o cs) = true := by
  rw [capR]; exact ho

theorem capR_joinGo (rtl : Bool) : ∀ (rest out : List RNode) (w : Bool), CRs sl out → CRs sl rest →
    CRs sl (joinGo rtl out w rest)
  | [], out, w, ho, _ => by rw [joinGo]; exact ho
  | nd :: rest, out, w, ho, hr => by
    have ih := capR_joinGo rtl rest
    refine joinGo_cases rtl out w nd rest (fun _ => ih _ _ ho (CRs_tail hr))
      (fun _ _ => ih _ _ (CRs_append ho (CRs_single (CRs_head hr))) (CRs_tail hr)) (fun hl hls _ => ?_)
    exact ih _ _ (CRs_append (CRs_sub (List.dropLast_subset _) ho) (CRs_single
      (capR_multi_of (tagQ_strOf (ho _ (List.mem_of_getLast? hl)) hls) _))) (CRs_tail hr)

/-- of a One / Notone / Set node or loop `capR` reads the test and the option word only: the rewrites copy the option
    word of a One -/
theorem capR_chr_iff {o : Nat} {p : CP} :
    capR sl (.chr o p) = true ↔ (RewriteDecisions.isOneCP p = true → tagQ sl o = true) := by
  rw [capR]
  cases RewriteDecisions.isOneCP p <;> simp

theorem capR_cloop_iff {o : Nat} {p : CP} {k : LK} {lo : Nat} {hi : Option Nat} :
    capR sl (.cloop o k p lo hi) = true ↔ (RewriteDecisions.isOneCP p = true → tagQ sl o = true) := by
  rw [capR]
  cases RewriteDecisions.isOneCP p <;> simp

theorem capR_multi_inv {o : Nat} {cs : List Nat} (h : capR sl (.multi o cs) = true) : tagQ sl o = true := by
  rw [capR] at h; exact h

theorem capR_combineFull (rtl : Bool) {cur nx c' : RNode} {onx : Option RNode} (hc : capR sl cur = true)
    (hn : capR sl nx = true) (h : combineFull rtl cur nx = some (c', onx)) :
    capR sl c' = true ∧ ∀ n', onx = some n' → capR sl n' = true := by
  -- one block per pair of shapes, in model order; the combined node is a loop with the option word and test of `cur`
  unfold combineFull at h
  split at h
  · -- loop, loop
    split at h
    · split at h
      · cases h
      · split at h
        · cases h
        · cases h
          exact ⟨capR_cloop_iff.mpr (capR_cloop_iff.mp hc), nofun⟩
    · cases h
  · -- loop, single character
    split at h
    · split at h
      · cases h
        exact ⟨capR_cloop_iff.mpr (capR_cloop_iff.mp hc), nofun⟩
      · cases h
    · cases h
  · -- One loop, Multi: what is left of the Multi (nothing, a One, a Multi) keeps the Multi's option word
    split at h
    · simp only [] at h
      split at h
      · cases h
        refine ⟨capR_cloop_iff.mpr (capR_cloop_iff.mp hc), fun n' hn' => ?_⟩
        have ho' := capR_multi_inv hn
        split at hn'
        · cases hn'
        · cases hn'
          exact capR_chr_iff.mpr (fun _ => ho')
        · cases hn'
          exact capR_multi_of ho' _
      · cases h
    · cases h
  · -- single character, loop
    split at h
    · rename_i hcond
      split at h
      · cases h
        exact ⟨capR_cloop_iff.mpr (capR_chr_iff.mp hc), nofun⟩
      · cases h
    · cases h
  · -- two equal single characters that are not a One: nothing is asked of the option word
    split at h
    · rename_i hcond
      cases h
      exact ⟨capR_cloop_iff.mpr (fun hp => by rw [hcond.2.2] at hp; cases hp), nofun⟩
    · cases h
  · cases h

theorem capR_combine (ll rtl : Bool) {cur nx c' : RNode} {onx : Option RNode} (hc : capR sl cur = true)
    (hn : capR sl nx = true) (h : combine ll rtl cur nx = some (c', onx)) :
    capR sl c' = true ∧ ∀ n', onx = some n' → capR sl n' = true := by
  unfold combine at h
  split at h
  · exact capR_combineFull rtl hc hn h
  · split at h
    · split at h
      · cases h
      · exact capR_combineFull rtl hc hn h
    · cases h

theorem capR_coalesceGo (ll rtl : Bool) : ∀ (rest : List RNode) (cur : RNode), capR sl cur = true → CRs sl rest →
    CRs sl (coalesceGo ll rtl cur rest)
  | [], cur, hc, _ => by rw [coalesceGo]; exact CRs_single hc
  | nx :: rest, cur, hc, hr => by
    have ih := capR_coalesceGo ll rtl rest
    have hn := CRs_head hr
    have hrest := CRs_tail hr
    rw [coalesceGo]
    split
    · rename_i cur' heq
      exact ih _ (capR_combine ll rtl hc hn heq).1 hrest
    · rename_i cur' nx' heq
      have := capR_combine ll rtl hc hn heq
      exact CRs_cons this.1 (ih _ (this.2 _ rfl) hrest)
    · exact CRs_cons hc (ih _ hn hrest)

theorem capR_coalesce (ll rtl : Bool) {cs : List RNode} (h : CRs sl cs) : CRs sl (coalesce ll rtl cs) := by
  unfold coalesce
  split
  · exact CRs_nil
  · exact capR_coalesceGo ll rtl _ _ (CRs_head h) (CRs_tail h)

theorem capR_reduceCat (ll rtl : Bool) {o : Nat} {cs : List RNode} (ho : tagQ sl o = true) (h : CRs sl cs) :
    capR sl (reduceCat ll rtl o cs) = true := by
  unfold reduceCat
  split
  · rw [capR]
  · exact CRs_head h
  · split
    · rw [capR]
    · exact capR_mkCat ho (capR_joinGo rtl _ _ _ CRs_nil (capR_flatCats sl _ (capR_coalesce ll rtl h)))

/-! ### `reduceAtomic`, `makeLoopAtomic`, `placeBump` -/

theorem capR_makeLoopAtomic {r : RNode} (h : capR sl r = true) : capR sl (RewriteDecisions.makeLoopAtomic r) = true := by
  unfold RewriteDecisions.makeLoopAtomic
  split
  · exact capR_cloop_iff.mpr (capR_cloop_iff.mp h)
  · split
    · rw [capR]
    · split
      · split
        · exact capR_multi_of (capR_cloop_iff.mp h rfl) _
        · exact capR_cloop_iff.mpr (capR_cloop_iff.mp h)
      · exact capR_cloop_iff.mpr (capR_cloop_iff.mp h)
  · exact h

theorem capR_trimGo : ∀ (l : List RNode), CRs sl l → CRs sl (trimAfterEmpty.go l)
  | [], h => by rw [trimAfterEmpty.go]; exact h
  | [x], h => by rw [trimAfterEmpty.go]; exact h
  | x :: y :: rest, h => by
    rw [trimAfterEmpty.go]
    split
    · exact CRs_single (CRs_head h)
    · exact CRs_cons (CRs_head h) (capR_trimGo (y :: rest) (CRs_tail h))

theorem capR_trimAfterEmpty {l : List RNode} (h : CRs sl l) : CRs sl (trimAfterEmpty l) := by
  unfold trimAfterEmpty
  split
  · exact h
  · exact CRs_cons (CRs_head h) (capR_trimGo _ (CRs_tail h))

theorem capR_groupByFirst : ∀ (fuel : Nat) (l : List RNode), CRs sl l → CRs sl (groupByFirst fuel l).1
  | 0, l, h => by rw [groupByFirst]; exact h
  | _ + 1, [], h => by rw [groupByFirst]; exact h
  | fuel + 1, x :: xs, h => by
    rw [groupByFirst]
    simp only []
    exact CRs_cons (CRs_head h) (CRs_append (CRs_sub List.filter_sublist.subset (CRs_tail h))
      (capR_groupByFirst fuel _ (CRs_sub List.filter_sublist.subset (CRs_tail h))))

theorem capR_reorderGo : ∀ (fuel : Nat) (l : List RNode), CRs sl l → CRs sl (reorderGo fuel l).1
  | 0, l, h => by rw [reorderGo]; exact h
  | _ + 1, [], h => by rw [reorderGo]; exact h
  | fuel + 1, x :: xs, h => by
    have ih := capR_reorderGo fuel
    rw [reorderGo]
    split
    · exact CRs_cons (CRs_head h) (ih _ (CRs_tail h))
    · simp only []
      have hrun : CRs sl (x :: xs.takeWhile (fun b => (firstChar b).isSome)) :=
        CRs_cons (CRs_head h) (CRs_sub (List.takeWhile_subset _) (CRs_tail h))
      have hg : CRs sl (if 3 ≤ (x :: xs.takeWhile (fun b => (firstChar b).isSome)).length then
          groupByFirst (x :: xs.takeWhile (fun b => (firstChar b).isSome)).length (x :: xs.takeWhile (fun b => (firstChar b).isSome))
          else (x :: xs.takeWhile (fun b => (firstChar b).isSome), false)).1 := by
        split
        · exact capR_groupByFirst _ _ hrun
        · exact hrun
      have hdw := CRs_sub (List.dropWhile_subset fun b => (firstChar b).isSome) (CRs_tail h)
      split
      · exact hg
      · rename_i y ys heq
        rw [heq] at hdw
        exact CRs_append hg (CRs_cons (CRs_head hdw) (ih _ (CRs_tail hdw)))

theorem capR_reorder {l : List RNode} (h : CRs sl l) : CRs sl (reorder l).1 := capR_reorderGo _ _ h

theorem capR_atomic_inv {b : RNode} (h : capR sl (.atomic b) = true) : capR sl b = true := by rw [capR] at h; exact h

theorem capR_reduceAtomic {red : Bool → RNode → RNode} (hred : RedCaps sl red) (ll on rtl : Bool) :
    ∀ (r : RNode), capR sl r = true → capR sl (reduceAtomic red ll on rtl r) = true := by
  intro r
  induction r using reduceAtomic.induct ll on rtl with
  -- by the cases of `reduceAtomic`: 1 nested Atomic; 2, 3 Empty / Nothing; 4, 5 a single-character loop, left alone or
  -- made atomic; 6–10 an Alternate: rewrites off or right-to-left, no branch, first branch Empty, branches trimmed and
  -- reordered with (9) or without (10) a further reduction; 11 anything else
  | case1 b ih => intro h; rw [reduceAtomic]; exact ih (capR_atomic_inv h)
  | case2 => intro _; rw [reduceAtomic]; rw [capR]
  | case3 => intro _; rw [reduceAtomic]; rw [capR]
  | case4 o k p lo hi hc => intro h; rw [reduceAtomic, if_pos hc]; exact h
  | case5 o k p lo hi hc => intro h; rw [reduceAtomic, if_neg hc]; exact capR_makeLoopAtomic (capR_atomic_inv h)
  | case6 o bs hc => intro h; simp only [reduceAtomic, hc, if_true]; exact h
  | case7 o hc => intro h; simp only [reduceAtomic, hc]; exact h
  | case8 o hc b0 rest he => intro _; simp only [reduceAtomic, hc, he, if_true]; simp [capR]
  | case9 o hc b0 rest he r hr =>
    intro h
    have hi := capR_alt_inv (capR_atomic_inv h)
    have hr1 := capR_reorder (capR_trimAfterEmpty hi.2)
    simp only [reduceAtomic, hc, he]
    simp only [r] at hr
    simp only [hr, if_true, Bool.false_eq_true, if_false]
    exact capR_atomic_of (hred _ _ (capR_alt_of hi.1 hr1))
  | case10 o hc b0 rest he r hr =>
    intro h
    have hi := capR_alt_inv (capR_atomic_inv h)
    have hr1 := capR_reorder (capR_trimAfterEmpty hi.2)
    simp only [reduceAtomic, hc, he]
    simp only [r] at hr
    simp only [hr, Bool.false_eq_true, if_false]
    exact capR_atomic_of (capR_alt_of hi.1 hr1)
  | case11 n _ _ _ _ _ => intro h; rw [reduceAtomic]; exact h; all_goals assumption

theorem capR_placeBump : ∀ (ia ab : Bool) (r : RNode), capR sl r = true → capR sl (RewriteDecisions.placeBump ia ab r) = true := by
  intro ia ab r
  induction ia, ab, r using RewriteDecisions.placeBump.induct with
  | case1 ia ab b ih => intro h; rw [RewriteDecisions.placeBump]; exact capR_atomic_of (ih (capR_atomic_inv h))
  | case2 ia ab o c cs hb =>
    intro h
    have hi := capR_cat_inv h
    simp only [RewriteDecisions.placeBump, hb, if_true]
    exact capR_cat_of hi.1 (CRs_cons (CRs_head hi.2) (CRs_cons (by rw [capR]) (CRs_tail hi.2)))
  | case3 ia ab o c cs hb ih =>
    intro h
    have hi := capR_cat_inv h
    simp only [RewriteDecisions.placeBump, hb]
    exact capR_cat_of hi.1 (CRs_cons (ih (CRs_head hi.2)) (CRs_tail hi.2))
  | case4 ia ab n _ _ => intro h; rw [RewriteDecisions.placeBump]; exact h; all_goals assumption

end
end RegexVerif.Reduce
