/-
The scan loop (`Model/Scan.lean`).  `scan_eq_naive` is the model-level content of C03: with a sound candidate
finder, bump-along and minimum-length cut-off, `Runner.scan` returns what the naive scan (an attempt at every
position in scan order) returns.  `Props.C03.acceleration_transparent` restates it, `scanAt_eq_naive` is its form for
an `Engine`, `scanLoop_eq_naiveFrom` the loop itself; `plainEngine_sound` supplies the hypotheses for a matcher
without accelerators.  Everything after `scan_eq_naive` reasons about the naive scan: one step of the iteration
(`nextMatch_spec`), the FindNextMatch sequence (`iterFrom_spec`), and the three find-all loops, each delivering that
sequence minus adjacent empty matches, truncated (`findAll_eq_spec`, `compatAll_eq_spec`, `stdLoop_eq`).
-/
import RegexVerif.Model.Scan
import RegexVerif.Lemmas.Dir

namespace RegexVerif.Lemmas.Scan
open RegexVerif.Scan
open RegexVerif.Facts (Fwd)

/-! ### the naive scan -/

theorem mem_scanOrder (rtl : Bool) (n pos p : Nat) :
    p ∈ scanOrder rtl n pos ↔ if rtl then p ≤ pos else pos ≤ p ∧ p ≤ n := by
  cases rtl
  · simp [scanOrder, List.mem_range'_1]; omega
  · simp [scanOrder, List.mem_range]; omega

theorem scanOrder_step (rtl : Bool) (n pos : Nat) (h : pos ≤ n) :
    scanOrder rtl n pos = pos :: (if pos = stopPos rtl n then [] else scanOrder rtl n (bump rtl pos)) := by
  cases rtl
  · simp only [scanOrder, stopPos, bump, Bool.false_eq_true, if_false]
    have : n + 1 - pos = (n - pos) + 1 := by omega
    rw [this, List.range'_succ]
    by_cases hp : pos = n
    · subst hp; simp
    · simp only [hp, if_false]
      have : n - pos = n + 1 - (pos + 1) := by omega
      rw [this]
  · simp only [scanOrder, stopPos, bump, if_true]
    rw [List.range_succ, List.reverse_append]
    by_cases hp : pos = 0
    · subst hp; simp
    · simp only [hp, if_false]
      have : pos - 1 + 1 = pos := by omega
      rw [this]; simp

theorem naiveFrom_step (attempt : Nat → Option (Nat × Nat)) (rtl : Bool) (n pos : Nat) (h : pos ≤ n) :
    naiveFrom attempt rtl n pos =
      match attempt pos with
      | some m => some m
      | none => if pos = stopPos rtl n then none else naiveFrom attempt rtl n (bump rtl pos) := by
  unfold naiveFrom
  rw [scanOrder_step rtl n pos h]
  cases hA : attempt pos with
  | some m => simp [hA]
  | none =>
    by_cases hp : pos = stopPos rtl n
    · rw [if_pos hp, if_pos hp]; simp [hA]
    · simp [hA, hp]

theorem naiveFrom_eq_none (attempt : Nat → Option (Nat × Nat)) (rtl : Bool) (n pos : Nat)
    (h : ∀ p, p ∈ scanOrder rtl n pos → attempt p = none) : naiveFrom attempt rtl n pos = none := by
  unfold naiveFrom
  exact List.findSome?_eq_none_iff.mpr h

theorem naiveFrom_eq_some (attempt : Nat → Option (Nat × Nat)) (rtl : Bool) (n pos : Nat) (m : Nat × Nat)
    (h : naiveFrom attempt rtl n pos = some m) :
    ∃ p, p ∈ scanOrder rtl n pos ∧ attempt p = some m := by
  unfold naiveFrom at h
  obtain ⟨p, hp, hm⟩ := List.exists_of_findSome?_eq_some h
  exact ⟨p, hp, hm⟩

theorem naiveFrom_skip (attempt : Nat → Option (Nat × Nat)) (rtl : Bool) (n pos q : Nat) (hpos : pos ≤ n) (hq : q ≤ n)
    (hxy : Fwd rtl pos q)
    (hfail : ∀ p, (if rtl then q < p ∧ p ≤ pos else pos ≤ p ∧ p < q) → attempt p = none) :
    naiveFrom attempt rtl n pos = naiveFrom attempt rtl n q := by
  -- by induction on the number `k` of positions skipped
  have key : ∀ (k pos : Nat), pos ≤ n → (if rtl then pos = q + k else q = pos + k) →
      (∀ p, (if rtl then q < p ∧ p ≤ pos else pos ≤ p ∧ p < q) → attempt p = none) →
      naiveFrom attempt rtl n pos = naiveFrom attempt rtl n q := by
    intro k
    induction k with
    | zero =>
      intro pos _ hk _
      cases rtl
      · exact congrArg _ (Eq.symm hk)
      · exact congrArg _ hk
    | succ k ih =>
      intro pos hpos hk hfail
      cases rtl
      · have hk : q = pos + (k + 1) := hk
        rw [naiveFrom_step attempt false n pos hpos, hfail pos ⟨Nat.le_refl _, by omega⟩]
        show (if pos = n then none else naiveFrom attempt false n (pos + 1)) = _
        rw [if_neg (show ¬ pos = n by omega)]
        exact ih (pos + 1) (by omega) (show q = pos + 1 + k by omega) fun p hp =>
          have hp : pos + 1 ≤ p ∧ p < q := hp
          hfail p ⟨Nat.le_of_succ_le hp.1, hp.2⟩
      · have hk : pos = q + (k + 1) := hk
        rw [naiveFrom_step attempt true n pos hpos, hfail pos ⟨by omega, Nat.le_refl _⟩]
        show (if pos = 0 then none else naiveFrom attempt true n (pos - 1)) = _
        rw [if_neg (show ¬ pos = 0 by omega)]
        exact ih (pos - 1) (by omega) (show pos - 1 = q + k by omega) fun p hp =>
          have hp : q < p ∧ p ≤ pos - 1 := hp
          hfail p ⟨hp.1, Nat.le_trans hp.2 (Nat.sub_le _ _)⟩
  refine key (if rtl then pos - q else q - pos) pos hpos ?_ hfail
  cases rtl
  · exact (Nat.add_sub_cancel' hxy).symm
  · exact (Nat.add_sub_cancel' hxy).symm

/-! ### the accelerated scan loop equals the naive scan -/

theorem tooShort_all_fail (rtl : Bool) (n L pos : Nat) (attempt : Nat → Option (Nat × Nat))
    (hS : AttemptShape rtl n attempt) (hM : MinLenSound rtl n L attempt) (hpos : pos ≤ n)
    (h : tooShort rtl n L pos = true) : ∀ p, p ∈ scanOrder rtl n pos → attempt p = none := by
  intro p hp
  rw [mem_scanOrder] at hp
  cases hA : attempt p with
  | none => rfl
  | some m =>
    rw [tooShort, Bool.and_eq_true, decide_eq_true_eq] at h
    cases rtl
    · have hp : pos ≤ p ∧ p ≤ n := hp
      have h1 : m.1 = p ∧ m.1 + m.2 ≤ n := hS p m.1 m.2 hp.2 hA
      have h2 : L ≤ n - p := hM p m.1 m.2 hp.2 hA
      have := of_decide_eq_true h.2
      omega
    · have hp : p ≤ pos := hp
      have h2 : L ≤ p := hM p m.1 m.2 (by omega) hA
      have := of_decide_eq_true h.2
      omega

theorem bump_spec (rtl : Bool) (n pos : Nat) (hpos : pos ≤ n) (h : pos ≠ stopPos rtl n) :
    bump rtl pos ≤ n ∧ dist rtl n (bump rtl pos) + 1 = dist rtl n pos := by
  cases rtl
  · have hlt : pos < n := Nat.lt_of_le_of_ne hpos h
    exact ⟨hlt, Nat.sub_add_cancel (Nat.sub_pos_of_lt hlt)⟩
  · exact ⟨Nat.le_trans (Nat.sub_le pos 1) hpos, Nat.sub_add_cancel (Nat.pos_of_ne_zero h)⟩

theorem naiveFrom_skip_through (attempt : Nat → Option (Nat × Nat)) (rtl : Bool) (n x y : Nat) (hx : x ≤ n) (hy : y ≤ n)
    (hxy : Fwd rtl x y)
    (hfail : ∀ p, (if rtl then y ≤ p ∧ p ≤ x else x ≤ p ∧ p ≤ y) → attempt p = none) :
    naiveFrom attempt rtl n x =
      if y = stopPos rtl n then none else naiveFrom attempt rtl n (bump rtl y) := by
  have h1 : naiveFrom attempt rtl n x = naiveFrom attempt rtl n y := by
    refine naiveFrom_skip attempt rtl n x y hx hy hxy fun p hp => hfail p ?_
    cases rtl
    · exact ⟨hp.1, Nat.le_of_lt hp.2⟩
    · exact ⟨Nat.le_of_lt hp.1, hp.2⟩
  have h2 : attempt y = none := hfail y (by
    cases rtl
    · exact ⟨hxy, Nat.le_refl _⟩
    · exact ⟨Nat.le_refl _, hxy⟩)
  rw [h1, naiveFrom_step attempt rtl n y hy, h2]

theorem finder_spec {rtl : Bool} {n : Nat} {finder : Nat → Bool × Nat} {attempt : Nat → Option (Nat × Nat)}
    (hF : FinderSound rtl n finder attempt) (pos : Nat) (hpos : pos ≤ n) :
    (finder pos).2 ≤ n ∧ dist rtl n (finder pos).2 ≤ dist rtl n pos ∧
    ((finder pos).1 = true → naiveFrom attempt rtl n pos = naiveFrom attempt rtl n (finder pos).2) ∧
    ((finder pos).1 = false → naiveFrom attempt rtl n pos =
      if (finder pos).2 = stopPos rtl n then none else naiveFrom attempt rtl n (bump rtl (finder pos).2)) := by
  have hf := hF pos hpos
  generalize finder pos = r at hf
  cases rtl
  · obtain ⟨h1, h2, h3, h4⟩ : pos ≤ r.2 ∧ r.2 ≤ n ∧ _ ∧ _ := hf
    refine ⟨h2, Nat.sub_le_sub_left h1 n, fun hb => ?_, fun hb => ?_⟩
    · exact naiveFrom_skip attempt false n pos r.2 hpos h2 h1 fun p hp => h3 hb p hp.1 hp.2
    · exact naiveFrom_skip_through attempt false n pos r.2 hpos h2 h1 fun p hp => h4 hb p hp.1 hp.2
  · obtain ⟨h1, h3, h4⟩ : r.2 ≤ pos ∧ _ ∧ _ := hf
    have h2 : r.2 ≤ n := Nat.le_trans h1 hpos
    refine ⟨h2, h1, fun hb => ?_, fun hb => ?_⟩
    · exact naiveFrom_skip attempt true n pos r.2 hpos h2 h1 fun p hp => h3 hb p hp.1 hp.2
    · exact naiveFrom_skip_through attempt true n pos r.2 hpos h2 h1 fun p hp => h4 hb p hp.1 hp.2

theorem after_spec {rtl : Bool} {n : Nat} {after : Nat → Nat} {attempt : Nat → Option (Nat × Nat)}
    (hA : AfterSound rtl n after attempt) (q : Nat) (hq : q ≤ n) (hfail : attempt q = none) :
    after q ≤ n ∧ dist rtl n (after q) ≤ dist rtl n q ∧
    naiveFrom attempt rtl n q =
      if after q = stopPos rtl n then none else naiveFrom attempt rtl n (bump rtl (after q)) := by
  have ha := hA q hq hfail
  generalize after q = r at ha
  cases rtl
  · obtain ⟨h1, h2, h3⟩ : q ≤ r ∧ r ≤ n ∧ _ := ha
    refine ⟨h2, Nat.sub_le_sub_left h1 n, naiveFrom_skip_through attempt false n q r hq h2 h1 fun p hp => ?_⟩
    by_cases hpq : p = q
    · rw [hpq]; exact hfail
    · exact h3 p (Nat.lt_of_le_of_ne hp.1 (Ne.symm hpq)) hp.2
  · obtain ⟨h1, h3⟩ : r ≤ q ∧ _ := ha
    have h2 : r ≤ n := Nat.le_trans h1 hq
    refine ⟨h2, h1, naiveFrom_skip_through attempt true n q r hq h2 h1 fun p hp => ?_⟩
    by_cases hpq : p = q
    · rw [hpq]; exact hfail
    · exact h3 p hp.1 (Nat.lt_of_le_of_ne hp.2 hpq)

/-- no bump-along: a failed execution leaves the scan position where it started -/
theorem afterSound_id (rtl : Bool) (n : Nat) (attempt : Nat → Option (Nat × Nat)) : AfterSound rtl n id attempt := by
  intro q hq _
  cases rtl
  · exact ⟨Nat.le_refl _, hq, fun p h1 h2 => absurd h1 (Nat.not_lt.mpr h2)⟩
  · exact ⟨Nat.le_refl _, fun p h1 h2 => absurd h2 (Nat.not_lt.mpr h1)⟩

/-- the trivial finder (`NoSearch`): every position is a candidate.  `(true, stopPos)` at the end of the scan is
    a legal answer: the attempt there is made, and on its failure the loop's test `after … = stopPos` ends the scan -/
theorem finderSound_here (rtl : Bool) (n : Nat) (attempt : Nat → Option (Nat × Nat)) :
    FinderSound rtl n (fun pos => (true, pos)) attempt := by
  intro pos hpos
  cases rtl
  · exact ⟨Nat.le_refl _, hpos, fun _ p h1 h2 => absurd h2 (Nat.not_lt.mpr h1), nofun⟩
  · exact ⟨Nat.le_refl _, fun _ p h1 h2 => absurd h1 (Nat.not_lt.mpr h2), nofun⟩

theorem minLenSound_zero (rtl : Bool) (n : Nat) (attempt : Nat → Option (Nat × Nat)) : MinLenSound rtl n 0 attempt :=
  fun p i l _ _ => by cases rtl <;> exact Nat.zero_le _

theorem plainEngine_sound (rtl : Bool) (n : Nat) (att : Nat → Nat → Option (Nat × Nat))
    (h : ∀ ts, ts ≤ n → AttemptShape rtl n (att ts)) :
    Engine.Sound { finder := fun _ pos => (true, pos), after := fun _ q => q, attempt := att, minLen := 0 } rtl n where
  shape := h
  finder := fun _ _ => finderSound_here rtl n _
  after := fun _ _ => afterSound_id rtl n _
  minLen := fun _ _ => minLenSound_zero rtl n _

/-- The loop of `Runner.scan` started at `pos` finds exactly the first successful attempt at or after
    `pos` in scan order, provided the fuel covers the positions ahead. -/
theorem scanLoop_eq_naiveFrom (finder : Nat → Bool × Nat) (after : Nat → Nat) (attempt : Nat → Option (Nat × Nat))
    (rtl : Bool) (n L : Nat)
    (hS : AttemptShape rtl n attempt) (hF : FinderSound rtl n finder attempt)
    (hA : AfterSound rtl n after attempt) (hM : MinLenSound rtl n L attempt) :
    ∀ (fuel pos : Nat), pos ≤ n → dist rtl n pos < fuel →
      scanLoop finder after attempt rtl n L fuel pos = naiveFrom attempt rtl n pos := by
  intro fuel
  induction fuel with
  | zero => intro pos _ h; exact absurd h (Nat.not_lt_zero _)
  | succ fuel ih =>
    intro pos hpos hfuel
    -- the scan goes on one step behind `y`, which is no further from the end than `pos`
    have next : ∀ y, y ≤ n → dist rtl n y ≤ dist rtl n pos →
        (if y = stopPos rtl n then none else scanLoop finder after attempt rtl n L fuel (bump rtl y)) =
        if y = stopPos rtl n then none else naiveFrom attempt rtl n (bump rtl y) := by
      intro y hy hd
      split
      · rfl
      · rename_i hst
        obtain ⟨h1, h2⟩ := bump_spec rtl n y hy hst
        exact ih _ h1 (by omega)
    rw [scanLoop]
    split
    · rename_i hts
      exact (naiveFrom_eq_none attempt rtl n pos (tooShort_all_fail rtl n L pos attempt hS hM hpos hts)).symm
    · obtain ⟨hqn, hqd, hfound, hnone⟩ := finder_spec hF pos hpos
      cases hb : (finder pos).1 with
      | false =>
        rw [hnone hb]
        exact next _ hqn hqd
      | true =>
        rw [hfound hb, if_pos rfl]
        cases hq : attempt (finder pos).2 with
        | some m => rw [naiveFrom_step attempt rtl n _ hqn, hq]
        | none =>
          obtain ⟨han, had, hgo⟩ := after_spec hA _ hqn hq
          rw [hgo]
          exact next _ han (Nat.le_trans had hqd)

/-- **Acceleration is transparent**: `Runner.scan` from `start` with previous match length `prevLen` returns the
    result of the naive scan from `start` (one further when `prevLen = 0`) and resumes at the match's end in scan
    direction. -/
theorem scan_eq_naive (finder : Nat → Bool × Nat) (after : Nat → Nat) (attempt : Nat → Option (Nat × Nat))
    (rtl : Bool) (n L : Nat)
    (hS : AttemptShape rtl n attempt) (hF : FinderSound rtl n finder attempt)
    (hA : AfterSound rtl n after attempt) (hM : MinLenSound rtl n L attempt)
    (start : Nat) (prevLen : Int) (hstart : start ≤ n) :
    scan finder after attempt start prevLen rtl n L = (naive attempt start prevLen rtl n).map (Hit.ofSpan rtl) := by
  have key : ∀ pos, pos ≤ n → scanLoop finder after attempt rtl n L (n + 1) pos = naiveFrom attempt rtl n pos :=
    fun pos hpos => scanLoop_eq_naiveFrom finder after attempt rtl n L hS hF hA hM (n + 1) pos hpos
      (Nat.lt_succ_of_le (dist_le rtl hpos))
  unfold scan naive
  split
  · split
    · rfl
    · rename_i hs
      rw [key _ (bump_spec rtl n start hstart hs).1]
  · rw [key _ hstart]

theorem naive_eq_some (attempt : Nat → Option (Nat × Nat)) (rtl : Bool) (n start : Nat) (prevLen : Int)
    (m : Nat × Nat) (hstart : start ≤ n) (h : naive attempt start prevLen rtl n = some m) :
    ∃ p, p ≤ n ∧ attempt p = some m ∧
      (if rtl then p + (if prevLen = 0 then 1 else 0) ≤ start else start + (if prevLen = 0 then 1 else 0) ≤ p) := by
  unfold naive at h
  by_cases hp : prevLen = 0
  · simp only [hp, if_true] at h ⊢
    by_cases hs : start = stopPos rtl n
    · simp [hs] at h
    · simp only [hs, if_false] at h
      obtain ⟨p, hmem, hm⟩ := naiveFrom_eq_some attempt rtl n _ m h
      rw [mem_scanOrder] at hmem
      refine ⟨p, ?_, hm, ?_⟩
      · cases rtl <;> simp [bump, stopPos] at hmem hs <;> omega
      · cases rtl <;> simp [bump, stopPos] at hmem hs ⊢ <;> omega
  · simp only [hp, if_false] at h ⊢
    obtain ⟨p, hmem, hm⟩ := naiveFrom_eq_some attempt rtl n _ m h
    rw [mem_scanOrder] at hmem
    refine ⟨p, ?_, hm, ?_⟩
    · cases rtl <;> simp at hmem <;> omega
    · cases rtl <;> simp at hmem ⊢ <;> omega

/-! ### one step of the iteration -/

theorem valid_textpos_le {rtl : Bool} {n : Nat} {h : Hit} (hv : h.Valid rtl n) : h.textpos ≤ n := by
  obtain ⟨h1, h2⟩ := hv
  rw [h2]; cases rtl <;> simp [scanEnd] <;> omega

theorem scanAt_eq_naive (E : Engine) (rtl : Bool) (n : Nat) (hE : E.Sound rtl n) (start : Nat) (prevLen : Int)
    (hstart : start ≤ n) :
    scanAt E rtl n start prevLen = (naive (E.attempt start) start prevLen rtl n).map (Hit.ofSpan rtl) :=
  scan_eq_naive _ _ _ rtl n _ (hE.shape start hstart) (hE.finder start hstart) (hE.after start hstart)
    (hE.minLen start hstart) start prevLen hstart

theorem scanAt_spec (E : Engine) (rtl : Bool) (n : Nat) (hE : E.Sound rtl n) (start : Nat) (prevLen : Int)
    (hstart : start ≤ n) (h : Hit) (hh : scanAt E rtl n start prevLen = some h) :
    h.Valid rtl n ∧
      (if rtl then scanStart rtl h.span + (if prevLen = 0 then 1 else 0) ≤ start
       else start + (if prevLen = 0 then 1 else 0) ≤ scanStart rtl h.span) := by
  rw [scanAt_eq_naive E rtl n hE start prevLen hstart] at hh
  cases hn : naive (E.attempt start) start prevLen rtl n with
  | none => simp [hn] at hh
  | some m =>
    simp only [hn, Option.map_some, Option.some.injEq] at hh
    obtain ⟨p, hpn, hm, hpos⟩ := naive_eq_some _ rtl n start prevLen m hstart hn
    obtain ⟨i, l⟩ := m
    have hs := hE.shape start hstart p i l hpn hm
    subst hh
    constructor
    · constructor
      · cases rtl <;> simp [Hit.ofSpan] at hs ⊢ <;> omega
      · simp [Hit.ofSpan]
    · cases rtl <;> simp [Hit.ofSpan, Hit.span, scanStart] at hs hpos ⊢ <;> omega

/-- the measure of the iteration: scan positions strictly ahead of the position the attempt that found `h` started at -/
def ahead (rtl : Bool) (n : Nat) (h : Hit) : Nat := dist rtl n (scanStart rtl h.span)

theorem before_trans {rtl : Bool} {a b c : Hit} (h1 : a.Before rtl b) (h2 : b.Before rtl c) : a.Before rtl c := by
  cases rtl <;> simp [Hit.Before] at h1 h2 ⊢ <;> omega

theorem before_starts_disjoint {rtl : Bool} {a b : Hit} (h : a.Before rtl b) :
    (if rtl then scanStart rtl b.span < scanStart rtl a.span else scanStart rtl a.span < scanStart rtl b.span) ∧
    (if rtl then b.index + b.len ≤ a.index else a.index + a.len ≤ b.index) := by
  cases rtl <;> simp [Hit.Before, scanStart, Hit.span] at h ⊢ <;> omega

theorem before_span_ne {rtl : Bool} {a b : Hit} (h : a.Before rtl b) : a.span ≠ b.span := by
  intro he
  simp only [Hit.span, Prod.mk.injEq] at he
  cases rtl <;> simp [Hit.Before] at h <;> omega

theorem nextMatch_spec (E : Engine) (rtl : Bool) (n : Nat) (hE : E.Sound rtl n) (m m' : Hit)
    (hv : m.Valid rtl n) (h : nextMatch E rtl n m = some m') : m'.Valid rtl n ∧ m.Before rtl m' := by
  obtain ⟨hv', hpos⟩ := scanAt_spec E rtl n hE m.textpos (m.len : Int) (valid_textpos_le hv) m' h
  refine ⟨hv', ?_⟩
  obtain ⟨h1, h2⟩ := hv
  obtain ⟨h1', _⟩ := hv'
  rw [h2] at hpos
  cases rtl
  · simp only [Bool.false_eq_true, if_false, scanStart, scanEnd, Hit.span, Hit.Before] at hpos ⊢
    by_cases hl : m.len = 0
    · simp [hl] at hpos ⊢; omega
    · simp [hl] at hpos; omega
  · simp only [if_true, scanStart, scanEnd, Hit.span, Hit.Before] at hpos ⊢
    by_cases hl : m.len = 0
    · simp [hl] at hpos ⊢; omega
    · simp [hl] at hpos; omega

theorem ahead_lt_of_before {rtl : Bool} {n : Nat} {m m' : Hit} (hv' : m'.Valid rtl n) (hb : m.Before rtl m') :
    ahead rtl n m' < ahead rtl n m := by
  obtain ⟨h1', _⟩ := hv'
  cases rtl <;> simp [Hit.Before, ahead, dist, scanStart, Hit.span] at hb ⊢ <;> omega

theorem iterFrom_none (E : Engine) (rtl : Bool) (n fuel : Nat) : iterFrom E rtl n fuel none = [] := by
  cases fuel <;> rfl

theorem iterFrom_spec (E : Engine) (rtl : Bool) (n : Nat) (hE : E.Sound rtl n) :
    ∀ (fuel : Nat) (m : Hit), m.Valid rtl n →
      (∀ x, x ∈ iterFrom E rtl n fuel (some m) → x.Valid rtl n ∧ (x = m ∨ m.Before rtl x)) ∧
      (iterFrom E rtl n fuel (some m)).Pairwise (Hit.Before rtl) ∧
      (iterFrom E rtl n fuel (some m)).length ≤ ahead rtl n m + 1 := by
  intro fuel
  induction fuel with
  | zero => intro m _; simp [iterFrom]
  | succ fuel ih =>
    intro m hv
    rw [iterFrom]
    cases hnext : nextMatch E rtl n m with
    | none =>
      rw [iterFrom_none]
      refine ⟨?_, by simp, by simp⟩
      intro x hx
      simp only [List.mem_singleton] at hx
      subst hx
      exact ⟨hv, Or.inl rfl⟩
    | some m' =>
      obtain ⟨hv', hb⟩ := nextMatch_spec E rtl n hE m m' hv hnext
      obtain ⟨ih1, ih2, ih3⟩ := ih m' hv'
      have hall : ∀ x, x ∈ iterFrom E rtl n fuel (some m') → m.Before rtl x := by
        intro x hx
        rcases (ih1 x hx).2 with h | h
        · rw [h]; exact hb
        · exact before_trans hb h
      refine ⟨?_, ?_, ?_⟩
      · intro x hx
        simp only [List.mem_cons] at hx
        rcases hx with h | h
        · subst h; exact ⟨hv, Or.inl rfl⟩
        · exact ⟨(ih1 x h).1, Or.inr (hall x h)⟩
      · exact List.pairwise_cons.mpr ⟨hall, ih2⟩
      · have := ahead_lt_of_before hv' hb
        simp only [List.length_cons]
        omega

theorem iterFrom_fuel (E : Engine) (rtl : Bool) (n : Nat) (hE : E.Sound rtl n) :
    ∀ (f f' : Nat) (m : Hit), m.Valid rtl n → ahead rtl n m < f → ahead rtl n m < f' →
      iterFrom E rtl n f (some m) = iterFrom E rtl n f' (some m) := by
  intro f
  induction f with
  | zero => intro f' m _ h; omega
  | succ f ih =>
    intro f' m hv hf hf'
    obtain ⟨g, rfl⟩ : ∃ g, f' = g + 1 := ⟨f' - 1, by omega⟩
    rw [iterFrom, iterFrom]
    cases hnext : nextMatch E rtl n m with
    | none => rw [iterFrom_none, iterFrom_none]
    | some m' =>
      obtain ⟨hv', hb⟩ := nextMatch_spec E rtl n hE m m' hv hnext
      have := ahead_lt_of_before hv' hb
      rw [ih g m' hv' (by omega) (by omega)]

theorem firstStart_le (rtl : Bool) (n : Nat) : firstStart rtl n ≤ n := by
  cases rtl <;> simp [firstStart]

theorem firstMatch_valid (E : Engine) (rtl : Bool) (n : Nat) (hE : E.Sound rtl n) (m : Hit)
    (h : firstMatch E rtl n = some m) : m.Valid rtl n :=
  (scanAt_spec E rtl n hE _ _ (firstStart_le rtl n) m h).1

theorem ahead_le (rtl : Bool) (n : Nat) (m : Hit) (hv : m.Valid rtl n) : ahead rtl n m ≤ n := by
  obtain ⟨h1, _⟩ := hv
  cases rtl <;> simp [ahead, dist, scanStart, Hit.span] <;> omega

/-! ### the find-all loops against the specification -/

theorem takeK_nil {α : Type} (k : Int) : takeK k ([] : List α) = [] := by
  unfold takeK; split <;> simp

theorem takeK_zero {α : Type} (l : List α) : takeK 0 l = [] := by
  simp [takeK]

theorem takeK_of_neg {α : Type} {k : Int} (h : k < 0) (l : List α) : takeK k l = l := by
  unfold takeK; rw [if_pos h]

theorem takeK_of_nonneg {α : Type} {k : Int} (h : 0 ≤ k) (l : List α) : takeK k l = l.take k.toNat := by
  unfold takeK; rw [if_neg (Int.not_lt.mpr h)]

theorem takeK_cons {α : Type} (k : Int) (x : α) (xs : List α) (hk : k ≠ 0) :
    takeK k (x :: xs) = x :: takeK (if k > 0 then k - 1 else k) xs := by
  unfold takeK
  by_cases h : k < 0
  · have : ¬ (k > 0) := by omega
    simp [h, this]
  · have hpos : k > 0 := by omega
    have h1 : ¬ (k - 1 < 0) := by omega
    have h2 : k.toNat = (k - 1).toNat + 1 := by omega
    simp only [h, hpos, h1, if_true, if_false]
    rw [h2, List.take_succ_cons]

theorem prevEndOf_of_dropped (rtl : Bool) (prev : Option Hit) (m : Hit)
    (h : m.len = 0 ∧ (m.index : Int) = prevEndOf rtl prev) : prevEndOf rtl prev = prevEndOf rtl (some m) := by
  obtain ⟨h1, h2⟩ := h
  rw [← h2]
  cases rtl <;> simp [prevEndOf, keptEnd, h1]

/-- `findAllRunesIndex` walks the FindNextMatch sequence in lock-step -/
theorem findAllLoop_eq (E : Engine) (rtl : Bool) (n : Nat) :
    ∀ (fuel start : Nat) (prevLen : Int) (prev : Option Hit) (k : Int),
      findAllLoop E rtl n fuel start prevLen (prevEndOf rtl prev) k =
        (takeK k (keepNonAdjacent rtl prev (iterFrom E rtl n fuel (scanAt E rtl n start prevLen)))).map
          fun m => (m.index, m.index + m.len) := by
  intro fuel
  induction fuel with
  | zero => intro start prevLen prev k; simp [findAllLoop, iterFrom, keepNonAdjacent, takeK_nil]
  | succ fuel ih =>
    intro start prevLen prev k
    rw [findAllLoop]
    by_cases hk : k = 0
    · simp [hk, takeK_zero]
    · rw [if_neg hk]
      cases hs : scanAt E rtl n start prevLen with
      | none => simp [iterFrom, keepNonAdjacent, takeK_nil]
      | some m =>
        simp only [iterFrom, keepNonAdjacent]
        by_cases hd : m.len = 0 ∧ (m.index : Int) = prevEndOf rtl prev
        · have hgo : ¬ (m.len ≠ 0 ∨ (m.index : Int) ≠ prevEndOf rtl prev) := fun h => h.elim (· hd.1) (· hd.2)
          rw [if_neg hgo, if_pos hd, prevEndOf_of_dropped rtl prev m hd, ih]
          rfl
        · have hgo : m.len ≠ 0 ∨ (m.index : Int) ≠ prevEndOf rtl prev := Decidable.not_and_iff_or_not.mp hd
          rw [if_pos hgo, if_neg hd, takeK_cons _ _ _ hk]
          have : keptEnd rtl m = prevEndOf rtl (some m) := rfl
          rw [this, ih]
          rfl

/-- `forEachStringMatch` walks the FindNextMatch sequence in lock-step -/
theorem compatLoop_eq (E : Engine) (rtl : Bool) (n : Nat) :
    ∀ (fuel : Nat) (cur : Option Hit) (prev : Option Hit) (k : Int),
      compatLoop E rtl n fuel cur (prevEndOf rtl prev) k =
        takeK k (keepNonAdjacent rtl prev (iterFrom E rtl n fuel cur)) := by
  intro fuel
  induction fuel with
  | zero => intro cur prev k; simp [compatLoop, iterFrom, keepNonAdjacent, takeK_nil]
  | succ fuel ih =>
    intro cur prev k
    cases cur with
    | none => simp [compatLoop, iterFrom, keepNonAdjacent, takeK_nil]
    | some m =>
      rw [compatLoop]
      by_cases hk : k = 0
      · simp [hk, takeK_zero]
      · rw [if_neg hk]
        simp only [iterFrom, keepNonAdjacent]
        by_cases hd : m.len = 0 ∧ (m.index : Int) = prevEndOf rtl prev
        · have hgo : ¬ (m.len ≠ 0 ∨ (m.index : Int) ≠ prevEndOf rtl prev) := fun h => h.elim (· hd.1) (· hd.2)
          rw [if_neg hgo, if_pos hd, prevEndOf_of_dropped rtl prev m hd, ih]
        · have hgo : m.len ≠ 0 ∨ (m.index : Int) ≠ prevEndOf rtl prev := Decidable.not_and_iff_or_not.mp hd
          rw [if_pos hgo, if_neg hd, takeK_cons _ _ _ hk]
          have hke : keptEnd rtl m = prevEndOf rtl (some m) := rfl
          by_cases hpos : k > 0
          · rw [if_pos hpos, if_pos hpos]
            by_cases h1 : k - 1 = 0
            · rw [if_pos h1, h1, takeK_zero]
            · rw [if_neg h1, hke, ih]
          · rw [if_neg hpos, if_neg hpos, hke, ih]

theorem findAll_eq_spec (E : Engine) (rtl : Bool) (n : Nat) (k : Int) :
    findAll E rtl n k = findAllSpec rtl k (iterate E rtl n) := by
  unfold findAll findAllSpec iterate firstMatch
  by_cases hk : k = 0
  · simp [hk, takeK_zero]
  · rw [if_neg hk]
    have := findAllLoop_eq E rtl n (n + 2) (firstStart rtl n) (-1) none k
    simp only [prevEndOf] at this
    rw [this]
    simp

theorem compatAll_eq_spec (E : Engine) (rtl : Bool) (n : Nat) (k : Int) :
    compatAll E rtl n k = findAllSpec rtl k (iterate E rtl n) := by
  unfold compatAll findAllSpec compatForEach iterate
  by_cases hk : k = 0
  · simp [hk, takeK_zero]
  · rw [if_neg hk]
    have := compatLoop_eq E rtl n (n + 2) (firstMatch E rtl n) none k
    simp only [prevEndOf] at this
    rw [this]
    simp

/-! ### Go's `allMatches` against the same specification (left-to-right, `\G`-free) -/

def hitFrom (attempt : Nat → Option (Nat × Nat)) (n pos : Nat) : Option Hit :=
  (naiveFrom attempt false n pos).map (Hit.ofSpan false)

theorem naiveFrom_beyond (attempt : Nat → Option (Nat × Nat)) (n pos : Nat) (h : n < pos) :
    naiveFrom attempt false n pos = none := by
  apply naiveFrom_eq_none
  intro p hp
  rw [mem_scanOrder] at hp
  simp at hp; omega

theorem naiveFrom_ltr_spec (attempt : Nat → Option (Nat × Nat)) (n pos s l : Nat)
    (hS : AttemptShape false n attempt) (h : naiveFrom attempt false n pos = some (s, l)) :
    pos ≤ s ∧ s + l ≤ n ∧ naiveFrom attempt false n s = some (s, l) := by
  obtain ⟨p, hmem, hm⟩ := naiveFrom_eq_some attempt false n pos (s, l) h
  rw [mem_scanOrder] at hmem
  simp only [Bool.false_eq_true, if_false] at hmem
  have hs := hS p s l hmem.2 hm
  simp only [Bool.false_eq_true, if_false] at hs
  obtain ⟨rfl, hle⟩ := hs
  refine ⟨hmem.1, hle, ?_⟩
  rw [naiveFrom_step attempt false n s hmem.2, hm]

theorem scanAt_ltr (E : Engine) (n : Nat) (hE : E.Sound false n) (attempt : Nat → Option (Nat × Nat))
    (hG : ∀ ts, E.attempt ts = attempt) (start : Nat) (prevLen : Int) (hstart : start ≤ n) :
    scanAt E false n start prevLen = hitFrom attempt n (start + (if prevLen = 0 then 1 else 0)) := by
  rw [scanAt_eq_naive E false n hE start prevLen hstart, hG]
  unfold naive hitFrom
  by_cases hp : prevLen = 0
  · simp only [hp, if_true, stopPos, Bool.false_eq_true, if_false, bump]
    by_cases hs : start = n
    · subst hs
      rw [naiveFrom_beyond attempt start (start + 1) (by omega)]
      simp
    · simp [hs]
  · simp [hp]

/-- the limit counter of the adapter (`k`, negative = unlimited) against the standard library's
    (`i < cap`, `cap = len+1` when unlimited) -/
def CntRel (n cap i pos : Nat) (k : Int) : Prop :=
  (0 ≤ k ∧ (cap : Int) - (i : Int) = k) ∨ (k < 0 ∧ n + 1 - pos ≤ cap - i)

/-! ### one step of each loop, as rewriting rules -/

theorem keepNonAdjacent_drop (rtl : Bool) (prev : Option Hit) (m : Hit) (rest : List Hit)
    (h : m.len = 0 ∧ (m.index : Int) = prevEndOf rtl prev) :
    keepNonAdjacent rtl prev (m :: rest) = keepNonAdjacent rtl (some m) rest := by
  rw [keepNonAdjacent, if_pos h]

theorem keepNonAdjacent_keep (rtl : Bool) (prev : Option Hit) (m : Hit) (rest : List Hit)
    (h : ¬ (m.len = 0 ∧ (m.index : Int) = prevEndOf rtl prev)) :
    keepNonAdjacent rtl prev (m :: rest) = m :: keepNonAdjacent rtl (some m) rest := by
  rw [keepNonAdjacent, if_neg h]

theorem stdLoop_stop (ff : Nat → Option (Nat × Nat)) (n cap g pos i : Nat) (pe : Int)
    (h : ¬ (i < cap ∧ pos ≤ n)) : stdLoop ff n cap g pos i pe = [] := by
  cases g with
  | zero => rfl
  | succ g => rw [stdLoop, if_neg h]

theorem stdLoop_none (ff : Nat → Option (Nat × Nat)) (n cap g pos i : Nat) (pe : Int)
    (h : ff pos = none) : stdLoop ff n cap g pos i pe = [] := by
  cases g with
  | zero => rfl
  | succ g => rw [stdLoop, h]; simp

/-- one iteration of `allMatches` that finds `(s, e)`: an empty match at `pos` is skipped when it lies where the
    match before ended, and the loop steps over one rune; any other match is delivered -/
theorem stdLoop_step (ff : Nat → Option (Nat × Nat)) (n cap g pos i s e : Nat) (pe : Int)
    (hi : i < cap) (hpos : pos ≤ n) (h : ff pos = some (s, e)) :
    stdLoop ff n cap (g + 1) pos i pe =
      if e = pos then
        if (s : Int) = pe then stdLoop ff n cap g (pos + 1) i (e : Int)
        else (s, e) :: stdLoop ff n cap g (pos + 1) (i + 1) (e : Int)
      else (s, e) :: stdLoop ff n cap g e (i + 1) (e : Int) := by
  have hpos' : (if pos < n then pos + 1 else n + 1) = pos + 1 := by split <;> omega
  rw [stdLoop, if_pos ⟨hi, hpos⟩, h]
  simp only [hpos']

theorem iterFrom_hit (E : Engine) (n : Nat) (hE : E.Sound false n) (attempt : Nat → Option (Nat × Nat))
    (hG : ∀ ts, E.attempt ts = attempt) (f pos s l : Nat) (hsl : s + l ≤ n)
    (hn : naiveFrom attempt false n pos = some (s, l)) :
    iterFrom E false n (f + 1) (hitFrom attempt n pos) =
      ⟨s, l, s + l⟩ :: iterFrom E false n f (hitFrom attempt n (s + l + (if l = 0 then 1 else 0))) := by
  have hnext : nextMatch E false n ⟨s, l, s + l⟩ = hitFrom attempt n (s + l + (if l = 0 then 1 else 0)) := by
    unfold nextMatch
    rw [scanAt_ltr E n hE attempt hG (s + l) _ hsl]
    by_cases hl : l = 0
    · simp [hl]
    · simp [hl]
  simp only [hitFrom, hn, Option.map_some, Hit.ofSpan, scanEnd, Bool.false_eq_true, if_false, iterFrom]
  rw [hnext]; rfl

theorem prevEndOf_ltr (a b c : Nat) : prevEndOf false (some ⟨a, b, c⟩) = ((a + b : Nat) : Int) := rfl

theorem cntRel_deliver {n cap i pos : Nat} {k : Int} (h : CntRel n cap i pos k) (hi : i < cap) (hpos : pos ≤ n)
    (pos' : Nat) (hp : pos < pos') : CntRel n cap (i + 1) pos' (if k > 0 then k - 1 else k) := by
  rcases h with h | h
  · left; have : k > 0 := by omega
    simp only [this, if_true]; omega
  · right; have : ¬ (k > 0) := by omega
    simp only [this, if_false]; exact ⟨h.1, by omega⟩

theorem cntRel_skip {n cap i pos : Nat} {k : Int} (h : CntRel n cap i pos k) (pos' : Nat) (hp : pos ≤ pos') :
    CntRel n cap i pos' k := by
  rcases h with h | h
  · exact Or.inl h
  · exact Or.inr ⟨h.1, by omega⟩

/-- The standard library's `allMatches`, run on "leftmost match at or after pos" of a left-to-right `\\G`-free
    matcher, meets the specification the regexp2 loops meet.  (An empty match found beyond `pos` is delivered, then
    found again at its own position and ignored there; the regexp2 iteration finds it once.) -/
theorem stdLoop_eq (attempt : Nat → Option (Nat × Nat)) (n : Nat) (hS : AttemptShape false n attempt)
    (E : Engine) (hE : E.Sound false n) (hG : ∀ ts, E.attempt ts = attempt) (cap : Nat) :
    ∀ (d pos f g i : Nat) (prev : Option Hit) (k : Int),
      n + 1 - pos ≤ d → d < f → d < g → prevEndOf false prev ≤ (pos : Int) → CntRel n cap i pos k →
      stdLoop (findFromOf attempt n) n cap g pos i (prevEndOf false prev) =
        (takeK k (keepNonAdjacent false prev (iterFrom E false n f (hitFrom attempt n pos)))).map
          fun m => (m.index, m.index + m.len) := by
  -- beyond the input both sides are empty
  have beyond : ∀ (pos f g i : Nat) (prev : Option Hit) (k : Int), n < pos →
      stdLoop (findFromOf attempt n) n cap g pos i (prevEndOf false prev) =
        (takeK k (keepNonAdjacent false prev (iterFrom E false n f (hitFrom attempt n pos)))).map
          fun m => (m.index, m.index + m.len) := by
    intro pos f g i prev k hpos
    rw [stdLoop_stop _ _ _ _ _ _ _ (by omega)]
    simp [hitFrom, naiveFrom_beyond attempt n pos hpos, iterFrom_none, keepNonAdjacent, takeK_nil]
  intro d
  induction d with
  | zero =>
    intro pos f g i prev k hd _ _ _ _
    exact beyond pos f g i prev k (by omega)
  | succ d ih =>
    intro pos f g i prev k hd hf hg hpe hcnt
    by_cases hpos : pos ≤ n
    case neg => exact beyond pos f g i prev k (by omega)
    obtain ⟨g', rfl⟩ : ∃ g', g = g' + 1 := ⟨g - 1, by omega⟩
    obtain ⟨f', rfl⟩ : ∃ f', f = f' + 1 := ⟨f - 1, by omega⟩
    have hmeas : ∀ p', pos < p' → n + 1 - p' ≤ d := fun p' h => by omega
    have hf : d < f' := by omega
    have hg : d < g' := by omega
    clear hd
    by_cases hi : i < cap
    case neg =>
      have hk : k = 0 := by
        rcases hcnt with h | h
        · omega
        · omega
      rw [stdLoop_stop _ _ _ _ _ _ _ (fun h => hi h.1), hk, takeK_zero]; rfl
    have hk : k ≠ 0 := by
      rcases hcnt with h | h
      · omega
      · omega
    cases hn : naiveFrom attempt false n pos with
    | none =>
      rw [stdLoop_none _ _ _ _ _ _ _ (by simp [findFromOf, hn])]
      simp [hitFrom, hn, iterFrom_none, keepNonAdjacent, takeK_nil]
    | some m =>
      obtain ⟨s, l⟩ := m
      obtain ⟨hps, hsl, hns⟩ := naiveFrom_ltr_spec attempt n pos s l hS hn
      have hff : findFromOf attempt n pos = some (s, s + l) := by simp [findFromOf, hn]
      rw [iterFrom_hit E n hE attempt hG f' pos s l hsl hn]
      by_cases he : s + l = pos
      · -- an empty match at pos
        have hl : l = 0 := by omega
        subst hl
        have hs : s = pos := by omega
        subst hs
        simp only [if_true, Nat.add_zero] at hff ⊢
        by_cases hadj : ((s : Nat) : Int) = prevEndOf false prev
        · -- right after the previous match: ignored by both
          rw [stdLoop_step _ _ _ _ _ _ _ _ _ hi hpos hff, if_pos rfl, if_pos hadj,
            keepNonAdjacent_drop false prev ⟨s, 0, s⟩ _ ⟨rfl, hadj⟩]
          have h1 := ih (s + 1) f' g' i (some ⟨s, 0, s⟩) k (hmeas _ (Nat.lt_succ_self s)) hf hg
            (by rw [prevEndOf_ltr]; omega) (cntRel_skip hcnt _ (by omega))
          rw [prevEndOf_ltr] at h1
          exact h1
        · rw [stdLoop_step _ _ _ _ _ _ _ _ _ hi hpos hff, if_pos rfl, if_neg hadj,
            keepNonAdjacent_keep false prev ⟨s, 0, s⟩ _ (fun h => hadj h.2), takeK_cons _ _ _ hk]
          have h1 := ih (s + 1) f' g' (i + 1) (some ⟨s, 0, s⟩) (if k > 0 then k - 1 else k) (hmeas _ (Nat.lt_succ_self s)) hf hg
            (by rw [prevEndOf_ltr]; omega) (cntRel_deliver hcnt hi hpos _ (by omega))
          rw [prevEndOf_ltr] at h1
          simp only [List.map_cons, Nat.add_zero] at h1 ⊢
          rw [h1]
      · -- a match that ends after pos (an empty one then lies after pos)
        have hkeep : ¬ ((⟨s, l, s + l⟩ : Hit).len = 0 ∧ (((⟨s, l, s + l⟩ : Hit).index : Nat) : Int) = prevEndOf false prev) := by
          intro h
          have h1 : l = 0 := h.1
          have h2 : ((s : Nat) : Int) = prevEndOf false prev := h.2
          omega
        rw [stdLoop_step _ _ _ _ _ _ _ _ _ hi hpos hff, if_neg he,
          keepNonAdjacent_keep false prev ⟨s, l, s + l⟩ _ hkeep, takeK_cons _ _ _ hk]
        simp only [List.map_cons]
        by_cases hl : l = 0
        · -- empty match at s > pos: the standard library finds it again at s and ignores it there
          subst hl
          simp only [if_true, Nat.add_zero] at hns ⊢
          have h1 := ih s (f' + 1) g' (i + 1) (some ⟨s, 0, s⟩) (if k > 0 then k - 1 else k) (hmeas _ (by omega)) (Nat.lt_succ_of_lt hf) hg
            (by rw [prevEndOf_ltr]; omega) (cntRel_deliver hcnt hi hpos _ (by omega))
          rw [iterFrom_hit E n hE attempt hG f' s s 0 (by omega) hns,
            keepNonAdjacent_drop false (some ⟨s, 0, s⟩) ⟨s, 0, s + 0⟩ _ ⟨rfl, by simp [prevEndOf, keptEnd]⟩] at h1
          rw [prevEndOf_ltr] at h1
          simp only [if_true, Nat.add_zero] at h1
          rw [h1]
        · simp only [hl, if_false, Nat.add_zero]
          have h1 := ih (s + l) f' g' (i + 1) (some ⟨s, l, s + l⟩) (if k > 0 then k - 1 else k) (hmeas _ (by omega)) hf hg
            (by rw [prevEndOf_ltr]; omega) (cntRel_deliver hcnt hi hpos _ (by omega))
          rw [prevEndOf_ltr] at h1
          rw [h1]

/-! ### concrete instances used by the `example`s of the property files: the tables of `a*` on "baa" -/

/-- left-to-right `a*` on "baa": attempt at 0 ↦ empty, at 1 ↦ "aa", at 2 ↦ "a", at 3 ↦ empty -/
def exL : Nat → Option (Nat × Nat)
  | 0 => some (0, 0) | 1 => some (1, 2) | 2 => some (2, 1) | 3 => some (3, 0) | _ => none

/-- right-to-left `a*` on "baa", indexed by the position the attempt starts at (the match's end) -/
def exR : Nat → Option (Nat × Nat)
  | 3 => some (1, 2) | 2 => some (1, 1) | 1 => some (1, 0) | 0 => some (0, 0) | _ => none

def exEngine (att : Nat → Option (Nat × Nat)) : Engine :=
  { finder := fun _ pos => (true, pos), after := fun _ q => q, attempt := fun _ => att, minLen := 0 }

theorem exEngine_sound (rtl : Bool) (n : Nat) (att : Nat → Option (Nat × Nat)) (h : AttemptShape rtl n att) :
    (exEngine att).Sound rtl n :=
  plainEngine_sound rtl n (fun _ => att) fun _ _ => h

theorem exL_shape : AttemptShape false 3 exL := by
  intro p i l hp h
  match p, hp, h with
  | 0, _, h | 1, _, h | 2, _, h | 3, _, h => cases h; exact ⟨rfl, by decide⟩

theorem exR_shape : AttemptShape true 3 exR := by
  intro p i l hp h
  match p, hp, h with
  | 0, _, h | 1, _, h | 2, _, h | 3, _, h => cases h; rfl

end RegexVerif.Lemmas.Scan
