/-
Semantic laws of the backtracking specification `Spec.m` that justify the rewrites of /repo/syntax/tree.go (C05).

Three notions of "same meaning", from strongest to weakest:

* `m e p rtl st = m e q rtl st` — the same ordered list of successes (valid in every context);
* `EqMod e D rtl p q` — the same list after deleting the successes that end at a position in `D` ("dead" positions:
  everything that follows the construct is known to fail there); the notion behind the auto-atomic loops;
* `HeadEq e rtl p q` — the same first success (valid where nothing backtracks into the construct: at the end of the
  pattern, inside atomic groups, lookarounds and conditions).

From equal lists to the weaker notions: `HeadEq.of_eq`, `EqMod.of_eq`; from the first success to the search:
`find_congr_head`, at the end of the file.  What a construct in tail position respects in `HeadEq`, `EqMod` and `Prunes`
(the latter for the tail-loop rule at the end of the file) is proved once, for `TailObs` (`tailObs_head`, `tailObs_live`,
`tailObs_deadSub`; the equal-or-head reading of Lemmas/RewriteDecisions.lean has its `tailObs_lrel` there).
-/
import RegexVerif.Lemmas.Spec
import RegexVerif.Model.SpecNary

namespace RegexVerif.Spec

/-! ## `m`, constructor by constructor

(Membership forms, one implication only and about positions: `mem_m_*` in Lemmas/Facts.lean, namespace `Facts`.) -/

theorem m_seq_ltr (e : Env) (a b : Pat) (st : St) : m e (.seq a b) false st = (m e a false st).flatMap (m e b false) := by
  simp [m]

theorem m_seq_rtl (e : Env) (a b : Pat) (st : St) : m e (.seq a b) true st = (m e b true st).flatMap (m e a true) := by
  simp [m]

theorem m_alt_eq_append (e : Env) (a b : Pat) (rtl : Bool) (st : St) :
    m e (.alt a b) rtl st = m e a rtl st ++ m e b rtl st := by
  rw [m]

theorem m_quant (e : Env) (lzy : Bool) (lo : Nat) (hi : Option Nat) (b : Pat) (rtl : Bool) (st : St) :
    m e (.quant lzy lo hi b) rtl st = iter (m e b rtl) lzy lo hi (e.n + lo + 1) 0 st := by
  rw [m]

theorem m_atomic (e : Env) (b : Pat) (rtl : Bool) (st : St) :
    m e (.atomic b) rtl st = (m e b rtl st).take 1 := by
  rw [m]

/-- a lookaround uses its body (evaluated in direction `behind`) through the first success only; so does an
    expression conditional its condition (`m_exprCond`) -/
theorem m_look (e : Env) (behind neg : Bool) (b : Pat) (rtl : Bool) (st : St) :
    m e (.look behind neg b) rtl st =
      match (m e b behind st).head? with
      | none => if neg then [st] else []
      | some st' => if neg then [] else [{ pos := st.pos, caps := st'.caps }] := by
  rw [m]; cases m e b behind st <;> rfl

theorem m_exprCond (e : Env) (c yes no : Pat) (rtl : Bool) (st : St) :
    m e (.exprCond c yes no) rtl st =
      match (m e c rtl st).head? with
      | some st' => m e yes rtl { pos := st.pos, caps := st'.caps }
      | none => m e no rtl st := by
  rw [m]; cases m e c rtl st <;> rfl

/-! ## `m` respects extensional equality of sub-patterns

`_dir`: for one direction `rtl`; the congruences of Props/C05.lean quantify over the direction. -/

theorem m_funext {e : Env} {a a' : Pat} {rtl : Bool} (h : ∀ st, m e a rtl st = m e a' rtl st) :
    m e a rtl = m e a' rtl := funext h

theorem seq_congr_dir {e : Env} {a a' b b' : Pat} {rtl : Bool}
    (ha : ∀ st, m e a rtl st = m e a' rtl st) (hb : ∀ st, m e b rtl st = m e b' rtl st) (st : St) :
    m e (.seq a b) rtl st = m e (.seq a' b') rtl st := by
  simp only [m, m_funext ha, m_funext hb]

theorem quant_congr_dir {e : Env} {a a' : Pat} {rtl : Bool} (lzy : Bool) (lo : Nat) (hi : Option Nat)
    (ha : ∀ st, m e a rtl st = m e a' rtl st) (st : St) :
    m e (.quant lzy lo hi a) rtl st = m e (.quant lzy lo hi a') rtl st := by
  simp only [m, m_funext ha]

theorem cap_congr_dir {e : Env} {a a' : Pat} {rtl : Bool} (g : Nat)
    (ha : ∀ st, m e a rtl st = m e a' rtl st) (st : St) :
    m e (.cap g a) rtl st = m e (.cap g a') rtl st := by
  simp only [m, ha]

theorem atomic_congr_dir {e : Env} {a a' : Pat} {rtl : Bool}
    (ha : ∀ st, m e a rtl st = m e a' rtl st) (st : St) :
    m e (.atomic a) rtl st = m e (.atomic a') rtl st := by
  simp only [m, ha]

theorem refCond_congr_dir {e : Env} {a a' b b' : Pat} {rtl : Bool} (g : Nat)
    (ha : ∀ st, m e a rtl st = m e a' rtl st) (hb : ∀ st, m e b rtl st = m e b' rtl st) (st : St) :
    m e (.refCond g a b) rtl st = m e (.refCond g a' b') rtl st := by
  simp only [m, ha, hb]

theorem exprCond_congr_dir {e : Env} {c c' a a' b b' : Pat} {rtl : Bool}
    (hc : ∀ st, m e c rtl st = m e c' rtl st)
    (ha : ∀ st, m e a rtl st = m e a' rtl st) (hb : ∀ st, m e b rtl st = m e b' rtl st) (st : St) :
    m e (.exprCond c a b) rtl st = m e (.exprCond c' a' b') rtl st := by
  simp only [m, hc, m_funext ha, hb]

/-! ## `HeadEq`: the same first success -/

def HeadEq (e : Env) (rtl : Bool) (p q : Pat) : Prop :=
  ∀ st, (m e p rtl st).head? = (m e q rtl st).head?

theorem HeadEq.refl {e : Env} {rtl : Bool} {p : Pat} : HeadEq e rtl p p := fun _ => rfl

theorem HeadEq.symm {e : Env} {rtl : Bool} {p q : Pat} (h : HeadEq e rtl p q) : HeadEq e rtl q p :=
  fun st => (h st).symm

theorem HeadEq.trans {e : Env} {rtl : Bool} {p q r : Pat} (h1 : HeadEq e rtl p q) (h2 : HeadEq e rtl q r) :
    HeadEq e rtl p r := fun st => (h1 st).trans (h2 st)

theorem HeadEq.of_eq {e : Env} {rtl : Bool} {p q : Pat} (h : ∀ st, m e p rtl st = m e q rtl st) :
    HeadEq e rtl p q := fun st => by rw [h st]

theorem headEq_atomic (e : Env) (rtl : Bool) (p : Pat) : HeadEq e rtl p (.atomic p) := by
  intro st; rw [m_atomic, head?_take_one]

theorem atomic_eq_of_headEq {e : Env} {rtl : Bool} {a a' : Pat} (h : HeadEq e rtl a a') (st : St) :
    m e (.atomic a) rtl st = m e (.atomic a') rtl st := by
  rw [m_atomic, m_atomic]
  exact take_one_eq_iff.mpr (h st)

theorem look_eq_of_headEq {e : Env} {behind : Bool} {a a' : Pat} (neg : Bool) (h : HeadEq e behind a a')
    (rtl : Bool) (st : St) :
    m e (.look behind neg a) rtl st = m e (.look behind neg a') rtl st := by
  rw [m_look, m_look, h st]

theorem exprCond_eq_of_headEq {e : Env} {rtl : Bool} {c c' : Pat} (a b : Pat) (hc : HeadEq e rtl c c') (st : St) :
    m e (.exprCond c a b) rtl st = m e (.exprCond c' a b) rtl st := by
  rw [m_exprCond, m_exprCond, hc st]

theorem iter_stop {f : St → List St} {lzy : Bool} {lo : Nat} {hi : Option Nat} {fuel cnt : Nat} {st : St}
    (h : canGo hi cnt = false ∨ f st = []) : iter f lzy lo hi fuel cnt st = if lo ≤ cnt then [st] else [] := by
  cases fuel with
  | zero => rfl
  | succ fuel =>
    have : iterMore f lzy lo hi fuel cnt st = [] := by
      unfold iterMore
      rcases h with h | h <;> simp [h]
    rw [iter_succ, this]
    cases lzy <;> simp

theorem iter_ne_nil {f : St → List St} {lzy : Bool} {lo : Nat} {hi : Option Nat} {fuel : Nat} {cnt : Nat} {st : St}
    (h : lo ≤ cnt) : iter f lzy lo hi fuel cnt st ≠ [] := by
  cases fuel with
  | zero => simp [iter, h]
  | succ fuel => rw [iter_succ]; cases lzy <;> simp [h]

theorem iterMore_hi_one (f : St → List St) (lzy : Bool) (lo : Nat) (fuel : Nat) (st : St) :
    iterMore f lzy lo (some 1) fuel 0 st = if lo ≤ 1 then f st else [] := by
  have hin : ∀ st' : St, (if (st'.pos == st.pos && decide (lo ≤ 0 + 1)) = true then [st']
      else iter f lzy lo (some 1) fuel (0 + 1) st') = if lo ≤ 1 then [st'] else [] := by
    intro st'
    rw [iter_stop (hi := some 1) (cnt := 1) (Or.inl rfl)]
    split <;> simp_all
  simp only [iterMore, hin, canGo]
  by_cases hlo : lo ≤ 1 <;> simp [hlo]

/-! ## readings of success lists that tail positions respect -/

/-- A way `L` of comparing two lists of successes that a construct in *tail position* respects: what is evaluated
    before it only concatenates lists (`append`, hence `flatMap`), what surrounds it only adds to the capture logs
    (`map` with the positions kept).  The readings behind `HeadEq`, `EqMod` and `Prunes` are of this kind. -/
structure TailObs (L : List St → List St → Prop) : Prop where
  refl : ∀ a, L a a
  append : ∀ {a a' b b' : List St}, L a a' → L b b' → L (a ++ b) (a' ++ b')
  map : ∀ (φ : St → St), (∀ s, (φ s).pos = s.pos) → ∀ {a a' : List St}, L a a' → L (a.map φ) (a'.map φ)

def Obs (L : List St → List St → Prop) (e : Env) (d : Bool) (p q : Pat) : Prop :=
  ∀ st, L (m e p d st) (m e q d st)

theorem Obs.refCond {L : List St → List St → Prop} {e : Env} {d : Bool} {a a' b b' : Pat} (g : Nat)
    (ha : Obs L e d a a') (hb : Obs L e d b b') : Obs L e d (.refCond g a b) (.refCond g a' b') := fun st => by
  simp only [m]
  split
  · exact ha st
  · exact hb st

theorem Obs.exprCond {L : List St → List St → Prop} {e : Env} {d : Bool} {a a' b b' : Pat} (c : Pat)
    (ha : Obs L e d a a') (hb : Obs L e d b b') : Obs L e d (.exprCond c a b) (.exprCond c a' b') := fun st => by
  simp only [m]
  split
  · exact ha _
  · exact hb st

namespace TailObs
variable {L : List St → List St → Prop} (hL : TailObs L) {e : Env}
include hL

theorem flatMap {α : Type} (l : List α) {F G : α → List St} (h : ∀ x ∈ l, L (F x) (G x)) :
    L (l.flatMap F) (l.flatMap G) := by
  induction l with
  | nil => exact hL.refl _
  | cons x xs ih => exact hL.append (h x List.mem_cons_self) (ih fun y hy => h y (List.mem_cons_of_mem x hy))

/-- left-to-right the second factor of a concatenation is evaluated last (right-to-left the first: `seq_rtl`) -/
theorem seq_ltr {x x' : Pat} (a : Pat) (h : Obs L e false x x') : Obs L e false (.seq a x) (.seq a x') := fun st => by
  rw [m_seq_ltr, m_seq_ltr]
  exact hL.flatMap _ fun y _ => h y

theorem seq_rtl {a a' : Pat} (x : Pat) (h : Obs L e true a a') : Obs L e true (.seq a x) (.seq a' x) := fun st => by
  rw [m_seq_rtl, m_seq_rtl]
  exact hL.flatMap _ fun y _ => h y

theorem alt {d : Bool} {a a' b b' : Pat} (ha : Obs L e d a a') (hb : Obs L e d b b') :
    Obs L e d (.alt a b) (.alt a' b') := fun st => hL.append (ha st) (hb st)

theorem cap {d : Bool} {a a' : Pat} (g : Nat) (h : Obs L e d a a') : Obs L e d (.cap g a) (.cap g a') := fun st => by
  simp only [m]
  refine hL.map _ ?_ (h st)
  exact fun _ => rfl

theorem quant_hi_one {d : Bool} {a a' : Pat} (lzy : Bool) (lo : Nat) (h : Obs L e d a a') :
    Obs L e d (.quant lzy lo (some 1) a) (.quant lzy lo (some 1) a') := fun st => by
  have hb : L (if lo ≤ 1 then m e a d st else []) (if lo ≤ 1 then m e a' d st else []) := by
    split
    · exact h st
    · exact hL.refl _
  rw [m_quant, m_quant, iter_succ, iter_succ, iterMore_hi_one, iterMore_hi_one]
  cases lzy
  · exact hL.append hb (hL.refl _)
  · exact hL.append (hL.refl _) hb

end TailObs

/-- `HeadEq e d` is `Obs` through this reading -/
theorem tailObs_head : TailObs fun a b => a.head? = b.head? :=
  ⟨fun _ => rfl, head?_append_congr, fun φ _ a a' h => by rw [List.head?_map, List.head?_map, h]⟩

theorem headEq_refCond {e : Env} {rtl : Bool} {a a' b b' : Pat} (g : Nat)
    (ha : HeadEq e rtl a a') (hb : HeadEq e rtl b b') :
    HeadEq e rtl (.refCond g a b) (.refCond g a' b') :=
  Obs.refCond (L := fun a b => a.head? = b.head?) g ha hb

theorem headEq_exprCond {e : Env} {rtl : Bool} {c c' a a' b b' : Pat}
    (hc : HeadEq e rtl c c') (ha : HeadEq e rtl a a') (hb : HeadEq e rtl b b') :
    HeadEq e rtl (.exprCond c a b) (.exprCond c' a' b') :=
  (HeadEq.of_eq (exprCond_eq_of_headEq a b hc)).trans (Obs.exprCond (L := fun a b => a.head? = b.head?) c' ha hb)

theorem iter_lazy_head_min (f : St → List St) (lo : Nat) (hi : Option Nat)
    (hhi : ∀ c, c < lo → canGo hi c = true) :
    ∀ (fuel cnt : Nat) (st : St),
      (iter f true lo hi fuel cnt st).head? = (iter f true lo (some lo) fuel cnt st).head? := by
  intro fuel
  induction fuel with
  | zero => intro cnt st; rfl
  | succ fuel ih =>
    intro cnt st
    simp only [iter_succ, if_true]
    by_cases hlo : lo ≤ cnt
    · simp [hlo]
    · have h1 : canGo hi cnt = true := hhi cnt (by omega)
      have h2 : canGo (some lo) cnt = true := by simp [canGo]; omega
      simp only [hlo, if_false, iterMore, h1, h2, if_true, List.nil_append]
      refine tailObs_head.flatMap _ fun y _ => ?_
      split
      · rfl
      · exact ih (cnt + 1) y

theorem headEq_lazy_min (e : Env) (rtl : Bool) (lo : Nat) (hi : Option Nat) (a : Pat)
    (hhi : ∀ c, c < lo → canGo hi c = true) :
    HeadEq e rtl (.quant true lo hi a) (.quant true lo (some lo) a) := by
  intro st
  simp only [m]
  exact iter_lazy_head_min _ lo hi hhi _ 0 st

/-! ## `EqMod`: the same successes except at dead positions -/

def live (D : Nat → Bool) (l : List St) : List St := l.filter (fun t => !D t.pos)

theorem live_append (D : Nat → Bool) (a b : List St) : live D (a ++ b) = live D a ++ live D b :=
  List.filter_append a b

theorem live_flatMap {α : Type} (D : Nat → Bool) (l : List α) (F : α → List St) :
    live D (l.flatMap F) = l.flatMap (fun x => live D (F x)) := List.filter_flatMap

theorem live_of_dead {D : Nat → Bool} {t : St} (h : D t.pos = true) : live D [t] = [] := by
  simp [live, h]

/-- what deleting dead successes is for: a continuation that fails at dead positions cannot tell two lists apart
    that agree up to them -/
theorem flatMap_congr_live {β : Type} {D : Nat → Bool} {l l' : List St} (h : live D l = live D l')
    (F : St → List β) (hF : ∀ t, D t.pos = true → F t = []) : l.flatMap F = l'.flatMap F := by
  have hd : ∀ t : St, (!D t.pos) = false → F t = [] := fun t ht => hF t (by simpa using ht)
  rw [← flatMap_filter_of_dead l F _ hd, ← flatMap_filter_of_dead l' F _ hd]
  exact congrArg (·.flatMap F) h

def EqMod (e : Env) (D : Nat → Bool) (rtl : Bool) (p q : Pat) : Prop :=
  ∀ st, live D (m e p rtl st) = live D (m e q rtl st)

theorem EqMod.refl {e : Env} {D : Nat → Bool} {rtl : Bool} {p : Pat} : EqMod e D rtl p p := fun _ => rfl

theorem EqMod.symm {e : Env} {D : Nat → Bool} {rtl : Bool} {p q : Pat} (h : EqMod e D rtl p q) :
    EqMod e D rtl q p := fun st => (h st).symm

theorem EqMod.trans {e : Env} {D : Nat → Bool} {rtl : Bool} {p q r : Pat}
    (h1 : EqMod e D rtl p q) (h2 : EqMod e D rtl q r) : EqMod e D rtl p r := fun st => (h1 st).trans (h2 st)

theorem EqMod.of_eq {e : Env} {D : Nat → Bool} {rtl : Bool} {p q : Pat}
    (h : ∀ st, m e p rtl st = m e q rtl st) : EqMod e D rtl p q := fun st => by rw [h st]

theorem EqMod.mono {e : Env} {D D' : Nat → Bool} {rtl : Bool} {p q : Pat}
    (hD : ∀ i, D i = true → D' i = true) (h : EqMod e D rtl p q) : EqMod e D' rtl p q := by
  have hl : ∀ l, live D' (live D l) = live D' l := by
    intro l
    simp only [live, List.filter_filter]
    congr 1
    funext t
    cases h1 : D t.pos <;> cases h2 : D' t.pos <;> simp_all
  intro st
  rw [← hl, h st, hl]

theorem EqMod.eq_of_none {e : Env} {rtl : Bool} {p q : Pat} (h : EqMod e (fun _ => false) rtl p q) (st : St) :
    m e p rtl st = m e q rtl st := by
  have h := h st
  simp only [live, Bool.not_false] at h
  rwa [List.filter_eq_self.mpr (fun _ _ => rfl), List.filter_eq_self.mpr (fun _ _ => rfl)] at h

def Kills (e : Env) (D : Nat → Bool) (k : Pat) : Prop := ∀ st, D st.pos = true → m e k false st = []

/-- from a dead position `k` can only succeed without moving (so what follows `k` is again at a
    dead position): optional loops over something that fails there, anchors, lookarounds -/
def Stays (e : Env) (D : Nat → Bool) (k : Pat) : Prop :=
  ∀ st, D st.pos = true → ∀ t ∈ m e k false st, t.pos = st.pos

theorem Kills.stays {e : Env} {D : Nat → Bool} {k : Pat} (h : Kills e D k) : Stays e D k := by
  intro st hd t ht; rw [h st hd] at ht; cases ht

theorem Kills.mono {e : Env} {D D' : Nat → Bool} {k : Pat} (hD : ∀ i, D' i = true → D i = true)
    (h : Kills e D k) : Kills e D' k := fun st hd => h st (hD _ hd)

theorem EqMod.seq_kill {e : Env} {D : Nat → Bool} {x x' : Pat} (k : Pat) (h : EqMod e D false x x')
    (hk : Kills e D k) (st : St) :
    m e (.seq x k) false st = m e (.seq x' k) false st := by
  rw [m_seq_ltr, m_seq_ltr]
  exact flatMap_congr_live (h st) _ hk

theorem EqMod.seq_kill_rtl {e : Env} {D : Nat → Bool} {x x' : Pat} (k : Pat) (h : EqMod e D true x x')
    (hk : ∀ st, D st.pos = true → m e k true st = []) (st : St) :
    m e (.seq k x) true st = m e (.seq k x') true st := by
  rw [m_seq_rtl, m_seq_rtl]
  exact flatMap_congr_live (h st) _ hk

/-- `EqMod e D d` is `Obs` through this reading -/
theorem tailObs_live (D : Nat → Bool) : TailObs fun a b => live D a = live D b :=
  ⟨fun _ => rfl, fun h1 h2 => by rw [live_append, live_append, h1, h2], fun φ hφ a a' h => by
    simp only [live, List.filter_map] at h ⊢
    rw [show ((fun t : St => !D t.pos) ∘ φ) = fun t => !D t.pos from funext fun s => by simp [hφ], h]⟩

theorem EqMod.refCond {e : Env} {D : Nat → Bool} {rtl : Bool} {a a' b b' : Pat} (g : Nat)
    (ha : EqMod e D rtl a a') (hb : EqMod e D rtl b b') :
    EqMod e D rtl (.refCond g a b) (.refCond g a' b') :=
  Obs.refCond (L := fun a b => live D a = live D b) g ha hb

theorem EqMod.exprCond {e : Env} {D : Nat → Bool} {rtl : Bool} {a a' b b' : Pat} (c : Pat)
    (ha : EqMod e D rtl a a') (hb : EqMod e D rtl b b') :
    EqMod e D rtl (.exprCond c a b) (.exprCond c a' b') :=
  Obs.exprCond (L := fun a b => live D a = live D b) c ha hb

/-- `l'` is `l` with some elements at dead positions removed -/
inductive DeadSub (D : Nat → Bool) : List St → List St → Prop
  | nil : DeadSub D [] []
  | keep (x : St) {l' l : List St} : DeadSub D l' l → DeadSub D (x :: l') (x :: l)
  | drop {x : St} {l' l : List St} : D x.pos = true → DeadSub D l' l → DeadSub D l' (x :: l)

theorem DeadSub.refl (D : Nat → Bool) : ∀ (l : List St), DeadSub D l l
  | [] => .nil
  | x :: xs => .keep x (DeadSub.refl D xs)

theorem DeadSub.append {D : Nat → Bool} {a' a b' b : List St} (h1 : DeadSub D a' a) (h2 : DeadSub D b' b) :
    DeadSub D (a' ++ b') (a ++ b) := by
  induction h1 with
  | nil => exact h2
  | keep x _ ih => exact .keep x ih
  | drop hx _ ih => exact .drop hx ih

theorem DeadSub.flatMap {D : Nat → Bool} {α : Type} (l : List α) (f' f : α → List St)
    (h : ∀ x ∈ l, DeadSub D (f' x) (f x)) : DeadSub D (l.flatMap f') (l.flatMap f) := by
  induction l with
  | nil => exact .nil
  | cons x xs ih =>
    simp only [List.flatMap_cons]
    exact (h x (by simp)).append (ih (fun y hy => h y (by simp [hy])))

theorem DeadSub.map {D : Nat → Bool} (φ : St → St) (hφ : ∀ s, (φ s).pos = s.pos) {l' l : List St}
    (h : DeadSub D l' l) : DeadSub D (l'.map φ) (l.map φ) := by
  induction h with
  | nil => exact .nil
  | keep x _ ih => exact .keep _ ih
  | drop hx _ ih => exact .drop (by rw [hφ]; exact hx) ih

theorem DeadSub.take_one {D : Nat → Bool} (l : List St) (h : ∀ t ∈ l.tail, D t.pos = true) :
    DeadSub D (l.take 1) l := by
  cases l with
  | nil => exact .nil
  | cons x xs =>
    refine .keep x ?_
    induction xs with
    | nil => exact .nil
    | cons y ys ih => exact .drop (h y (by simp)) (ih (fun t ht => h t (by simp_all)))

theorem DeadSub.mono {D D' : Nat → Bool} (hD : ∀ i, D i = true → D' i = true) {l' l : List St}
    (h : DeadSub D l' l) : DeadSub D' l' l := by
  induction h with
  | nil => exact .nil
  | keep x _ ih => exact .keep x ih
  | drop hx _ ih => exact .drop (hD _ hx) ih

theorem DeadSub.live_eq {D : Nat → Bool} {l' l : List St} (h : DeadSub D l' l) : live D l = live D l' := by
  induction h with
  | nil => rfl
  | keep x _ ih => simp only [live, List.filter_cons] at ih ⊢; rw [ih]
  | drop hx _ ih => simpa [live, hx] using ih

/-- `Prunes e D b b'` (below) asks `HeadEq` and `Obs` through this reading from `b'` to `b` -/
theorem tailObs_deadSub (D : Nat → Bool) : TailObs (DeadSub D) :=
  ⟨DeadSub.refl D, DeadSub.append, fun φ hφ _ _ h => h.map φ hφ⟩

theorem eqMod_atomic_of_tail_dead {e : Env} {D : Nat → Bool} {rtl : Bool} {p : Pat}
    (h : ∀ st, ∀ t ∈ (m e p rtl st).tail, D t.pos = true) : EqMod e D rtl p (.atomic p) := fun st => by
  rw [m_atomic]
  exact (DeadSub.take_one _ (h st)).live_eq

/-! ## single-character loops, left-to-right -/

def acc (e : Env) (p : Pred) (pos : Nat) : Bool :=
  match e.text[pos]? with
  | some r => p.test e r
  | none => false

def prevAcc (e : Env) (p : Pred) (pos : Nat) : Bool := pos != 0 && acc e p (pos - 1)

theorem acc_iff {e : Env} {p : Pred} {pos : Nat} :
    acc e p pos = true ↔ ∃ r, e.text[pos]? = some r ∧ p.test e r = true := by
  unfold acc
  cases e.text[pos]? <;> simp

theorem m_chr_ltr (e : Env) (p : Pred) (st : St) :
    m e (.chr p) false st = if acc e p st.pos = true then [{ st with pos := st.pos + 1 }] else [] := by
  cases hx : e.text[st.pos]? <;> simp [m, stepChar, acc, hx]

theorem iterMore_chr (e : Env) (p : Pred) (lzy : Bool) (lo : Nat) (hi : Option Nat) (fuel cnt : Nat) (st : St) :
    iterMore (m e (.chr p) false) lzy lo hi fuel cnt st =
      if canGo hi cnt = true ∧ acc e p st.pos = true then
        iter (m e (.chr p) false) lzy lo hi fuel (cnt + 1) { st with pos := st.pos + 1 } else [] := by
  unfold iterMore
  by_cases hc : canGo hi cnt = true <;> by_cases ha : acc e p st.pos = true <;> simp [hc, ha, m_chr_ltr]

theorem iter_chr_lazy_reverse (e : Env) (p : Pred) (lo : Nat) (hi : Option Nat) :
    ∀ (fuel cnt : Nat) (st : St),
      iter (m e (.chr p) false) true lo hi fuel cnt st
        = (iter (m e (.chr p) false) false lo hi fuel cnt st).reverse := by
  intro fuel
  induction fuel with
  | zero => intro cnt st; simp only [iter]; split <;> rfl
  | succ fuel ih =>
    intro cnt st
    have hs : (if lo ≤ cnt then [st] else []).reverse = (if lo ≤ cnt then [st] else []) := by
      split <;> rfl
    rw [iter_succ, iter_succ, iterMore_chr, iterMore_chr]
    simp only [if_true, Bool.false_eq_true, if_false, List.reverse_append, hs]
    congr 1
    split
    · exact ih (cnt + 1) _
    · rfl

/-! ## the successes of a character loop, explicitly -/

/-- length of the maximal run of runes accepted by `p` starting at `pos` -/
def runLen (e : Env) (p : Pred) (pos : Nat) : Nat := ((e.text.drop pos).takeWhile (p.test e)).length

theorem runLen_le (e : Env) (p : Pred) (pos : Nat) : runLen e p pos ≤ e.n - pos := by
  unfold runLen Env.n
  have := (List.takeWhile_sublist (p.test e) (l := e.text.drop pos)).length_le
  simpa using this

theorem runLen_of_acc {e : Env} {p : Pred} {pos : Nat} (h : acc e p pos = true) :
    runLen e p pos = runLen e p (pos + 1) + 1 := by
  obtain ⟨r, hx, hr⟩ := acc_iff.mp h
  obtain ⟨hlt, hget⟩ := List.getElem?_eq_some_iff.mp hx
  unfold runLen
  rw [List.drop_eq_getElem_cons hlt, hget, List.takeWhile_cons, if_pos hr]
  rfl

theorem runLen_of_not_acc {e : Env} {p : Pred} {pos : Nat} (h : acc e p pos = false) :
    runLen e p pos = 0 := by
  unfold acc at h
  unfold runLen
  cases hx : e.text[pos]? with
  | none => rw [List.drop_eq_nil_of_le (by simpa using hx)]; rfl
  | some r =>
    obtain ⟨hlt, hget⟩ := List.getElem?_eq_some_iff.mp hx
    rw [hx] at h
    rw [List.drop_eq_getElem_cons hlt, hget, List.takeWhile_cons]
    simp [show p.test e r = false from h]

theorem acc_of_runLen_pos {e : Env} {p : Pred} {pos : Nat} (h : 0 < runLen e p pos) : acc e p pos = true := by
  cases ha : acc e p pos
  · rw [runLen_of_not_acc ha] at h; omega
  · rfl

theorem runLen_add (e : Env) (p : Pred) : ∀ (d pos : Nat), d ≤ runLen e p pos →
    runLen e p (pos + d) = runLen e p pos - d := by
  intro d
  induction d with
  | zero => intro pos _; rfl
  | succ d ih =>
    intro pos h
    have h1 := runLen_of_acc (acc_of_runLen_pos (Nat.lt_of_lt_of_le d.succ_pos h))
    rw [show pos + (d + 1) = pos + 1 + d by omega, ih (pos + 1) (by omega)]
    omega

theorem acc_of_lt_runLen (e : Env) (p : Pred) (pos d : Nat) (h : d < runLen e p pos) : acc e p (pos + d) = true := by
  apply acc_of_runLen_pos
  rw [runLen_add e p d pos (by omega)]
  omega

/-- how many more iterations are possible: the run, cut by the upper bound -/
def capN (hi : Option Nat) (cnt R : Nat) : Nat :=
  match hi with
  | none => R
  | some h => min R (h - cnt)

theorem capN_le (hi : Option Nat) (cnt R : Nat) : capN hi cnt R ≤ R := by
  cases hi <;> simp only [capN] <;> omega

theorem capN_succ {hi : Option Nat} {cnt : Nat} (R : Nat) (h : canGo hi cnt = true) :
    capN hi cnt (R + 1) = capN hi (cnt + 1) R + 1 := by
  cases hi with
  | none => rfl
  | some x =>
    simp only [canGo, decide_eq_true_eq] at h
    rw [capN, capN, show x - cnt = x - (cnt + 1) + 1 by omega, Nat.succ_min_succ]

theorem capN_stop {hi : Option Nat} {cnt R : Nat} (h : canGo hi cnt = false ∨ R = 0) : capN hi cnt R = 0 := by
  cases hi with
  | none => simpa [canGo, capN] using h
  | some x => simp only [canGo, decide_eq_false_iff_not] at h; simp only [capN]; omega

/-- the successes of a greedy character loop with `cnt` iterations done: the positions from the farthest reachable
    one down to the first one allowed by the lower bound, captures untouched (the fuel only has to exceed the run) -/
theorem iter_chr_greedy (e : Env) (p : Pred) (lo : Nat) (hi : Option Nat) :
    ∀ (fuel cnt : Nat) (st : St), runLen e p st.pos < fuel →
      iter (m e (.chr p) false) false lo hi fuel cnt st =
        (List.range (capN hi cnt (runLen e p st.pos) + 1 - (lo - cnt))).reverse.map
          (fun j => { st with pos := st.pos + (lo - cnt) + j }) := by
  intro fuel
  induction fuel with
  | zero => intro cnt st h; omega
  | succ fuel ih =>
    intro cnt st hf
    rw [iter_succ, iterMore_chr]
    simp only [Bool.false_eq_true, if_false]
    by_cases hc : canGo hi cnt = true ∧ acc e p st.pos = true
    · have hR := runLen_of_acc hc.2
      rw [if_pos hc, ih (cnt + 1) _ (by simp only; omega), hR, capN_succ _ hc.1]
      dsimp only
      by_cases hlo : lo ≤ cnt
      · rw [if_pos hlo, Nat.sub_eq_zero_of_le hlo, Nat.sub_eq_zero_of_le (Nat.le_succ_of_le hlo), Nat.sub_zero, Nat.sub_zero]
        conv => rhs; rw [range_succ_reverse_map]
        congr 1
        apply List.map_congr_left
        intro j _
        congr 1; omega
      · rw [if_neg hlo, List.append_nil, show lo - cnt = lo - (cnt + 1) + 1 by omega, Nat.add_sub_add_right]
        apply List.map_congr_left
        intro j _
        congr 1; omega
    · rw [if_neg hc, List.nil_append, capN_stop (by
        cases hcg : canGo hi cnt
        · exact Or.inl rfl
        · exact Or.inr (runLen_of_not_acc (Bool.eq_false_iff.mpr (fun ha => hc ⟨hcg, ha⟩))))]
      by_cases hlo : lo ≤ cnt
      · rw [if_pos hlo, Nat.sub_eq_zero_of_le hlo]; rfl
      · rw [if_neg hlo, Nat.sub_eq_zero_of_le (show 0 + 1 ≤ lo - cnt by omega)]; rfl

theorem charloop_successes (e : Env) (p : Pred) (lo : Nat) (hi : Option Nat) (st : St) :
    m e (.quant false lo hi (.chr p)) false st =
      (List.range (capN hi 0 (runLen e p st.pos) + 1 - lo)).reverse.map
        (fun j => { st with pos := st.pos + lo + j }) := by
  rw [m_quant, iter_chr_greedy e p lo hi _ 0 st (by have := runLen_le e p st.pos; omega)]
  simp

theorem lazy_charloop_successes (e : Env) (p : Pred) (lo : Nat) (hi : Option Nat) (st : St) :
    m e (.quant true lo hi (.chr p)) false st =
      (List.range (capN hi 0 (runLen e p st.pos) + 1 - lo)).map
        (fun j => { st with pos := st.pos + lo + j }) := by
  rw [m_quant, iter_chr_lazy_reverse, ← m_quant, charloop_successes]
  simp [List.map_reverse]

theorem mem_charloop (e : Env) (p : Pred) (lzy : Bool) (lo : Nat) (hi : Option Nat) (st t : St) :
    t ∈ m e (.quant lzy lo hi (.chr p)) false st ↔
      t.caps = st.caps ∧ st.pos + lo ≤ t.pos ∧ t.pos ≤ st.pos + capN hi 0 (runLen e p st.pos) := by
  have key : t ∈ (List.range (capN hi 0 (runLen e p st.pos) + 1 - lo)).map
        (fun j => ({ st with pos := st.pos + lo + j } : St)) ↔
      t.caps = st.caps ∧ st.pos + lo ≤ t.pos ∧ t.pos ≤ st.pos + capN hi 0 (runLen e p st.pos) := by
    simp only [List.mem_map, List.mem_range]
    constructor
    · rintro ⟨j, hj, rfl⟩
      exact ⟨rfl, by simp only; omega, by simp only; omega⟩
    · rintro ⟨h1, h2, h3⟩
      refine ⟨t.pos - (st.pos + lo), by omega, ?_⟩
      cases t
      simp only at h1 h2 h3 ⊢
      subst h1
      congr 1; omega
  cases lzy
  · rw [charloop_successes, List.map_reverse, List.mem_reverse]; exact key
  · rw [lazy_charloop_successes]; exact key

/-! ### an item followed by a loop over the same test (`aa*` ⇒ `a+`) -/

theorem canGo_shift (hi : Option Nat) (cnt : Nat) : canGo (hi.map (· + 1)) (cnt + 1) = canGo hi cnt := by
  cases hi <;> simp [canGo]

theorem iter_shift (f : St → List St) (lzy : Bool) (lo : Nat) (hi : Option Nat) :
    ∀ (fuel cnt : Nat) (st : St),
      iter f lzy (lo + 1) (hi.map (· + 1)) fuel (cnt + 1) st = iter f lzy lo hi fuel cnt st := by
  intro fuel
  induction fuel with
  | zero => intro cnt st; simp [iter]
  | succ fuel ih =>
    intro cnt st
    simp only [iter, canGo_shift, Nat.add_le_add_iff_right, ih]

theorem chr_then_loop (e : Env) (q : Pred) (lzy : Bool) (lo : Nat) (hi : Option Nat) (st : St) :
    m e (.seq (.chr q) (.quant lzy lo hi (.chr q))) false st
      = m e (.quant lzy (lo + 1) (hi.map (· + 1)) (.chr q)) false st := by
  have hcg : canGo (hi.map (· + 1)) 0 = true := by cases hi <;> rfl
  rw [m_quant e lzy (lo + 1), show e.n + (lo + 1) + 1 = (e.n + lo + 1) + 1 by omega, iter_succ, iterMore_chr, m_seq_ltr,
    m_chr_ltr, if_neg (Nat.not_succ_le_zero lo)]
  by_cases ha : acc e q st.pos = true
  · simp only [hcg, ha, and_self, if_true, List.flatMap_singleton, iter_shift, ← m_quant]
    cases lzy <;> simp
  · simp only [ha]
    cases lzy <;> simp

/-- every success of a greedy character loop except the first has an accepted rune right after it
    (the loop could have gone on from there) -/
theorem charloop_tail_acc (e : Env) (p : Pred) (lo : Nat) (hi : Option Nat) (st : St) :
    ∀ t ∈ (m e (.quant false lo hi (.chr p)) false st).tail, acc e p t.pos = true := by
  intro t ht
  rw [charloop_successes] at ht
  have hK := capN_le hi 0 (runLen e p st.pos)
  cases hn : capN hi 0 (runLen e p st.pos) + 1 - lo with
  | zero => rw [hn] at ht; cases ht
  | succ n =>
    rw [hn, List.range_succ, List.reverse_append] at ht
    simp only [List.reverse_singleton, List.singleton_append, List.map_cons, List.tail_cons, List.mem_map,
      List.mem_reverse, List.mem_range] at ht
    obtain ⟨j, hj, rfl⟩ := ht
    rw [Nat.add_assoc]
    exact acc_of_lt_runLen e p st.pos (lo + j) (by omega)

theorem charloop_prevAcc (e : Env) (p : Pred) (lzy : Bool) (lo : Nat) (hi : Option Nat) (hlo : 1 ≤ lo) (st : St) :
    ∀ t ∈ m e (.quant lzy lo hi (.chr p)) false st, prevAcc e p t.pos = true := by
  intro t ht
  obtain ⟨_, h1, h2⟩ := (mem_charloop e p lzy lo hi st t).mp ht
  have hK := capN_le hi 0 (runLen e p st.pos)
  have := acc_of_lt_runLen e p st.pos (t.pos - 1 - st.pos) (by omega)
  rw [show st.pos + (t.pos - 1 - st.pos) = t.pos - 1 by omega] at this
  simp only [prevAcc, this, Bool.and_true, bne_iff_ne, ne_eq]
  omega

theorem charloop_eqMod_atomic (e : Env) (p : Pred) (lo : Nat) (hi : Option Nat) :
    EqMod e (acc e p) false (.quant false lo hi (.chr p)) (.atomic (.quant false lo hi (.chr p))) :=
  eqMod_atomic_of_tail_dead (charloop_tail_acc e p lo hi)

theorem charloop_eqMod_atomic_between (e : Env) (p : Pred) (lo : Nat) (hi : Option Nat) (hlo : 1 ≤ lo) :
    EqMod e (fun i => prevAcc e p i && acc e p i) false
      (.quant false lo hi (.chr p)) (.atomic (.quant false lo hi (.chr p))) := by
  apply eqMod_atomic_of_tail_dead
  intro st t ht
  rw [charloop_tail_acc e p lo hi st t ht, charloop_prevAcc e p false lo hi hlo st t (List.mem_of_mem_tail ht)]
  rfl

theorem lazy_charloop_eqMod_atomic (e : Env) (p : Pred) (lo : Nat) (hi : Option Nat) :
    EqMod e (acc e p) false (.quant true lo hi (.chr p)) (.atomic (.quant false lo hi (.chr p))) := by
  intro st
  have h := charloop_eqMod_atomic e p lo hi st
  rw [m_atomic] at h ⊢
  rw [m_quant, iter_chr_lazy_reverse, ← m_quant, live, List.filter_reverse, ← live, h]
  cases m e (.quant false lo hi (.chr p)) false st with
  | nil => rfl
  | cons x xs =>
    simp only [live, List.take_succ_cons, List.take_zero, List.filter_cons]
    split <;> rfl

/-! ## continuations that fail at dead positions -/

theorem kills_chr {e : Env} {p q : Pred} (h : ∀ r, p.test e r = true → q.test e r = false) :
    Kills e (acc e p) (.chr q) := by
  intro st hd
  obtain ⟨r, hx, hr⟩ := acc_iff.mp hd
  have : acc e q st.pos = false := by simp [acc, hx, h r hr]
  simp [m_chr_ltr, this]

theorem kills_nothing (e : Env) (D : Nat → Bool) : Kills e D .nothing := fun _ _ => by simp [m]

theorem kills_anchor {e : Env} {D : Nat → Bool} {a : Anchor} (h : ∀ i, D i = true → anchorHolds e a i = false) :
    Kills e D (.anchor a) := fun st hd => by simp [m, h _ hd]

theorem anchorHolds_before_acc {e : Env} {p : Pred} {i : Nat} (h : acc e p i = true) :
    anchorHolds e .end i = false ∧
      (p.test e 10 = false → anchorHolds e .eol i = false ∧ anchorHolds e .endz i = false) := by
  obtain ⟨r, hx, hr⟩ := acc_iff.mp h
  have hlt := (List.getElem?_eq_some_iff.mp hx).1
  have h1 : (i == e.n) = false := by simp [Env.n]; omega
  refine ⟨by simp [anchorHolds, h1], fun hnl => ?_⟩
  have h2 : r ≠ 10 := fun h => by rw [h, hnl] at hr; cases hr
  simp [anchorHolds, h1, hx, h2]

theorem kills_end (e : Env) (p : Pred) : Kills e (acc e p) (.anchor .end) :=
  kills_anchor fun _ h => (anchorHolds_before_acc h).1

/-- `10` is `'\n'`: `$` and `\Z` fail in front of an accepted rune when the loop does not accept it -/
theorem kills_eol {e : Env} {p : Pred} (hnl : p.test e 10 = false) : Kills e (acc e p) (.anchor .eol) :=
  kills_anchor fun _ h => ((anchorHolds_before_acc h).2 hnl).1

theorem kills_endz {e : Env} {p : Pred} (hnl : p.test e 10 = false) : Kills e (acc e p) (.anchor .endz) :=
  kills_anchor fun _ h => ((anchorHolds_before_acc h).2 hnl).2

theorem runes_of_between {e : Env} {p : Pred} {i : Nat} (h : (prevAcc e p i && acc e p i) = true) :
    ∃ q r, i ≠ 0 ∧ e.text[i - 1]? = some q ∧ e.text[i]? = some r ∧ p.test e q = true ∧ p.test e r = true := by
  simp only [prevAcc, Bool.and_eq_true, bne_iff_ne, ne_eq, acc_iff] at h
  obtain ⟨⟨h0, q, hq, hpq⟩, r, hr, hpr⟩ := h
  exact ⟨q, r, h0, hq, hr, hpq, hpr⟩

theorem kills_boundary_uniform {e : Env} {p : Pred}
    (hw : ∀ r r', p.test e r = true → p.test e r' = true → e.isWord r = e.isWord r') :
    Kills e (fun i => prevAcc e p i && acc e p i) (.anchor .boundary) :=
  kills_anchor fun i hd => by
    obtain ⟨q, r, h0, hq, hr, hpq, hpr⟩ := runes_of_between hd
    simp [anchorHolds, h0, hq, hr, hw q r hpq hpr]

theorem kills_boundary {e : Env} {p : Pred} (hw : ∀ r, p.test e r = true → e.isWord r = true) :
    Kills e (fun i => prevAcc e p i && acc e p i) (.anchor .boundary) :=
  kills_boundary_uniform (fun r r' h h' => by rw [hw r h, hw r' h'])

theorem kills_seq_first {e : Env} {D : Nat → Bool} {k1 : Pat} (k2 : Pat) (h : Kills e D k1) :
    Kills e D (.seq k1 k2) := by
  intro st hd
  simp [m, h st hd]

/-- a nullable first factor that cannot move at a dead position hands the dead position on -/
theorem kills_seq_stays {e : Env} {D : Nat → Bool} {k1 k2 : Pat} (h1 : Stays e D k1) (h2 : Kills e D k2) :
    Kills e D (.seq k1 k2) := by
  intro st hd
  simp only [m, Bool.false_eq_true, if_false, List.flatMap_eq_nil_iff]
  intro t ht
  exact h2 t (by rw [h1 st hd t ht]; exact hd)

theorem kills_alt {e : Env} {D : Nat → Bool} {k1 k2 : Pat} (h1 : Kills e D k1) (h2 : Kills e D k2) :
    Kills e D (.alt k1 k2) := by
  intro st hd; rw [m_alt_eq_append, h1 st hd, h2 st hd]; rfl

theorem kills_cap {e : Env} {D : Nat → Bool} {k : Pat} (g : Nat) (h : Kills e D k) : Kills e D (.cap g k) := by
  intro st hd; simp [m, h st hd]

theorem kills_atomic {e : Env} {D : Nat → Bool} {k : Pat} (h : Kills e D k) : Kills e D (.atomic k) := by
  intro st hd; simp [m, h st hd]

theorem kills_lookahead {e : Env} {D : Nat → Bool} {k : Pat} (h : Kills e D k) :
    Kills e D (.look false false k) := by
  intro st hd; simp [m, h st hd]

theorem kills_refCond {e : Env} {D : Nat → Bool} {k1 k2 : Pat} (g : Nat) (h1 : Kills e D k1) (h2 : Kills e D k2) :
    Kills e D (.refCond g k1 k2) := by
  intro st hd; simp only [m]; split
  · exact h1 st hd
  · exact h2 st hd

theorem kills_exprCond {e : Env} {D : Nat → Bool} {k1 k2 : Pat} (c : Pat) (h1 : Kills e D k1) (h2 : Kills e D k2) :
    Kills e D (.exprCond c k1 k2) := by
  intro st hd; simp only [m]; split
  · exact h1 _ hd
  · exact h2 st hd

theorem kills_quant {e : Env} {D : Nat → Bool} {k : Pat} (lzy : Bool) {lo : Nat} (hi : Option Nat)
    (hlo : 1 ≤ lo) (h : Kills e D k) : Kills e D (.quant lzy lo hi k) := by
  intro st hd
  rw [m_quant, iter_stop (Or.inr (h st hd)), if_neg (by omega)]

theorem stays_quant {e : Env} {D : Nat → Bool} {k : Pat} (lzy : Bool) (lo : Nat) (hi : Option Nat)
    (h : Kills e D k) : Stays e D (.quant lzy lo hi k) := by
  intro st hd t ht
  rw [m_quant, iter_stop (Or.inr (h st hd))] at ht
  split at ht <;> simp at ht
  rw [ht]

theorem stays_empty (e : Env) (D : Nat → Bool) : Stays e D .empty := by
  intro st _ t ht; simp [m] at ht; rw [ht]

theorem stays_anchor (e : Env) (D : Nat → Bool) (a : Anchor) : Stays e D (.anchor a) := by
  intro st _ t ht
  simp only [m] at ht
  split at ht <;> simp at ht
  rw [ht]

theorem stays_look (e : Env) (D : Nat → Bool) (behind neg : Bool) (k : Pat) : Stays e D (.look behind neg k) := by
  intro st _ t ht
  rw [m_look] at ht
  split at ht
  · -- the body fails: `st` itself, or nothing
    split at ht
    · rw [List.mem_singleton.mp ht]
    · cases ht
  · -- the body succeeds: nothing, or `st` with the body's captures
    split at ht
    · cases ht
    · rw [List.mem_singleton.mp ht]

theorem stays_seq {e : Env} {D : Nat → Bool} {k1 k2 : Pat} (h1 : Stays e D k1) (h2 : Stays e D k2) :
    Stays e D (.seq k1 k2) := by
  intro st hd t ht
  simp only [m, Bool.false_eq_true, if_false, List.mem_flatMap] at ht
  obtain ⟨y, hy, hty⟩ := ht
  have e1 := h1 st hd y hy
  rw [h2 y (by rw [e1]; exact hd) t hty, e1]

theorem stays_alt {e : Env} {D : Nat → Bool} {k1 k2 : Pat} (h1 : Stays e D k1) (h2 : Stays e D k2) :
    Stays e D (.alt k1 k2) := by
  intro st hd t ht
  rw [m_alt_eq_append, List.mem_append] at ht
  exact ht.elim (h1 st hd t) (h2 st hd t)

theorem stays_cap {e : Env} {D : Nat → Bool} {k : Pat} (g : Nat) (h : Stays e D k) : Stays e D (.cap g k) := by
  intro st hd t ht
  simp only [m, List.mem_map] at ht
  obtain ⟨y, hy, rfl⟩ := ht
  exact h st hd y hy

theorem stays_atomic {e : Env} {D : Nat → Bool} {k : Pat} (h : Stays e D k) : Stays e D (.atomic k) := by
  intro st hd t ht
  rw [m_atomic] at ht
  exact h st hd t (List.mem_of_mem_take ht)

theorem stays_refCond {e : Env} {D : Nat → Bool} {k1 k2 : Pat} (g : Nat) (h1 : Stays e D k1) (h2 : Stays e D k2) :
    Stays e D (.refCond g k1 k2) := by
  intro st hd t ht
  simp only [m] at ht
  split at ht
  · exact h1 st hd t ht
  · exact h2 st hd t ht

theorem stays_exprCond {e : Env} {D : Nat → Bool} {k1 k2 : Pat} (c : Pat) (h1 : Stays e D k1) (h2 : Stays e D k2) :
    Stays e D (.exprCond c k1 k2) := by
  intro st hd t ht
  simp only [m] at ht
  split at ht
  · rename_i st' _ _
    exact h1 ⟨st.pos, st'.caps⟩ hd t ht
  · exact h2 st hd t ht

/-! ## descending into the body of a loop (`(?:x a*)+ k  ⇒  (?:x (?>a*))+ k`) -/

theorem iter_eqMod {D : Nat → Bool} (f g : St → List St)
    (hfg : ∀ st, live D (f st) = live D (g st)) (hf : ∀ st, D st.pos = true → f st = [])
    (lzy : Bool) (lo : Nat) (hi : Option Nat) :
    ∀ (fuel cnt : Nat) (st : St),
      live D (iter f lzy lo hi fuel cnt st) = live D (iter g lzy lo hi fuel cnt st) := by
  intro fuel
  induction fuel with
  | zero => intro cnt st; rfl
  | succ fuel ih =>
    intro cnt st
    have hm : live D (iterMore f lzy lo hi fuel cnt st) = live D (iterMore g lzy lo hi fuel cnt st) := by
      unfold iterMore
      split
      · rw [live_flatMap, live_flatMap]
        refine (flatMap_congr_live (hfg st) _ ?_).trans ?_
        · -- from a dead state the loop yields at most that state
          intro y hy
          rw [iter_stop (Or.inr (hf y hy))]
          split
          · exact live_of_dead hy
          · split
            · exact live_of_dead hy
            · rfl
        · congr 1
          funext y
          split
          · rfl
          · exact ih (cnt + 1) y
      · rfl
    rw [iter_succ, iter_succ]
    cases lzy
    · simp only [Bool.false_eq_true, if_false, live_append, hm]
    · simp only [if_true, live_append, hm]

theorem EqMod.quant {e : Env} {D : Nat → Bool} {b b' : Pat} (lzy : Bool) (lo : Nat) (hi : Option Nat)
    (h : EqMod e D false b b') (hb : Kills e D b) : EqMod e D false (.quant lzy lo hi b) (.quant lzy lo hi b') := by
  intro st
  rw [m_quant, m_quant]
  exact iter_eqMod _ _ h hb lzy lo hi _ 0 st

/-- A loop in tail position.  Below the lower bound what the bodies give back at a dead position is lost for the
    next iteration; from the lower bound on every iteration succeeds, so only the first counts. -/
theorem iter_head_eqMod {D : Nat → Bool} (f g : St → List St)
    (hhead : ∀ st, (f st).head? = (g st).head?) (hfg : ∀ st, live D (f st) = live D (g st))
    (hf : ∀ st, D st.pos = true → f st = [])
    (lzy : Bool) (lo : Nat) (hi : Option Nat) :
    ∀ (fuel cnt : Nat) (st : St),
      (iter f lzy lo hi fuel cnt st).head? = (iter g lzy lo hi fuel cnt st).head? := by
  intro fuel
  induction fuel with
  | zero => intro cnt st; rfl
  | succ fuel ih =>
    intro cnt st
    have hm : (iterMore f lzy lo hi fuel cnt st).head? = (iterMore g lzy lo hi fuel cnt st).head? := by
      unfold iterMore
      split
      · have hpt : ∀ y : St, (if (y.pos == st.pos && decide (lo ≤ cnt + 1)) = true then [y]
              else iter f lzy lo hi fuel (cnt + 1) y).head?
            = (if (y.pos == st.pos && decide (lo ≤ cnt + 1)) = true then [y]
              else iter g lzy lo hi fuel (cnt + 1) y).head? := by
          intro y; split
          · rfl
          · exact ih (cnt + 1) y
        by_cases hlo : lo ≤ cnt + 1
        · rw [head?_flatMap_of_ne_nil, head?_flatMap_of_ne_nil, hhead st]
          · cases (g st).head? with
            | none => rfl
            | some y => exact hpt y
          · intro y _; split
            · simp
            · exact iter_ne_nil hlo
          · intro y _; split
            · simp
            · exact iter_ne_nil hlo
        · rw [flatMap_congr_live (hfg st)]
          · exact tailObs_head.flatMap _ fun y _ => hpt y
          · intro y hy
            rw [iter_stop (Or.inr (hf y hy))]
            simp [hlo]
      · rfl
    rw [iter_succ, iter_succ]
    cases lzy
    · exact head?_append_congr hm rfl
    · exact head?_append_congr rfl hm

theorem headEq_quant_eqMod {e : Env} {D : Nat → Bool} {b b' : Pat} (lzy : Bool) (lo : Nat) (hi : Option Nat)
    (hh : HeadEq e false b b') (h : EqMod e D false b b') (hb : Kills e D b) :
    HeadEq e false (.quant lzy lo hi b) (.quant lzy lo hi b') := by
  intro st
  rw [m_quant, m_quant]
  exact iter_head_eqMod _ _ hh h hb lzy lo hi _ 0 st

/-! ## patterns with at most one success -/

/-- `x` never has more than one success (direction `rtl`): nothing to backtrack into -/
def AtMostOne (e : Env) (rtl : Bool) (x : Pat) : Prop := ∀ st, (m e x rtl st).length ≤ 1

theorem atomic_of_atMostOne {e : Env} {rtl : Bool} {x : Pat} (h : AtMostOne e rtl x) (st : St) :
    m e (.atomic x) rtl st = m e x rtl st := by
  rw [m_atomic]; exact List.take_of_length_le (h st)

theorem atMostOne_empty (e : Env) (rtl : Bool) : AtMostOne e rtl .empty := fun _ => by simp [m]
theorem atMostOne_nothing (e : Env) (rtl : Bool) : AtMostOne e rtl .nothing := fun _ => by simp [m]

theorem atMostOne_chr (e : Env) (rtl : Bool) (p : Pred) : AtMostOne e rtl (.chr p) := by
  intro st
  simp only [m]
  split
  · split <;> simp
  · simp

theorem atMostOne_anchor (e : Env) (rtl : Bool) (a : Anchor) : AtMostOne e rtl (.anchor a) := by
  intro st; simp only [m]; split <;> simp

theorem atMostOne_ref (e : Env) (rtl : Bool) (g : Nat) (ci : Bool) : AtMostOne e rtl (.ref g ci) := by
  intro st
  simp only [m]
  split
  · simp
  · split <;> simp

theorem atMostOne_atomic (e : Env) (rtl : Bool) (x : Pat) : AtMostOne e rtl (.atomic x) := by
  intro st; rw [m_atomic]; simp only [List.length_take]; omega

theorem atMostOne_look (e : Env) (rtl : Bool) (behind neg : Bool) (x : Pat) :
    AtMostOne e rtl (.look behind neg x) := by
  intro st
  simp only [m]
  split <;> split <;> simp

theorem atMostOne_seq {e : Env} {rtl : Bool} {a b : Pat} (ha : AtMostOne e rtl a) (hb : AtMostOne e rtl b) :
    AtMostOne e rtl (.seq a b) := by
  intro st
  simp only [m]
  split
  · exact length_flatMap_le_one (hb st) (fun y _ => ha y)
  · exact length_flatMap_le_one (ha st) (fun y _ => hb y)

theorem atMostOne_cap {e : Env} {rtl : Bool} {a : Pat} (g : Nat) (ha : AtMostOne e rtl a) :
    AtMostOne e rtl (.cap g a) := by
  intro st; simp only [m, List.length_map]; exact ha st

theorem atMostOne_quant_fixed {e : Env} {rtl : Bool} {a : Pat} (lzy : Bool) (n : Nat) (ha : AtMostOne e rtl a) :
    AtMostOne e rtl (.quant lzy n (some n) a) := by
  intro st
  rw [m_quant]
  suffices h : ∀ (fuel cnt : Nat) (st : St), (iter (m e a rtl) lzy n (some n) fuel cnt st).length ≤ 1 from h _ 0 st
  intro fuel
  induction fuel with
  | zero => intro cnt st; simp only [iter]; split <;> simp
  | succ fuel ih =>
    intro cnt st
    by_cases hc : n ≤ cnt
    · rw [iter_stop (Or.inl (by simp [canGo]; omega))]
      split <;> simp
    · have hm : (iterMore (m e a rtl) lzy n (some n) fuel cnt st).length ≤ 1 := by
        unfold iterMore
        split
        · apply length_flatMap_le_one (ha st)
          intro y _
          split
          · simp
          · exact ih (cnt + 1) y
        · simp
      rw [iter_succ]
      cases lzy <;> simpa [hc] using hm

/-! ## alternation: prefix factoring, n-ary form, exclusive branches -/

theorem seq_empty_right (e : Env) (a : Pat) (rtl : Bool) (st : St) : m e (.seq a .empty) rtl st = m e a rtl st := by
  cases rtl <;> simp [m]

theorem seq_empty_left (e : Env) (a : Pat) (rtl : Bool) (st : St) : m e (.seq .empty a) rtl st = m e a rtl st := by
  cases rtl <;> simp [m]

theorem m_altOf (e : Env) (rtl : Bool) (st : St) : ∀ (l : List Pat),
    m e (altOf l) rtl st = l.flatMap (fun a => m e a rtl st)
  | [] => by simp [altOf, m]
  | [a] => by simp [altOf]
  | a :: b :: rest => by
    have := m_altOf e rtl st (b :: rest)
    simp only [altOf, m, this, List.flatMap_cons]

theorem flatMap_seq_eq_seq_altOf (e : Env) (x : Pat) (bs : List Pat) (st : St) (hx : (m e x false st).length ≤ 1) :
    bs.flatMap (fun b => m e (.seq x b) false st) = m e (.seq x (altOf bs)) false st := by
  simp only [m_seq_ltr]
  match m e x false st, hx with
  | [], _ => simp
  | [y], _ => simp [m_altOf]

/-- a concatenation of patterns with at most one success each has at most one success
    (literal strings: Multi nodes) -/
theorem atMostOne_seqOf {e : Env} {rtl : Bool} : ∀ (l : List Pat), (∀ a ∈ l, AtMostOne e rtl a) → AtMostOne e rtl (seqOf l)
  | [], _ => atMostOne_empty e rtl
  | [a], h => h a (by simp)
  | a :: b :: rest, h =>
    atMostOne_seq (h a (by simp)) (atMostOne_seqOf (b :: rest) (fun x hx => h x (by simp [hx])))

def Exclusive (e : Env) (rtl : Bool) (a b : Pat) : Prop := ∀ st, m e a rtl st = [] ∨ m e b rtl st = []

theorem Exclusive.symm {e : Env} {rtl : Bool} {a b : Pat} (h : Exclusive e rtl a b) : Exclusive e rtl b a :=
  fun st => (h st).symm

theorem exclusive_of_first_rune_bare (e : Env) {c d : Nat} (hcd : c ≠ d) :
    Exclusive e false (.chr (.one c false)) (.chr (.one d false)) := by
  intro st
  by_cases h : acc e (.one c false) st.pos = true
  · exact Or.inr (kills_chr (fun r hr => by simp [Pred.test] at hr ⊢; omega) st h)
  · exact Or.inl (by rw [m_chr_ltr, if_neg h])

/-! ## the bump-along shortcut: a leading unbounded character loop -/

theorem charloop_prefix_within_run (e : Env) (p : Pred) (lo : Nat) (i j : Nat)
    (caps : List (Nat × Nat × Nat)) (hij : i ≤ j) (hj : j ≤ i + runLen e p i) :
    m e (.quant false lo none (.chr p)) false ⟨j, caps⟩
      <+: m e (.quant false lo none (.chr p)) false ⟨i, caps⟩ := by
  -- one position further into the run
  have step : ∀ k, acc e p k = true →
      m e (.quant false lo none (.chr p)) false ⟨k + 1, caps⟩ <+: m e (.quant false lo none (.chr p)) false ⟨k, caps⟩ := by
    intro k hk
    rw [charloop_successes, charloop_successes]
    simp only [capN, runLen_of_acc hk]
    cases hn : runLen e p (k + 1) + 1 - lo with
    | zero => exact List.nil_prefix
    | succ n =>
      rw [show runLen e p (k + 1) + 1 + 1 - lo = n + 1 + 1 by omega, range_succ_reverse_map (n + 1)]
      simp only [Nat.add_assoc, Nat.add_comm 1]
      exact List.prefix_append _ _
  obtain ⟨d, rfl⟩ := Nat.exists_eq_add_of_le hij
  induction d with
  | zero => exact List.prefix_refl _
  | succ d ih =>
    exact (step (i + d) (acc_of_lt_runLen e p i d (by omega))).trans (ih (by omega) (by omega))

theorem charloop_subset_within_run (e : Env) (p : Pred) (lzy : Bool) (lo : Nat) (i j : Nat)
    (caps : List (Nat × Nat × Nat)) (hij : i ≤ j) (hj : j ≤ i + runLen e p i) :
    ∀ t ∈ m e (.quant lzy lo none (.chr p)) false ⟨j, caps⟩,
      t ∈ m e (.quant lzy lo none (.chr p)) false ⟨i, caps⟩ := by
  intro t ht
  have hp := (charloop_prefix_within_run e p lo i j caps hij hj).subset
  cases lzy
  · exact hp ht
  · rw [m_quant, iter_chr_lazy_reverse, List.mem_reverse, ← m_quant] at ht ⊢
    exact hp ht

/-- the pattern `F` begins with the loop `L`, so that the bump-along marker after `L` is sound: `F` is `L`, or a
    concatenation whose first factor begins with `L`, or — when `allowAtomic` — an atomic group around such -/
inductive Front (L : Pat) (allowAtomic : Bool) : Pat → Prop
  | here : Front L allowAtomic L
  | seq {F : Pat} (k : Pat) : Front L allowAtomic F → Front L allowAtomic (.seq F k)
  | atomic {F : Pat} : allowAtomic = true → Front L allowAtomic F → Front L allowAtomic (.atomic F)

theorem front_prefix_within_run (e : Env) (p : Pred) (lo : Nat) (i j : Nat)
    (caps : List (Nat × Nat × Nat)) (hij : i ≤ j) (hj : j ≤ i + runLen e p i)
    {a : Bool} {F : Pat} (hF : Front (.quant false lo none (.chr p)) a F) :
    m e F false ⟨j, caps⟩ <+: m e F false ⟨i, caps⟩ := by
  induction hF with
  | here => exact charloop_prefix_within_run e p lo i j caps hij hj
  | seq k _ ih =>
    rw [m_seq_ltr, m_seq_ltr]
    exact prefix_flatMap _ ih
  | atomic _ _ ih =>
    rw [m_atomic, m_atomic]
    exact prefix_take_one ih

theorem front_subset_within_run (e : Env) (p : Pred) (lzy : Bool) (lo : Nat) (i j : Nat)
    (caps : List (Nat × Nat × Nat)) (hij : i ≤ j) (hj : j ≤ i + runLen e p i)
    {F : Pat} (hF : Front (.quant lzy lo none (.chr p)) false F) :
    ∀ t ∈ m e F false ⟨j, caps⟩, t ∈ m e F false ⟨i, caps⟩ := by
  induction hF with
  | here => exact charloop_subset_within_run e p lzy lo i j caps hij hj
  | seq k _ ih =>
    intro t ht
    rw [m_seq_ltr, List.mem_flatMap] at ht ⊢
    obtain ⟨y, hy, hty⟩ := ht
    exact ⟨y, ih y hy, hty⟩
  | atomic ha _ _ => cases ha

/-! ## loops in tail position whose body ends in a loop (`(?:abc*)*  ⇒  (?:ab(?>c*))*`) -/

/-- `b'` is `b` with successes at dead positions pruned, the first success kept -/
def Prunes (e : Env) (D : Nat → Bool) (b b' : Pat) : Prop :=
  HeadEq e false b b' ∧ ∀ st, DeadSub D (m e b' false st) (m e b false st)

theorem Prunes.refl (e : Env) (D : Nat → Bool) (b : Pat) : Prunes e D b b :=
  ⟨HeadEq.refl, fun _ => DeadSub.refl D _⟩

theorem prunes_charloop (e : Env) (p : Pred) (lo : Nat) (hi : Option Nat) :
    Prunes e (acc e p) (.quant false lo hi (.chr p)) (.atomic (.quant false lo hi (.chr p))) := by
  refine ⟨headEq_atomic e false _, fun st => ?_⟩
  rw [m_atomic]
  exact DeadSub.take_one _ (charloop_tail_acc e p lo hi st)

theorem Prunes.mono {e : Env} {D D' : Nat → Bool} {b b' : Pat} (hD : ∀ i, D i = true → D' i = true)
    (h : Prunes e D b b') : Prunes e D' b b' :=
  ⟨h.1, fun st => (h.2 st).mono hD⟩

theorem Prunes.seq_last {e : Env} {D : Nat → Bool} {x x' : Pat} (a : Pat) (h : Prunes e D x x') :
    Prunes e D (.seq a x) (.seq a x') :=
  ⟨tailObs_head.seq_ltr a h.1, (tailObs_deadSub D).seq_ltr a h.2⟩

theorem Prunes.cap {e : Env} {D : Nat → Bool} {x x' : Pat} (g : Nat) (h : Prunes e D x x') :
    Prunes e D (.cap g x) (.cap g x') :=
  ⟨tailObs_head.cap g h.1, (tailObs_deadSub D).cap g h.2⟩

theorem headEq_quant_prune {e : Env} {D : Nat → Bool} {b b' : Pat} (lzy : Bool) (lo : Nat) (hi : Option Nat)
    (h : Prunes e D b b') (hb : Kills e D b) :
    HeadEq e false (.quant lzy lo hi b) (.quant lzy lo hi b') :=
  headEq_quant_eqMod lzy lo hi h.1 (fun st => (h.2 st).live_eq) hb

/-! ## scan level -/

theorem find_skip (e : Env) (p : Pat) (i s : Nat) (his : i < s)
    (hfail : ∀ j, i < j → j < s → attempt e p false j = none) :
    find e p false (i + 1) = find e p false s := by
  unfold find scanOrder
  simp only [Bool.false_eq_true, if_false]
  obtain ⟨d, rfl⟩ := Nat.exists_eq_add_of_lt his
  induction d with
  | zero => rfl
  | succ d ih =>
    rw [ih (by omega) (fun j h1 h2 => hfail j h1 (by omega)),
      findSome?_drop_range_succ _ _ _ (hfail (i + d + 1) (by omega) (by omega))]
    rfl

theorem attempt_eq_none_iff (e : Env) (p : Pat) (rtl : Bool) (i : Nat) :
    attempt e p rtl i = none ↔ m e p rtl ⟨i, []⟩ = [] := by
  unfold attempt
  simp only [m, List.head?_eq_none_iff, List.map_eq_nil_iff]

theorem find_congr_head {e : Env} {p q : Pat} {rtl : Bool} (h : HeadEq e rtl p q) (start : Nat) :
    find e p rtl start = find e q rtl start := by
  unfold find
  congr 1
  funext i
  exact tailObs_head.cap 0 h _

end RegexVerif.Spec
