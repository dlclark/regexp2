/-
Lemmas for C18 about `Model/Options.lean`: what `scanOptions` makes of the spellings `(?O)` and `(?-O)` (`applySeq_onSeq`,
`applySeq_offSeq`: union and difference), and that the parser's one pass with an explicit options stack (`run` on the
flattened pattern) computes the recursive `resolve` (`run_flatten_aux`).  For a pattern piece by piece:
`applySeq_append`, `optsAfter` (defined here) with `resolve_append`, `resolveOne_snd`.
-/
import RegexVerif.Model.Options

namespace RegexVerif.Options

theorem applySeq_append (o : Opts) (a b : List (Flag × Bool)) :
    applySeq o (a ++ b) = applySeq (applySeq o a) b := by
  induction a generalizing o with
  | nil => rfl
  | cons p a ih => obtain ⟨f, v⟩ := p; simp [applySeq, ih]

/-- `(?O)` read by `scanOptions` on top of `o`: the union -/
theorem applySeq_onSeq (o O : Opts) :
    applySeq o (onSeq O) =
      { i := o.i || O.i, m := o.m || O.m, n := o.n || O.n, s := o.s || O.s, x := o.x || O.x } := by
  obtain ⟨i, m, n, s, x⟩ := O
  cases i <;> cases m <;> cases n <;> cases s <;> cases x <;> simp only [Bool.or_true, Bool.or_false] <;> rfl

theorem applySeq_none_onSeq (O : Opts) : applySeq Opts.none (onSeq O) = O := by
  rw [applySeq_onSeq]; simp [Opts.none]

/-- `(?-O)` on top of `o`: the difference -/
theorem applySeq_offSeq (o O : Opts) :
    applySeq o (offSeq O) =
      { i := o.i && !O.i, m := o.m && !O.m, n := o.n && !O.n, s := o.s && !O.s, x := o.x && !O.x } := by
  obtain ⟨i, m, n, s, x⟩ := O
  cases i <;> cases m <;> cases n <;> cases s <;> cases x <;>
    simp only [Bool.not_true, Bool.not_false, Bool.and_true, Bool.and_false] <;> rfl

theorem resolve_cons (o : Opts) (p : Pat) (ps : List Pat) :
    resolve o (p :: ps) = (resolveOne o p).1 ++ resolve (resolveOne o p).2 ps := by
  simp [resolve]

theorem resolve_nil (o : Opts) : resolve o [] = [] := by simp [resolve]

/-- the options in force after the items `ps` of one group body, started under `o` -/
def optsAfter (o : Opts) : List Pat → Opts
  | [] => o
  | p :: ps => optsAfter (resolveOne o p).2 ps

theorem resolve_append (o : Opts) (a b : List Pat) :
    resolve o (a ++ b) = resolve o a ++ resolve (optsAfter o a) b := by
  induction a generalizing o with
  | nil => simp [resolve_nil, optsAfter]
  | cons p a ih => simp [resolve_cons, optsAfter, ih]

theorem leaves_append (a b : List Tok) : leaves (a ++ b) = leaves a ++ leaves b := by
  induction a with
  | nil => rfl
  | cons t a ih => cases t <;> simp [leaves, ih]

/-- groups and scoped groups leave the options as they found them; only a bare `(?…)` changes them -/
theorem resolveOne_snd (o : Opts) (p : Pat) :
    (resolveOne o p).2 = match p with
      | .opt seq => applySeq o seq
      | _ => o := by
  cases p <;> simp [resolveOne]

/-! the stack machine computes `resolve` -/

mutual
theorem run_flatten_aux (o : Opts) (st : List Opts) (rest : List Src) :
    (ps : List Pat) → run o st (flatten ps ++ rest) = resolve o ps ++ run (optsAfter o ps) st rest
  | [] => by simp [flatten, resolve_nil, optsAfter]
  | p :: ps => by
    have h1 := run_flattenOne_aux o st (flatten ps ++ rest) p
    have h2 := run_flatten_aux (resolveOne o p).2 st rest ps
    simp only [flatten, List.append_assoc, resolve_cons, optsAfter]
    rw [h1, h2]
theorem run_flattenOne_aux (o : Opts) (st : List Opts) (rest : List Src) :
    (p : Pat) → run o st (flattenOne p ++ rest) = (resolveOne o p).1 ++ run (resolveOne o p).2 st rest
  | .leaf id => by simp [flattenOne, run, resolveOne]
  | .bar id => by simp [flattenOne, run, resolveOne]
  | .opt seq => by simp [flattenOne, run, resolveOne]
  | .group id k body => by
    have h := run_flatten_aux o (o :: st) (.gclose id :: rest) body
    simp only [flattenOne, List.cons_append, List.append_assoc, List.nil_append, run, resolveOne]
    rw [h]; simp [run]
  | .scoped id seq body => by
    have h := run_flatten_aux (applySeq o seq) (o :: st) (.gclose id :: rest) body
    simp only [flattenOne, List.cons_append, List.append_assoc, List.nil_append, run, resolveOne]
    rw [h]; simp [run]
end

end RegexVerif.Options
