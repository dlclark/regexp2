/-
C19: the specification-level reading of a literal raw tree.  The reducer's denotation of a raw tree is
`RewriteDecisions.toPat rtl (Reduce.toR (Reduce.ofRaw root))`; for the tree `Parser.parse` builds for `Escape s`
(`Lemmas/EscapeFull.lean`) it is `cap 0 (s as a string of literal runes)`, whose successes are computed here.
-/
import RegexVerif.Lemmas.EscapeFull
import RegexVerif.Lemmas.RewriteDecisions
import RegexVerif.Lemmas.Reduce

namespace RegexVerif.Lemmas.EscapeSpec
open RegexVerif RegexVerif.Spec RegexVerif.RewriteDecisions RegexVerif.Reduce

/-- by induction on `w`: the first rune is matched at `st.pos`, the rest from `st.pos + 1` -/
theorem m_strPat_exact (e : Env) : ∀ (w : List Nat) (st : St),
    m e (strPat w) false st =
      if (e.text.drop st.pos).take w.length = w then [{ st with pos := st.pos + w.length }] else [] := by
  intro w
  induction w with
  | nil => intro st; simp [strPat, seqOf, m]
  | cons c w ih =>
    intro st
    have h1 : m e (strPat (c :: w)) false st = (m e (lit c) false st).flatMap (fun st' => m e (strPat w) false st') :=
      ms_cons_ltr e (lit c) (w.map lit) st
    rw [h1]
    simp only [lit, m, stepChar, Bool.false_eq_true, if_false, Pred.test]
    cases hc : e.text[st.pos]? with
    | none =>
      have : e.text.drop st.pos = [] := by
        rw [List.getElem?_eq_none_iff] at hc; exact List.drop_eq_nil_of_le hc
      simp [this]
    | some r =>
      obtain ⟨hlt, hr⟩ := List.getElem?_eq_some_iff.mp hc
      have hd : e.text.drop st.pos = r :: e.text.drop (st.pos + 1) := by
        rw [List.drop_eq_getElem_cons hlt, hr]
      simp only [Option.map_some, hd, List.length_cons, List.take_succ_cons, List.cons.injEq]
      by_cases hcr : c = r
      · subst hcr
        simp only [beq_self_eq_true, if_true, List.flatMap_cons, List.flatMap_nil, List.append_nil, true_and]
        rw [ih]
        simp [Nat.add_assoc, Nat.add_comm 1]
      · have : (c == r) = false := by simpa using hcr
        simp [this]
        intro h; exact absurd h.symm hcr

theorem toPat_leaf (rtl : Bool) (k : Parser.RNode) (w : List Nat) (h : Parser.leafRunes k = some w) :
    toPat rtl (toR (ofRaw k)) = strPat w := by
  unfold Parser.leafRunes at h
  split at h
  · cases h
    simp [ofRaw, ofRaws, toR, Parser.NT.toNat, optsR, cpOf, isOneFamily, isSetFamily, toPat, CP.pred, strPat, seqOf, lit,
      Node.t, Node.ch]
  · cases h; simp [ofRaw, ofRaws, toR, Parser.NT.toNat, isCharLoop, toPat]
  · cases h; simp [ofRaw, ofRaws, toR, Parser.NT.toNat, isCharLoop, toPat, strPat, seqOf]
  · cases h

theorem toPat_litRoot (rtl : Bool) (opts co : Parser.Opts) (cch : Nat) (cstr : List Nat) (cset : Option Class.Class)
    (cm cn : Int) (ks : List Parser.RNode) :
    toPat rtl (toR (ofRaw (.mk .capture opts 0 [] none 0 (-1)
      [.mk .alternate opts 0 [] none 0 0 [.mk .concatenate co cch cstr cset cm cn ks]]))) =
      .cap 0 (seqOf (dir rtl (toPats rtl (toRs (ofRaws ks))))) := by
  simp [ofRaw, ofRaws, toR, toRs, Parser.NT.toNat, isCharLoop, payload, toPat, toPats, altOf]
  cases rtl <;> rfl

theorem seqEq_kids (e : Env) (rtl : Bool) : ∀ (ks : List Parser.RNode) (w : List Nat), Parser.kidsRunes ks = some w →
    SeqEq e rtl (toPats rtl (toRs (ofRaws ks))) [strPat w]
  | [], _, h => by cases h; exact (seqEq_empty e rtl).symm
  | k :: ks, _, h => by
    obtain ⟨a, b, h1, h2, rfl⟩ := Parser.kidsRunes_cons h
    show SeqEq e rtl ([toPat rtl (toR (ofRaw k))] ++ toPats rtl (toRs (ofRaws ks))) _
    rw [toPat_leaf rtl k a h1]
    exact (SeqEq.append (SeqEq.refl e rtl _) (seqEq_kids e rtl ks b h2)).trans (seqEq_strPat_append e rtl a b)

/-- the tree of `Props.C19.literalRoot`, read left to right: one success when the text continues with `w` (right
    after it, group 0 over it), none otherwise -/
theorem m_litRoot (e : Env) (opts : Parser.Opts) (c : Parser.RNode) (w : List Nat) (hc : c.t = .concatenate)
    (h : Parser.kidsRunes c.kids = some w) (st : St) :
    m e (toPat false (toR (ofRaw (.mk .capture opts 0 [] none 0 (-1) [.mk .alternate opts 0 [] none 0 0 [c]])))) false st =
    if (e.text.drop st.pos).take w.length = w then
      [{ pos := st.pos + w.length, caps := st.caps ++ [(0, st.pos, w.length)] }] else [] := by
  obtain ⟨_, co, cch, cstr, cset, cm, cn, ks⟩ := c
  cases hc
  rw [toPat_litRoot]
  simp only [m, dir, Bool.false_eq_true, if_false]
  have := (seqEq_kids e false ks w h st).trans (ms_single e false _ st)
  simp only [ms] at this
  rw [this, m_strPat_exact]
  split
  · simp
  · simp

/-! ## right to left -/

theorem take_succ_drop (l : List Nat) (k n c : Nat) (w : List Nat) :
    (l.drop k).take (n + 1) = c :: w ↔ l[k]? = some c ∧ (l.drop (k + 1)).take n = w := by
  by_cases hk : k < l.length
  · rw [List.drop_eq_getElem_cons hk]
    simp only [List.take_succ_cons, List.cons.injEq, List.getElem?_eq_getElem hk, Option.some.injEq]
  · have h1 : l.drop k = [] := List.drop_eq_nil_of_le (by omega)
    have h2 : l[k]? = none := by rw [List.getElem?_eq_none_iff]; omega
    simp [h1, h2]

/-- by induction on `w`; right to left the tail `w` is matched first, ending at `st.pos`, and the head rune is peeled off
    at the far end, `st.pos - (w.length + 1)` (`take_succ_drop`) -/
theorem m_strPat_exact_rtl (e : Env) : ∀ (w : List Nat) (st : St),
    m e (strPat w) true st =
      if w.length ≤ st.pos ∧ (e.text.drop (st.pos - w.length)).take w.length = w then
        [{ st with pos := st.pos - w.length }] else [] := by
  intro w
  induction w with
  | nil => intro st; simp [strPat, seqOf, m]
  | cons c w ih =>
    intro st
    have h1 : m e (strPat (c :: w)) true st = (m e (strPat w) true st).flatMap (m e (lit c) true) :=
      ms_cons_rtl e (lit c) (w.map lit) st
    rw [h1, ih]
    by_cases hw : w.length ≤ st.pos ∧ (e.text.drop (st.pos - w.length)).take w.length = w
    · rw [if_pos hw]
      simp only [List.flatMap_cons, List.flatMap_nil, List.append_nil, lit, m, stepChar, if_true, Pred.test,
        Bool.false_eq_true, if_false, List.length_cons]
      by_cases h0 : st.pos - w.length = 0
      · have : ¬ (w.length + 1 ≤ st.pos) := by omega
        simp [h0, this]
      · have hle : w.length + 1 ≤ st.pos := by omega
        have hk : st.pos - (w.length + 1) + 1 = st.pos - w.length := by omega
        have key := take_succ_drop e.text (st.pos - (w.length + 1)) w.length c w
        rw [hk] at key
        have hidx : st.pos - w.length - 1 = st.pos - (w.length + 1) := by omega
        simp only [h0, if_false, hidx]
        cases hc : e.text[st.pos - (w.length + 1)]? with
        | none =>
          have : ¬ ((e.text.drop (st.pos - (w.length + 1))).take (w.length + 1) = c :: w) := by
            rw [key, hc]; simp
          simp [this]
        | some r =>
          by_cases hcr : c = r
          · subst hcr
            have : (e.text.drop (st.pos - (w.length + 1))).take (w.length + 1) = c :: w := by
              rw [key, hc]; exact ⟨rfl, hw.2⟩
            simp [this, hle]
          · have : ¬ ((e.text.drop (st.pos - (w.length + 1))).take (w.length + 1) = c :: w) := by
              rw [key, hc]; simp; intro h; exact absurd h.symm hcr
            have hb : (c == r) = false := by simpa using hcr
            simp [this, hb]
    · rw [if_neg hw]
      simp only [List.flatMap_nil, List.length_cons]
      have : ¬ (w.length + 1 ≤ st.pos ∧ (e.text.drop (st.pos - (w.length + 1))).take (w.length + 1) = c :: w) := by
        rintro ⟨hle, ht⟩
        have hk : st.pos - (w.length + 1) + 1 = st.pos - w.length := by omega
        have key := take_succ_drop e.text (st.pos - (w.length + 1)) w.length c w
        rw [hk] at key
        exact hw ⟨by omega, (key.mp ht).2⟩
      simp [this]

theorem toRs_eq_map : ∀ (l : List Node), toRs l = l.map toR
  | [] => by simp [toRs]
  | x :: xs => by simp [toRs, toRs_eq_map xs]

/-- the literal tree of a RightToLeft pattern (children stored reversed), read right to left -/
theorem m_litRoot_rtl (e : Env) (opts : Parser.Opts) (c : Parser.RNode) (w : List Nat) (hc : c.t = .concatenate)
    (h : Parser.kidsRunes c.kids.reverse = some w) (st : St) :
    m e (toPat true (toR (ofRaw (.mk .capture opts 0 [] none 0 (-1) [.mk .alternate opts 0 [] none 0 0 [c]])))) true st =
    if w.length ≤ st.pos ∧ (e.text.drop (st.pos - w.length)).take w.length = w then
      [{ pos := st.pos - w.length, caps := st.caps ++ [(0, st.pos - w.length, w.length)] }] else [] := by
  obtain ⟨_, co, cch, cstr, cset, cm, cn, kids⟩ := c
  cases hc
  obtain ⟨ks, rfl⟩ : ∃ ks, kids = ks.reverse := ⟨kids.reverse, (List.reverse_reverse _).symm⟩
  simp only [Parser.RNode.kids, List.reverse_reverse] at h
  rw [toPat_litRoot]
  simp only [m, dir, if_true, ofRaws_eq_map, toRs_eq_map, toPats_eq_map, List.map_reverse, List.reverse_reverse]
  have := (seqEq_kids e true ks w h st).trans (ms_single e true _ st)
  simp only [ms, ofRaws_eq_map, toRs_eq_map, toPats_eq_map] at this
  rw [this, m_strPat_exact_rtl]
  split
  · rename_i hc
    have : min st.pos (st.pos - w.length) = st.pos - w.length := by omega
    have h2 : max st.pos (st.pos - w.length) = st.pos := by omega
    simp [this, h2]; omega
  · simp

end RegexVerif.Lemmas.EscapeSpec
