/-
The bool-only program at interpreter level (property C02, composed with the compiler-correctness theorem of C01).

The second writer effectively compiles `stripTree` (Model/Writer.lean): that tree translates to `Spec.stripCaps` of the
translation and stays inside the fragment.  `captureSlotsInUse` walks the FLAT code; on the code of a tree it is a fold
over the instructions that only sets entries and sets the entry of every `Ref` / `Testref` operand — so every group the
translated pattern reads back keeps its mark pair in the second writer.  The bool-only program has the code words, tables
and capture size of `emit ti (stripTree …)` (it differs in `trackcount`, which the interpreter never reads), so
`compile_correct_prog` of Lemmas/CompileTop.lean speaks about it.

Letters: `X` is the translation parameter (`TP`) here, as in Model/Compile.lean and in `bareToPat_cases`,
`toPatRoot_some`; wherever the `Setup` of a run occurs, that is `X` and the translation parameter `TPx`.
-/
import RegexVerif.Lemmas.CompileTop
import RegexVerif.Lemmas.Quick

namespace RegexVerif.Compile
open RegexVerif.VM RegexVerif.Code RegexVerif.Writer RegexVerif.Generated.Opcodes RegexVerif RegexVerif.Spec

/-- the `keep` predicate (on GROUP numbers) of a writer configuration: does `emitCapture` keep the mark pair of an
    ordinary capture of group `g` -/
def keepOf (cfg : Cfg) (g : Nat) : Bool := emitCapture cfg (g : Int) (-1)

/-- the groups whose captures survive in the bool-only program of a tree -/
def quickKeep (ti : TreeInfo) (t : GoNode) : Nat → Bool := keepOf (quickCfg ti t)

mutual
theorem lookDir_strip (cfg : Cfg) : ∀ n : GoNode, lookDir (stripTree cfg n) = lookDir n
  | .empty | .bare _ | .char _ _ _ _ | .set _ _ _ | .multi _ _ _ | .ref _ _ _ | .charloop _ _ _ _ _ _
  | .setloop _ _ _ _ _ _ | .poslook _ | .neglook _ | .other _ => rfl
  | .concat cs | .alt cs => lookDirList_strip cfg cs
  | .loop _ _ _ c | .group c | .atomic c => lookDir_strip cfg c
  | .capture m n c => by
    simp only [stripTree]
    split <;> exact lookDir_strip cfg c
  | .backrefcond1 _ y => lookDir_strip cfg y
  | .backrefcond2 _ y n => by simp only [stripTree, lookDir, lookDir_strip cfg y, lookDir_strip cfg n]
  | .exprcond2 c y => by simp only [stripTree, lookDir, lookDir_strip cfg c, lookDir_strip cfg y]
  | .exprcond3 c y n => by simp only [stripTree, lookDir, lookDir_strip cfg c, lookDir_strip cfg y, lookDir_strip cfg n]
theorem lookDirList_strip (cfg : Cfg) : ∀ cs : List GoNode, lookDirList (stripList cfg cs) = lookDirList cs
  | [] => rfl
  | c :: cs => by simp only [stripList, lookDirList, lookDir_strip cfg c, lookDirList_strip cfg cs]
end

theorem stripCaps_nest (keep : Nat → Bool) (f : Pat → Pat → Pat) (u : Pat)
    (hf : ∀ a b, stripCaps keep (f a b) = f (stripCaps keep a) (stripCaps keep b)) (hu : stripCaps keep u = u) :
    ∀ ps : List Pat, stripCaps keep (nest f u ps) = nest f u (ps.map (stripCaps keep))
  | [] => by simp [nest, hu]
  | [x] => by simp [nest]
  | x :: y :: rest => by
    have ih := stripCaps_nest keep f u hf hu (y :: rest)
    simp only [nest, hf, ih, List.map_cons]

theorem stripCaps_nestSeq (keep : Nat → Bool) (ps : List Pat) :
    stripCaps keep (nestSeq ps) = nestSeq (ps.map (stripCaps keep)) :=
  stripCaps_nest keep Pat.seq Pat.empty (fun _ _ => rfl) rfl ps

theorem stripCaps_nestAlt (keep : Nat → Bool) (ps : List Pat) :
    stripCaps keep (nestAlt ps) = nestAlt (ps.map (stripCaps keep)) :=
  stripCaps_nest keep Pat.alt Pat.nothing (fun _ _ => rfl) rfl ps

theorem stripCaps_loopPat (keep : Nat → Bool) (t : Nat) (m n : Int) (body : Pat) :
    stripCaps keep (loopPat t m n body) = loopPat t m n (stripCaps keep body) := by
  unfold loopPat
  split <;> rfl

theorem bareToPat_flat {X : TP} {t : Nat} {p : Pat} (h : bareToPat X t = some p) : capsOf p = [] ∧ refsOf p = [] :=
  bareToPat_cases (P := fun _ p => capsOf p = [] ∧ refsOf p = []) h ⟨rfl, rfl⟩ ⟨rfl, rfl⟩ ⟨rfl, rfl⟩ ⟨rfl, rfl⟩ ⟨rfl, rfl⟩ ⟨rfl, rfl⟩ ⟨rfl, rfl⟩ ⟨rfl, rfl⟩ ⟨rfl, rfl⟩ ⟨rfl, rfl⟩

theorem stripCaps_bare {keep : Nat → Bool} {X : TP} {t : Nat} {p : Pat} (h : bareToPat X t = some p) :
    stripCaps keep p = p :=
  stripCaps_id keep p (by rw [(bareToPat_flat h).1]; intro _ hg; cases hg)

theorem stripCaps_multi (keep : Nat → Bool) (s : List Nat) :
    stripCaps keep (nestSeq (s.map (fun r => Pat.chr (.one r false)))) = nestSeq (s.map (fun r => Pat.chr (.one r false))) := by
  rw [stripCaps_nestSeq, List.map_map]
  rfl

theorem kept_keepOf {cfg : Cfg} (h0 : emitCapture cfg 0 (-1) = true) (g : Nat) : kept (keepOf cfg) g = keepOf cfg g := by
  unfold kept
  by_cases hg : g = 0
  · subst hg; simp [keepOf, h0]
  · have : (g == 0) = false := by simpa using hg
    rw [this, Bool.false_or]

mutual
/-- **the translation commutes with stripping**: where the tree has a specification pattern, the tree the second writer
    effectively compiles has the pattern with the `cap g ·` nodes of the dropped groups removed -/
theorem toPat_strip (cfg : Cfg) (h0 : emitCapture cfg 0 (-1) = true) (X : TP) :
    ∀ (n : GoNode) (d : Bool) (p : Pat), toPat X d n = some p →
      toPat X d (stripTree cfg n) = some (stripCaps (keepOf cfg) p)
  | .empty => by
    intro d p h
    simp only [toPat, Option.some.injEq] at h
    subst h
    rfl
  | .bare t => by
    intro d p h
    simp only [toPat] at h
    simp only [stripTree, toPat, h, stripCaps_bare h]
  | .char t rtl ci ch => by
    intro d p h
    obtain ⟨_, _, ⟨_, rfl⟩ | ⟨_, rfl⟩⟩ := toPat_char h <;> exact h
  | .set rtl ci s => by
    intro d p h
    obtain ⟨_, _, c, _, rfl⟩ := toPat_set h
    exact h
  | .multi rtl ci s => by
    intro d p h
    obtain ⟨_, _, rfl⟩ := toPat_multi h
    rw [stripCaps_multi]
    exact h
  | .ref rtl ci m => by
    intro d p h
    obtain ⟨_, _, rfl⟩ := toPat_ref h
    exact h
  | .charloop t rtl ci ch m n => by
    intro d p h
    obtain ⟨_, _, _, rfl⟩ := toPat_charloop h
    rw [stripCaps_loopPat]
    exact h
  | .setloop t rtl ci s m n => by
    intro d p h
    obtain ⟨_, _, _, c, _, rfl⟩ := toPat_setloop h
    rw [stripCaps_loopPat]
    exact h
  | .concat cs => by
    intro d p h
    obtain ⟨ps, hps, rfl⟩ := toPat_concat h
    simp only [stripTree, toPat, toPatList_strip cfg h0 X cs d ps hps, Option.map_some, stripCaps_nestSeq]
    cases d <;> simp [List.map_reverse]
  | .alt cs => by
    intro d p h
    obtain ⟨ps, hps, rfl⟩ := toPat_alt h
    simp only [stripTree, toPat, toPatList_strip cfg h0 X cs d ps hps, Option.map_some, stripCaps_nestAlt]
  | .loop lzy m n c => by
    intro d p h
    obtain ⟨b, hb, rfl⟩ := toPat_loop h
    simp only [stripTree, toPat, toPat_strip cfg h0 X c d b hb, Option.map_some, stripCaps]
  | .capture m n c => by
    intro d p h
    obtain ⟨⟨rfl, hm⟩, b, hb, rfl⟩ := toPat_capture h
    have hk : kept (keepOf cfg) m.toNat = emitCapture cfg m (-1) := by
      rw [kept_keepOf h0, keepOf, Int.toNat_of_nonneg hm]
    simp only [stripTree, stripCaps, hk]
    split
    · simp [toPat, hm, toPat_strip cfg h0 X c d b hb]
    · simp [toPat, toPat_strip cfg h0 X c d b hb]
  | .group c => fun d p h => toPat_strip cfg h0 X c d p h
  | .poslook c => by
    intro d p h
    obtain ⟨b, q, hd, hq, rfl⟩ := toPat_look (neg := false) h
    simp only [stripTree, toPat, lookDir_strip, hd, toPat_strip cfg h0 X c b q hq, Option.map_some, stripCaps]
  | .neglook c => by
    intro d p h
    obtain ⟨b, q, hd, hq, rfl⟩ := toPat_look (neg := true) h
    simp only [stripTree, toPat, lookDir_strip, hd, toPat_strip cfg h0 X c b q hq, Option.map_some, stripCaps]
  | .atomic c => by
    intro d p h
    obtain ⟨b, hb, rfl⟩ := toPat_atomic h
    simp only [stripTree, toPat, toPat_strip cfg h0 X c d b hb, Option.map_some, stripCaps]
  | .backrefcond1 m y => by
    intro d p h
    obtain ⟨hm, b, hb, rfl⟩ := toPat_backrefcond1 h
    simp only [stripTree, toPat, hm, if_true, toPat_strip cfg h0 X y d b hb, Option.map_some, stripCaps]
  | .backrefcond2 m y n => by
    intro d p h
    obtain ⟨hm, b, b2, hb, hb2, rfl⟩ := toPat_backrefcond2 h
    simp only [stripTree, toPat, hm, if_true, toPat_strip cfg h0 X y d b hb, toPat_strip cfg h0 X n d b2 hb2, stripCaps]
  | .exprcond2 c y => by
    intro d p h
    obtain ⟨b, b2, hb, hb2, rfl⟩ := toPat_exprcond2 h
    simp only [stripTree, toPat, toPat_strip cfg h0 X c d b hb, toPat_strip cfg h0 X y d b2 hb2, stripCaps]
  | .exprcond3 c y n => by
    intro d p h
    obtain ⟨b, b2, b3, hb, hb2, hb3, rfl⟩ := toPat_exprcond3 h
    simp only [stripTree, toPat, toPat_strip cfg h0 X c d b hb, toPat_strip cfg h0 X y d b2 hb2,
      toPat_strip cfg h0 X n d b3 hb3, stripCaps]
  | .other _ => by
    intro d p h
    simp [toPat] at h
theorem toPatList_strip (cfg : Cfg) (h0 : emitCapture cfg 0 (-1) = true) (X : TP) :
    ∀ (cs : List GoNode) (d : Bool) (ps : List Pat), toPatList X d cs = some ps →
      toPatList X d (stripList cfg cs) = some (ps.map (stripCaps (keepOf cfg)))
  | [] => by
    intro d ps h
    simp only [toPatList, Option.some.injEq] at h
    subst h
    rfl
  | c :: cs => by
    intro d ps h
    obtain ⟨b, bs, hb, hbs, rfl⟩ := toPatList_cons h
    simp only [stripList, toPatList, toPat_strip cfg h0 X c d b hb, toPatList_strip cfg h0 X cs d bs hbs, List.map_cons]
end

theorem max_le_max {a b c d : Nat} (h1 : a ≤ b) (h2 : c ≤ d) : max a c ≤ max b d := by omega

mutual
theorem tier_le_ten : ∀ n : GoNode, tier n ≤ 10
  | .empty | .char _ _ _ _ | .set _ _ _ | .multi _ _ _ => (by decide : 1 ≤ 10)
  | .other _ => Nat.le_refl _
  | .bare _ => by simp only [tier]; split <;> (try split) <;> omega
  | .ref _ _ _ | .charloop _ _ _ _ _ _ | .setloop _ _ _ _ _ _ => by simp only [tier]; split <;> omega
  | .concat cs | .alt cs => tierList_le_ten cs
  | .loop _ _ _ c | .atomic c => Nat.max_le.2 ⟨by decide, tier_le_ten c⟩
  | .capture _ _ c => by have := tier_le_ten c; simp only [tier]; split <;> omega
  | .group c => tier_le_ten c
  | .poslook c | .neglook c => by have := tier_le_ten c; simp only [tier]; split <;> omega
  | .backrefcond1 _ y => Nat.max_le.2 ⟨by decide, tier_le_ten y⟩
  | .backrefcond2 _ y n => Nat.max_le.2 ⟨by decide, Nat.max_le.2 ⟨tier_le_ten y, tier_le_ten n⟩⟩
  | .exprcond2 c y => Nat.max_le.2 ⟨by decide, Nat.max_le.2 ⟨tier_le_ten c, tier_le_ten y⟩⟩
  | .exprcond3 c y n =>
    Nat.max_le.2 ⟨by decide, Nat.max_le.2 ⟨tier_le_ten c, Nat.max_le.2 ⟨tier_le_ten y, tier_le_ten n⟩⟩⟩
theorem tierList_le_ten : ∀ cs : List GoNode, tierList cs ≤ 10
  | [] => (by decide : 1 ≤ 10)
  | c :: cs => Nat.max_le.2 ⟨tier_le_ten c, tierList_le_ten cs⟩
end

mutual
theorem tier_strip (cfg : Cfg) : ∀ n : GoNode, tier (stripTree cfg n) ≤ tier n
  | .empty | .bare _ | .char _ _ _ _ | .set _ _ _ | .multi _ _ _ | .ref _ _ _ | .charloop _ _ _ _ _ _
  | .setloop _ _ _ _ _ _ | .other _ => Nat.le_refl _
  | .concat cs | .alt cs => tierList_strip cfg cs
  | .loop _ _ _ c | .atomic c => max_le_max (Nat.le_refl _) (tier_strip cfg c)
  | .capture m n c => by
    have := tier_strip cfg c
    have := tier_le_ten c
    simp only [stripTree]
    split
    · simp only [tier]; split <;> omega
    · simp only [tier]; split <;> omega
  | .group c => tier_strip cfg c
  | .poslook c | .neglook c => by
    have := tier_strip cfg c
    simp only [stripTree, tier, lookDir_strip]; split <;> omega
  | .backrefcond1 _ y => max_le_max (Nat.le_refl _) (tier_strip cfg y)
  | .backrefcond2 _ y n => max_le_max (Nat.le_refl _) (max_le_max (tier_strip cfg y) (tier_strip cfg n))
  | .exprcond2 c y => max_le_max (Nat.le_refl _) (max_le_max (tier_strip cfg c) (tier_strip cfg y))
  | .exprcond3 c y n =>
    max_le_max (Nat.le_refl _) (max_le_max (tier_strip cfg c) (max_le_max (tier_strip cfg y) (tier_strip cfg n)))
theorem tierList_strip (cfg : Cfg) : ∀ cs : List GoNode, tierList (stripList cfg cs) ≤ tierList cs
  | [] => Nat.le_refl _
  | c :: cs => max_le_max (tier_strip cfg c) (tierList_strip cfg cs)
end

/-- `ok` and `boundsOk` do not look at `Capture` nodes -/
theorem ok_strip_both (cfg : Cfg) :
    (∀ n : GoNode, (stripTree cfg n).ok = n.ok) ∧ ∀ cs, okList (stripList cfg cs) = okList cs := by
  apply stripTree.mutual_induct cfg <;> intros <;> simp_all [stripTree, stripList, GoNode.ok, okList, stripList_isEmpty]

theorem ok_strip (cfg : Cfg) : ∀ n : GoNode, (stripTree cfg n).ok = n.ok := (ok_strip_both cfg).1
theorem okList_strip (cfg : Cfg) : ∀ cs : List GoNode, okList (stripList cfg cs) = okList cs := (ok_strip_both cfg).2

theorem boundsOk_strip_both (cfg : Cfg) :
    (∀ n : GoNode, boundsOk (stripTree cfg n) = boundsOk n) ∧ ∀ cs, boundsOkList (stripList cfg cs) = boundsOkList cs := by
  apply stripTree.mutual_induct cfg <;> intros <;> simp_all [stripTree, stripList, boundsOk, boundsOkList]

theorem boundsOk_strip (cfg : Cfg) : ∀ n : GoNode, boundsOk (stripTree cfg n) = boundsOk n := (boundsOk_strip_both cfg).1
theorem boundsOkList_strip (cfg : Cfg) : ∀ cs : List GoNode, boundsOkList (stripList cfg cs) = boundsOkList cs :=
  (boundsOk_strip_both cfg).2

mutual
/-- a stripped capture names no slot, so `capsOk` (for ANY slot map `cfg'`) can only get easier -/
theorem capsOk_strip (cfg cfg' : Cfg) (N : Nat) : ∀ n : GoNode, capsOk cfg' N n = true → capsOk cfg' N (stripTree cfg n) = true
  | .empty | .bare _ | .char _ _ _ _ | .set _ _ _ | .multi _ _ _ | .ref _ _ _ | .charloop _ _ _ _ _ _
  | .setloop _ _ _ _ _ _ | .other _ => id
  | .concat cs | .alt cs => capsOkList_strip cfg cfg' N cs
  | .loop _ _ _ c | .group c | .poslook c | .neglook c | .atomic c => capsOk_strip cfg cfg' N c
  | .capture m n c => by
    intro h
    simp only [capsOk, Bool.and_eq_true] at h
    simp only [stripTree]
    split
    · simp only [capsOk, Bool.and_eq_true]; exact ⟨h.1, capsOk_strip cfg cfg' N c h.2⟩
    · exact capsOk_strip cfg cfg' N c h.2
  | .backrefcond1 _ y => by
    intro h
    simp only [stripTree, capsOk, Bool.and_eq_true] at h ⊢; exact ⟨h.1, capsOk_strip cfg cfg' N y h.2⟩
  | .backrefcond2 _ y n => by
    intro h
    simp only [stripTree, capsOk, Bool.and_eq_true] at h ⊢
    exact ⟨⟨h.1.1, capsOk_strip cfg cfg' N y h.1.2⟩, capsOk_strip cfg cfg' N n h.2⟩
  | .exprcond2 c y => by
    intro h
    simp only [stripTree, capsOk, Bool.and_eq_true] at h ⊢
    exact ⟨capsOk_strip cfg cfg' N c h.1, capsOk_strip cfg cfg' N y h.2⟩
  | .exprcond3 c y n => by
    intro h
    simp only [stripTree, capsOk, Bool.and_eq_true] at h ⊢
    exact ⟨⟨capsOk_strip cfg cfg' N c h.1.1, capsOk_strip cfg cfg' N y h.1.2⟩, capsOk_strip cfg cfg' N n h.2⟩
theorem capsOkList_strip (cfg cfg' : Cfg) (N : Nat) : ∀ cs : List GoNode, capsOkList cfg' N cs = true →
    capsOkList cfg' N (stripList cfg cs) = true
  | [] => id
  | c :: cs => by
    intro h
    simp only [stripList, capsOkList, Bool.and_eq_true] at h ⊢
    exact ⟨capsOk_strip cfg cfg' N c h.1, capsOkList_strip cfg cfg' N cs h.2⟩
end

theorem treeWf_strip (cfg : Cfg) (ti : TreeInfo) (t : GoNode) (h : treeWf ti t = true) : treeWf ti (stripTree cfg t) = true := by
  simp only [treeWf, Bool.and_eq_true] at h ⊢
  exact ⟨⟨by rw [ok_strip]; exact h.1.1, capsOk_strip cfg _ _ t h.1.2⟩, by rw [boundsOk_strip]; exact h.2⟩

theorem emitList_tables (cfg cfg' : Cfg) : ∀ (cs : List GoNode) (a a' : Nat) (tb : Tables),
    (emitList cfg a tb cs).2 = (emitList cfg' a' tb cs).2 :=
  Writer.emitList_tables cfg cfg'

theorem emitAlt_tables (cfg cfg' : Cfg) : ∀ (cs : List GoNode) (a a' fin fin' : Nat) (tb : Tables),
    (emitAlt cfg a fin tb cs).2 = (emitAlt cfg' a' fin' tb cs).2 :=
  Writer.emitAlt_tables cfg cfg'

/-- what one instruction contributes to `inUse` (the body of the loop of `captureSlotsInUse`) -/
def markInstr (u : List Bool) (i : Instr) : List Bool :=
  if i.opcode == opRef || i.opcode == opTestref then markSlot u i.args[0]?
  else if i.opcode == opCapturemark then
    (if i.args[1]? != some (-1) then markSlot (markSlot u i.args[0]?) i.args[1]? else u)
  else u

theorem sizeOf_slot_instrs : Code.sizeOf? opRef = some 2 ∧ Code.sizeOf? opTestref = some 2 ∧ Code.sizeOf? opCapturemark = some 3 := by
  decide

/-- on the flat code of an instruction list with the arities of `opcodeSize`, the walk of `captureSlotsInUse` is a
    fold over the instructions (fuel = any bound of their number) -/
theorem slotsWalk_flatten : ∀ (c : Code) (fuel : Nat) (u : List Bool), (∀ i ∈ c, i.arityOk = true) → c.length ≤ fuel →
    slotsWalk fuel (flatten c) u = c.foldl markInstr u
  | [], fuel, u, _, _ => by cases fuel <;> simp [flatten, slotsWalk]
  | i :: r, 0, _, _, hf => by simp at hf
  | i :: r, fuel + 1, u, h, hf => by
    have hi := h i (by simp)
    have ih := fun u' => slotsWalk_flatten r fuel u' (fun j hj => h j (by simp [hj])) (by simpa using hf)
    simp only [Instr.arityOk, beq_iff_eq] at hi
    have hop : i.op % (flagMask + 1) = i.opcode := rfl
    simp only [flatten, Instr.words, List.cons_append, slotsWalk, Int.toNat_natCast, List.foldl_cons, hop, hi,
      Nat.add_sub_cancel_left, List.drop_left, ih]
    congr 1
    unfold markInstr
    by_cases h1 : (i.opcode == opRef || i.opcode == opTestref) = true
    · have hlen : i.args.length = 1 := by
        simp only [Bool.or_eq_true, beq_iff_eq] at h1
        rcases h1 with h1 | h1 <;> rw [h1] at hi
        · rw [sizeOf_slot_instrs.1] at hi; simp at hi; omega
        · rw [sizeOf_slot_instrs.2.1] at hi; simp at hi; omega
      simp only [h1, if_true]
      rw [List.getElem?_append_left (by omega)]
    · simp only [h1, Bool.false_eq_true, if_false]
      by_cases h2 : (i.opcode == opCapturemark) = true
      · have hlen : i.args.length = 2 := by
          simp only [beq_iff_eq] at h2
          rw [h2, sizeOf_slot_instrs.2.2] at hi; simp at hi; omega
        simp only [h2, if_true]
        rw [List.getElem?_append_left (by omega), List.getElem?_append_left (by omega)]
      · simp only [h2, Bool.false_eq_true, if_false]

theorem markSlot_length (u : List Bool) (c : Option Int) : (markSlot u c).length = u.length := by
  unfold markSlot
  cases c with
  | none => rfl
  | some x => simp only; split <;> simp

theorem markSlot_mono (u : List Bool) (c : Option Int) (k : Nat) (h : u.getD k false = true) :
    (markSlot u c).getD k false = true := by
  unfold markSlot
  cases c with
  | none => exact h
  | some x =>
    simp only
    split
    · simp only [List.getD_eq_getElem?_getD, List.getElem?_set] at h ⊢
      split
      · split <;> simp_all
      · exact h
    · exact h

theorem markSlot_marks (u : List Bool) (x : Int) (h0 : 0 ≤ x) (h1 : x < u.length) :
    (markSlot u (some x)).getD x.toNat false = true := by
  have hx : x.toNat < u.length := by omega
  simp [markSlot, h0, h1, List.getD_eq_getElem?_getD, hx]

theorem markInstr_length (u : List Bool) (i : Instr) : (markInstr u i).length = u.length := by
  unfold markInstr
  repeat' split
  all_goals simp only [markSlot_length]

theorem markInstr_mono (u : List Bool) (i : Instr) (k : Nat) (h : u.getD k false = true) :
    (markInstr u i).getD k false = true := by
  unfold markInstr
  repeat' split
  all_goals first
    | exact h
    | exact markSlot_mono _ _ _ h
    | exact markSlot_mono _ _ _ (markSlot_mono _ _ _ h)

theorem foldl_markInstr_length : ∀ (c : Code) (u : List Bool), (c.foldl markInstr u).length = u.length
  | [], _ => rfl
  | i :: r, u => by rw [List.foldl_cons, foldl_markInstr_length r, markInstr_length]

theorem foldl_markInstr_mono : ∀ (c : Code) (u : List Bool) (k : Nat), u.getD k false = true →
    (c.foldl markInstr u).getD k false = true
  | [], _, _, h => h
  | i :: r, u, k, h => by rw [List.foldl_cons]; exact foldl_markInstr_mono r _ k (markInstr_mono u i k h)

/-- a `Ref` / `Testref` instruction with operand `x` -/
def IsRefInstr (i : Instr) (x : Int) : Prop := (i.opcode = opRef ∨ i.opcode = opTestref) ∧ i.args = [x]

theorem foldl_markInstr_marks : ∀ (c : Code) (u : List Bool) (i : Instr) (x : Int), i ∈ c → IsRefInstr i x → 0 ≤ x →
    x < u.length → (c.foldl markInstr u).getD x.toNat false = true
  | [], _, _, _, h, _, _, _ => by cases h
  | j :: r, u, i, x, h, hi, h0, h1 => by
    rw [List.foldl_cons]
    rcases List.mem_cons.1 h with rfl | h
    · apply foldl_markInstr_mono
      have hop : (i.opcode == opRef || i.opcode == opTestref) = true := by
        rcases hi.1 with e | e <;> simp [e]
      simp only [markInstr, hop, if_true, hi.2, List.getElem?_cons_zero]
      exact markSlot_marks u x h0 h1
    · exact foldl_markInstr_marks r _ i x h hi h0 (by rw [markInstr_length]; exact h1)

theorem captureSlotsInUse_flatten (c : Code) (N : Nat) (h : ∀ i ∈ c, i.arityOk = true) :
    captureSlotsInUse (flatten c) N = c.foldl markInstr ((List.replicate N false).set 0 true) := by
  unfold captureSlotsInUse
  exact slotsWalk_flatten c _ _ h (by rw [flatten_length]; exact length_le_codeLen c)

mutual
/-- the group numbers a tree reads back: operands of `Ref` and `BackRefCond` nodes -/
def treeRefs : GoNode → List Int
  | .ref _ _ m => [m]
  | .concat cs => treeRefsList cs
  | .alt cs => treeRefsList cs
  | .loop _ _ _ c => treeRefs c
  | .capture _ _ c => treeRefs c
  | .group c => treeRefs c
  | .poslook c => treeRefs c
  | .neglook c => treeRefs c
  | .atomic c => treeRefs c
  | .backrefcond1 m y => m :: treeRefs y
  | .backrefcond2 m y n => m :: (treeRefs y ++ treeRefs n)
  | .exprcond2 c y => treeRefs c ++ treeRefs y
  | .exprcond3 c y n => treeRefs c ++ (treeRefs y ++ treeRefs n)
  | _ => []
def treeRefsList : List GoNode → List Int
  | [] => []
  | c :: cs => treeRefs c ++ treeRefsList cs
end

theorem isRef_ref (rtl ci : Bool) (x : Int) : IsRefInstr (i1 (opRef ||| bits rtl ci) x) x :=
  ⟨Or.inl (opcode_bits opRef (by decide) rtl ci), rfl⟩

theorem isRef_testref (x : Int) : IsRefInstr (i1 opTestref x) x := ⟨Or.inr rfl, rfl⟩

theorem exists_mem_left {α : Type} {P : α → Prop} {l r : List α} (h : ∃ i ∈ l, P i) : ∃ i ∈ l ++ r, P i :=
  let ⟨i, hi, hp⟩ := h; ⟨i, List.mem_append_left _ hi, hp⟩

theorem exists_mem_right {α : Type} {P : α → Prop} {l r : List α} (h : ∃ i ∈ r, P i) : ∃ i ∈ l ++ r, P i :=
  let ⟨i, hi, hp⟩ := h; ⟨i, List.mem_append_right _ hi, hp⟩

mutual
theorem emitNode_refs (cfg : Cfg) : ∀ (n : GoNode) (a : Nat) (tb : Tables) (m : Int), m ∈ treeRefs n →
    ∃ i ∈ (emitNode cfg a tb n).1, IsRefInstr i (mapCapnum cfg m)
  | .empty | .bare _ | .char _ _ _ _ | .set _ _ _ | .multi _ _ _ | .charloop _ _ _ _ _ _ | .setloop _ _ _ _ _ _
  | .other _ => fun _ _ _ h => nomatch h
  | .ref rtl ci g => by
    intro a tb m h
    rw [List.mem_singleton.1 h]
    exact ⟨_, List.mem_singleton.2 rfl, isRef_ref rtl ci _⟩
  | .concat cs => emitList_refs cfg cs
  | .alt cs => fun a tb m h => emitAlt_refs cfg cs a _ tb m h
  | .loop _ _ _ c | .poslook c | .neglook c | .atomic c => fun _ tb m h =>
    exists_mem_left (exists_mem_right (emitNode_refs cfg c _ tb m h))
  | .capture _ _ c => by
    intro a tb m h
    simp only [emitNode]
    split
    · exact exists_mem_left (exists_mem_right (emitNode_refs cfg c _ tb m h))
    · exact emitNode_refs cfg c a tb m h
  | .group c => emitNode_refs cfg c
  | .backrefcond1 g y => by
    intro a tb m h
    rcases List.mem_cons.1 h with rfl | h
    · exact ⟨i1 opTestref (mapCapnum cfg m), by simp [emitNode], isRef_testref _⟩
    · exact exists_mem_left (exists_mem_right (emitNode_refs cfg y _ tb m h))
  | .backrefcond2 g y n => by
    intro a tb m h
    rcases List.mem_cons.1 h with rfl | h
    · exact ⟨i1 opTestref (mapCapnum cfg m), by simp [emitNode], isRef_testref _⟩
    · rcases List.mem_append.1 h with h | h
      · exact exists_mem_left (exists_mem_left (exists_mem_right (emitNode_refs cfg y _ tb m h)))
      · exact exists_mem_right (emitNode_refs cfg n _ _ m h)
  | .exprcond2 c y => by
    intro a tb m h
    rcases List.mem_append.1 h with h | h
    · exact exists_mem_left (exists_mem_left (exists_mem_left (exists_mem_right (emitNode_refs cfg c _ tb m h))))
    · exact exists_mem_left (exists_mem_right (emitNode_refs cfg y _ _ m h))
  | .exprcond3 c y n => by
    intro a tb m h
    rcases List.mem_append.1 h with h | h
    · exact exists_mem_left (exists_mem_left (exists_mem_left (exists_mem_left (exists_mem_right
        (emitNode_refs cfg c _ tb m h)))))
    · rcases List.mem_append.1 h with h | h
      · exact exists_mem_left (exists_mem_left (exists_mem_right (emitNode_refs cfg y _ _ m h)))
      · exact exists_mem_right (emitNode_refs cfg n _ _ m h)
theorem emitList_refs (cfg : Cfg) : ∀ (cs : List GoNode) (a : Nat) (tb : Tables) (m : Int), m ∈ treeRefsList cs →
    ∃ i ∈ (emitList cfg a tb cs).1, IsRefInstr i (mapCapnum cfg m)
  | [] => fun _ _ _ h => nomatch h
  | c :: cs => by
    intro a tb m h
    rcases List.mem_append.1 h with h | h
    · exact exists_mem_left (emitNode_refs cfg c a tb m h)
    · exact exists_mem_right (emitList_refs cfg cs _ _ m h)
theorem emitAlt_refs (cfg : Cfg) : ∀ (cs : List GoNode) (a fin : Nat) (tb : Tables) (m : Int), m ∈ treeRefsList cs →
    ∃ i ∈ (emitAlt cfg a fin tb cs).1, IsRefInstr i (mapCapnum cfg m)
  | [] => fun _ _ _ _ h => nomatch h
  | [c] => by
    intro a fin tb m h
    rw [treeRefsList, treeRefsList, List.append_nil] at h
    exact emitNode_refs cfg c a tb m h
  | c :: d :: ds => by
    intro a fin tb m h
    rw [emitAlt_cons_cons]
    rcases List.mem_append.1 h with h | h
    · exact exists_mem_left (exists_mem_left (exists_mem_right (emitNode_refs cfg c _ tb m h)))
    · exact exists_mem_right (emitAlt_refs cfg (d :: ds) _ fin _ m h)
end
theorem refsOf_nest (f : Pat → Pat → Pat) (u : Pat) (hf : ∀ a b, refsOf (f a b) = refsOf a ++ refsOf b) (hu : refsOf u = []) :
    ∀ (ps : List Pat) (g : Nat), g ∈ refsOf (nest f u ps) → ∃ p ∈ ps, g ∈ refsOf p
  | [], g, h => by simp [nest, hu] at h
  | [x], g, h => ⟨x, by simp, by simpa [nest] using h⟩
  | x :: y :: rest, g, h => by
    simp only [nest, hf, List.mem_append] at h
    rcases h with h | h
    · exact ⟨x, by simp, h⟩
    · obtain ⟨p, hp, hg⟩ := refsOf_nest f u hf hu (y :: rest) g h
      exact ⟨p, List.mem_cons_of_mem _ hp, hg⟩

theorem refsOf_loopPat_chr (t : Nat) (m n : Int) (c : Spec.Pred) : refsOf (loopPat t m n (.chr c)) = [] := by
  unfold loopPat; split <;> rfl

mutual
theorem toPat_refs (X : TP) : ∀ (n : GoNode) (d : Bool) (p : Pat), toPat X d n = some p →
    ∀ g ∈ refsOf p, (g : Int) ∈ treeRefs n
  | .empty => by
    intro d p h g hg
    simp only [toPat, Option.some.injEq] at h
    subst h
    cases hg
  | .bare t => by
    intro d p h g hg
    simp only [toPat] at h
    rw [(bareToPat_flat h).2] at hg
    cases hg
  | .char t rtl ci ch => by
    intro d p h g hg
    obtain ⟨_, _, ⟨_, rfl⟩ | ⟨_, rfl⟩⟩ := toPat_char h <;> cases hg
  | .set rtl ci s => by
    intro d p h g hg
    obtain ⟨_, _, c, _, rfl⟩ := toPat_set h
    cases hg
  | .multi rtl ci s => by
    intro d p h g hg
    obtain ⟨_, _, rfl⟩ := toPat_multi h
    obtain ⟨q, hq, hgq⟩ := refsOf_nest Pat.seq Pat.empty (fun _ _ => rfl) rfl _ g hg
    obtain ⟨r, _, rfl⟩ := List.mem_map.1 hq
    cases hgq
  | .ref rtl ci m => by
    intro d p h g hg
    obtain ⟨⟨_, hm⟩, rfl⟩ := toPat_ref h
    rw [List.mem_singleton.1 hg]
    exact List.mem_singleton.2 (Int.toNat_of_nonneg hm)
  | .charloop t rtl ci ch m n => by
    intro d p h g hg
    obtain ⟨_, _, _, rfl⟩ := toPat_charloop h
    rw [refsOf_loopPat_chr] at hg
    cases hg
  | .setloop t rtl ci s m n => by
    intro d p h g hg
    obtain ⟨_, _, _, c, _, rfl⟩ := toPat_setloop h
    rw [refsOf_loopPat_chr] at hg
    cases hg
  | .concat cs => by
    intro d p h g hg
    obtain ⟨ps, hps, rfl⟩ := toPat_concat h
    obtain ⟨q, hq, hgq⟩ := refsOf_nest Pat.seq Pat.empty (fun _ _ => rfl) rfl _ g hg
    have hq' : q ∈ ps := by cases d <;> simpa using hq
    exact toPatList_refs X cs d ps hps q hq' g hgq
  | .alt cs => by
    intro d p h g hg
    obtain ⟨ps, hps, rfl⟩ := toPat_alt h
    obtain ⟨q, hq, hgq⟩ := refsOf_nest Pat.alt Pat.nothing (fun _ _ => rfl) rfl _ g hg
    exact toPatList_refs X cs d ps hps q hq g hgq
  | .loop lzy m n c => by
    intro d p h g hg
    obtain ⟨b, hb, rfl⟩ := toPat_loop h
    exact toPat_refs X c d b hb g hg
  | .capture m n c => by
    intro d p h g hg
    obtain ⟨_, b, hb, rfl⟩ := toPat_capture h
    exact toPat_refs X c d b hb g hg
  | .group c => fun d p h g hg => toPat_refs X c d p h g hg
  | .poslook c => by
    intro d p h g hg
    obtain ⟨b, q, _, hq, rfl⟩ := toPat_look (neg := false) h
    exact toPat_refs X c b q hq g hg
  | .neglook c => by
    intro d p h g hg
    obtain ⟨b, q, _, hq, rfl⟩ := toPat_look (neg := true) h
    exact toPat_refs X c b q hq g hg
  | .atomic c => by
    intro d p h g hg
    obtain ⟨b, hb, rfl⟩ := toPat_atomic h
    exact toPat_refs X c d b hb g hg
  | .backrefcond1 m y => by
    intro d p h g hg
    obtain ⟨hm, b, hb, rfl⟩ := toPat_backrefcond1 h
    simp only [refsOf, List.append_nil, List.mem_cons] at hg
    simp only [treeRefs, List.mem_cons]
    rcases hg with rfl | hg
    · exact Or.inl (Int.toNat_of_nonneg hm)
    · exact Or.inr (toPat_refs X y d b hb g hg)
  | .backrefcond2 m y n => by
    intro d p h g hg
    obtain ⟨hm, b, b2, hb, hb2, rfl⟩ := toPat_backrefcond2 h
    simp only [refsOf, List.mem_cons, List.mem_append] at hg
    simp only [treeRefs, List.mem_cons, List.mem_append]
    rcases hg with rfl | hg | hg
    · exact Or.inl (Int.toNat_of_nonneg hm)
    · exact Or.inr (Or.inl (toPat_refs X y d b hb g hg))
    · exact Or.inr (Or.inr (toPat_refs X n d b2 hb2 g hg))
  | .exprcond2 c y => by
    intro d p h g hg
    obtain ⟨b, b2, hb, hb2, rfl⟩ := toPat_exprcond2 h
    simp only [refsOf, List.append_nil, List.mem_append] at hg
    simp only [treeRefs, List.mem_append]
    exact hg.imp (toPat_refs X c d b hb g) (toPat_refs X y d b2 hb2 g)
  | .exprcond3 c y n => by
    intro d p h g hg
    obtain ⟨b, b2, b3, hb, hb2, hb3, rfl⟩ := toPat_exprcond3 h
    simp only [refsOf, List.mem_append] at hg
    simp only [treeRefs, List.mem_append]
    exact hg.imp (toPat_refs X c d b hb g) (Or.imp (toPat_refs X y d b2 hb2 g) (toPat_refs X n d b3 hb3 g))
  | .other _ => by
    intro d p h
    simp [toPat] at h
theorem toPatList_refs (X : TP) : ∀ (cs : List GoNode) (d : Bool) (ps : List Pat), toPatList X d cs = some ps →
    ∀ q ∈ ps, ∀ g ∈ refsOf q, (g : Int) ∈ treeRefsList cs
  | [] => by
    intro d ps h q hq
    simp only [toPatList, Option.some.injEq] at h
    subst h
    cases hq
  | c :: cs => by
    intro d ps h q hq g hg
    obtain ⟨b, bs, hb, hbs, rfl⟩ := toPatList_cons h
    simp only [treeRefsList, List.mem_append]
    rcases List.mem_cons.1 hq with rfl | hq
    · exact Or.inl (toPat_refs X c d q hb g hg)
    · exact Or.inr (toPatList_refs X cs d bs hbs q hq g hg)
end

theorem inUse_init_zero (N : Nat) (h : 0 < N) : ((List.replicate N false).set 0 true).getD 0 false = true := by
  cases N with
  | zero => omega
  | succ k => simp [List.replicate_succ]

/-- `CaptureSlotInUse` has `Capsize` entries, entry 0 is set, and so is the entry of every slot a `Ref`/`Testref` of the
    main program names -/
theorem slotsInUse_facts (ti : TreeInfo) (t : GoNode) (hok : t.ok = true)
    (hcaps : capsOk (mainCfg ti) (capsize ti) t = true) :
    (Writer.slotsInUse ti t).length = capsize ti ∧
    (0 < capsize ti → (Writer.slotsInUse ti t).getD 0 false = true) ∧
    ∀ m ∈ treeRefs t, 0 ≤ mapCapnum (mainCfg ti) m ∧ mapCapnum (mainCfg ti) m < capsize ti ∧
      (Writer.slotsInUse ti t).getD (mapCapnum (mainCfg ti) m).toNat false = true := by
  have hloc := codeFromTree_local (mainCfg ti) (capsize ti) t hok hcaps
  have hall : ∀ i ∈ mainCode ti t, i.arityOk = true := by
    intro i hi
    have := hloc i hi
    simp only [Instr.localOk, Bool.and_eq_true] at this  -- arity ∧ Multi ∧ set ∧ Ref/Testref ∧ Capturemark, nested to the left
    exact this.1.1.1.1
  have hs : Writer.slotsInUse ti t = (mainCode ti t).foldl markInstr ((List.replicate (capsize ti) false).set 0 true) :=
    captureSlotsInUse_flatten _ _ hall
  have hlen : (Writer.slotsInUse ti t).length = capsize ti := by
    rw [hs, foldl_markInstr_length]; simp
  refine ⟨hlen, ?_, ?_⟩
  · intro h; rw [hs]; exact foldl_markInstr_mono _ _ 0 (inUse_init_zero _ h)
  · intro m hm
    obtain ⟨i, hi, hr⟩ := emitNode_refs (mainCfg ti) t 2 ⟨[], []⟩ m hm
    have himem : i ∈ mainCode ti t := by
      simp only [mainCode, codeFromTree, List.mem_append]
      exact Or.inl (Or.inr hi)
    have hl := hloc i himem
    have hrange : inRange i.args[0]? (capsize ti) = true := by
      simp only [Instr.localOk, Bool.and_eq_true] at hl
      have h4 := hl.1.2  -- the Ref / Testref clause
      have hop : (i.opcode == opRef || i.opcode == opTestref) = true := by
        rcases hr.1 with e | e <;> simp [e]
      simpa [hop] using h4
    rw [hr.2] at hrange
    simp only [List.getElem?_cons_zero, inRange, Bool.and_eq_true, decide_eq_true_eq] at hrange
    refine ⟨hrange.1, hrange.2, ?_⟩
    rw [hs]
    exact foldl_markInstr_marks _ _ i _ himem hr hrange.1 (by simpa using hrange.2)

theorem emitCapture_of (cfg : Cfg) (q : List Bool) (m : Int) (hq : cfg.quick = some q) (h0 : 0 ≤ mapCapnum cfg m)
    (h : mapCapnum cfg m ≥ q.length ∨ q.getD (mapCapnum cfg m).toNat false = true) : emitCapture cfg m (-1) = true := by
  unfold emitCapture
  rw [hq]
  simp only [mapCapnum_neg_one, bne_self_eq_false, Bool.false_eq_true, if_false, Bool.and_eq_true, Bool.or_eq_true,
    decide_eq_true_eq]
  exact ⟨h0, h⟩

theorem quickKeep_zero (ti : TreeInfo) (t : GoNode) (hok : t.ok = true) (hcaps : capsOk (mainCfg ti) (capsize ti) t = true)
    (h0 : mapCapnum (mainCfg ti) 0 = 0) : emitCapture (quickCfg ti t) 0 (-1) = true := by
  obtain ⟨hlen, hz, _⟩ := slotsInUse_facts ti t hok hcaps
  have h0' : mapCapnum (quickCfg ti t) 0 = 0 := h0
  apply emitCapture_of _ (Writer.slotsInUse ti t) 0 rfl
  · rw [h0']; omega
  · rw [h0']
    by_cases hc : 0 < capsize ti
    · exact Or.inr (hz hc)
    · left; omega

/-- **`captureSlotsInUse` selects enough, on the emitted code**: every group the translated pattern reads back
    (`\g`, `(?(g)…)`) keeps its mark pair in the bool-only program -/
theorem quickKeep_refs (ti : TreeInfo) (t : GoNode) (X : TP) (d : Bool) (p : Pat) (hok : t.ok = true)
    (hcaps : capsOk (mainCfg ti) (capsize ti) t = true) (hp : toPat X d t = some p) :
    ∀ g ∈ refsOf p, quickKeep ti t g = true := by
  intro g hg
  obtain ⟨hlen, _, hm⟩ := slotsInUse_facts ti t hok hcaps
  obtain ⟨h1, h2, h3⟩ := hm (g : Int) (toPat_refs X t d p hp g hg)
  have hq : mapCapnum (quickCfg ti t) (g : Int) = mapCapnum (mainCfg ti) (g : Int) := rfl
  show emitCapture (quickCfg ti t) (g : Int) (-1) = true
  apply emitCapture_of _ (Writer.slotsInUse ti t) (g : Int) rfl
  · rw [hq]; exact h1
  · rw [hq]; exact Or.inr h3

/-- `QuickCodes` is the main writer's code for the stripped tree, and the main writer — on the tree or on the stripped
    tree — and the bool-only program's writer build the same tables -/
theorem quickCodes_strip (ti : TreeInfo) (t : GoNode) (q : List Int) (h : quickCodes ti t = some q) :
    q = (emit ti (stripTree (quickCfg ti t) t)).codes.toList ∧
      (codeFromTree (mainCfg ti) (stripTree (quickCfg ti t) t)).2 = (codeFromTree (mainCfg ti) t).2 := by
  obtain ⟨hq, htab⟩ := quickCodes_emit_strip ti t q h
  exact ⟨hq, by rw [← htab]; exact codeFromTree_tables _ _ t⟩

/-- the bool-only program shares code words, tables and capture size with the main writer's program for the
    stripped tree (it differs in `trackcount`: the dropped `Setmark`/`Capturemark` pairs are still counted), and the
    writer builds for the stripped tree the tables it builds for the tree -/
theorem emitQuick_prog (ti : TreeInfo) (t : GoNode) (qp : Prog) (h : emitQuick ti t = some qp) :
    qp.codes = (emit ti (stripTree (quickCfg ti t) t)).codes ∧
    qp.strings = (emit ti (stripTree (quickCfg ti t) t)).strings ∧
    qp.nsets = (emit ti (stripTree (quickCfg ti t) t)).nsets ∧
    qp.capsize = capsize ti ∧
    (codeFromTree (mainCfg ti) (stripTree (quickCfg ti t) t)).2 = (codeFromTree (mainCfg ti) t).2 := by
  simp only [emitQuick] at h
  cases hq : quickCodes ti t with
  | none => simp [hq] at h
  | some q =>
    simp only [hq, Option.map_some, Option.some.injEq] at h
    subst h
    obtain ⟨h1, h2⟩ := quickCodes_strip ti t q hq
    refine ⟨?_, ?_, ?_, rfl, h2⟩
    · simp only [h1]
    · simp only [emit, h2]
    · simp only [emit, h2]

theorem toPatRoot_strip (cfg : Cfg) (h0 : emitCapture cfg 0 (-1) = true) (X : TP) (d : Bool) (t : GoNode) (pat : Pat)
    (h : toPatRoot X d t = some pat) : toPatRoot X d (stripTree cfg t) = some (stripCaps (keepOf cfg) pat) := by
  obtain ⟨body, rfl, hb⟩ := toPatRoot_some h
  simp only [stripTree, h0, if_true, toPatRoot]
  exact toPat_strip cfg h0 X body d pat hb

theorem inFrag_strip (cfg : Cfg) (h0 : emitCapture cfg 0 (-1) = true) (k : Nat) (X : TP) (ti : TreeInfo) (t : GoNode)
    (h : InFrag k X ti t = true) : InFrag k X ti (stripTree cfg t) = true := by
  have ht := tier_strip cfg t
  simp only [InFrag, Bool.and_eq_true, decide_eq_true_eq, Bool.not_eq_true', beq_iff_eq, Bool.or_eq_true] at h ⊢
  obtain ⟨⟨⟨⟨h1, h2⟩, h3⟩, h4⟩, h5⟩ := h
  refine ⟨⟨⟨⟨?_, by omega⟩, h3⟩, h4⟩, h5.imp (fun h => by omega) id⟩
  cases hp : toPatRoot X ti.rtl t with
  | none => simp [hp] at h1
  | some pat => rw [toPatRoot_strip cfg h0 X ti.rtl t pat hp]; rfl

/-! ## concrete instances for the non-vacuity examples of Props/C02, part D -/

/-- what an attempt of the BOOL-ONLY program reports: matched?, final text position, live prefix of every capture array
    (`none`: no bool-only program, or the run did not end at `Stop`) -/
def qkRun (ti : TreeInfo) (t : GoNode) (env : VM.Env) (i : Nat) (fuel : Nat) : Option (Bool × Int × List (List Int)) :=
  match emitQuick ti t with
  | none => none
  | some qp =>
    match VM.init qp (i : Int) with
    | .ok s0 =>
      match (VM.run qp env fuel s0).1 with
      | .done s => some (VM.matched s, s.textpos,
          (List.range (capsize ti)).map (fun c => (MatchBuilder.arr s.cap.m c).take (2 * MatchBuilder.cnt s.cap.m c)))
      | _ => none
    | .error _ => none

/-- `(a)(b)\1`: group 1 is read back and kept, group 2 is dropped -/
def qkT1 : GoNode :=
  .capture 0 (-1) (.concat [.capture 1 (-1) (.char opOne false false 97), .capture 2 (-1) (.char opOne false false 98),
    .ref false false 1])

/-- `(x)y`: group 1 is dropped -/
def qkT2 : GoNode := .capture 0 (-1) (.concat [.capture 1 (-1) (.char opOne false false 120), .char opOne false false 121])

end RegexVerif.Compile
