/-
The interpreter model as a refinement of the abstract capacity system of Model/Capacity.lean (C13):
every iteration of `VM.step` is one legal move `go k p t` / `pop q t` whose storage check happens exactly
when `step` reports one, and whose pushes are bounded by the weight of the opcode in the regenerated
fingerprint table.  The tables are indexed by opcode NUMBER, the model by `Op`: the facts that tie `Op` to its numbering
`opTable` (`forall_op`, `ofNat_mem`, `ofNat_toNat`) stand here, where the table identities need them first.

`cap` here and in Props/C13 is the CAPACITY of a stack, a number beside the state; the field `VMState.cap` is the capture
arrays.  Programs come twice: opcode lists for the abstract system (`Capacity.weights`, `Capacity.trackCount`) and `Code.Prog`
for the interpreter (`wsOf`, `.trackcount`); `Writer.Holds.wsOf_sum` (Lemmas/Compose.lean) relates the two sums of weights.
-/
import RegexVerif.Lemmas.VM
import RegexVerif.Lemmas.Capacity

namespace RegexVerif.Lemmas.VMCapacity
open RegexVerif.VM RegexVerif.Code RegexVerif RegexVerif.Lemmas.VM

/-- most slots by which one visit of the opcode (any of its cases) lets the backtracking stack grow -/
def pushMax : Op → Nat
  | .oneloop | .notoneloop | .setloop | .onelazy | .notonelazy | .setlazy => 3
  | .lazybranch => 2
  | .branchmark | .lazybranchmark | .branchcount => 3
  | .lazybranchcount => 4
  | .nullcount | .setcount | .nullmark | .setmark | .setjump => 1
  | .capturemark | .getmark | .forejump => 2
  | _ => 0

/-- a fact about all opcodes is a fact about `opTable`, which the kernel evaluates in one pass -/
theorem forall_op {P : Op → Prop} (h : ∀ e ∈ opTable, P e.2) : ∀ o, P o := by
  intro o
  have hm : (opTable.map (·.2)).contains o = true := by cases o <;> rfl
  obtain ⟨e, he, rfl⟩ := List.mem_map.mp (List.contains_iff_mem.mp hm)
  exact h e he

/-- the model's bound is the weight computed from the per-case fingerprints regenerated from runner.go -/
theorem pushMax_eq_weight : ∀ o : Op, pushMax o = Capacity.weight o.toNat := by
  unfold Capacity.weight; rw [Lemmas.Capacity.weightTable_eq]
  exact forall_op (by decide +kernel)

theorem frameData_lt_pushMax {o : Op} {b : Bool} {k : Nat} (h : frameData o b = some k) : k + 1 ≤ pushMax o := by
  have := forall_op (P := fun o => ∀ b ∈ [false, true], (frameData o b).all (· + 1 ≤ pushMax o) = true)
    (by decide +kernel) o b (by cases b <;> simp)
  rw [h] at this
  simpa using this

theorem ofNat_mem {n : Nat} {o : Op} (h : Op.ofNat? n = some o) : (n, o) ∈ opTable := by
  unfold Op.ofNat? at h
  cases hf : opTable.find? (fun e => e.1 == n) with
  | none => rw [hf] at h; cases h
  | some e =>
    rw [hf] at h
    cases h
    have hn : e.1 = n := by simpa using List.find?_some hf
    exact hn ▸ List.mem_of_find?_eq_some hf

theorem ofNat_toNat {n : Nat} {o : Op} (h : Op.ofNat? n = some o) : n = o.toNat := by
  have hall : ∀ e ∈ opTable, e.1 = e.2.toNat := by decide +kernel
  exact hall _ (ofNat_mem h)

theorem weightAt_wsOf {p : Prog} {bs : List Nat} {pc : Nat} {w : Word} (hb : p.boundaries = some bs)
    (hpc : pc ∈ bs) (hf : fetch p pc = .ok w) : Capacity.weightAt (wsOf p) pc = Capacity.weight w.op := by
  have hlt : pc < p.codes.size := by
    unfold fetch at hf
    cases h : p.codes[pc]? with
    | none => rw [h] at hf; cases hf
    | some v =>
      rcases Nat.lt_or_ge pc p.codes.size with hlt | hge
      · exact hlt
      · have : p.codes[pc]? = none := by simp; omega
        rw [this] at h; cases h
  unfold Capacity.weightAt wsOf
  simp [hlt, hb, hpc, hf]

open Capacity in
/-- **Refinement.**  From a state satisfying the invariant, an iteration of the interpreter that goes on is a
    legal move of the abstract capacity system over the weights `wsOf p`: it pops `k ≤ used` slots and pushes
    at most the weight of the current opcode (`go`), or pops and resumes at a saved position (`pop`); the
    new depth and code position are those of the move, and the move passes through a storage check exactly
    when the interpreter does (`goTo`: target ≤ position, `backtrack`: target < position). -/
theorem step_refines {p : Prog} {bs : List Nat} {env : Env} {s s' : VMState} {chk : Bool}
    (hinv : Inv p bs env s) (h : VM.step p env s = .next s' chk) :
    ∃ m : Move, legal (wsOf p) ⟨s.codepos, s.track.length⟩ m ∧
      lstep ⟨s.codepos, s.track.length⟩ m = ⟨s'.codepos, s'.track.length⟩ ∧
      checks ⟨s.codepos, s.track.length⟩ m = chk := by
  obtain ⟨w, o, c, hsh⟩ := hinv
  have hbody := body_ok c hsh
  have hW : weightAt (wsOf p) s.codepos = pushMax o := by
    rw [weightAt_wsOf c.wf.bnd c.pcIn c.facts.fetch, pushMax_eq_weight, ← ofNat_toNat c.facts.op]
  -- a case that goes on by `advance` or `goTo` is the move `go`: what it pushed beyond the old depth is at most
  -- one frame, and a frame is no larger than the weight
  have hgo : ∀ (t1 : List Int) (t : Nat), (t1 = [] ∨ Grown p bs env.len s o t1) →
      ∃ m : Move, legal (wsOf p) ⟨s.codepos, s.track.length⟩ m ∧
        lstep ⟨s.codepos, s.track.length⟩ m = ⟨t, t1.length⟩ ∧
        checks ⟨s.codepos, s.track.length⟩ m = decide (t ≤ s.codepos) := by
    intro t1 t ht1
    have hle : t1.length ≤ s.track.length + pushMax o := by
      rcases ht1 with rfl | ⟨_, hl | ⟨b, k, hk, hl⟩⟩
      · exact Nat.zero_le _
      · omega
      · have := frameData_lt_pushMax hk; omega
    refine ⟨.go (s.track.length - t1.length) (t1.length - s.track.length) t,
      ⟨Nat.sub_le _ _, by show _ ≤ weightAt _ s.codepos; rw [hW]; omega⟩, ?_, rfl⟩
    simp only [lstep, LSt.mk.injEq, true_and]; omega
  unfold VM.step at h
  cases hb : body p env s with
  | error f => rw [hb] at h; cases h
  | ok r =>
    obtain ⟨s1, e⟩ := r
    rw [hb] at h hbody
    obtain ⟨hcp, _, _, _, hmid⟩ := hbody
    cases e with
    | halt => cases h
    | advance i =>
      simp only [finish, doAdvance] at h
      split at h
      · cases h
      · cases h
        obtain ⟨m, h1, h2, h3⟩ := hgo s1.track (s1.codepos + i + 1) (.inr hmid.1)
        exact ⟨m, h1, h2, by rw [h3, hcp]; exact decide_eq_false (by omega)⟩
    | goto t =>
      simp only [finish, doGoto] at h
      split at h
      · cases h
      · split at h
        · cases h
        · cases h
          obtain ⟨m, h1, h2, h3⟩ := hgo s1.track t.toNat (hmid.2.symm.imp (·.1) id)
          exact ⟨m, h1, h2, by rw [h3, hcp]⟩
    | back =>
      have hle : s1.track.length ≤ s.track.length := hmid.2
      simp only [finish, doBacktrack] at h
      split at h
      · cases h
      · next cc rest hs1 =>
        split at h
        · cases h
        · cases h
          rw [hs1, List.length_cons] at hle
          refine ⟨.pop (s.track.length - rest.length) (savedPos cc).1, Nat.sub_le _ _, ?_, by rw [← hcp]; rfl⟩
          simp only [lstep, LSt.mk.injEq, true_and]; omega

end RegexVerif.Lemmas.VMCapacity
