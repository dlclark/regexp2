/-
Soundness of the set-valued over-approximations of `Model/SetFacts.lean` against the specification
semantics `Spec.m`: first-character sets (both directions), fixed-offset sets, leading literal strings,
the leading positive lookahead.  Each analysis has an invariant (`FirstOK` for `first`, `AtOK` for `setAt`, `PrefsOK`
for `prefixes`) with one lemma per way two results combine and one for a chain of loop iterations, and is proved by
induction over the pattern on top of `mem_m_*` and `quant_chain` of Lemmas/Facts.lean (`first_ok`, `setAt_ok`,
`prefixes_ok`, `leadLook_ok`).
-/
import RegexVerif.Model.SetFacts
import RegexVerif.Lemmas.Facts

namespace RegexVerif.SetFacts
open RegexVerif.Spec RegexVerif.Facts

/-! ### `memPreds`, and two facts about one step -/

theorem memPreds_append (e : Env) (S T : List Pred) (r : Nat) :
    memPreds e (S ++ T) r = (memPreds e S r || memPreds e T r) := by
  simp [memPreds, List.any_append]

theorem memPreds_left {e : Env} {S : List Pred} {r : Nat} (T : List Pred) (h : memPreds e S r = true) :
    memPreds e (S ++ T) r = true := by
  rw [memPreds_append, h]; simp

theorem memPreds_right {e : Env} {T : List Pred} {r : Nat} (S : List Pred) (h : memPreds e T r = true) :
    memPreds e (S ++ T) r = true := by
  rw [memPreds_append, h]; simp

/-- the test of a set of two runes, for the ignore-case `example` of `LalIncluded` in Props/C04.lean -/
theorem test_two {e : Env} {a b r : Nat} (h : (Pred.set (.base false [(a, a), (b, b)] []) false).test e r = true) :
    r = a ∨ r = b := by
  simp [Pred.test, Cls.mem, inRanges, inNames] at h
  omega

theorem memPreds_single (e : Env) (p : Pred) (r : Nat) : memPreds e [p] r = p.test e r := by
  simp [memPreds]

theorem stepChar_charAt (e : Env) (rtl : Bool) (pos r pos' : Nat) (h : stepChar e rtl pos = some (r, pos')) :
    charAt e rtl pos = some r ∧ pos' ≠ pos := by
  unfold stepChar at h
  unfold charAt
  cases rtl
  · simp only [Bool.false_eq_true, if_false, Option.map_eq_some_iff, Prod.mk.injEq] at h ⊢
    obtain ⟨x, hx, rfl, rfl⟩ := h
    exact ⟨hx, Nat.succ_ne_self pos⟩
  · simp only [if_true] at h ⊢
    split at h
    · cases h
    · rename_i hp
      simp only [Option.map_eq_some_iff, Prod.mk.injEq] at h
      obtain ⟨x, hx, rfl, rfl⟩ := h
      exact ⟨by rw [if_neg hp]; exact hx, fun h => hp (by omega)⟩

theorem fwd_ne {rtl : Bool} {a b c : Nat} (h1 : Fwd rtl a b) (h2 : Fwd rtl b c) (hne : b ≠ a) : c ≠ a := by
  cases rtl <;> simp [Fwd] at h1 h2 <;> omega

/-! ### the first character -/

/-- the invariant of `first`: a success either consumed nothing (allowed only when `nul`) or moved, and
    then the first character in scan direction belongs to `S` -/
def FirstOK (e : Env) (rtl : Bool) (S : List Pred) (nul : Bool) (st st' : St) : Prop :=
  (nul = true ∧ st'.pos = st.pos) ∨
  (st'.pos ≠ st.pos ∧ ∃ r, charAt e rtl st.pos = some r ∧ memPreds e S r = true)

theorem FirstOK.same (e : Env) (rtl : Bool) (S : List Pred) (st st' : St) (h : st'.pos = st.pos) :
    FirstOK e rtl S true st st' := Or.inl ⟨rfl, h⟩

theorem FirstOK.left {e : Env} {rtl : Bool} {S : List Pred} {n : Bool} {st st' : St}
    (h : FirstOK e rtl S n st st') (T : List Pred) (k : Bool) : FirstOK e rtl (S ++ T) (n || k) st st' := by
  rcases h with ⟨hn, hp⟩ | ⟨hp, r, hr, hm⟩
  · exact Or.inl ⟨by simp [hn], hp⟩
  · exact Or.inr ⟨hp, r, hr, memPreds_left T hm⟩

theorem FirstOK.right {e : Env} {rtl : Bool} {T : List Pred} {k : Bool} {st st' : St}
    (h : FirstOK e rtl T k st st') (S : List Pred) (n : Bool) : FirstOK e rtl (S ++ T) (n || k) st st' := by
  rcases h with ⟨hn, hp⟩ | ⟨hp, r, hr, hm⟩
  · exact Or.inl ⟨by simp [hn], hp⟩
  · exact Or.inr ⟨hp, r, hr, memPreds_right S hm⟩

/-- two parts matched one after the other in scan order -/
theorem firstOK_seq {e : Env} {rtl : Bool} {x y : Option (List Pred × Bool)} {S : List Pred} {nul : Bool}
    (h : seqFirst x y = some (S, nul)) {st st1 st' : St}
    (hx : ∀ s n, x = some (s, n) → FirstOK e rtl s n st st1)
    (hy : ∀ s n, y = some (s, n) → FirstOK e rtl s n st1 st')
    (hf0 : Fwd rtl st.pos st1.pos) (hf1 : Fwd rtl st1.pos st'.pos) : FirstOK e rtl S nul st st' := by
  unfold seqFirst at h
  cases x with
  | none => simp at h
  | some xs =>
    obtain ⟨s, b⟩ := xs
    have hx' := hx s b rfl
    cases b with
    | false =>
      simp at h
      obtain ⟨rfl, rfl⟩ := h
      rcases hx' with ⟨hn, _⟩ | ⟨hp, r, hr, hm⟩
      · simp at hn
      · exact Or.inr ⟨fwd_ne hf0 hf1 hp, r, hr, hm⟩
    | true =>
      cases y with
      | none => simp at h
      | some ys =>
        obtain ⟨t, n⟩ := ys
        have hy' := hy t n rfl
        simp at h
        obtain ⟨rfl, rfl⟩ := h
        rcases hx' with ⟨_, hp1⟩ | ⟨hp, r, hr, hm⟩
        · rcases hy' with ⟨hn, hp2⟩ | ⟨hp2, r, hr, hm⟩
          · exact Or.inl ⟨hn, by rw [hp2, hp1]⟩
          · rw [hp1] at hp2 hr
            exact Or.inr ⟨hp2, r, hr, memPreds_right s hm⟩
        · exact Or.inr ⟨fwd_ne hf0 hf1 hp, r, hr, memPreds_left t hm⟩

theorem firstOK_alt {e : Env} {rtl : Bool} {x y : Option (List Pred × Bool)} {S : List Pred} {nul : Bool}
    (h : altFirst x y = some (S, nul)) {st st' : St}
    (hxy : (∀ s n, x = some (s, n) → FirstOK e rtl s n st st') ∨ (∀ s n, y = some (s, n) → FirstOK e rtl s n st st')) :
    FirstOK e rtl S nul st st' := by
  unfold altFirst at h
  cases x with
  | none => simp at h
  | some xs =>
    cases y with
    | none => simp at h
    | some ys =>
      obtain ⟨s, m⟩ := xs
      obtain ⟨t, n⟩ := ys
      simp at h
      obtain ⟨rfl, rfl⟩ := h
      rcases hxy with hx | hy
      · exact (hx s m rfl).left t n
      · exact (hy t n rfl).right s m

theorem chain_first (e : Env) (rtl : Bool) (S : List Pred) (nb : Bool) (f : St → List St)
    (hf : ∀ s, ∀ y ∈ f s, Fwd rtl s.pos y.pos ∧ FirstOK e rtl S nb s y) :
    ∀ {j : Nat} {s s' : St}, Chain f j s s' → Fwd rtl s.pos s'.pos ∧ FirstOK e rtl S (nb || j == 0) s s' := by
  intro j s s' hc
  induction hc with
  | zero s => exact ⟨Fwd.refl _ _, Or.inl ⟨by simp, rfl⟩⟩
  | succ hy hrest ih =>
    rename_i j s y s'
    obtain ⟨h1, h2⟩ := hf _ _ hy
    obtain ⟨h3, h4⟩ := ih
    refine ⟨h1.trans h3, ?_⟩
    rcases h2 with ⟨hn, hp1⟩ | ⟨hp, r, hr, hm⟩
    · rcases h4 with ⟨_, hp2⟩ | ⟨hp2, r, hr, hm⟩
      · exact Or.inl ⟨by simp [hn], by rw [hp2, hp1]⟩
      · rw [hp1] at hp2 hr
        exact Or.inr ⟨hp2, r, hr, hm⟩
    · exact Or.inr ⟨fwd_ne h1 h3 hp, r, hr, hm⟩

theorem first_ok (e : Env) (p : Pat) :
    ∀ (rtl : Bool) (S : List Pred) (nul : Bool), first p rtl = some (S, nul) →
      ∀ (st : St), ∀ st' ∈ m e p rtl st, FirstOK e rtl S nul st st' := by
  induction p with
  | empty | anchor _ | look _ _ _ _ => intro rtl S nul h st st' hm; cases h; exact .same _ _ _ _ _ (mem_m_zero hm)
  | nothing => intro rtl S nul h st st' hm; cases hm
  | ref g ci => intro rtl S nul h; cases h
  | chr P =>
    intro rtl S nul h st st' hm
    cases h
    obtain ⟨r, hs, ht⟩ := mem_m_chr hm
    obtain ⟨hc, hne⟩ := stepChar_charAt e rtl st.pos r _ hs
    exact Or.inr ⟨hne, r, hc, by rw [memPreds_single]; exact ht⟩
  | seq a b iha ihb =>
    intro rtl S nul h st st' hm
    simp only [first] at h
    cases rtl
    · obtain ⟨y, hy, hxy⟩ := mem_m_seq_ltr hm
      exact firstOK_seq h (fun s n hs => iha false s n hs st y hy) (fun s n hs => ihb false s n hs y st' hxy)
        (m_fwd e a false st y hy) (m_fwd e b false y st' hxy)
    · obtain ⟨y, hy, hxy⟩ := mem_m_seq_rtl hm
      exact firstOK_seq h (fun s n hs => ihb true s n hs st y hy) (fun s n hs => iha true s n hs y st' hxy)
        (m_fwd e b true st y hy) (m_fwd e a true y st' hxy)
  | alt a b iha ihb | refCond _ a b iha ihb | exprCond _ a b _ iha ihb =>
    intro rtl S nul h st st' hm
    obtain ⟨s0, h0, hor⟩ := mem_m_branch hm
    have := firstOK_alt h (hor.imp (fun hm s n hs => iha rtl s n hs s0 st' hm) (fun hm s n hs => ihb rtl s n hs s0 st' hm))
    unfold FirstOK at this ⊢
    rwa [h0] at this
  | quant lzy lo hi body ih =>
    intro rtl S nul h st st' hm
    simp only [first] at h
    cases hb : first body rtl with
    | none => rw [hb] at h; cases h
    | some sb =>
      obtain ⟨s, n⟩ := sb
      rw [hb] at h
      cases h
      obtain ⟨j, hc, hlo, _⟩ := quant_chain e lzy lo hi body rtl st st' hm
      refine (chain_first e rtl S n (m e body rtl)
        (fun x y hy => ⟨m_fwd e body rtl x y hy, ih rtl S n hb x y hy⟩) hc).2.imp_left fun ⟨hn, hp⟩ => ⟨?_, hp⟩
      rw [Bool.or_eq_true, beq_iff_eq] at hn ⊢
      exact hn.imp_right fun hj => by omega
  | cap _ body ih | atomic body ih =>
    intro rtl S nul h st st' hm
    obtain ⟨y, hy, hp⟩ := mem_m_wrap hm
    have := ih rtl S nul h st y hy
    unfold FirstOK at this ⊢
    rwa [hp] at this

/-! ### fixed widths and fixed offsets -/

theorem width_ok (e : Env) (p : Pat) (w : Nat) (h : width p = some w) (st st' : St)
    (hm : st' ∈ m e p false st) : st'.pos = st.pos + w := by
  unfold width at h
  split at h
  · rename_i hk
    simp at h; subst h
    have h1 := minLen_span e p false st st' hm
    have h2 := maxLen_span e p false st st' hm _ hk
    have h3 := m_fwd e p false st st' hm
    simp [span, Fwd] at h1 h2 h3
    omega
  · simp at h

theorem chain_nth (f : St → List St) (w : Nat) (hf : ∀ s, ∀ y ∈ f s, y.pos = s.pos + w) :
    ∀ {j : Nat} {s s' : St}, Chain f j s s' → ∀ i, i < j → ∃ si y, si.pos = s.pos + i * w ∧ y ∈ f si := by
  intro j s s' hc
  induction hc with
  | zero s => intro i hi; omega
  | succ hy hrest ih =>
    rename_i j s y s'
    intro i hi
    cases i with
    | zero => exact ⟨s, y, by simp, hy⟩
    | succ i =>
      obtain ⟨si, z, hp, hz⟩ := ih i (by omega)
      refine ⟨si, z, ?_, hz⟩
      rw [hp, hf _ _ hy, Nat.succ_mul]; omega

/-- the statement of `setAt`: the character `k` positions after the start exists and is in the set -/
def AtOK (e : Env) (S : List Pred) (pos k : Nat) : Prop :=
  ∃ r, e.text[pos + k]? = some r ∧ memPreds e S r = true

theorem atOK_both {e : Env} {x y : Option (List Pred)} {S : List Pred} {pos k : Nat} (h : both x y = some S)
    (hxy : (∀ s, x = some s → AtOK e s pos k) ∨ (∀ s, y = some s → AtOK e s pos k)) : AtOK e S pos k := by
  unfold both at h
  cases x with
  | none => simp at h
  | some s =>
    cases y with
    | none => simp at h
    | some t =>
      simp at h; subst h
      rcases hxy with hx | hy
      · obtain ⟨r, hr, hm⟩ := hx s rfl
        exact ⟨r, hr, memPreds_left t hm⟩
      · obtain ⟨r, hr, hm⟩ := hy t rfl
        exact ⟨r, hr, memPreds_right s hm⟩

theorem setAt_ok (e : Env) (p : Pat) :
    ∀ (k : Nat) (S : List Pred), setAt p k = some S →
      ∀ (st : St), ∀ st' ∈ m e p false st, AtOK e S st.pos k := by
  induction p with
  | chr P =>
    intro k S h st st' hm
    simp only [setAt] at h
    split at h
    · rename_i hk
      cases h; cases hk
      obtain ⟨r, hr, ht, _⟩ := mem_m_chr_ltr hm
      exact ⟨r, hr, by rw [memPreds_single]; exact ht⟩
    · cases h
  | seq a b iha ihb =>
    intro k S h st st' hm
    obtain ⟨y, hy, hxy⟩ := mem_m_seq_ltr hm
    simp only [setAt] at h
    split at h
    · rename_i s hs
      cases h
      exact iha k S hs st y hy
    · split at h
      · rename_i w hw
        split at h
        · rename_i hle
          obtain ⟨r, hr, hm⟩ := ihb (k - w) S h y st' hxy
          refine ⟨r, ?_, hm⟩
          rw [width_ok e a w hw st y hy, Nat.add_assoc, Nat.add_sub_cancel' hle] at hr
          exact hr
        · cases h
      · cases h
  | alt a b iha ihb | refCond _ a b iha ihb | exprCond _ a b _ iha ihb =>
    intro k S h st st' hm
    obtain ⟨s0, h0, hor⟩ := mem_m_branch hm
    rw [← h0]
    exact atOK_both h (hor.imp (fun hm s hs => iha k s hs s0 st' hm) (fun hm s hs => ihb k s hs s0 st' hm))
  | quant lzy lo hi body ih =>
    intro k S h st st' hm
    obtain ⟨j, hc, hlo, _⟩ := quant_chain e lzy lo hi body false st st' hm
    simp only [setAt] at h
    split at h
    · cases h
    · rename_i hlo0
      have hfirst : ∀ S', setAt body k = some S' → AtOK e S' st.pos k := by
        intro S' hS'
        obtain ⟨y, hy⟩ := chain_head hc (by omega)
        exact ih k S' hS' st y hy
      split at h
      · rename_i w hw
        split at h
        · rename_i hcond
          obtain ⟨si, y, hp, hy⟩ := chain_nth (m e body false) w
            (fun s y hy => width_ok e body w hw s y hy) hc (k / w) (by omega)
          obtain ⟨r, hr, hm⟩ := ih (k % w) S h si y hy
          refine ⟨r, ?_, hm⟩
          rw [hp, Nat.add_assoc, Nat.mul_comm, Nat.div_add_mod] at hr
          exact hr
        · exact hfirst S h
      · exact hfirst S h
  | cap _ body ih | atomic body ih =>
    intro k S h st st' hm
    obtain ⟨y, hy, _⟩ := mem_m_wrap hm
    exact ih k S h st y hy
  | _ => intro k S h; cases h

/-! ### leading strings -/

def ntext (e : Env) (norm : Nat → Nat) : List Nat := e.text.map norm

/-- the invariant of `prefixes`: the normalised text at `i` starts with one of the strings, and when the
    analysis says "exact" that string is as long as what was consumed up to `j` -/
def PrefsOK (e : Env) (norm : Nat → Nat) (r : List (List Nat) × Bool) (i j : Nat) : Prop :=
  ∃ l ∈ r.1, l <+: (ntext e norm).drop i ∧ (r.2 = true → i + l.length = j)

theorem PrefsOK.trivial (e : Env) (norm : Nat → Nat) (i j : Nat) : PrefsOK e norm ([[]], false) i j :=
  ⟨[], by simp, List.nil_prefix, by simp⟩

theorem PrefsOK.nil_same (e : Env) (norm : Nat → Nat) (c : Bool) (i : Nat) : PrefsOK e norm ([[]], c) i i :=
  ⟨[], by simp, List.nil_prefix, fun _ => by simp⟩

theorem PrefsOK.weaken {e : Env} {norm : Nat → Nat} {L : List (List Nat)} {c : Bool} {i j : Nat}
    (h : PrefsOK e norm (L, c) i j) (k : Nat) : PrefsOK e norm (L, false) i k := by
  obtain ⟨l, hl, hp, _⟩ := h
  exact ⟨l, hl, hp, by simp⟩

theorem mem_cross {A B : List (List Nat)} {a b : List Nat} (ha : a ∈ A) (hb : b ∈ B) : a ++ b ∈ cross A B := by
  unfold cross
  rw [List.mem_flatMap]
  exact ⟨a, ha, List.mem_map.mpr ⟨b, hb, rfl⟩⟩

theorem prefix_concat {t : List Nat} {i : Nat} {l1 l2 : List Nat} (h1 : l1 <+: t.drop i)
    (h2 : l2 <+: t.drop (i + l1.length)) : (l1 ++ l2) <+: t.drop i := by
  obtain ⟨u, hu⟩ := h1
  have : t.drop (i + l1.length) = u := by
    rw [← List.drop_drop, ← hu]; simp
  rw [this] at h2
  rw [← hu]
  exact (List.prefix_append_right_inj l1).mpr h2

theorem pureMem_ok (e : Env) (c : Cls) : ∀ (f : Nat → Bool), pureMem c = some f → ∀ r, c.mem e false r = f r := by
  induction c with
  | base neg rs ns =>
    intro f h r
    simp only [pureMem] at h
    split at h
    · rename_i hns
      simp at h; subst h
      have : ns = [] := by simpa using hns
      subst this
      simp [Cls.mem, inNames]
    · simp at h
  | diff a b iha ihb =>
    intro f h r
    simp only [pureMem] at h
    split at h
    · rename_i fa fb ha hb
      simp at h; subst h
      simp [Cls.mem, iha fa ha r, ihb fb hb r]
    · simp at h

theorem clsChars_ok (e : Env) (maxCount : Nat) (c : Cls) :
    ∀ (cs : List Nat), clsChars maxCount c = some cs → ∀ r, c.mem e false r = true → r ∈ cs := by
  induction c with
  | base neg rs ns =>
    intro cs h r ht
    simp only [clsChars] at h
    split at h
    · rename_i hc
      obtain ⟨hneg, hns, _⟩ := hc
      simp at h; subst h
      have : ns = [] := by simpa using hns
      subst this; subst hneg
      simp [Cls.mem, inNames, inRanges] at ht
      obtain ⟨a, b, hab, h1, h2⟩ := ht
      rw [List.mem_flatMap]
      refine ⟨(a, b), hab, ?_⟩
      rw [List.mem_range'_1]
      simp; omega
    · simp at h
  | diff a b iha ihb =>
    intro cs h r ht
    simp only [Cls.mem, Bool.and_eq_true, Bool.not_eq_true'] at ht
    simp only [clsChars] at h
    split at h
    · rename_i ca hca
      have hra := iha ca hca r ht.1
      split at h
      · rename_i g hg
        simp at h; subst h
        rw [List.mem_filter]
        refine ⟨hra, ?_⟩
        rw [← pureMem_ok e b g hg r, ht.2]; rfl
      · simp at h; subst h; exact hra
    · simp at h

theorem setChars_ok (e : Env) (maxCount : Nat) (pr : Pred) (cs : List Nat) (h : setChars maxCount pr = some cs)
    (r : Nat) (ht : pr.test e r = true) : r ∈ cs := by
  unfold setChars at h
  split at h
  · rename_i c
    simp at h; subst h
    simp [Pred.test] at ht
    simp [ht]
  · rename_i c
    exact clsChars_ok e maxCount c cs h r (by simpa [Pred.test] using ht)
  · simp at h

theorem normChars_mem (norm : Nat → Nat) (cs : List Nat) (r : Nat) (h : r ∈ cs) : norm r ∈ normChars norm cs := by
  unfold normChars
  rw [List.mem_eraseDups]
  exact List.mem_map.mpr ⟨r, h, rfl⟩

theorem text_step (e : Env) (norm : Nat → Nat) (i r : Nat) (h : e.text[i]? = some r) :
    [norm r] <+: (ntext e norm).drop i := by
  obtain ⟨hlt, hget⟩ := List.getElem?_eq_some_iff.mp h
  unfold ntext
  rw [← List.map_drop, List.drop_eq_getElem_cons hlt, hget]
  exact ⟨_, rfl⟩

/-- after `n` of the `j ≥ n` iterations of a body whose strings `B` are exact: the text starts with a string of
    `power … n`, and while that is still exact the string ends where the remaining `j - n` iterations begin -/
theorem power_ok (e : Env) (norm : Nat → Nat) (maxLen maxCount : Nat) (B : List (List Nat)) (f : St → List St)
    (hf : ∀ s, ∀ y ∈ f s, PrefsOK e norm (B, true) s.pos y.pos) :
    ∀ (n : Nat) {j : Nat} {s s' : St}, Chain f j s s' → n ≤ j →
      ∃ l ∈ (power maxLen maxCount B n).1, l <+: (ntext e norm).drop s.pos ∧
        ((power maxLen maxCount B n).2 = true → ∃ sn, s.pos + l.length = sn.pos ∧ Chain f (j - n) sn s') := by
  intro n
  induction n with
  | zero =>
    intro j s s' hc _
    exact ⟨[], by simp [power], List.nil_prefix, fun _ => ⟨s, by simp, by simpa using hc⟩⟩
  | succ n ih =>
    intro j s s' hc hn
    obtain ⟨l, hl, hp, hex⟩ := ih hc (by omega)
    simp only [power]
    split
    · rename_i hr2
      obtain ⟨sn, hsn, hcn⟩ := hex hr2
      obtain ⟨k, hk⟩ : ∃ k, j - n = k + 1 := ⟨j - n - 1, by omega⟩
      rw [hk] at hcn
      cases hcn with
      | succ hy hrest =>
        rename_i y
        obtain ⟨l2, hl2, hp2, hex2⟩ := hf _ _ hy
        split
        · refine ⟨l ++ l2, mem_cross hl hl2, prefix_concat hp (by rw [hsn]; exact hp2), fun _ => ⟨y, ?_, ?_⟩⟩
          · have := hex2 rfl
            simp only [List.length_append]; omega
          · have : j - (n + 1) = k := by omega
            rw [this]; exact hrest
        · exact ⟨l, hl, hp, by simp⟩
    · rename_i hr2
      exact ⟨l, hl, hp, fun h => absurd h hr2⟩

theorem chain_zero_eq {f : St → List St} {s s' : St} (hc : Chain f 0 s s') : s = s' := by
  cases hc; rfl

theorem prefixes_ok (e : Env) (norm : Nat → Nat) (maxLen : Nat) (p : Pat) :
    ∀ (maxCount : Nat) (st : St), ∀ st' ∈ m e p false st,
      PrefsOK e norm (prefixes norm maxLen maxCount p) st.pos st'.pos := by
  induction p with
  | empty | anchor _ | look _ _ _ _ => intro mc st st' hm; rw [mem_m_zero hm]; exact .nil_same _ _ _ _
  | nothing => intro mc st st' hm; cases hm
  | ref g ci | refCond g yes no _ _ | exprCond c yes no _ _ _ => intro mc st st' _; exact .trivial _ _ _ _
  | chr pr =>
    intro mc st st' hm
    simp only [prefixes]
    split
    · rename_i cs hcs
      obtain ⟨r, hr, ht, hp⟩ := mem_m_chr_ltr hm
      exact ⟨[norm r], List.mem_map.mpr ⟨norm r, normChars_mem norm cs r (setChars_ok e mc pr cs hcs r ht), rfl⟩,
        text_step e norm st.pos r hr, fun _ => hp.symm⟩
    · exact .trivial _ _ _ _
  | seq a b iha ihb =>
    intro mc st st' hm
    obtain ⟨y, hy, hxy⟩ := mem_m_seq_ltr hm
    have ha := iha mc st y hy
    simp only [prefixes]
    split
    · rename_i hex
      obtain ⟨l1, hl1, hp1, he1⟩ := ha
      have hpos := he1 hex
      split
      · obtain ⟨l2, hl2, hp2, he2⟩ := ihb (mc / (prefixes norm maxLen mc a).1.length) y st' hxy
        refine ⟨l1 ++ l2, mem_cross hl1 hl2, prefix_concat hp1 (by rw [hpos]; exact hp2), fun h2 => ?_⟩
        rw [List.length_append, ← Nat.add_assoc, hpos, he2 h2]
      · exact ⟨l1, hl1, hp1, nofun⟩
    · exact ha.weaken _
  | alt a b iha ihb =>
    intro mc st st' hm
    simp only [prefixes]
    split
    · rcases mem_m_alt hm with hm | hm
      · obtain ⟨l, hl, hp, he⟩ := iha mc st st' hm
        exact ⟨l, List.mem_append_left _ hl, hp, fun h => he (Bool.and_eq_true_iff.mp h).1⟩
      · obtain ⟨l, hl, hp, he⟩ := ihb mc st st' hm
        exact ⟨l, List.mem_append_right _ hl, hp, fun h => he (Bool.and_eq_true_iff.mp h).2⟩
    · exact .trivial _ _ _ _
  | quant lzy lo hi body ih =>
    intro mc st st' hm
    obtain ⟨j, hc, hlo, hhi⟩ := quant_chain e lzy lo hi body false st st' hm
    simp only [prefixes]
    split
    · exact .trivial _ _ _ _
    · rename_i hlo0
      split
      · rename_i hex
        obtain ⟨l, hl, hp, he⟩ := power_ok e norm maxLen mc _ (m e body false)
          (fun s y hy => by rw [← hex]; exact ih mc s y hy) (min lo maxLen) hc (Nat.le_trans (Nat.min_le_left lo maxLen) hlo)
        refine ⟨l, hl, hp, fun h => ?_⟩
        simp only [Bool.and_eq_true, decide_eq_true_eq, beq_iff_eq] at h
        obtain ⟨⟨h1, h2⟩, h3⟩ := h
        obtain ⟨sn, hsn, hcn⟩ := he h1
        rw [Nat.min_eq_left h2, Nat.sub_eq_zero_of_le (hhi lo h3)] at hcn
        rw [hsn, chain_zero_eq hcn]
      · obtain ⟨y, hy⟩ := chain_head hc (by omega)
        exact (ih mc st y hy).weaken _
  | cap _ body ih | atomic body ih =>
    intro mc st st' hm
    obtain ⟨y, hy, hp⟩ := mem_m_wrap hm
    rw [← hp]; exact ih mc st y hy

theorem rPrefix_mono (R : Nat → Nat → Bool) : ∀ (x l t : List Nat), rPrefix R x l = true → l <+: t → rPrefix R x t = true := by
  intro x
  induction x with
  | nil => intro l t _ _; simp [rPrefix]
  | cons a x ih =>
    intro l t h hp
    cases l with
    | nil => simp [rPrefix] at h
    | cons b l =>
      obtain ⟨u, hu⟩ := hp
      subst hu
      simp only [rPrefix, List.cons_append, Bool.and_eq_true] at h ⊢
      exact ⟨h.1, ih l (l ++ u) h.2 ⟨u, rfl⟩⟩

/-- a published string that equals the normalised text matches the text itself under any comparison
    `R` that accepts every rune against its representative -/
theorem rPrefix_norm (R : Nat → Nat → Bool) (norm : Nat → Nat) (hR : ∀ t, R (norm t) t = true) :
    ∀ (x t : List Nat), rPrefix (fun a b => a == b) x (t.map norm) = true → rPrefix R x t = true := by
  intro x
  induction x with
  | nil => intro t _; simp [rPrefix]
  | cons a x ih =>
    intro t h
    cases t with
    | nil => simp [rPrefix] at h
    | cons b t =>
      simp only [List.map_cons, rPrefix, Bool.and_eq_true, beq_iff_eq] at h ⊢
      exact ⟨by rw [h.1]; exact hR b, ih t h.2⟩

/-! ### the leading positive lookahead -/

theorem leadLook_ok (e : Env) (p : Pat) :
    ∀ (st : St), ∀ st' ∈ m e p false st,
      (∀ b k, leadLook p = (some b, k) → ∃ st0 : St, st0.pos = st.pos ∧ m e b false st0 ≠ []) ∧
      (leadLook p = (none, true) → st'.pos = st.pos) := by
  induction p with
  | empty | anchor _ => intro st st' hm; exact ⟨nofun, fun _ => mem_m_zero hm⟩
  | look behind neg body ih =>
    intro st st' hm
    obtain ⟨hpos, hne⟩ := mem_m_look hm
    refine ⟨fun b k hb => ?_, fun _ => hpos⟩
    cases behind <;> cases neg <;> cases hb
    exact ⟨st, rfl, hne rfl⟩
  | cap _ body ih | atomic body ih =>
    intro st st' hm
    obtain ⟨y, hy, hp⟩ := mem_m_wrap hm
    rw [← hp]; exact ih st y hy
  | quant lzy lo hi body ih =>
    intro st st' hm
    obtain ⟨j, hc, hlo, _⟩ := quant_chain e lzy lo hi body false st st' hm
    simp only [leadLook]
    split
    · exact ⟨nofun, nofun⟩
    · rename_i hlo0
      obtain ⟨y, hy⟩ := chain_head hc (by omega)
      refine ⟨fun b k hb => ?_, fun h => nomatch (Prod.mk.inj h).2⟩
      exact (ih st y hy).1 b (leadLook body).2 (Prod.ext (Prod.mk.inj hb).1 rfl)
  | seq a b iha ihb =>
    intro st st' hm
    obtain ⟨y, hy, hxy⟩ := mem_m_seq_ltr hm
    have ha := iha st y hy
    have hb := ihb y st' hxy
    simp only [leadLook]
    split
    · rename_i x kx hx
      exact ⟨fun b k hbk => by cases hbk; exact ha.1 x kx hx, nofun⟩
    · rename_i hx
      have hp := ha.2 hx
      rw [← hp]
      exact ⟨hb.1, fun hn => by rw [hb.2 hn]⟩
    · exact ⟨nofun, nofun⟩
  | _ => intro st st' _; exact ⟨nofun, nofun⟩

end RegexVerif.SetFacts
