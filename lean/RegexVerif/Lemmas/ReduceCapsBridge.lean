/-
The second half of joint J1 of Props/C10Chain.lean, "the reducer never invents a group number" (first half:
`Lemmas/ReduceCapsRewrites.lean`): `toR_caps` / `fromR_caps` translate between `capN` and `capR`; `OC` = `okN ∧ capN` is an
instance of `Kept` (`ocKept`), which gives `capN_reduceRoot`; `toGo_capsOk` turns `capN` into `Writer.capsOk`
(`reduceTree_capsOk`).
-/
import RegexVerif.Lemmas.ReduceCapsRewrites

namespace RegexVerif.Reduce
open RegexVerif.RewriteDecisions (RNode)

/-! ### the tag of a wrapped node gives its type and numbers back; the tag base -/

theorem digit_div {a b : Nat} (y : Nat) (h : a < b) : (a + b * y) / b = y := by
  rw [Nat.add_mul_div_left _ _ (Nat.zero_lt_of_lt h), Nat.div_eq_of_lt h, Nat.zero_add]

theorem digit_mod {a b : Nat} (y : Nat) (h : a < b) : (a + b * y) % b = a := by
  rw [Nat.add_mul_mod_self_left, Nat.mod_eq_of_lt h]

/-- A tag is a number in the mixed base (4, 64, 2¹⁶, 2³³): `unpackTag` reads the digits `packTag` wrote.  The digit of
    `M + 1` has base 2³³, above `MaxInt32 + 1`, so a group number in `[-1, MaxInt32]` comes back as it is (`tagQ_pack`);
    `N + 1` is the last digit and has no bound. -/
theorem unpack_pack (a t o : Nat) (m n : Int) (ha : a < 4) (ht : t < 64) :
    unpackTag (packTag a t o m n) =
      { arity := a, t := t, o := o % 65536, m := (((m + 1).toNat % 8589934592 : Nat) : Int) - 1,
        n := (((n + 1).toNat : Nat) : Int) - 1 } := by
  have ho : o % 65536 < 65536 := Nat.mod_lt _ (by decide)
  have hm : (m + 1).toNat % 8589934592 < 8589934592 := Nat.mod_lt _ (by decide)
  simp only [unpackTag, packTag, Nat.add_sub_cancel_left, digit_div _ ha, digit_mod _ ha, digit_div _ ht, digit_mod _ ht,
    digit_div _ ho, digit_mod _ ho, digit_div _ hm, digit_mod _ hm]

theorem isTag_pack (a t o : Nat) (m n : Int) : isTag (packTag a t o m n) = true := by
  unfold isTag packTag tagBase
  exact decide_eq_true (by omega)

theorem unpack_o_lt (tag : Nat) : (unpackTag tag).o < tagBase := by
  simp only [unpackTag, tagBase]
  omega

theorem zero_lt_tagBase : 0 < tagBase := by unfold tagBase; omega

theorem mod_lt_tagBase (o : Nat) : o % 65536 < tagBase := by
  unfold tagBase; omega

theorem not_isTag_lt {o : Nat} (h : ¬ isTag o = true) : o < tagBase := by
  unfold isTag at h
  simpa using h

section
variable (sl : Int → Bool)

/-- `capN` alone is not a `Kept` property: `toR_caps` reads the payload of a wrapped node off its child count, and the
    re-typing steps need a leaf to be childless — both come from `okN`.  `capN` keeps option words below `tagBase`
    because `fromR` reads one at or above it as the tag of a wrapped node and takes type and numbers from it (`unwrap`). -/
def OC (x : Node) : Prop := okN x = true ∧ capN sl x = true

theorem capQ_other {t : Nat} (h13 : t ≠ 13) (h33 : t ≠ 33) (h28 : t ≠ 28) (h29 : t ≠ 29) (m n : Int) :
    capQ sl t m n = true := by
  simp [capQ, h13, h33, h28, h29]

theorem capNs_cons (x : Node) (xs : List Node) : capNs sl (x :: xs) = (capN sl x && capNs sl xs) := by rw [capNs]
theorem capNs_nil : capNs sl [] = true := by rw [capNs]

theorem capNs_map (g : Node → Node) (l : List Node) (hg : ∀ x, capN sl x = true → capN sl (g x) = true)
    (h : capNs sl l = true) : capNs sl (l.map g) = true := by
  induction l with
  | nil => exact h
  | cons x xs ih =>
    rw [capNs_cons, Bool.and_eq_true] at h
    rw [List.map_cons, capNs_cons, hg x h.1, ih h.2]
    rfl

theorem capN_mk_of {t o ch : Nat} {str : List Nat} {set : Option Class.Class} {m n : Int} {kids : List Node}
    (ho : o < tagBase) (hq : capQ sl t m n = true) (hk : capNs sl kids = true) :
    capN sl (.mk t o ch str set m n kids) = true := by
  rw [capN, hq, hk]; simp [ho]

variable {sl}

theorem capQ_bounds {t : Nat} {m n : Int} (h : capQ sl t m n = true) :
    ((t = 13 ∨ t = 33 ∨ t = 28 ∨ t = 29) → -1 ≤ m ∧ m ≤ maxInt32) ∧ (t = 28 → -1 ≤ n) := by
  unfold capQ at h
  unfold maxInt32 at *
  by_cases h1 : t = 13
  · subst h1; simp at h; omega
  · by_cases h2 : t = 33
    · subst h2; simp at h; omega
    · by_cases h3 : t = 28
      · subst h3; simp at h; omega
      · by_cases h4 : t = 29
        · subst h4; simp at h; omega
        · omega

theorem capQ_congr {t : Nat} {m n m' n' : Int} (h : capQ sl t m n = true)
    (hm : (t = 13 ∨ t = 33 ∨ t = 28 ∨ t = 29) → m' = m) (hn : t = 28 → n' = n) : capQ sl t m' n' = true := by
  by_cases h1 : t = 13 ∨ t = 33 ∨ t = 28 ∨ t = 29
  · rw [hm h1]
    by_cases h2 : t = 28
    · rw [hn h2]; exact h
    · rcases h1 with h1 | h1 | h1 | h1
      · subst h1; simpa [capQ] using h
      · subst h1; simpa [capQ] using h
      · exact absurd h1 h2
      · subst h1; simpa [capQ] using h
  · exact capQ_other sl (by omega) (by omega) (by omega) (by omega) _ _

theorem capQ_slot {t : Nat} {m n : Int} (ht : (t == 13 || t == 33) = true) (h : capQ sl t m n = true) :
    sl m = true := by
  rw [capQ, if_pos ht, Bool.and_eq_true] at h
  exact h.2

theorem capQ_28 {m n : Int} (h : capQ sl 28 m n = true) :
    (if n == -1 then sl m else (m == -1 || sl m) && sl n) = true := by
  simp only [capQ, show ((28 : Nat) == 13 || (28 : Nat) == 33) = false from rfl, show ((28 : Nat) == 28) = true from rfl,
    if_true, Bool.false_eq_true, if_false, Bool.and_eq_true] at h
  exact h.2

theorem tagQ_pack (a t o : Nat) (m n : Int) (ha : a < 4) (ht : t < 64) (h : capQ sl t m n = true) :
    tagQ sl (packTag a t o m n) = true := by
  unfold tagQ
  rw [isTag_pack, unpack_pack a t o m n ha ht]
  -- where `capQ` reads `m`, `n` they are in `[-1, MaxInt32]`, and there the tag gives them back
  have hb := capQ_bounds h
  refine capQ_congr h (fun h1 => ?_) fun h1 => ?_
  · have := hb.1 h1
    simp only [maxInt32] at this ⊢
    omega
  · have := hb.2 h1
    simp only
    omega

theorem tagQ_of_lt {o : Nat} (h : o < tagBase) : tagQ sl o = true := by
  unfold tagQ isTag
  have : decide (tagBase ≤ o) = false := decide_eq_false (by omega)
  rw [this]; rfl

theorem capN_eq (x : Node) : capN sl x = (decide (x.o < tagBase) && capQ sl x.t x.m x.n && capNs sl x.kids) := by
  cases x; rw [capN]; rfl

theorem capNs_iff_all : ∀ (l : List Node), capNs sl l = true ↔ ∀ x ∈ l, capN sl x = true
  | [] => by simp [capNs_nil]
  | x :: xs => by simp [capNs_cons, capNs_iff_all xs]

theorem capNs_append (a b : List Node) : capNs sl (a ++ b) = (capNs sl a && capNs sl b) := by
  induction a with
  | nil => simp [capNs_nil]
  | cons x xs ih => simp [capNs_cons, ih, Bool.and_assoc]

theorem capN_inv {x : Node} (h : capN sl x = true) :
    x.o < tagBase ∧ capQ sl x.t x.m x.n = true ∧ capNs sl x.kids = true := by
  rw [capN_eq] at h
  simpa [and_assoc] using h

theorem capN_o {x : Node} (h : capN sl x = true) : x.o < tagBase := (capN_inv h).1
theorem capN_q {x : Node} (h : capN sl x = true) : capQ sl x.t x.m x.n = true := (capN_inv h).2.1
theorem capN_kids {x : Node} (h : capN sl x = true) : capNs sl x.kids = true := (capN_inv h).2.2

theorem capN_head {k : Node} {rest : List Node} {x : Node} (hx : capN sl x = true) (hk : x.kids = k :: rest) :
    capN sl k = true :=
  (capNs_iff_all _).mp (capN_kids hx) k (by rw [hk]; exact List.mem_cons_self ..)

theorem capN_withKids {x : Node} {ks : List Node} (hx : capN sl x = true) (hk : capNs sl ks = true) :
    capN sl (x.withKids ks) = true := by
  cases x
  exact capN_mk_of sl (capN_o hx) (capN_q hx) hk

theorem capN_bare (t o : Nat) (ho : o < tagBase) (hq : capQ sl t 0 0 = true) : capN sl (bareNode t o) = true :=
  capN_mk_of sl ho hq (capNs_nil sl)

theorem capN_fixShape {x : Node} (h : capN sl x = true) : capN sl (fixShape x) = true := by
  unfold fixShape
  split
  · exact h
  · exact capN_bare _ _ (capN_o h) rfl

/-! ### `unwrap` -/

theorem capN_unwrap {tag : Nat} {x : Node} (ht : isTag tag = true) (hq : tagQ sl tag = true) (h : capN sl x = true) :
    capN sl (unwrap tag x) = true := by
  unfold unwrap
  apply capN_fixShape
  apply capN_mk_of
  · exact unpack_o_lt tag
  · unfold tagQ at hq
    simpa [ht] using hq
  · exact (capNs_iff_all _).mpr fun k hk => (capNs_iff_all _).mp (capN_kids h) k (List.mem_of_mem_take hk)

/-! ### `toR` -/

theorem toRs_length : ∀ (l : List Node), (toRs l).length = l.length
  | [] => by simp [toRs]
  | x :: xs => by simp [toRs, toRs_length xs]

theorem oneCP_optsR (x : Node) (h : RewriteDecisions.isOneCP (cpOf x) = true) : optsR x = x.o := by
  unfold cpOf at h
  unfold optsR
  split at h
  · rename_i h1
    have : isSetFamily x.t = false := by
      simp only [isOneFamily, Bool.or_eq_true, beq_iff_eq] at h1
      rcases h1 with ((h1 | h1) | h1) | h1 <;> rw [h1] <;> rfl
    simp [this]
  · split at h
    · simp [RewriteDecisions.isOneCP] at h
    · split at h <;> simp [RewriteDecisions.isOneCP] at h

theorem capQ13_toNat {t : Nat} {m n : Int} (ht : (t == 13 || t == 33) = true) (h : capQ sl t m n = true) (t' : Nat)
    (ht' : (t' == 13 || t' == 33) = true) : capQ sl t' ((m.toNat : Nat) : Int) 0 = true := by
  simp only [capQ, ht, ht', if_true, Bool.and_eq_true, decide_eq_true_eq] at h ⊢
  have : ((m.toNat : Nat) : Int) = m := by omega
  rw [this]
  exact h

theorem capQ28_toNat {m n : Int} (h0 : sl 0 = true) (h : capQ sl 28 m n = true) :
    capQ sl 28 ((m.toNat : Nat) : Int) (-1) = true := by
  simp only [capQ, show ((28 : Nat) == 13 || (28 : Nat) == 33) = false from rfl, show ((28 : Nat) == 28) = true from rfl,
    if_true, Bool.false_eq_true, if_false, Bool.and_eq_true, decide_eq_true_eq] at h ⊢
  have hmax : (maxInt32 : Int) = 2147483647 := rfl
  refine ⟨⟨⟨⟨by omega, by omega⟩, by omega⟩, by omega⟩, ?_⟩
  simp only [show ((-1 : Int) == -1) = true from rfl, if_true]
  by_cases hm : m = -1
  · subst hm; exact h0
  · have : ((m.toNat : Nat) : Int) = m := by omega
    rw [this]
    have h2 := h.2
    split at h2
    · exact h2
    · simp only [Bool.and_eq_true, Bool.or_eq_true, beq_iff_eq] at h2
      rcases h2.1 with h3 | h3
      · exact absurd h3 hm
      · exact h3

/-- The payload carries the node's group number once more, as `m.toNat`.  A Group (29) travels as `.cap m.toNat` like a
    Capture, hence `M = 0` in `capQ` and `h0`; a pop-only Capture (`M = -1`) travels as `.cap 0`. -/
theorem capR_payload (h0 : sl 0 = true) {t o : Nat} {m n : Int} {rs : List RNode} (hq : capQ sl t m n = true)
    (hs : shapeOk t rs.length = true) (h24 : t ≠ 24) (h25 : t ≠ 25) (hr : CRs sl rs) :
    capR sl (payload t o m n rs) = true := by
  have hlt := shapeOk_lt _ _ hs
  match rs, hs, hr with
  | [], _, _ =>
    rw [payload]
    refine ite_cases_true (fun h13 => ?_) fun _ => ite_cases_true (fun _ => by rw [capR]) fun _ => by rw [capR]
    rw [capR]
    exact capQ13_toNat (by rw [eq_of_beq h13]; rfl) hq 13 rfl
  | [a], hs, hr =>
    have ha := CRs_head hr
    rw [payload]
    refine ite_cases_true (fun _ => by rw [capR]; exact ha) fun h26 => ?_
    refine ite_cases_true (fun _ => by rw [capR]; exact ha) fun h27 => ?_
    refine ite_cases_true (fun _ => by rw [capR]; exact ha) fun h30 => ?_
    refine ite_cases_true (fun _ => by rw [capR]; exact ha) fun h31 => ?_
    refine ite_cases_true (fun _ => by rw [capR]; exact ha) fun h32 => ?_
    refine ite_cases_true (fun h33 => ?_) fun h33 => ?_
    · rw [capR, capQ13_toNat (by rw [eq_of_beq h33]; rfl) hq 33 rfl, ha]
      rfl
    rw [capR, ha, Bool.and_true]
    have ht : t = 28 ∨ t = 29 := by
      have := one_types t hlt hs
      simp only [beq_iff_eq] at h26 h27 h30 h31 h32 h33
      omega
    rcases ht with rfl | rfl
    · exact capQ28_toNat h0 hq
    · have : m = 0 := by simpa [capQ] using hq
      subst this
      simp [capQ, maxInt32, h0]
  | [a, b], hs, hr =>
    have ha := CRs_head hr
    have hb := CRs_head (CRs_tail hr)
    rw [payload]
    refine ite_cases_true (fun _ => by rw [capR, ha, hb]; rfl) fun h34 => ?_
    have ht : t = 33 := by
      have := two_types t hlt hs
      simp only [beq_iff_eq] at h34
      omega
    rw [capR, capQ13_toNat (by rw [ht]; rfl) hq 33 rfl, ha, hb]
    rfl
  | a :: b :: c :: rest, _, hr =>
    rw [payload, capR, CRs_head hr, CRs_head (CRs_tail hr), CRs_head (CRs_tail (CRs_tail hr))]
    rfl

mutual
theorem toR_caps (h0 : sl 0 = true) : ∀ (x : Node), okN x = true → capN sl x = true → capR sl (toR x) = true
  | .mk t o ch str set m n kids, hok, hc => by
    have ho := capN_o hc
    have hq := capN_q hc
    have hk := capN_kids hc
    have hsh := okN_shape hok
    have hkok := okN_kids hok
    simp only [Node.o, Node.t, Node.m, Node.n, Node.kids] at ho hq hk hsh hkok
    have hkids := toRs_caps h0 kids hkok hk
    rw [toR]
    simp only []
    refine ite_cases_true (fun _ => capR_chr_iff.mpr fun hp => by rw [oneCP_optsR _ hp]; exact tagQ_of_lt ho) fun _ => ?_
    refine ite_cases_true (fun _ => capR_cloop_iff.mpr fun hp => by rw [oneCP_optsR _ hp]; exact tagQ_of_lt ho)
      fun _ => ?_
    refine ite_cases_true (fun _ => capR_multi_of (tagQ_of_lt ho) _) fun _ => ?_
    refine ite_cases_true (fun _ => by rw [capR]) fun _ => ite_cases_true (fun _ => by rw [capR]) fun _ => ?_
    refine ite_cases_true (fun _ => capR_alt_of (tagQ_of_lt ho) hkids) fun h24 => ?_
    refine ite_cases_true (fun _ => capR_cat_of (tagQ_of_lt ho) hkids) fun h25 => ?_
    have hlt := shapeOk_lt _ _ hsh
    have htag := tagQ_pack (min kids.length 3) t o m n (by omega) hlt hq
    refine capR_alt_of htag (CRs_single (capR_cat_of htag (CRs_single ?_)))
    exact capR_payload h0 hq (by rw [toRs_length]; exact hsh) (by simpa using h24) (by simpa using h25) hkids
theorem toRs_caps (h0 : sl 0 = true) : ∀ (l : List Node), okNs l = true → capNs sl l = true → CRs sl (toRs l)
  | [], _, _ => by rw [toRs]; exact CRs_nil
  | x :: xs, hok, hc => by
    rw [okNs_cons] at hok
    rw [capNs_cons] at hc
    simp only [Bool.and_eq_true] at hok hc
    rw [toRs]
    exact CRs_cons (toR_caps h0 x hok.1 hc.1) (toRs_caps h0 xs hok.2 hc.2)
end

theorem toRSpine_caps (h0 : sl 0 = true) : ∀ (f : Nat) (x : Node), okN x = true → capN sl x = true →
    capR sl (toRSpine f x) = true
  | 0, x, hok, hc => by rw [toRSpine]; exact toR_caps h0 x hok hc
  | f + 1, x, hok, hc => by
    rw [toRSpine]
    split
    · split
      · rename_i c hk
        exact capR_atomic_of (toRSpine_caps h0 f c (okN_head hok hk) (capN_head hc hk))
      · exact toR_caps h0 x hok hc
    · split
      · split
        · rename_i c cs hk
          have h1 := okN_kids hok
          have h2 := capN_kids hc
          rw [hk, okNs_cons, Bool.and_eq_true] at h1
          rw [hk, capNs_cons, Bool.and_eq_true] at h2
          exact capR_cat_of (tagQ_of_lt (capN_o hc))
            (CRs_cons (toRSpine_caps h0 f c h1.1 h2.1) (toRs_caps h0 cs h1.2 h2.2))
        · exact toR_caps h0 x hok hc
      · exact toR_caps h0 x hok hc

/-! ### `fromR`; the reducer keeps `OC` -/

variable (sl)

mutual
/-- Every branch builds its node with `capN_mk_of`: the option word is masked (`mod_lt_tagBase`), zero, or not a tag; the
    label is the `RNode`'s own (`capQ` from `capR`) or of a type without group number.  Only a tagged `cat` over one
    child takes type and numbers from its tag (`capN_unwrap`). -/
theorem fromR_caps : ∀ (r : RNode), capR sl r = true → capN sl (fromR r) = true := by
  intro r h
  cases r with
  | chr o p => cases p <;> (simp only [fromR, cpNode]; exact capN_mk_of sl (mod_lt_tagBase o) rfl (capNs_nil sl))
  | cloop o k p lo hi =>
    cases k <;> cases p <;> (simp only [fromR, cpNode, cloopType]; exact capN_mk_of sl (mod_lt_tagBase o) rfl (capNs_nil sl))
  | multi o cs => simp only [fromR]; exact capN_mk_of sl (mod_lt_tagBase o) rfl (capNs_nil sl)
  | ref g ci =>
    rw [capR] at h
    simp only [fromR]
    exact capN_mk_of sl zero_lt_tagBase h (capNs_nil sl)
  | alt o cs =>
    have hk := fromRs_caps cs (capR_alt_inv h).2
    rw [fromR]
    split
    · split
      · rename_i x hx
        rw [hx, capNs_cons, Bool.and_eq_true] at hk
        exact hk.1
      · exact capN_fixShape (capN_mk_of sl zero_lt_tagBase rfl hk)
    · rename_i hnt
      exact capN_fixShape (capN_mk_of sl (not_isTag_lt hnt) rfl hk)
  | cat o cs =>
    have hi := capR_cat_inv h
    have hk := fromRs_caps cs hi.2
    rw [fromR]
    split
    · rename_i htag
      split
      · rename_i x hx
        rw [hx, capNs_cons, Bool.and_eq_true] at hk
        exact capN_unwrap htag hi.1 hk.1
      · exact capN_fixShape (capN_mk_of sl zero_lt_tagBase rfl hk)
    · rename_i hnt
      exact capN_fixShape (capN_mk_of sl (not_isTag_lt hnt) rfl hk)
  | loop lzy lo hi b =>
    rw [capR] at h
    simp only [fromR]
    exact capN_mk_of sl zero_lt_tagBase (by cases lzy <;> rfl) (by simp [capNs_cons, capNs_nil, fromR_caps b h])
  | cap g b =>
    rw [capR, Bool.and_eq_true] at h
    simp only [fromR]
    exact capN_mk_of sl zero_lt_tagBase h.1 (by simp [capNs_cons, capNs_nil, fromR_caps b h.2])
  | look bh ng b =>
    rw [capR] at h
    simp only [fromR]
    exact capN_mk_of sl (by cases bh <;> decide) (by cases ng <;> rfl) (by simp [capNs_cons, capNs_nil, fromR_caps b h])
  | atomic b =>
    rw [capR] at h
    simp only [fromR]
    exact capN_mk_of sl zero_lt_tagBase rfl (by simp [capNs_cons, capNs_nil, fromR_caps b h])
  | refCond g y n =>
    rw [capR] at h
    simp only [Bool.and_eq_true] at h
    simp only [fromR]
    exact capN_mk_of sl zero_lt_tagBase h.1.1 (by simp [capNs_cons, capNs_nil, fromR_caps y h.1.2, fromR_caps n h.2])
  | exprCond c y n =>
    rw [capR] at h
    simp only [Bool.and_eq_true] at h
    simp only [fromR]
    exact capN_mk_of sl zero_lt_tagBase rfl
      (by simp [capNs_cons, capNs_nil, fromR_caps c h.1.1, fromR_caps y h.1.2, fromR_caps n h.2])
  | _ => simp only [fromR]; exact capN_bare _ _ zero_lt_tagBase rfl
theorem fromRs_caps : ∀ (rs : List RNode), CRs sl rs → capNs sl (fromRs rs) = true
  | [], _ => by simp [fromRs, capNs_nil]
  | x :: xs, h => by
    simp [fromRs, capNs_cons, fromR_caps x (CRs_head h), fromRs_caps xs (CRs_tail h)]
end

theorem capN_stripCi {x : Node} (h : capN sl x = true) : capN sl (stripCi x) = true := by
  unfold stripCi
  split
  · exact h
  · split
    · cases x
      exact capN_mk_of sl (by have := capN_o h; simp only [Node.o] at this ⊢; omega) (capN_q h) (capN_kids h)
    · exact h

theorem capN_makeLoopAtomic (h0 : sl 0 = true) {x : Node} (hok : okN x = true) (hx : capN sl x = true) :
    capN sl (makeLoopAtomic x) = true := by
  unfold makeLoopAtomic
  split
  · have h := fromR_caps sl _ (capR_makeLoopAtomic (toR_caps h0 x hok hx))
    generalize fromR (RewriteDecisions.makeLoopAtomic (toR x)) = y at h
    cases y with
    | mk t o ch str set m n ks =>
      exact capN_mk_of sl (capN_o hx) (capN_q h) (capN_kids h)
  · exact hx

theorem redCaps (h0 : sl 0 = true) {f : Bool → Node → Node} (hf : ∀ pa y, OC sl y → OC sl (f pa y)) :
    RedCaps sl (fun pa' r => toR (f pa' (fromR r))) := fun pa' r hr =>
  have h := hf pa' _ ⟨fromR_ok r, fromR_caps sl r hr⟩
  toR_caps h0 _ h.1 h.2

theorem ocKept (h0 : sl 0 = true) : Kept (OC sl) where
  ok h := h.1
  kids h k hk := ⟨okKept.kids h.1 k hk, (capNs_iff_all _).mp (capN_kids h.2) k hk⟩
  withKids h hs hk := ⟨okKept.withKids h.1 hs fun k hk' => (hk k hk').1,
    capN_withKids h.2 ((capNs_iff_all _).mpr fun k hk' => (hk k hk').2)⟩
  node h ht hs hk := ⟨okKept.node h.1 ht hs fun k hk' => (hk k hk').1,
    capN_mk_of sl (capN_o h.2) (capQ_other sl ht.1 ht.2.1 ht.2.2.1 ht.2.2.2 _ _)
      ((capNs_iff_all _).mpr fun k hk' => (hk k hk').2)⟩
  stripCi h := ⟨okN_stripCi h.1, capN_stripCi sl h.2⟩
  makeLoopAtomic h := ⟨okN_makeLoopAtomic h.1, capN_makeLoopAtomic sl h0 h.1 h.2⟩
  placeBump fuel h := ⟨fromR_ok _, fromR_caps sl _ (capR_placeBump _ _ _ (toRSpine_caps h0 fuel _ h.1 h.2))⟩
  alt _ _ _ hf h := ⟨fromR_ok _, fromR_caps sl _ (capR_reduceAlt (redCaps sl h0 hf) _ _ _ _ _
    (tagQ_of_lt (capN_o h.2)) (toRs_caps h0 _ (okN_kids h.1) (capN_kids h.2)))⟩
  cat _ h := ⟨fromR_ok _, fromR_caps sl _ (capR_reduceCat _ _
    (tagQ_of_lt (capN_o h.2)) (toRs_caps h0 _ (okN_kids h.1) (capN_kids h.2)))⟩
  atomic _ _ hf h := ⟨fromR_ok _, fromR_caps sl _ (capR_reduceAtomic (redCaps sl h0 hf) _ _ _ _
    (capR_atomic_of (toR_caps h0 _ h.1 h.2)))⟩

mutual
theorem reduceKids_caps (h0 : sl 0 = true) (orc : Orc) (on : Bool) (f : Nat) : ∀ (x : Node), okRaw x = true → capN sl x = true →
    capN sl (reduceKids orc on (f + 1) x) = true
  | .mk t o ch str set m n kids, h, hc => by
    rw [okRaw] at h
    simp only [Bool.and_eq_true] at h
    rw [reduceKids]
    exact capN_mk_of sl (capN_o hc) (capN_q hc) (reduceList_caps h0 orc on f (t == ntAtomic) kids h.2 (capN_kids hc))
theorem reduceList_caps (h0 : sl 0 = true) (orc : Orc) (on : Bool) (f : Nat) (pa : Bool) : ∀ (l : List Node), okRaws l = true →
    capNs sl l = true → capNs sl (reduceList orc on (f + 1) pa l) = true
  | [], _, _ => by simp [reduceList, capNs_nil]
  | k :: ks, h, hc => by
    rw [okRaws] at h
    rw [capNs_cons] at hc
    simp only [Bool.and_eq_true] at h hc
    have h1 := (kept_reduce_weak (ocKept sl h0) orc on f pa h.1 (reduceKids_weak orc on f k h.1)
      (fun ho => ⟨ho, reduceKids_caps h0 orc on f k h.1 hc.1⟩)
      (fun _ ht => ⟨by rcases ht with rfl | rfl <;> rfl, by rcases ht with rfl | rfl <;> rfl⟩)).2
    rw [reduceList, capNs_cons, h1, reduceList_caps h0 orc on f pa ks h.2 hc.2]
    rfl
end

/-- **J1 on `Node` trees**: the reduced tree has only group numbers of the raw tree -/
theorem capN_reduceRoot (h0 : sl 0 = true) (orc : Orc) (on : Bool) {root : Node} (h : okRawTree root = true)
    (hc : capN sl root = true) : capN sl (reduceRoot orc on root) = true :=
  (kept_reduceRoot (ocKept sl h0) orc on fun f => ⟨okN_reduceKids orc on f h,
    reduceKids_caps sl h0 orc on f root (Bool.and_eq_true_iff.mp h).1 hc⟩).2

end

/-! ### to the writer's predicate -/

open Writer in
theorem capsOkList_cons (cfg : Cfg) (cs : Nat) (g : GoNode) (gs : List GoNode) :
    capsOkList cfg cs (g :: gs) = (capsOk cfg cs g && capsOkList cfg cs gs) := by rw [capsOkList]

open Writer in
theorem goOf_capsOk (cfg : Cfg) (cs : Nat) (t o ch : Nat) (str : List Nat) (set : Option Class.Class) (m n : Int)
    (gs : List GoNode) (hq : capQ (slotOk cfg cs) t m n = true) (hg : capsOkList cfg cs gs = true) :
    capsOk cfg cs (goOf t o ch str set m n gs) = true := by
  unfold goOf
  simp only []
  refine ite_cases_true (fun _ => by rw [capsOk]; exact hg) fun _ => ite_cases_true (fun _ => by rw [capsOk]; exact hg) fun _ => ?_
  -- of the other nodes only a Ref (13), a Capture (28) and a BackRefCond (33) have a condition of their own
  match gs, hg with
  | [], _ =>
    by_cases h13 : t == 13
    · rw [eq_of_beq h13] at hq ⊢
      exact capQ_slot rfl hq
    · simp only [apply_ite (capsOk cfg cs), capsOk, if_neg h13, ite_self]
  | [k], hg =>
    have hk : capsOk cfg cs k = true := by simpa [capsOkList_cons, capsOkList] using hg
    by_cases h28 : t == 28
    · rw [eq_of_beq h28] at hq ⊢
      show capsOk cfg cs (.capture m n k) = true
      rw [capsOk, hk, Bool.and_true]
      exact capQ_28 hq
    by_cases h33 : t == 33
    · rw [eq_of_beq h33] at hq ⊢
      show capsOk cfg cs (.backrefcond1 m k) = true
      rw [capsOk, hk, Bool.and_true]
      exact capQ_slot rfl hq
    · simp only [apply_ite (capsOk cfg cs), capsOk, if_neg h28, if_neg h33, hk, ite_self]
  | [k, k2], hg =>
    have hk : capsOk cfg cs k = true ∧ capsOk cfg cs k2 = true := by simpa [capsOkList_cons, capsOkList] using hg
    by_cases h33 : t == 33
    · rw [eq_of_beq h33] at hq ⊢
      show capsOk cfg cs (.backrefcond2 m k k2) = true
      rw [capsOk, hk.1, hk.2, Bool.and_true, Bool.and_true]
      exact capQ_slot rfl hq
    · simp only [apply_ite (capsOk cfg cs), capsOk, if_neg h33, hk.1, hk.2, Bool.and_self, ite_self]
  | [k, k2, k3], hg =>
    have hk : capsOk cfg cs k = true ∧ capsOk cfg cs k2 = true ∧ capsOk cfg cs k3 = true := by
      simpa [capsOkList_cons, capsOkList] using hg
    simp only [apply_ite (capsOk cfg cs), capsOk, hk.1, hk.2.1, hk.2.2, Bool.and_self, ite_self]
  | _ :: _ :: _ :: _ :: _, _ => rw [capsOk]

open Writer in
mutual
theorem toGo_capsOk (cfg : Cfg) (cs : Nat) : ∀ (x : Node), capN (slotOk cfg cs) x = true → capsOk cfg cs (toGo x) = true
  | .mk t o ch str set m n kids, h => by
    rw [toGo]
    exact goOf_capsOk cfg cs _ _ _ _ _ _ _ _ (capN_q h) (toGos_capsOk cfg cs kids (capN_kids h))
theorem toGos_capsOk (cfg : Cfg) (cs : Nat) : ∀ (l : List Node), capNs (slotOk cfg cs) l = true →
    capsOkList cfg cs (toGos l) = true
  | [], _ => by simp [toGos, capsOkList]
  | x :: xs, h => by
    rw [capNs_cons] at h
    simp only [Bool.and_eq_true] at h
    rw [toGos, capsOkList_cons, toGo_capsOk cfg cs x h.1, toGos_capsOk cfg cs xs h.2]
    rfl
end

/-- **J1, at the writer's interface**, for every oracle, rewrites on or off. -/
theorem reduceTree_capsOk (cfg : Writer.Cfg) (cs : Nat) (orc : Orc) (on : Bool) (t : Parser.RawTree)
    (h0 : Writer.slotOk cfg cs 0 = true) (hok : okRawTree (ofRaw t.root) = true)
    (hc : capN (Writer.slotOk cfg cs) (ofRaw t.root) = true) :
    Writer.capsOk cfg cs (reduceTree orc on t) = true := by
  unfold reduceTree
  exact toGo_capsOk cfg cs _ (capN_reduceRoot _ h0 orc on hok hc)

end RegexVerif.Reduce
