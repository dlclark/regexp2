/-
Helper lemmas for the interleaving theorem (`Props/C11.lean`): an abstraction of a goroutine's local
state that forgets exactly what history independence allows to forget, and the fact that one step of
the concrete semantics acts on that abstraction as a function that mentions neither the shared state
nor `sync.Pool`'s choice.
-/
import RegexVerif.Model.Interleave
import RegexVerif.Lemmas.LRU

namespace RegexVerif.Lemmas.Interleave
open RegexVerif.Interleave

variable {R B O Args Res κ ν : Type} [DecidableEq κ]

/-- what is assumed of the operations: the statements `Props/C12` proves for the concrete models, plus
    "the interpreter reads only the observable state" (`stepR` and `finishR` factor through `obs` as `stepO`,
    `finishO` on every runner with `Own`).  `Lemmas.RunnerSem.runnerLaws` is this record for the C12 models. -/
structure Laws (M : Sem R B O Args Res κ ν) where
  InvR : R → Prop                       -- invariant of a pooled runner (at `runnerLaws`: `PoolInv ∧ OwnR`)
  Own : R → Prop                        -- facts about a runner of this Regexp that nothing changes (at `runnerLaws`:
                                        -- `OwnR` = `RunInv`, well-formed slots, the stack within its limit)
  stepO : Args → List Int → O → O
  finishO : Args → Option ν → O → Res
  fresh_inv : InvR M.freshR
  inv_own : ∀ r, InvR r → Own r
  start_obs : ∀ a t r, InvR r → M.obs (M.startR a t r) = M.obs (M.startR a t M.freshR)   -- `scanInit_resets`
  start_own : ∀ a t r, Own r → Own (M.startR a t r)
  step_obs : ∀ a t r, Own r → M.obs (M.stepR a t r) = stepO a t (M.obs r)                  -- run reads only `obs`
  step_own : ∀ a t r, Own r → Own (M.stepR a t r)
  finish_obs : ∀ a d r, Own r → M.finishR a d r = finishO a d (M.obs r)
  put_inv : ∀ r, Own r → InvR (M.putR r)                                                   -- `put_resets_code`
  decode_vis : ∀ a b, M.fits a b = true →
      M.visB (M.decodeB a b) = M.visB (M.decodeB a (M.freshB a))                            -- `pool_decode_history_independent`

/-- the abstraction of a local state: the runner is "none", "pooled/new, not started" or "running with
    observable state o"; the buffer is what the matcher sees in it -/
structure AbsLocal (O Res ν : Type) where
  todo : List Step
  runner : Option (Option O)
  buf : Option (List Int)
  data : Option ν
  res : Option Res

def α (M : Sem R B O Args Res κ ν) (L : Local R B Res ν) : AbsLocal O Res ν :=
  { todo := L.todo, runner := L.runner.map (fun r => if L.started then some (M.obs r) else none),
    buf := L.buf.map M.visB, data := L.data, res := L.res }

/-! the abstract counterparts of the step functions: no shared state, no choice -/

def absLruGet (M : Sem R B O Args Res κ ν) (c : Call Args κ) (A : AbsLocal O Res ν) : AbsLocal O Res ν :=
  match c.repl with
  | none => A
  | some k => { A with data := M.parse k }

def absGetRunner (A : AbsLocal O Res ν) : AbsLocal O Res ν := { A with runner := some none }

def absPoolGet (M : Sem R B O Args Res κ ν) (c : Call Args κ) (A : AbsLocal O Res ν) : AbsLocal O Res ν :=
  { A with buf := some (M.visB (M.decodeB c.args (M.freshB c.args))) }

def absRunStep (M : Sem R B O Args Res κ ν) (W : Laws M) (c : Call Args κ) (A : AbsLocal O Res ν) : AbsLocal O Res ν :=
  match A.runner, A.buf with
  | some none, some t => { A with runner := some (some (M.obs (M.startR c.args t M.freshR))) }
  | some (some o), some t => { A with runner := some (some (W.stepO c.args t o)) }
  | _, _ => A

def absPutRunner (M : Sem R B O Args Res κ ν) (W : Laws M) (c : Call Args κ) (A : AbsLocal O Res ν) : AbsLocal O Res ν :=
  match A.runner with
  | some (some o) => { A with runner := none, res := some (W.finishO c.args A.data o) }
  | some none => { A with runner := none, res := none }
  | none => A

def absPoolPut (A : AbsLocal O Res ν) : AbsLocal O Res ν :=
  match A.buf with
  | some _ => { A with buf := none }
  | none => A

def absStep (M : Sem R B O Args Res κ ν) (W : Laws M) (c : Call Args κ) (A : AbsLocal O Res ν) : AbsLocal O Res ν :=
  match A.todo with
  | [] => A
  | st :: rest =>
    let A := { A with todo := rest }
    match st with
    | .lruGet => absLruGet M c A
    | .lruAdd => A
    | .getRunner => absGetRunner A
    | .poolGet => absPoolGet M c A
    | .runStep => absRunStep M W c A
    | .putRunner => absPutRunner M W c A
    | .poolPut => absPoolPut A

/-- invariant of the shared state: pooled runners satisfy the pool invariant; the cache has no duplicate
    keys, respects its bound, and holds only parses of its keys -/
def SharedInv (M : Sem R B O Args Res κ ν) (W : Laws M) (S : Shared R B κ ν) : Prop :=
  (∀ r ∈ S.runners, W.InvR r) ∧ Props.C12.CacheInv S.cache ∧
  (∀ k v, LRU.lookup k S.cache.entries = some v → M.parse k = some v)

def LocalGood (M : Sem R B O Args Res κ ν) (W : Laws M) (c : Call Args κ) (L : Local R B Res ν) : Prop :=
  (∀ r, L.runner = some r → W.Own r ∧ (L.started = false → W.InvR r)) ∧
  (∀ k v, c.repl = some k → L.data = some v → M.parse k = some v)

theorem removeAt_eq_eraseIdx {T : Type} (xs : List T) (j : Nat) : removeAt xs j = xs.eraseIdx j := by
  induction xs generalizing j with
  | nil => rfl
  | cons x xs ih => cases j with
    | zero => rfl
    | succ j => simp [removeAt, ih]

theorem mem_removeAt {T : Type} (xs : List T) (j : Nat) (x : T) (h : x ∈ removeAt xs j) : x ∈ xs :=
  List.mem_of_mem_eraseIdx (removeAt_eq_eraseIdx xs j ▸ h)

variable (M : Sem R B O Args Res κ ν) (W : Laws M) (c : Call Args κ) {S : Shared R B κ ν} {L : Local R B Res ν}

omit [DecidableEq κ] in
theorem localGood_init :
    LocalGood M W c (Local.init c : Local R B Res ν) :=
  ⟨by intro r h; simp [Local.init] at h, by intro k v _ h; simp [Local.init] at h⟩

theorem lruGet_abs (hS : SharedInv M W S) (hL : LocalGood M W c L) :
    α M (doLruGet M c S L).2 = absLruGet M c (α M L) ∧
    SharedInv M W (doLruGet M c S L).1 ∧ LocalGood M W c (doLruGet M c S L).2 := by
  obtain ⟨hSr, hSc, hSv⟩ := hS
  obtain ⟨hLr, hLd⟩ := hL
  unfold doLruGet absLruGet
  cases hrepl : c.repl with
  | none => exact ⟨rfl, ⟨hSr, hSc, hSv⟩, hLr, hLd⟩
  | some k =>
    simp only
    cases hl : LRU.lookup k S.cache.entries with
    | some v =>
      have hp := hSv k v hl
      refine ⟨by simp [α, hp], ⟨hSr, Lemmas.LRU.cacheInv_get hSc k,
        Lemmas.LRU.get_sound S.cache hSc hSv k⟩, hLr, ?_⟩
      intro k' v' hk' hv'
      rw [hrepl] at hk'; simp only [Option.some.injEq] at hk' hv'; subst hk'; subst hv'; exact hp
    | none =>
      refine ⟨rfl, ⟨hSr, hSc, hSv⟩, hLr, ?_⟩
      intro k' v' hk' hv'
      rw [hrepl] at hk'; simp only [Option.some.injEq] at hk'; subst hk'; exact hv'

theorem lruAdd_abs (hS : SharedInv M W S) (hL : LocalGood M W c L) :
    α M (doLruAdd c S L).2 = α M L ∧
    SharedInv M W (doLruAdd c S L).1 ∧ LocalGood M W c (doLruAdd c S L).2 := by
  obtain ⟨hSr, hSc, hSv⟩ := hS
  unfold doLruAdd
  cases hrepl : c.repl with
  | none => exact ⟨rfl, ⟨hSr, hSc, hSv⟩, hL⟩
  | some k =>
    cases hd : L.data with
    | none => exact ⟨rfl, ⟨hSr, hSc, hSv⟩, hL⟩
    | some v =>
      cases hm : L.miss with
      | false => exact ⟨rfl, ⟨hSr, hSc, hSv⟩, hL⟩
      | true =>
        exact ⟨rfl, ⟨hSr, Lemmas.LRU.cacheInv_add hSc k v,
          Lemmas.LRU.add_sound S.cache hSc hSv k v (hL.2 k v hrepl hd)⟩, hL⟩

theorem getRunner_abs (ch : Nat)
    (hS : SharedInv M W S) (hL : LocalGood M W c L) :
    α M (doGetRunner M ch S L).2 = absGetRunner (α M L) ∧
    SharedInv M W (doGetRunner M ch S L).1 ∧ LocalGood M W c (doGetRunner M ch S L).2 := by
  obtain ⟨hSr, hSc, hSv⟩ := hS
  unfold doGetRunner absGetRunner
  cases hr : S.runners[ch]? with
  | some r =>
    have hin : W.InvR r := hSr r (List.mem_of_getElem? hr)
    refine ⟨by simp [α], ⟨fun x hx => hSr x (mem_removeAt _ _ _ hx), hSc, hSv⟩, ?_, hL.2⟩
    intro x hx; cases hx; exact ⟨W.inv_own _ hin, fun _ => hin⟩
  | none =>
    refine ⟨by simp [α], ⟨hSr, hSc, hSv⟩, ?_, hL.2⟩
    intro x hx; cases hx; exact ⟨W.inv_own _ W.fresh_inv, fun _ => W.fresh_inv⟩

theorem poolGet_abs (ch : Nat)
    (hS : SharedInv M W S) (hL : LocalGood M W c L) :
    α M (doPoolGet M c ch S L).2 = absPoolGet M c (α M L) ∧
    SharedInv M W (doPoolGet M c ch S L).1 ∧ LocalGood M W c (doPoolGet M c ch S L).2 := by
  unfold doPoolGet absPoolGet
  cases hb : S.bufs[ch]? with
  | some b =>
    simp only
    by_cases hf : M.fits c.args b = true
    · rw [if_pos hf]; exact ⟨by simp [α, W.decode_vis _ _ hf], hS, hL⟩
    · rw [if_neg hf]; exact ⟨by simp [α], hS, hL⟩
  | none => exact ⟨by simp [α], hS, hL⟩

omit [DecidableEq κ] in
theorem runStep_abs (hL : LocalGood M W c L) :
    α M (doRunStep M c L) = absRunStep M W c (α M L) ∧ LocalGood M W c (doRunStep M c L) := by
  unfold doRunStep absRunStep
  cases hr : L.runner with
  | none => simp [α, hr]; exact hL
  | some r =>
    cases hb : L.buf with
    | none => cases hs : L.started <;> simp [α, hr, hb, hs] <;> exact hL
    | some b =>
      obtain ⟨hown, hinv⟩ := hL.1 r hr
      cases hs : L.started with
      | false =>
        simp only [α, hr, hb, hs, Option.map_some, Bool.false_eq_true, if_false]
        refine ⟨by simp [W.start_obs _ _ _ (hinv hs)], ?_, hL.2⟩
        intro x hx; cases hx
        exact ⟨W.start_own _ _ _ hown, by intro h; cases h⟩
      | true =>
        simp only [α, hr, hb, hs, Option.map_some, if_true]
        refine ⟨by simp [W.step_obs _ _ _ hown], ?_, hL.2⟩
        intro x hx; cases hx
        exact ⟨W.step_own _ _ _ hown, by intro h; simp at h⟩

theorem putRunner_abs (hS : SharedInv M W S) (hL : LocalGood M W c L) :
    α M (doPutRunner M c S L).2 = absPutRunner M W c (α M L) ∧
    SharedInv M W (doPutRunner M c S L).1 ∧ LocalGood M W c (doPutRunner M c S L).2 := by
  obtain ⟨hSr, hSc, hSv⟩ := hS
  unfold doPutRunner absPutRunner
  cases hr : L.runner with
  | none => simp [α, hr]; exact ⟨⟨hSr, hSc, hSv⟩, hL⟩
  | some r =>
    obtain ⟨hown, _⟩ := hL.1 r hr
    have hsh : SharedInv M W { S with runners := M.putR r :: S.runners } := by
      refine ⟨?_, hSc, hSv⟩
      intro x hx
      simp only [List.mem_cons] at hx
      cases hx with
      | inl h => subst h; exact W.put_inv _ hown
      | inr h => exact hSr x h
    have hlg : ∀ st res, LocalGood M W c { L with runner := none, started := st, res := res } :=
      fun _ _ => ⟨(by intro x hx; cases hx), hL.2⟩
    cases hs : L.started with
    | false => simp [α, hr, hs]; exact ⟨hsh, hlg _ _⟩
    | true => simp [α, hr, hs, W.finish_obs _ _ _ hown]; exact ⟨hsh, hlg _ _⟩

theorem poolPut_abs (hS : SharedInv M W S) (hL : LocalGood M W c L) :
    α M (doPoolPut M S L).2 = absPoolPut (α M L) ∧
    SharedInv M W (doPoolPut M S L).1 ∧ LocalGood M W c (doPoolPut M S L).2 := by
  unfold doPoolPut absPoolPut
  cases hb : L.buf with
  | none => simp [α, hb]; exact ⟨hS, hL⟩
  | some b => simp [α, hb]; exact ⟨hS, hL⟩

theorem stepG_abs (ch : Nat)
    (hS : SharedInv M W S) (hL : LocalGood M W c L) :
    α M (stepG M c ch S L).2 = absStep M W c (α M L) ∧
    SharedInv M W (stepG M c ch S L).1 ∧ LocalGood M W c (stepG M c ch S L).2 := by
  unfold stepG absStep
  cases htodo : L.todo with
  | nil => simp only [α, htodo]; exact ⟨trivial, hS, hL⟩
  | cons st rest =>
    have hL' : LocalGood M W c { L with todo := rest } := hL
    simp only [α, htodo]
    cases st with
    | lruGet => exact lruGet_abs M W c hS hL'
    | lruAdd => exact lruAdd_abs M W c hS hL'
    | getRunner => exact getRunner_abs M W c ch hS hL'
    | poolGet => exact poolGet_abs M W c ch hS hL'
    | runStep => exact ⟨(runStep_abs M W c hL').1, hS, (runStep_abs M W c hL').2⟩
    | putRunner => exact putRunner_abs M W c hS hL'
    | poolPut => exact poolPut_abs M W c hS hL'

def iter {α' : Type} (f : α' → α') : Nat → α' → α'
  | 0, a => a
  | n + 1, a => iter f n (f a)

def moves (g : Nat) : Schedule → Nat
  | [] => 0
  | s :: rest => (if s.1 = g then 1 else 0) + moves g rest

def StateInv (calls : Nat → Call Args κ) (σ : State R B Res κ ν) : Prop :=
  SharedInv M W σ.shared ∧ ∀ g, LocalGood M W (calls g) (σ.locals g)

/-- what `α` keeps of goroutine `g` after a schedule is `absStep` iterated as often as `g` has moved: neither the
    other goroutines nor the pool's picks enter -/
theorem exec_abs (calls : Nat → Call Args κ) :
    ∀ (sch : Schedule) (σ : State R B Res κ ν), StateInv M W calls σ →
      StateInv M W calls (exec M calls sch σ) ∧
      ∀ g, α M ((exec M calls sch σ).locals g) = iter (absStep M W (calls g)) (moves g sch) (α M (σ.locals g)) := by
  intro sch
  induction sch with
  | nil => intro σ h; exact ⟨h, fun g => rfl⟩
  | cons s rest ih =>
    intro σ h
    obtain ⟨g0, ch⟩ := s
    have hstep := stepG_abs M W (calls g0) ch h.1 (h.2 g0)
    have hinv : StateInv M W calls (exec1 M calls (g0, ch) σ) := by
      refine ⟨hstep.2.1, ?_⟩
      intro g
      by_cases hg : g = g0
      · subst hg; simp only [exec1, if_true]; exact hstep.2.2
      · simp only [exec1, hg, if_false]; exact h.2 g
    obtain ⟨h1, h2⟩ := ih _ hinv
    refine ⟨h1, ?_⟩
    intro g
    rw [show exec M calls ((g0, ch) :: rest) σ = exec M calls rest (exec1 M calls (g0, ch) σ) from rfl, h2 g]
    by_cases hg : g0 = g
    · subst hg
      have : (exec1 M calls (g0, ch) σ).locals g0 = (stepG M (calls g0) ch σ.shared (σ.locals g0)).2 := by
        simp [exec1]
      rw [this, hstep.1]
      simp only [moves, if_true]
      rw [Nat.add_comm]
      rfl
    · have : (exec1 M calls (g0, ch) σ).locals g = σ.locals g := by
        have hne : ¬ g = g0 := fun h => hg h.symm
        simp [exec1, hne]
      rw [this]
      simp [moves, hg]

omit [DecidableEq κ] in
theorem absStep_todo (A : AbsLocal O Res ν) :
    (absStep M W c A).todo = A.todo.drop 1 := by
  unfold absStep
  cases h : A.todo with
  | nil => simp [h]
  | cons st rest =>
    simp only [List.drop_succ_cons, List.drop_zero]
    cases st with
    | lruGet => simp only [absLruGet]; cases c.repl <;> rfl
    | lruAdd => rfl
    | getRunner => rfl
    | poolGet => rfl
    | runStep => simp only [absRunStep]; split <;> rfl
    | putRunner => simp only [absPutRunner]; split <;> rfl
    | poolPut => simp only [absPoolPut]; split <;> rfl

omit [DecidableEq κ] in
theorem iter_todo (n : Nat) (A : AbsLocal O Res ν) :
    (iter (absStep M W c) n A).todo = A.todo.drop n := by
  induction n generalizing A with
  | zero => simp [iter]
  | succ n ih =>
    show (iter (absStep M W c) n (absStep M W c A)).todo = _
    rw [ih, absStep_todo, List.drop_drop, Nat.add_comm]

omit [DecidableEq κ] in
theorem iter_done (k : Nat) (A : AbsLocal O Res ν)
    (h : A.todo = []) : iter (absStep M W c) k A = A := by
  induction k with
  | zero => rfl
  | succ k ih =>
    show iter (absStep M W c) k (absStep M W c A) = A
    have : absStep M W c A = A := by unfold absStep; simp [h]
    rw [this, ih]

theorem iter_add {α' : Type} (f : α' → α') (m n : Nat) (x : α') : iter f (m + n) x = iter f n (iter f m x) := by
  induction m generalizing x with
  | zero => simp [iter]
  | succ m ih =>
    rw [Nat.succ_add]
    show iter f (m + n) (f x) = iter f n (iter f m (f x))
    exact ih (f x)

theorem moves_replicate (n : Nat) : moves 0 (List.replicate n (0, 0)) = n := by
  induction n with
  | zero => rfl
  | succ n ih => simp [List.replicate_succ, moves, ih]; omega

end RegexVerif.Lemmas.Interleave
