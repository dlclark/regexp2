/-
The query functions of a class (Model/ClassQuery.lean) by what they say about `memAlg`.  Entry points: `memAlg_split`
(head and subtractor); `equalsGo_spec` (`equals` compares the fields membership reads, and `anything`);
`mayOverlapByEnumeration_exact`, and `knownDistinct_sound` under `OracleFacts` and `TableFacts`; `newCharSetRuntime_hash`,
the round trip of a whole class for any fuel above the depth of the subtractor chain (the length of the hash is such a fuel:
`hash_length`), level by level through `newCharSetRuntime_step`, the runes through `decode_encode`.
-/
import RegexVerif.Model.ClassQuery
import RegexVerif.Lemmas.Class
import RegexVerif.Lemmas.Ite

namespace RegexVerif.Class

/-! ## membership split into head and subtractor -/

def Class.subMem (cat : Nat → Nat → Bool) : Class → Nat → Bool
  | .leaf _, _ => false
  | .minus _ s, ch => memAlg cat s ch

theorem memAlg_split (cat : Nat → Nat → Bool) (c : Class) (ch : Nat) :
    memAlg cat c ch = (c.flat.memAlg cat ch && !(c.subMem cat ch)) := by
  cases c <;> simp [memAlg, Class.flat, Class.subMem]

/-! ## the singleton tests -/

/-- `IsSingleton` (`ng = false`) and `IsSingletonInverse` (`ng = true`) accept a class without subtraction and
categories whose only range is one rune, with `negate = ng` -/
theorem singleton_shape (c : Class) (ng : Bool) (h : (bif ng then c.isSingletonInverse else c.isSingleton) = true) :
    ∃ f x, c = .leaf f ∧ f.ranges = [(x, x)] ∧ f.cats = [] ∧ f.neg = ng := by
  cases c with
  | minus f s => cases ng <;> cases h
  | leaf f =>
    rcases hf : f.ranges with _ | ⟨⟨a, b⟩, _ | _⟩
    · cases ng <;> simp [Class.isSingleton, Class.isSingletonInverse, hf] at h
    · -- one range: the tests read `negate = ng`, no categories, equal ends
      have h' : (f.neg = ng ∧ f.cats = []) ∧ a = b := by
        cases ng <;> simpa [Class.isSingleton, Class.isSingletonInverse, hf] using h
      exact ⟨f, a, rfl, by rw [hf, h'.2], h'.1.2, h'.1.1⟩
    · cases ng <;> simp [Class.isSingleton, Class.isSingletonInverse, hf] at h

theorem singleton_mem (cat : Nat → Nat → Bool) (c : Class) (ng : Bool)
    (h : (bif ng then c.isSingletonInverse else c.isSingleton) = true) :
    ∃ x, c.singletonChar = some x ∧ ∀ ch, memAlg cat c ch = (decide (ch = x) != ng) := by
  obtain ⟨f, x, rfl, hr, hc, hn⟩ := singleton_shape c ng h
  refine ⟨x, by rw [Class.singletonChar, Class.flat, hr]; rfl, fun ch => ?_⟩
  rw [memAlg, Flat.memAlg, Flat.pos, hr, hc, hn, inRanges_cons, inRanges_nil, inCats_nil, Bool.or_false, Bool.or_false]
  congr 1
  apply Bool.eq_iff_iff.mpr
  rw [inRange_iff, decide_eq_true_eq]
  exact ⟨fun h => Nat.le_antisymm h.2 h.1, fun h => h ▸ ⟨Nat.le_refl _, Nat.le_refl _⟩⟩

/-! ## `equals` -/

theorem eqFields_spec {ig : Bool} {a b : Flat} (h : Flat.eqFields ig a b = true) :
    (ig = false → a.neg = b.neg) ∧ a.anything = b.anything ∧ a.ranges = b.ranges ∧ a.cats = b.cats := by
  simp only [Flat.eqFields, Bool.and_eq_true, Bool.or_eq_true, beq_iff_eq] at h
  obtain ⟨⟨⟨h1, h2⟩, h3⟩, h4⟩ := h
  refine ⟨fun hig => ?_, h2, h3, h4⟩
  rcases h1 with h1 | h1
  · rw [hig] at h1; cases h1
  · exact h1

theorem memAlg_congr (cat : Nat → Nat → Bool) {a b : Class} {ch : Nat} (hn : a.flat.neg = b.flat.neg)
    (hr : a.flat.ranges = b.flat.ranges) (hc : a.flat.cats = b.flat.cats) (hs : a.subMem cat ch = b.subMem cat ch) :
    memAlg cat a ch = memAlg cat b ch := by
  rw [memAlg_split, memAlg_split, Flat.memAlg, Flat.memAlg, Flat.pos, Flat.pos, hn, hr, hc, hs]

/-- what `equals(c2, ignoreNegate)` establishes: same positive part and same subtracted membership;
same `negate` unless it is ignored -/
theorem equalsGo_spec (cat : Nat → Nat → Bool) (a b : Class) (ig : Bool) (h : Class.equalsGo a b ig = true) :
    (ig = false → a.flat.neg = b.flat.neg) ∧ a.flat.anything = b.flat.anything ∧
      a.flat.ranges = b.flat.ranges ∧ a.flat.cats = b.flat.cats ∧ a.hasSub = b.hasSub ∧
      ∀ ch, a.subMem cat ch = b.subMem cat ch := by
  induction a generalizing b ig with
  | leaf f =>
    cases b with
    | leaf g =>
      obtain ⟨h1, h2, h3, h4⟩ := eqFields_spec h
      exact ⟨h1, h2, h3, h4, rfl, fun _ => rfl⟩
    | minus g t => simp [Class.equalsGo] at h
  | minus f s ih =>
    cases b with
    | leaf g => simp [Class.equalsGo] at h
    | minus g t =>
      rw [Class.equalsGo, Bool.and_eq_true] at h
      obtain ⟨h1, h2, h3, h4⟩ := eqFields_spec h.1
      obtain ⟨k1, -, k3, k4, -, k6⟩ := ih t false h.2
      exact ⟨h1, h2, h3, h4, rfl, fun ch => memAlg_congr cat (k1 rfl) k3 k4 (k6 ch)⟩

theorem equalsGo_false_mem (cat : Nat → Nat → Bool) (a b : Class) (h : Class.equalsGo a b false = true) (ch : Nat) :
    memAlg cat a ch = memAlg cat b ch :=
  let ⟨k1, _, k3, k4, _, k6⟩ := equalsGo_spec cat a b false h
  memAlg_congr cat (k1 rfl) k3 k4 (k6 ch)

/-- classes that `equals(…, true)` accepts differ at most in `negate` of the head -/
theorem equalsGo_true_mem (cat : Nat → Nat → Bool) (a b : Class) (h : Class.equalsGo a b true = true) (r : Nat) :
    memAlg cat a r = ((b.flat.pos cat r != a.flat.neg) && !(b.subMem cat r)) := by
  obtain ⟨_, _, h3, h4, _, h6⟩ := equalsGo_spec cat a b true h
  rw [memAlg_split, h6, Flat.memAlg, Flat.pos, Flat.pos, h3, h4]

/-! ## the enumeration loop -/

theorem anyFrom_eq (p : Nat → Bool) : ∀ n s, anyFrom p n s = (List.range' s n).any p
  | 0, _ => rfl
  | n + 1, s => by
    rw [anyFrom, List.range'_succ, List.any_cons, ← anyFrom_eq p n (s + 1)]
    cases p s <;> rfl

theorem Class.eq_leaf {c : Class} (hs : c.hasSub = false) : ∃ f, c = .leaf f := by
  cases c with
  | leaf f => exact ⟨f, rfl⟩
  | minus f s => cases hs

theorem memAlg_ranges_only (cat : Nat → Nat → Bool) (c : Class) (hn : c.flat.neg = false) (hs : c.hasSub = false)
    (hc : c.flat.cats = []) (ch : Nat) : memAlg cat c ch = inRanges c.flat.ranges ch := by
  obtain ⟨f, rfl⟩ := Class.eq_leaf hs
  rw [memAlg, Flat.memAlg, Flat.pos, show f.cats = [] from hc, show f.neg = false from hn, inCats_nil, Bool.or_false,
    Bool.bne_false]
  rfl

/-- `mayOverlapByEnumeration(set1, set2)` looks every rune of `set2`'s ranges up in `set1`: when `set2` is
nothing but its ranges the answer is exact -/
theorem mayOverlapByEnumeration_exact (cat : Nat → Nat → Bool) (a b : Class) (ha : Class.RangesOk a)
    (hab : BitmapOk cat a) (hn : b.flat.neg = false) (hs : b.hasSub = false) (hc : b.flat.cats = []) :
    mayOverlapByEnumeration cat a b = true ↔ ∃ r, memAlg cat a r = true ∧ memAlg cat b r = true := by
  simp only [mayOverlapByEnumeration, List.any_eq_true, anyFrom_eq, List.mem_range'_1, memAlg_ranges_only cat b hn hs hc,
    inRanges_iff, charIn_eq_charInSlow cat a _ hab, charInSlow_eq_memAlg cat a _ ha hab]
  constructor
  · rintro ⟨r, hr, i, ⟨h1, h2⟩, h3⟩; exact ⟨i, h3, r, hr, h1, by omega⟩
  · rintro ⟨i, h3, r, hr, h1, h2⟩; exact ⟨r, hr, i, ⟨h1, by omega⟩, h3⟩

/-! ## the constant classes -/

/-- the facts about the category oracle that `knownDistinctSets` assumes; leg `Kq-facts` checks each against Go's
`unicode` tables over all code points -/
structure OracleFacts (cat : Nat → Nat → Bool) (k : Consts) : Prop where
  space_not_nd : ∀ r, r ≤ maxRune → cat k.space r = true → cat k.nd r = false
  space_not_word : ∀ r, r ≤ maxRune → cat k.space r = true → cat k.word r = false
  ecmaSpace_not_nd : ∀ r, r ≤ maxRune → inRanges (fromOldString k.ecmaSpace false).ranges r = true → cat k.nd r = false
  ecmaSpace_not_word : ∀ r, r ≤ maxRune → inRanges (fromOldString k.ecmaSpace false).ranges r = true → cat k.word r = false
  ecmaWord_not_space : ∀ r, r ≤ maxRune → inRanges (fromOldString k.ecmaWord false).ranges r = true → cat k.space r = false
  ecmaDigit_not_space : ∀ r, r ≤ maxRune → inRanges (fromOldString k.ecmaDigit false).ranges r = true → cat k.space r = false

/-- the test `TableFacts` is decided with: every range of `xs` ends before, or starts after, every range of `ys`
(the test of `RewriteDecisions.clsDisjoint`, there on `Spec.Cls`) -/
def rangesDisjoint (xs ys : List (Nat × Nat)) : Bool :=
  xs.all (fun a => ys.all (fun b => decide (a.2 < b.1) || decide (b.2 < a.1)))

theorem rangesDisjoint_spec {xs ys : List (Nat × Nat)} (h : rangesDisjoint xs ys = true) (ch : Nat) :
    ¬ (inRanges xs ch = true ∧ inRanges ys ch = true) := by
  rintro ⟨h1, h2⟩
  obtain ⟨a, ha, a1, a2⟩ := (inRanges_iff _ _).1 h1
  obtain ⟨b, hb, b1, b2⟩ := (inRanges_iff _ _).1 h2
  simp only [rangesDisjoint, List.all_eq_true, Bool.or_eq_true, decide_eq_true_eq] at h
  have := h a ha b hb
  omega

/-- the facts about the rune tables of the source (decided on the regenerated tables) -/
structure TableFacts (k : Consts) : Prop where
  space_word : rangesDisjoint (fromOldString k.ecmaSpace false).ranges (fromOldString k.ecmaWord false).ranges = true
  space_digit : rangesDisjoint (fromOldString k.ecmaSpace false).ranges (fromOldString k.ecmaDigit false).ranges = true

theorem mem_of_equals_cat (cat : Nat → Nat → Bool) (a : Class) (ns : Bool) (id : Nat)
    (h : a.equals (.leaf (fromCategoryString ns false [id])) = true) (ch : Nat) :
    memAlg cat a ch = (cat id ch != ns) := by
  rw [equalsGo_false_mem cat a _ h ch]
  simp [memAlg, Flat.memAlg, Flat.pos, fromCategoryString, inCats, catAccepts]

theorem fromOldString_cats_neg (t : List Nat) (ng : Bool) :
    (fromOldString t ng).cats = [] ∧ (fromOldString t ng).neg = false := by
  unfold fromOldString; split <;> exact ⟨rfl, rfl⟩

theorem mem_of_equals_old (cat : Nat → Nat → Bool) (a : Class) (t : List Nat)
    (h : a.equals (.leaf (fromOldString t false)) = true) (ch : Nat) :
    memAlg cat a ch = inRanges (fromOldString t false).ranges ch := by
  rw [equalsGo_false_mem cat a _ h ch]
  exact memAlg_ranges_only cat (.leaf _) (fromOldString_cats_neg t false).2 rfl (fromOldString_cats_neg t false).1 ch

/-- By the two choices for `set1` (`\s`, the ECMAScript space table) and the four for `set2`: `equals` pins each class down
to one category or one table (`mem_of_equals_cat`, `mem_of_equals_old`), and the pair is disjoint by one field of
`OracleFacts`, or of `TableFacts` when both are tables. -/
theorem knownDistinct_sound (cat : Nat → Nat → Bool) (k : Consts) (hk : OracleFacts cat k) (ht : TableFacts k)
    (a b : Class) (h : knownDistinctSets k a b = true) (r : Nat) (hr : r ≤ maxRune) :
    ¬ (memAlg cat a r = true ∧ memAlg cat b r = true) := by
  simp only [knownDistinctSets, Bool.and_eq_true, Bool.or_eq_true] at h
  obtain ⟨h1, h2⟩ := h
  rintro ⟨ma, mb⟩
  rcases h1 with h1 | h1
  · rw [mem_of_equals_cat cat a false k.space h1, Bool.bne_false] at ma
    rcases h2 with ((h2 | h2) | h2) | h2
    · rw [mem_of_equals_cat cat b false k.nd h2, Bool.bne_false] at mb
      rw [hk.space_not_nd r hr ma] at mb; cases mb
    · rw [mem_of_equals_cat cat b false k.word h2, Bool.bne_false] at mb
      rw [hk.space_not_word r hr ma] at mb; cases mb
    · rw [mem_of_equals_old cat b k.ecmaDigit h2] at mb
      rw [hk.ecmaDigit_not_space r hr mb] at ma; cases ma
    · rw [mem_of_equals_old cat b k.ecmaWord h2] at mb
      rw [hk.ecmaWord_not_space r hr mb] at ma; cases ma
  · rw [mem_of_equals_old cat a k.ecmaSpace h1] at ma
    rcases h2 with ((h2 | h2) | h2) | h2
    · rw [mem_of_equals_cat cat b false k.nd h2, Bool.bne_false] at mb
      rw [hk.ecmaSpace_not_nd r hr ma] at mb; cases mb
    · rw [mem_of_equals_cat cat b false k.word h2, Bool.bne_false] at mb
      rw [hk.ecmaSpace_not_word r hr ma] at mb; cases mb
    · rw [mem_of_equals_old cat b k.ecmaDigit h2] at mb
      exact rangesDisjoint_spec ht.space_digit r ⟨ma, mb⟩
    · rw [mem_of_equals_old cat b k.ecmaWord h2] at mb
      exact rangesDisjoint_spec ht.space_word r ⟨ma, mb⟩

/-! ## `GetSetChars` -/

/-- the runes of the ranges, in order, that `keep` lets through: what the two loops of `GetSetChars` collect -/
def enumChars (keep : Nat → Bool) (rs : List (Nat × Nat)) : List Nat :=
  rs.flatMap (fun r => (List.range' r.1 (r.2 + 1 - r.1)).filter keep)

theorem setCharsRange_spec (keep : Nat → Bool) (k : Nat) : ∀ (n ch w : Nat) (acc : List Nat) (w' : Nat) (acc' : List Nat),
    setCharsRange keep k n ch (w, acc) = some (w', acc') → w ≤ k → acc.length ≤ w →
    w' ≤ k ∧ acc'.length ≤ w' ∧ acc' = acc ++ (List.range' ch n).filter keep
  | 0, _, _, _, _, _, h, hw, ha => by
    cases h
    exact ⟨hw, ha, (List.append_nil _).symm⟩
  | n + 1, ch, w, acc, w', acc', h, hw, ha => by
    rw [setCharsRange, Option.ite_none_left_eq_some] at h
    obtain ⟨h1, h2, h3⟩ := setCharsRange_spec keep k n (ch + 1) (w + 1) (if keep ch then acc ++ [ch] else acc) w' acc' h.2
      (by omega) (Nat.le_trans (by split <;> simp) (Nat.succ_le_succ ha))
    refine ⟨h1, h2, ?_⟩
    rw [h3, List.range'_succ, List.filter_cons]
    split <;> simp

theorem setCharsLoop_spec (keep : Nat → Bool) (k : Nat) : ∀ (rs : List (Nat × Nat)) (w : Nat) (acc : List Nat) (w' : Nat) (acc' : List Nat),
    setCharsLoop keep k rs (w, acc) = some (w', acc') → w ≤ k → acc.length ≤ w →
    w' ≤ k ∧ acc'.length ≤ w' ∧ acc' = acc ++ enumChars keep rs
  | [], _, _, _, _, h, hw, ha => by
    cases h
    exact ⟨hw, ha, (List.append_nil _).symm⟩
  | r :: rs, w, acc, w', acc', h, hw, ha => by
    rw [setCharsLoop] at h
    split at h
    · cases h
    · next st hst =>
      obtain ⟨h1, h2, h3⟩ := setCharsRange_spec keep k _ _ _ _ st.1 st.2 hst hw ha
      obtain ⟨h4, h5, h6⟩ := setCharsLoop_spec keep k rs st.1 st.2 w' acc' h h1 h2
      exact ⟨h4, h5, by rw [h6, h3, List.append_assoc]; rfl⟩

theorem mem_enumChars (keep : Nat → Bool) (rs : List (Nat × Nat)) (x : Nat) :
    x ∈ enumChars keep rs ↔ inRanges rs x = true ∧ keep x = true := by
  simp only [enumChars, List.mem_flatMap, List.mem_filter, List.mem_range'_1, inRanges_iff]
  constructor
  · rintro ⟨r, hr, ⟨h1, h2⟩, h3⟩
    exact ⟨⟨r, hr, h1, by omega⟩, h3⟩
  · rintro ⟨⟨r, hr, h1, h2⟩, h3⟩
    exact ⟨r, hr, ⟨h1, by omega⟩, h3⟩

theorem enumChars_sorted (keep : Nat → Bool) (rs : List (Nat × Nat)) (hc : Canon rs) :
    (enumChars keep rs).Pairwise (· < ·) := by
  unfold enumChars
  rw [List.pairwise_flatMap]
  refine ⟨fun r _ => List.Pairwise.filter _ (List.pairwise_lt_range' (s := r.1) (n := r.2 + 1 - r.1)), ?_⟩
  refine List.Pairwise.imp ?_ hc.1
  intro a b hab x hx y hy
  simp only [List.mem_filter, List.mem_range'_1] at hx hy
  omega

/-! ## the ASCII letter pair -/

def asciiLetter (a : Nat) : Bool := (decide (65 ≤ a) && decide (a ≤ 90)) || (decide (97 ≤ a) && decide (a ≤ 122))

/-- `| 0x20` lower-cases an ASCII letter (`a < 123` = `'z' + 1` bounds the letters, so the statement is decided) -/
theorem asciiLetter_or32 : ∀ a, a < 123 → asciiLetter a = true → (a ||| 32) = if a ≤ 90 then a + 32 else a := by
  decide

theorem ascii_pair (a b : Nat) (ha : asciiLetter a = true) (hb : asciiLetter b = true) (hlt : a < b)
    (hor : (a ||| 32) = (b ||| 32)) : 65 ≤ a ∧ a ≤ 90 ∧ b = a + 32 := by
  have hab := And.intro ha hb
  simp only [asciiLetter, Bool.or_eq_true, Bool.and_eq_true, decide_eq_true_eq] at hab
  rw [asciiLetter_or32 a (by omega) ha, asciiLetter_or32 b (by omega) hb] at hor
  split at hor <;> split at hor <;> omega

/-! ## `Hash` / `NewCharSetRuntime` -/

/-- a Unicode scalar value (at most U+10FFFF, not a surrogate): what survives `WriteRune` / `ReadRune` -/
def Scalar (r : Nat) : Prop := r ≤ maxRune ∧ ¬ (0xD800 ≤ r ∧ r ≤ 0xDFFF)

theorem digits_two (r k : Nat) : r / (k * k) * (k * k) + r / k % k * k + r % k = r := by
  rw [← Nat.div_div_eq_div_mul, ← Nat.mul_assoc, ← Nat.add_mul, Nat.div_add_mod', Nat.div_add_mod']

theorem digits_three (r k : Nat) :
    r / (k * k * k) * (k * k * k) + r / (k * k) % k * (k * k) + r / k % k * k + r % k = r := by
  rw [← Nat.div_div_eq_div_mul r (k * k) k, Nat.mul_comm (k * k) k, ← Nat.mul_assoc, ← Nat.add_mul, Nat.div_add_mod']
  exact digits_two r k

theorem isCont_add (b : Nat) (h : b < 64) : isCont (0x80 + b) = true := by
  simp only [isCont, Bool.and_eq_true, decide_eq_true_eq]; omega

/-! `decodeRune` on a well-formed sequence, by the payload of each byte: the lead byte of a two-byte form
carries at least 2 (no over-long form), the second byte of a three- or four-byte form is bounded below
(over-long forms) and above (surrogates; U+10FFFF). -/

theorem decodeRune_two (a b : Nat) (rest : List Nat) (ha : 2 ≤ a ∧ a < 32) (hb : b < 64) :
    decodeRune ((0xC0 + a) :: (0x80 + b) :: rest) = (a * 64 + b, rest) := by
  rw [decodeRune, if_neg (by omega), if_pos (by omega), if_pos (isCont_add b hb), Nat.add_sub_cancel_left, Nat.add_sub_cancel_left]

theorem decodeRune_three (a b c : Nat) (rest : List Nat) (ha : a < 16) (hb : b < 64) (hc : c < 64)
    (hlo : a = 0 → 32 ≤ b) (hhi : a = 13 → b < 32) :
    decodeRune ((0xE0 + a) :: (0x80 + b) :: (0x80 + c) :: rest) = (a * 4096 + b * 64 + c, rest) := by
  rw [decodeRune, if_neg (by omega), if_neg (by omega), if_pos (by omega)]
  dsimp only
  rw [if_pos (And.intro (by split <;> omega) (And.intro (by split <;> omega) (isCont_add c hc))),
    Nat.add_sub_cancel_left, Nat.add_sub_cancel_left, Nat.add_sub_cancel_left]

theorem decodeRune_four (a b c d : Nat) (rest : List Nat) (ha : a ≤ 4) (hb : b < 64) (hc : c < 64) (hd : d < 64)
    (hlo : a = 0 → 16 ≤ b) (hhi : a = 4 → b < 16) :
    decodeRune ((0xF0 + a) :: (0x80 + b) :: (0x80 + c) :: (0x80 + d) :: rest)
      = (a * 262144 + b * 4096 + c * 64 + d, rest) := by
  rw [decodeRune, if_neg (by omega), if_neg (by omega), if_neg (by omega), if_pos (by omega)]
  dsimp only
  rw [if_pos (And.intro (by split <;> omega) (And.intro (by split <;> omega) (And.intro (isCont_add c hc) (isCont_add d hd)))),
    Nat.add_sub_cancel_left, Nat.add_sub_cancel_left, Nat.add_sub_cancel_left, Nat.add_sub_cancel_left]

theorem decode_encode (r : Nat) (rest : List Nat) (h : Scalar r) : decodeRune (encodeRune r ++ rest) = (r, rest) := by
  obtain ⟨h1, h2⟩ := h
  have h64 : ∀ n, n % 64 < 64 := fun n => Nat.mod_lt n (by decide)
  have t := @ite_cases _ (fun l => decodeRune (l ++ rest) = (r, rest))
  unfold maxRune at h1
  unfold encodeRune
  refine t (fun c1 => ?_) fun c1 => t (fun c2 => ?_) fun c2 => t (fun c3 => ?_) fun _ => t (fun c4 => ?_) fun c4 => ?_
  · simp only [c1, if_true, List.cons_append, decodeRune]
    rfl
  · exact (decodeRune_two (r / 64) (r % 64) rest (by omega) (h64 _)).trans (by rw [Nat.div_add_mod'])
  · exact absurd c3 (by unfold maxRune; omega)
  · exact (decodeRune_three (r / 4096) (r / 64 % 64) (r % 64) rest (by omega) (h64 _) (h64 _) (by omega) (by omega)).trans
      (by rw [digits_two r 64])
  · exact (decodeRune_four (r / 262144) (r / 4096 % 64) (r / 64 % 64) (r % 64) rest (by omega) (h64 _) (h64 _) (h64 _)
      (by omega) (by omega)).trans (by rw [digits_three r 64])

theorem readInt32_int32 (n : Nat) (rest : List Nat) (h : n < 2 ^ 32) : readInt32LE (int32LE n ++ rest) = (n, rest) := by
  simp only [int32LE, List.cons_append, List.nil_append, readInt32LE]
  congr 1; omega

theorem readRanges_spec : ∀ (rs : List (Nat × Nat)) (rest : List Nat), (∀ r ∈ rs, Scalar r.1 ∧ Scalar r.2) →
    readRanges rs.length (rs.flatMap (fun r => encodeRune r.1 ++ encodeRune r.2) ++ rest) = (rs, rest) := by
  intro rs
  induction rs with
  | nil => intro rest _; rfl
  | cons r rs ih =>
    intro rest h
    have hr := h r (List.mem_cons_self ..)
    simp only [List.length_cons, readRanges, List.flatMap_cons, List.append_assoc]
    rw [decode_encode r.1 _ hr.1]
    simp only
    rw [decode_encode r.2 _ hr.2]
    simp only
    rw [ih rest (fun x hx => h x (List.mem_cons_of_mem _ hx))]

/-- a category entry survives the serialisation: its name is at most 127 bytes, not empty when the entry is
negated (the sign of the `int8` length carries `Negate`), and `idOf` inverts `nameOf` on it -/
def CatOk (nameOf : Nat → List Nat) (idOf : List Nat → Nat) (c : Nat × Bool) : Prop :=
  idOf (nameOf c.1) = c.1 ∧ (nameOf c.1).length ≤ 127 ∧ (c.2 = true → 0 < (nameOf c.1).length)

theorem readCats_spec (nameOf : Nat → List Nat) (idOf : List Nat → Nat) : ∀ (cs : List (Nat × Bool)) (rest : List Nat),
    (∀ c ∈ cs, CatOk nameOf idOf c) →
    readCats idOf cs.length (cs.flatMap (hashCat nameOf) ++ rest) = (cs, rest) := by
  intro cs
  induction cs with
  | nil => intro rest _; rfl
  | cons c cs ih =>
    intro rest h
    obtain ⟨h1, h2, h3⟩ := h c (List.mem_cons_self ..)
    have ih' := ih rest (fun x hx => h x (List.mem_cons_of_mem _ hx))
    simp only [List.length_cons, List.flatMap_cons, hashCat, List.cons_append, List.append_assoc, readCats]
    obtain ⟨id, ng⟩ := c
    simp only at h1 h2 h3 ⊢
    cases ng with
    | false =>
      have e2 : (nameOf id).length % 256 = (nameOf id).length := by omega
      have e1 : ¬ ((nameOf id).length ≥ 128) := by omega
      simp only [Bool.false_eq_true, ↓reduceIte, e2, e1, decide_false, List.take_left', List.drop_left', ih', h1]
    | true =>
      have hp := h3 rfl
      have e0 : (256 - (nameOf id).length % 256) % 256 = 256 - (nameOf id).length := by omega
      have e1 : 256 - (nameOf id).length ≥ 128 := by omega
      have e2 : 256 - (256 - (nameOf id).length) = (nameOf id).length := by omega
      simp only [↓reduceIte, e0, e1, decide_true, e2, List.take_left', List.drop_left', ih', h1]

/-- what the serialisation needs of one `CharSet` -/
def Flat.HashOk (nameOf : Nat → List Nat) (idOf : List Nat → Nat) (f : Flat) : Prop :=
  f.ranges.length < 2 ^ 31 ∧ f.cats.length < 2 ^ 31 ∧ (∀ r ∈ f.ranges, Scalar r.1 ∧ Scalar r.2) ∧
    ∀ c ∈ f.cats, CatOk nameOf idOf c

def Class.HashOk (nameOf : Nat → List Nat) (idOf : List Nat → Nat) : Class → Prop
  | .leaf f => f.HashOk nameOf idOf
  | .minus f s => f.HashOk nameOf idOf ∧ Class.HashOk nameOf idOf s

def Class.depth : Class → Nat
  | .leaf _ => 0
  | .minus _ s => s.depth + 1

theorem hash_length (nameOf : Nat → List Nat) (c : Class) : c.depth < (Class.hash nameOf c).length := by
  have hf : ∀ f : Flat, 9 ≤ (f.hashFill nameOf).length := fun f => by
    simp [Flat.hashFill, int32LE]
  induction c with
  | leaf f => exact Nat.lt_of_lt_of_le (Nat.zero_lt_succ 8) (hf f)
  | minus f s ih =>
    have := hf f
    rw [Class.hash, List.length_append, Class.depth]
    omega

/-- one level of `NewCharSetRuntime` reads back one level of `mapHashFill` -/
theorem newCharSetRuntime_step (nameOf : Nat → List Nat) (idOf : List Nat → Nat) (f : Flat) (hf : f.HashOk nameOf idOf)
    (rest : List Nat) (fuel : Nat) :
    newCharSetRuntime idOf (fuel + 1) (f.hashFill nameOf ++ rest) =
      if rest.length > 0 then .minus f.copy (newCharSetRuntime idOf fuel rest) else .leaf f.copy := by
  obtain ⟨h1, h2, h3, h4⟩ := hf
  have hbits : (((if f.neg then 1 else 0) + (if f.anything then 2 else 0)) % 2 == 1) = f.neg ∧
      (((if f.neg then 1 else 0) + (if f.anything then 2 else 0)) / 2 % 2 == 1) = f.anything := by
    cases f.neg <;> cases f.anything <;> exact ⟨rfl, rfl⟩
  simp only [newCharSetRuntime, Flat.hashFill, List.append_assoc, List.cons_append, List.nil_append, List.headD_cons,
    List.drop_succ_cons, List.drop_zero, readInt32_int32 _ _ (Nat.lt_trans h1 (by decide)),
    readInt32_int32 _ _ (Nat.lt_trans h2 (by decide)), readRanges_spec f.ranges _ h3, readCats_spec nameOf idOf f.cats rest h4,
    hbits.1, hbits.2, Flat.copy]

/-- the round trip on structures: reading the hash back gives the class itself, as `Copy()` gives it (no
`building` mark, no bitmap) -/
theorem newCharSetRuntime_hash (nameOf : Nat → List Nat) (idOf : List Nat → Nat) : ∀ (c : Class) (fuel : Nat),
    Class.HashOk nameOf idOf c → c.depth < fuel → newCharSetRuntime idOf fuel (Class.hash nameOf c) = c.copy
  | .leaf f, fuel + 1, hok, _ => by
    rw [Class.hash, ← List.append_nil (f.hashFill nameOf), newCharSetRuntime_step nameOf idOf f hok]
    rfl
  | .minus f s, fuel + 1, hok, hfuel => by
    rw [Class.hash, newCharSetRuntime_step nameOf idOf f hok.1, if_pos (Nat.zero_lt_of_lt (hash_length nameOf s)),
      newCharSetRuntime_hash nameOf idOf s fuel hok.2 (Nat.lt_of_succ_lt_succ hfuel)]
    rfl

theorem memAlg_copy (cat : Nat → Nat → Bool) (c : Class) (ch : Nat) : memAlg cat c.copy ch = memAlg cat c ch := by
  induction c with
  | leaf f => rfl
  | minus f s ih =>
    rw [Class.copy, memAlg, memAlg, ih]
    rfl

end RegexVerif.Class
