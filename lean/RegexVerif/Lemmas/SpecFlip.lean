/-
The specification `Spec.m` ignores the case of input letters when every test of the pattern is case-insensitive and
the oracle tables are closed under simple case partners (`FoldOK`; `m_flip`).  On the pattern side, tests of the same
shape that accept the same runes may replace each other (`PatTestEq`, `m_congr_tests`), and a case-insensitive class
reads its ranges through their closure under partners only (`ciRanges`).  At the end: `foldCheck`, an executable
check that implies `FoldOK`, and the instance `FlipDemo` for the examples of Props/C20.lean.

Props/C20.lean states `pred_one_flip_pattern`, `pred_notone_flip_pattern` and `foldOK_of_check` (there
`foldOK_of_foldCheck`) once more with explicit arguments; the forms here are the ones Lemmas/Recase.lean applies.
-/
import RegexVerif.Lemmas.Spec

namespace RegexVerif.Spec

/-- The partner relation is an involution (orbits of size ≤ 2), `\b`'s word test does not separate partners, and
    `'\n'` (which `^ $ \Z` test for) has no partner.  Closure of the named classes is *not* needed: under `ci`
    `Cls.mem` already accepts a rune when it or its partner is in the positive part.  (`e.partner r` reads the FIRST
    row of `e.fold` with key `r`: the hypotheses are about what `partner` answers, not about the rows.) -/
structure FoldOK (e : Env) : Prop where
  invol : ∀ r q, e.partner r = some q → e.partner q = some r
  wordClosed : ∀ r q, e.partner r = some q → e.isWord r = e.isWord q
  newlineFixed : e.partner 10 = none

/-- `t'` is `t` with the case of some letters changed -/
inductive SameUpToCase (e : Env) : List Nat → List Nat → Prop
  | nil : SameUpToCase e [] []
  | cons {a b : Nat} {t t' : List Nat} :
      e.eqCi a b = true → SameUpToCase e t t' → SameUpToCase e (a :: t) (b :: t')

def Pred.isCi : Pred → Bool
  | .one _ ci => ci
  | .notone _ ci => ci
  | .set _ ci => ci

def Pat.allCi : Pat → Bool
  | .empty => true
  | .nothing => true
  | .chr p => p.isCi
  | .anchor _ => true
  | .seq a b => a.allCi && b.allCi
  | .alt a b => a.allCi && b.allCi
  | .quant _ _ _ body => body.allCi
  | .cap _ body => body.allCi
  | .look _ _ body => body.allCi
  | .atomic body => body.allCi
  | .ref _ ci => ci
  | .refCond _ yes no => yes.allCi && no.allCi
  | .exprCond c yes no => c.allCi && yes.allCi && no.allCi

/-- every character test and every back-reference of the pattern is case-insensitive -/
def AllCi (p : Pat) : Prop := p.allCi = true

instance (p : Pat) : Decidable (AllCi p) := by unfold AllCi; infer_instance

/-! ## `eqCi` is an equivalence relation -/

theorem eqCi_refl (e : Env) (a : Nat) : e.eqCi a a = true := by simp [Env.eqCi]

theorem eqCi_iff (e : Env) (a b : Nat) : e.eqCi a b = true ↔ a = b ∨ e.partner a = some b := by
  simp [Env.eqCi]

theorem eqCi_of_partner {e : Env} {a b : Nat} (h : e.partner a = some b) : e.eqCi a b = true :=
  (eqCi_iff e a b).mpr (Or.inr h)

theorem eqCi_cases {e : Env} {P : Nat → Nat → Prop} (hrefl : ∀ a, P a a) (hpart : ∀ a b, e.partner a = some b → P a b)
    {a b : Nat} (h : e.eqCi a b = true) : P a b := by
  rcases (eqCi_iff e a b).mp h with rfl | h
  · exact hrefl a
  · exact hpart a b h

theorem eqCi_symm {e : Env} (hf : FoldOK e) {a b : Nat} (h : e.eqCi a b = true) : e.eqCi b a = true :=
  eqCi_cases (P := fun a b => e.eqCi b a = true) (eqCi_refl e)
    (fun a b h => eqCi_of_partner (hf.invol a b h)) h

theorem eqCi_trans {e : Env} (hf : FoldOK e) {a b c : Nat} (h1 : e.eqCi a b = true) (h2 : e.eqCi b c = true) :
    e.eqCi a c = true := by
  rw [eqCi_iff] at *
  rcases h1 with rfl | h1
  · exact h2
  · rcases h2 with rfl | h2
    · exact Or.inr h1
    · exact Or.inl (Option.some.inj (hf.invol a b h1 ▸ h2))

theorem eqCi_congr {e : Env} (hf : FoldOK e) {a a' b b' : Nat} (ha : e.eqCi a a' = true) (hb : e.eqCi b b' = true) :
    e.eqCi a' b' = e.eqCi a b :=
  Bool.eq_iff_iff.mpr ⟨fun h => eqCi_trans hf (eqCi_trans hf ha h) (eqCi_symm hf hb),
    fun h => eqCi_trans hf (eqCi_trans hf (eqCi_symm hf ha) h) hb⟩

theorem eqCi_newline {e : Env} (hf : FoldOK e) {a b : Nat} (h : e.eqCi a b = true) : (a = 10 ↔ b = 10) := by
  refine eqCi_cases (P := fun a b => a = 10 ↔ b = 10) (fun _ => Iff.rfl) (fun a b h => ⟨?_, ?_⟩) h
  · rintro rfl
    rw [hf.newlineFixed] at h
    cases h
  · rintro rfl
    have := hf.invol a 10 h
    rw [hf.newlineFixed] at this
    cases this

theorem eqCi_isWord {e : Env} (hf : FoldOK e) {a b : Nat} (h : e.eqCi a b = true) : e.isWord b = e.isWord a :=
  eqCi_cases (P := fun a b => e.isWord b = e.isWord a) (fun _ => rfl) (fun a b h => (hf.wordClosed a b h).symm) h

theorem cls_mem_partner {e : Env} (hf : FoldOK e) (c : Cls) {r q : Nat} (h : e.partner r = some q) :
    c.mem e true q = c.mem e true r := by
  induction c with
  | base neg rs ns =>
    have h' := hf.invol r q h
    simp only [Cls.mem, h, h', Bool.true_and]
    cases inRanges rs r <;> cases inRanges rs q <;> cases inNames e ns r <;> cases inNames e ns q <;> rfl
  | diff a b iha ihb => simp only [Cls.mem, iha, ihb]

theorem cls_mem_flip {e : Env} (hf : FoldOK e) (c : Cls) {r r' : Nat} (h : e.eqCi r r' = true) :
    c.mem e true r' = c.mem e true r :=
  eqCi_cases (P := fun r r' => c.mem e true r' = c.mem e true r) (fun _ => rfl) (fun _ _ h => cls_mem_partner hf c h) h

theorem pred_test_flip {e : Env} (hf : FoldOK e) {r r' : Nat} (h : e.eqCi r r' = true) (p : Pred)
    (hp : p.isCi = true) : p.test e r' = p.test e r := by
  rcases p with ⟨c, ci⟩ | ⟨c, ci⟩ | ⟨c, ci⟩ <;> cases (show ci = true from hp)
  · exact eqCi_congr hf (eqCi_refl e c) h
  · exact congrArg not (eqCi_congr hf (eqCi_refl e c) h)
  · exact cls_mem_flip hf c h

theorem pred_one_flip_pattern {e : Env} (hf : FoldOK e) {c c' : Nat} (h : e.eqCi c c' = true) (r : Nat) :
    (Pred.one c' true).test e r = (Pred.one c true).test e r :=
  eqCi_congr hf h (eqCi_refl e r)

theorem pred_notone_flip_pattern {e : Env} (hf : FoldOK e) {c c' : Nat} (h : e.eqCi c c' = true) (r : Nat) :
    (Pred.notone c' true).test e r = (Pred.notone c true).test e r :=
  congrArg not (eqCi_congr hf h (eqCi_refl e r))

/-! ## the tests do not look at the text -/

@[simp] theorem partner_text (e : Env) (t' : List Nat) (r : Nat) :
    ({ e with text := t' } : Env).partner r = e.partner r := rfl

@[simp] theorem eqCi_text (e : Env) (t' : List Nat) (a b : Nat) :
    ({ e with text := t' } : Env).eqCi a b = e.eqCi a b := rfl

@[simp] theorem isWord_text (e : Env) (t' : List Nat) (r : Nat) :
    ({ e with text := t' } : Env).isWord r = e.isWord r := rfl

@[simp] theorem isWord_text' (e : Env) (t' : List Nat) :
    ({ e with text := t' } : Env).isWord = e.isWord := rfl

@[simp] theorem n_text (e : Env) (t' : List Nat) : ({ e with text := t' } : Env).n = t'.length := rfl

theorem pred_test_text (e : Env) (t' : List Nat) (p : Pred) (r : Nat) :
    p.test { e with text := t' } r = p.test e r :=
  Pred.test_congr e { e with text := t' } rfl rfl p r

/-! ## texts equal up to case -/

theorem SameUpToCase.length_eq {e : Env} {t t' : List Nat} (h : SameUpToCase e t t') : t'.length = t.length := by
  induction h with
  | nil => rfl
  | cons _ _ ih => simp [ih]

theorem SameUpToCase.refl (e : Env) (t : List Nat) : SameUpToCase e t t := by
  induction t with
  | nil => exact SameUpToCase.nil
  | cons a t ih => exact SameUpToCase.cons (eqCi_refl e a) ih

def OptCi (e : Env) (o o' : Option Nat) : Prop :=
  (o = none ∧ o' = none) ∨ ∃ a b, o = some a ∧ o' = some b ∧ e.eqCi a b = true

theorem SameUpToCase.getElem? {e : Env} {t t' : List Nat} (h : SameUpToCase e t t') (i : Nat) :
    OptCi e t[i]? t'[i]? := by
  induction h generalizing i with
  | nil => exact Or.inl ⟨rfl, rfl⟩
  | cons hab _ ih =>
    cases i with
    | zero => exact Or.inr ⟨_, _, rfl, rfl, hab⟩
    | succ i => simpa using ih i

theorem SameUpToCase.drop {e : Env} {t t' : List Nat} (h : SameUpToCase e t t') (k : Nat) :
    SameUpToCase e (t.drop k) (t'.drop k) := by
  induction h generalizing k with
  | nil => simpa using SameUpToCase.nil
  | cons hab ht ih =>
    cases k with
    | zero => exact SameUpToCase.cons hab ht
    | succ k => simpa using ih k

theorem SameUpToCase.take {e : Env} {t t' : List Nat} (h : SameUpToCase e t t') (k : Nat) :
    SameUpToCase e (t.take k) (t'.take k) := by
  induction h generalizing k with
  | nil => simpa using SameUpToCase.nil
  | cons hab ht ih =>
    cases k with
    | zero => exact SameUpToCase.nil
    | succ k => simpa using SameUpToCase.cons hab (ih k)

theorem sameUpToCase_iff (e : Env) (t t' : List Nat) :
    SameUpToCase e t t' ↔
      t'.length = t.length ∧ ∀ (i a b : Nat), t[i]? = some a → t'[i]? = some b → e.eqCi a b = true := by
  constructor
  · intro h
    refine ⟨h.length_eq, fun i a b ha hb => ?_⟩
    rcases h.getElem? i with ⟨h1, _⟩ | ⟨a', b', h1, h2, h3⟩
    · cases h1 ▸ ha
    · cases h1 ▸ ha
      cases h2 ▸ hb
      exact h3
  · induction t generalizing t' with
    | nil =>
      rintro ⟨hl, _⟩
      rw [List.length_eq_zero_iff.mp hl]
      exact .nil
    | cons a t ih =>
      rintro ⟨hl, hp⟩
      obtain ⟨b, t', rfl⟩ := List.exists_cons_of_length_eq_add_one hl
      exact .cons (hp 0 a b rfl rfl) (ih t' ⟨Nat.succ.inj hl, fun i x y => hp (i + 1) x y⟩)

/-! ## the text-dependent primitives -/

theorem optCi_newline {e : Env} (hf : FoldOK e) {o o' : Option Nat} (h : OptCi e o o') : (o' == some 10) = (o == some 10) := by
  rcases h with ⟨h1, h2⟩ | ⟨a, b, h1, h2, h3⟩
  · rw [h1, h2]
  · rw [h1, h2]
    have := eqCi_newline hf h3
    rw [Bool.eq_iff_iff]; simp only [beq_iff_eq, Option.some.injEq]
    exact this.symm

theorem optCi_isWord {e : Env} (hf : FoldOK e) {o o' : Option Nat} (h : OptCi e o o') :
    (o'.map e.isWord).getD false = (o.map e.isWord).getD false := by
  rcases h with ⟨h1, h2⟩ | ⟨a, b, h1, h2, h3⟩
  · rw [h1, h2]
  · rw [h1, h2]; simp only [Option.map_some, Option.getD_some]; exact eqCi_isWord hf h3

theorem anchorHolds_flip {e : Env} (hf : FoldOK e) {t' : List Nat} (ht : SameUpToCase e e.text t') (a : Anchor)
    (p : Nat) :
    anchorHolds { e with text := t' } a p = anchorHolds e a p := by
  have hn : t'.length = e.n := ht.length_eq
  have hA : OptCi e e.text[p]? t'[p]? := ht.getElem? p
  have hB : OptCi e (if p = 0 then none else e.text[p - 1]?) (if p = 0 then none else t'[p - 1]?) := by
    by_cases hp : p = 0
    · simp only [hp, if_true]; exact Or.inl ⟨rfl, rfl⟩
    · simp only [hp, if_false]; exact ht.getElem? (p - 1)
  have h1 := optCi_newline hf hA
  have h2 := optCi_newline hf hB
  have h3 := optCi_isWord hf hA
  have h4 := optCi_isWord hf hB
  cases a <;> simp only [anchorHolds, n_text, isWord_text', hn, h1, h2, h3, h4]

theorem stepChar_flip {e : Env} {t' : List Nat} (ht : SameUpToCase e e.text t') (rtl : Bool) (pos : Nat) :
    (stepChar e rtl pos = none ∧ stepChar { e with text := t' } rtl pos = none) ∨
    ∃ r r' pos', stepChar e rtl pos = some (r, pos') ∧
      stepChar { e with text := t' } rtl pos = some (r', pos') ∧ e.eqCi r r' = true := by
  have key : ∀ {o o' : Option Nat} (q : Nat), OptCi e o o' →
      (o.map (·, q) = none ∧ o'.map (·, q) = none) ∨
      ∃ r r' pos', o.map (·, q) = some (r, pos') ∧ o'.map (·, q) = some (r', pos') ∧ e.eqCi r r' = true := by
    rintro o o' q (⟨rfl, rfl⟩ | ⟨a, b, rfl, rfl, h⟩)
    · exact Or.inl ⟨rfl, rfl⟩
    · exact Or.inr ⟨a, b, q, rfl, rfl, h⟩
  unfold stepChar
  cases rtl with
  | true =>
    simp only [if_true]
    split
    · exact Or.inl ⟨rfl, rfl⟩
    · exact key _ (ht.getElem? (pos - 1))
  | false => exact key _ (ht.getElem? pos)

theorem zipWith_eqCi_flip {e : Env} (hf : FoldOK e) {a a' : List Nat} (ha : SameUpToCase e a a') :
    ∀ {b b' : List Nat}, SameUpToCase e b b' →
      (List.zipWith (fun x y => e.eqCi x y) a' b').all id = (List.zipWith (fun x y => e.eqCi x y) a b).all id := by
  induction ha with
  | nil => intro b b' _; simp
  | cons hxy _ ih =>
    intro b b' hb
    cases hb with
    | nil => simp
    | cons huv hb' =>
      simp only [List.zipWith_cons_cons, List.all_cons, id]
      rw [ih hb', eqCi_congr hf hxy huv]

theorem sliceEq_flip {e : Env} (hf : FoldOK e) {t' : List Nat} (ht : SameUpToCase e e.text t') (s t len : Nat) :
    sliceEq { e with text := t' } true s t len = sliceEq e true s t len := by
  unfold sliceEq
  have ha := (ht.drop s).take len
  have hb := (ht.drop t).take len
  simp only [if_true, eqCi_text, ha.length_eq, hb.length_eq, zipWith_eqCi_flip hf ha hb]

theorem refMatch_flip {e : Env} (hf : FoldOK e) {t' : List Nat} (ht : SameUpToCase e e.text t') (rtl : Bool)
    (s len pos : Nat) :
    refMatch { e with text := t' } true rtl s len pos = refMatch e true rtl s len pos := by
  unfold refMatch
  simp only [sliceEq_flip hf ht]

theorem m_flip {e : Env} (hf : FoldOK e) {t' : List Nat} (ht : SameUpToCase e e.text t') (p : Pat) (hp : AllCi p) :
    m { e with text := t' } p = m e p := by
  induction p with
  | chr p =>
    funext rtl st
    rw [m, m]
    rcases stepChar_flip ht rtl st.pos with ⟨h1, h2⟩ | ⟨r, r', pos', h1, h2, h3⟩
    · rw [h1, h2]
    · rw [h1, h2]
      simp only [pred_test_text, pred_test_flip hf h3 p hp]
  | anchor a => funext rtl st; simp only [m, anchorHolds_flip hf ht]
  | quant lzy lo hi body ih => funext rtl st; simp only [m, ih hp, ht.length_eq, Env.n]
  | ref g ci =>
    cases (show ci = true from hp)
    funext rtl st
    simp only [m, refMatch_flip hf ht]
  | _ =>
    -- the other constructors are congruences
    simp only [AllCi, Pat.allCi, Bool.and_eq_true] at *
    funext rtl st
    simp only [m, *]

theorem attempt_flip {e : Env} (hf : FoldOK e) {t' : List Nat} (ht : SameUpToCase e e.text t') (p : Pat) (hp : AllCi p)
    (rtl : Bool) (i : Nat) :
    attempt { e with text := t' } p rtl i = attempt e p rtl i := by
  rw [attempt, m_flip hf ht (.cap 0 p) hp, attempt]

/-! ## pattern side: the tests of the pattern may be replaced by equivalent ones -/

/-- membership of a rune in the ci closure of a range list: the rune or its partner is in a range -/
def ciRanges (e : Env) (rs : List (Nat × Nat)) (r : Nat) : Bool :=
  inRanges rs r || match e.partner r with
                   | some q => inRanges rs q
                   | none => false

theorem ciRanges_iff (e : Env) (rs : List (Nat × Nat)) (r : Nat) :
    ciRanges e rs r = true ↔ ∃ x, e.eqCi r x = true ∧ inRanges rs x = true := by
  unfold ciRanges
  constructor
  · intro h
    simp only [Bool.or_eq_true] at h
    rcases h with h | h
    · exact ⟨r, eqCi_refl e r, h⟩
    · cases hq : e.partner r with
      | none => simp [hq] at h
      | some q => simp only [hq] at h; exact ⟨q, eqCi_of_partner hq, h⟩
  · intro ⟨x, hx, hin⟩
    rw [eqCi_iff] at hx
    rcases hx with hx | hx
    · subst hx; simp [hin]
    · simp [hx, hin]

theorem inRanges_single (a : Nat × Nat) (x : Nat) : inRanges [a] x = true ↔ a.1 ≤ x ∧ x ≤ a.2 := by
  simp only [inRanges, List.any_cons, List.any_nil, Bool.or_false, Bool.and_eq_true, decide_eq_true_eq]

theorem ciRanges_append (e : Env) (rs₁ rs₂ : List (Nat × Nat)) (r : Nat) :
    ciRanges e (rs₁ ++ rs₂) r = (ciRanges e rs₁ r || ciRanges e rs₂ r) := by
  have h : ∀ x, inRanges (rs₁ ++ rs₂) x = (inRanges rs₁ x || inRanges rs₂ x) := fun x => List.any_append
  simp only [ciRanges, h]
  cases e.partner r with
  | none => simp only [Bool.or_false]
  | some q => simp only; ac_rfl

theorem ciRanges_cons (e : Env) (p : Nat × Nat) (rs : List (Nat × Nat)) (r : Nat) :
    ciRanges e (p :: rs) r = (ciRanges e [p] r || ciRanges e rs r) :=
  ciRanges_append e [p] rs r

theorem cls_base_mem_ci (e : Env) (neg : Bool) (rs : List (Nat × Nat)) (ns : List (Nat × Bool)) (r : Nat) :
    (Cls.base neg rs ns).mem e true r = ((ciRanges e rs r || (Cls.base false [] ns).mem e true r) != neg) := by
  have hnil : ∀ x, inRanges [] x = false := fun _ => rfl
  simp only [Cls.mem, ciRanges, hnil, Bool.false_or, Bool.true_and, Bool.bne_false]
  cases e.partner r with
  | none => simp only [Bool.or_false]
  | some q =>
    simp only
    congr 1
    ac_rfl

theorem cls_base_ranges_congr (e : Env) (neg : Bool) (rs rs' : List (Nat × Nat)) (ns : List (Nat × Bool)) (r : Nat)
    (h : ciRanges e rs' r = ciRanges e rs r) :
    (Cls.base neg rs' ns).mem e true r = (Cls.base neg rs ns).mem e true r := by
  rw [cls_base_mem_ci e neg rs', cls_base_mem_ci e neg rs, h]

theorem ciRanges_single_mono {e : Env} (hf : FoldOK e) {a b : Nat × Nat}
    (h : ∀ x, a.1 ≤ x → x ≤ a.2 → ∃ y, e.eqCi x y = true ∧ b.1 ≤ y ∧ y ≤ b.2) (r : Nat) :
    ciRanges e [a] r = true → ciRanges e [b] r = true := by
  rw [ciRanges_iff, ciRanges_iff]
  rintro ⟨x, hx, hin⟩
  have hin := (inRanges_single a x).mp hin
  obtain ⟨y, hy, hyb⟩ := h x hin.1 hin.2
  exact ⟨y, eqCi_trans hf hx hy, (inRanges_single b y).mpr hyb⟩

theorem cls_diff_congr (e : Env) (ci : Bool) (a a' b b' : Cls) (r : Nat)
    (ha : a'.mem e ci r = a.mem e ci r) (hb : b'.mem e ci r = b.mem e ci r) :
    (Cls.diff a' b').mem e ci r = (Cls.diff a b).mem e ci r := by
  simp only [Cls.mem, ha, hb]

/-- two patterns of the same shape whose character tests accept the same runes -/
inductive PatTestEq (e : Env) : Pat → Pat → Prop
  | empty : PatTestEq e .empty .empty
  | nothing : PatTestEq e .nothing .nothing
  | chr {p p' : Pred} : (∀ r, p'.test e r = p.test e r) → PatTestEq e (.chr p) (.chr p')
  | anchor (a : Anchor) : PatTestEq e (.anchor a) (.anchor a)
  | seq {a a' b b' : Pat} : PatTestEq e a a' → PatTestEq e b b' → PatTestEq e (.seq a b) (.seq a' b')
  | alt {a a' b b' : Pat} : PatTestEq e a a' → PatTestEq e b b' → PatTestEq e (.alt a b) (.alt a' b')
  | quant (lzy : Bool) (lo : Nat) (hi : Option Nat) {b b' : Pat} :
      PatTestEq e b b' → PatTestEq e (.quant lzy lo hi b) (.quant lzy lo hi b')
  | cap (g : Nat) {b b' : Pat} : PatTestEq e b b' → PatTestEq e (.cap g b) (.cap g b')
  | look (behind neg : Bool) {b b' : Pat} : PatTestEq e b b' → PatTestEq e (.look behind neg b) (.look behind neg b')
  | atomic {b b' : Pat} : PatTestEq e b b' → PatTestEq e (.atomic b) (.atomic b')
  | ref (g : Nat) (ci : Bool) : PatTestEq e (.ref g ci) (.ref g ci)
  | refCond (g : Nat) {y y' n n' : Pat} :
      PatTestEq e y y' → PatTestEq e n n' → PatTestEq e (.refCond g y n) (.refCond g y' n')
  | exprCond {c c' y y' n n' : Pat} :
      PatTestEq e c c' → PatTestEq e y y' → PatTestEq e n n' → PatTestEq e (.exprCond c y n) (.exprCond c' y' n')

theorem m_congr_tests {e : Env} {p p' : Pat} (h : PatTestEq e p p') : m e p' = m e p := by
  induction h with
  | chr hp => funext rtl st; simp only [m, hp]
  | _ => funext rtl st; simp only [m, *]

theorem PatTestEq.text {e : Env} {p p' : Pat} (h : PatTestEq e p p') (t' : List Nat) :
    PatTestEq { e with text := t' } p p' := by
  induction h with
  | chr hp => exact .chr fun r => by simp only [pred_test_text, hp]
  | _ => constructor <;> assumption

/-! ## an executable sufficient check of `FoldOK` on finite tables -/

def foldCheck (e : Env) : Bool :=
  e.fold.all (fun p => e.partner p.2 == some p.1 && e.isWord p.1 == e.isWord p.2) && e.partner 10 == none

theorem partner_mem {e : Env} {r q : Nat} (h : e.partner r = some q) : (r, q) ∈ e.fold := by
  unfold Env.partner at h
  rw [Option.map_eq_some_iff] at h
  obtain ⟨⟨a, b⟩, hfind, hb⟩ := h
  have h1 := List.mem_of_find?_eq_some hfind
  have h2 := List.find?_some hfind
  simp only [beq_iff_eq] at h2 hb
  subst h2; subst hb
  exact h1

theorem foldOK_of_check {e : Env} (h : foldCheck e = true) : FoldOK e := by
  unfold foldCheck at h
  simp only [Bool.and_eq_true, List.all_eq_true, beq_iff_eq] at h
  refine ⟨?_, ?_, h.2⟩
  · intro r q hp; exact (h.1 (r, q) (partner_mem hp)).1
  · intro r q hp; exact (h.1 (r, q) (partner_mem hp)).2

end RegexVerif.Spec

/-! ## a concrete instance for the non-vacuity examples of Props/C20: letters a/A and b/B -/
namespace RegexVerif.Spec.FlipDemo

/-- case pairs a↔A, b↔B, the four letters and `_` as word characters, and a named class 0 that is *not* closed
    under partners (only lower case) -/
def demoEnv (text : List Nat) : Env :=
  { text := text, textstart := 0,
    named := [(0, 97), (0, 98)],
    word := [97, 98, 65, 66, 95],
    fold := [(97, 65), (65, 97), (98, 66), (66, 98)] }

/-- "abAB" -/
def demoText : List Nat := [97, 98, 65, 66]
/-- "ABab" -/
def demoText' : List Nat := [65, 66, 97, 98]

/-- `(?i)(a)[a-b\p{0}-[a]]+?\1\B` -/
def demoPat : Pat :=
  .seq (.cap 1 (.chr (.one 97 true)))
    (.seq (.quant true 1 none (.chr (.set (.diff (.base false [(97, 98)] [(0, false)]) (.base false [(97, 97)] [])) true)))
      (.seq (.ref 1 true) (.anchor .nonboundary)))

/-- `(?i)(A)[A-B\p{0}-[A]]+?\1\B` -/
def demoPat' : Pat :=
  .seq (.cap 1 (.chr (.one 65 true)))
    (.seq (.quant true 1 none (.chr (.set (.diff (.base false [(65, 66)] [(0, false)]) (.base false [(65, 65)] [])) true)))
      (.seq (.ref 1 true) (.anchor .nonboundary)))

theorem demo_foldOK (text : List Nat) : FoldOK (demoEnv text) := foldOK_of_check (rfl)

theorem demo_same : SameUpToCase (demoEnv demoText) demoText demoText' :=
  .cons (by decide) (.cons (by decide) (.cons (by decide) (.cons (by decide) .nil)))

end RegexVerif.Spec.FlipDemo
