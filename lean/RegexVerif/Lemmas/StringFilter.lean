/-
Lemmas for the raw-string prefix filters (model `RegexVerif.Model.StringFilter`), in three parts.

1. UTF-8 on byte lists.  The decoder (`Utf8.decodeRune`, `decodeB`, `byteOff`, `lastRuneSize`, `encodeRune`) is defined
in Model/StringFilter.lean, so its lemmas stand here (Lemmas/Utf8.lean is about decoded segment lists).  `Enc r bs`:
`bs` is the well-formed sequence of `r`.  Three facts carry the rest: a rune with a sequence is valid and `encodeRune`
returns it (`enc_encode`; the converse is not proved), `decodeRune` reads it back whatever follows
(`decodeRune_enc`), and on any other NON-EMPTY input `decodeRune` yields `(U+FFFD, 1)` (`decodeRune_shape`; width 0
on `[]`).  Statements speak of `runesOf s` and `decodeB s` (runes with widths); `decode s` is `decodeB s` with runes
as `Int`, the form the functions of Model/Utf8.lean take (only `runeStart` is applied to it).  `Bnd s i`: `i` is the byte offset of a rune index, the end
included; `Starts s i`: a rune starts at `i`.  `DecodeLastRuneInString` walks back one rune (`lastRuneSize_boundary`).

2. Searches are `First P r` (Lemmas/First.lean).  A literal at a position is `Finders.occursAt`, for bytes as for
runes: decoding preserves occurrences (`occursAt_bytes`), and a byte occurrence starts a rune (`starts_of_occ`).

3. The filters.  `FilterPost` says what a sound answer from `startAt` is, `StrFilterSound` that a filter answers soundly
from every rune boundary.  A filter that searches once is sound by `post_of_first`; the three fixed-distance loops
share `fixedLoop_sound` over `RuneSearch`.  `dispatch_sound`: whatever `newStringPrefixFilter` installs is sound under
`StrFactsSound`; `runeFilter_sound` hands that to C02 as `Api.FilterSound`.
-/
import RegexVerif.Model.StringFilter
import RegexVerif.Lemmas.Utf8
import RegexVerif.Lemmas.Finders
import RegexVerif.Lemmas.IndexOf
import RegexVerif.Model.Api

namespace RegexVerif.Lemmas.StringFilter
open RegexVerif.Utf8 RegexVerif.StringFilter RegexVerif.Scan
open RegexVerif.Finders hiding Step fixedStep
open RegexVerif.Lemmas.IndexOf (First first_none first_some occursAt_exact_prefix)
open RegexVerif.Lemmas.Finders (prefixOf_length occursAt_fits' occursAt_head)
open RegexVerif.Lemmas.Utf8 (sum_take_add sum_take_lt sum_take_mono sum_take_le_iff sum_take_inj sum_take_le_sum sum_take_succ sum_eq_len_add_extra
  runeStartLoop_at)

/-! ## `decodeRune` and `encodeRune` -/

theorem isCont_iff (b : Nat) : isCont b = true ↔ 0x80 ≤ b ∧ b ≤ 0xBF := by
  simp [isCont]

theorem not_cont_of_ascii {b : Nat} (h : b < 0x80) : isCont b = false := by
  rw [← Bool.not_eq_true, isCont_iff]; omega

theorem not_cont_of_lead (a x : Nat) (h : 0xC0 ≤ a) : isCont (a + x) = false := by
  rw [← Bool.not_eq_true, isCont_iff]; omega

/-- `Enc r bs`: `bs` is the well-formed UTF-8 sequence of the scalar value `r`, by the base-64 digits of `r`: lead
    byte `0xC0 + a` / `0xE0 + a` / `0xF0 + a`, continuation bytes `0x80 + x`; shortest form only (`2 ≤ a`,
    `a = 0 → 32 ≤ x`, `a = 0 → 16 ≤ x`), no surrogates (`a = 13 → x < 32`), nothing above U+10FFFF -/
inductive Enc : Nat → List Nat → Prop
  | one (r : Nat) : r < 0x80 → Enc r [r]
  | two (a x : Nat) : 2 ≤ a ∧ a < 32 ∧ x < 64 → Enc (a * 64 + x) [0xC0 + a, 0x80 + x]
  | three (a x y : Nat) : a < 16 ∧ x < 64 ∧ y < 64 ∧ (a = 0 → 32 ≤ x) ∧ (a = 13 → x < 32) →
      Enc ((a * 64 + x) * 64 + y) [0xE0 + a, 0x80 + x, 0x80 + y]
  | four (a x y z : Nat) : a < 5 ∧ x < 64 ∧ y < 64 ∧ z < 64 ∧ (a = 0 → 16 ≤ x) ∧ (a = 4 → x < 16) →
      Enc (((a * 64 + x) * 64 + y) * 64 + z) [0xF0 + a, 0x80 + x, 0x80 + y, 0x80 + z]

theorem digit_div (q z : Nat) (h : z < 64) : (q * 64 + z) / 64 = q := by
  rw [Nat.mul_comm, Nat.mul_add_div (by decide), Nat.div_eq_of_lt h]; rfl

theorem enc_encode {r : Nat} {bs : List Nat} (h : Enc r bs) : validRune r = true ∧ encodeRune r = bs := by
  -- `encodeRune` by the range of the rune, the divisions digit by digit
  have valid : ∀ r, r < 0xD800 ∨ 0xDFFF < r ∧ r ≤ 0x10FFFF → validRune r = true := by simp [validRune]
  have enc2 : ∀ r, ¬ r < 0x80 ∧ r < 0x800 → validRune r = true ∧ encodeRune r = [0xC0 + r / 64, 0x80 + r % 64] :=
    fun r h => ⟨valid r (by omega), by rw [encodeRune, if_neg h.1, if_pos h.2]⟩
  have enc3 : ∀ r, ¬ r < 0x800 ∧ r < 0x10000 ∧ (r < 0xD800 ∨ 0xDFFF < r) → validRune r = true ∧
      encodeRune r = [0xE0 + r / 64 / 64, 0x80 + r / 64 % 64, 0x80 + r % 64] := fun r h => by
    have hv := valid r (by omega)
    rw [encodeRune, if_neg (by omega), if_neg h.1, if_neg (by simp [hv]), if_pos h.2.1, Nat.div_div_eq_div_mul]
    exact ⟨hv, rfl⟩
  have enc4 : ∀ r, ¬ r < 0x10000 ∧ r ≤ 0x10FFFF → validRune r = true ∧
      encodeRune r = [0xF0 + r / 64 / 64 / 64, 0x80 + r / 64 / 64 % 64, 0x80 + r / 64 % 64, 0x80 + r % 64] :=
    fun r h => by
      have hv := valid r (by omega)
      rw [encodeRune, if_neg (by omega), if_neg (by omega), if_neg (by simp [hv]), if_neg h.1,
        Nat.div_div_eq_div_mul, Nat.div_div_eq_div_mul, Nat.div_div_eq_div_mul]
      exact ⟨hv, rfl⟩
  cases h with
  | one r h => exact ⟨valid r (by omega), by rw [encodeRune, if_pos h]⟩
  | two a x h =>
    have := enc2 (a * 64 + x) (by omega)
    rwa [digit_div _ _ h.2.2, Nat.mul_add_mod_of_lt h.2.2] at this
  | three a x y h =>
    have := enc3 ((a * 64 + x) * 64 + y) (by omega)
    simpa only [digit_div, Nat.mul_add_mod_of_lt, h.2.1, h.2.2.1] using this
  | four a x y z h =>
    have := enc4 (((a * 64 + x) * 64 + y) * 64 + z) (by omega)
    simpa only [digit_div, Nat.mul_add_mod_of_lt, h.2.1, h.2.2.1, h.2.2.2.1] using this

theorem decodeRune_enc {r : Nat} {bs : List Nat} (h : Enc r bs) (t : List Nat) :
    decodeRune (bs ++ t) = (r, bs.length) := by
  have ge : ∀ {l a m : Nat}, m ≤ l → ¬ l + a < m := fun h => by omega
  cases h with
  | one r h => simp [decodeRune, h]
  | two a x h =>
    simp only [List.cons_append, List.nil_append, decodeRune]
    rw [if_neg (ge (by decide)), if_neg (by omega), if_pos (by omega), if_pos (by rw [isCont_iff]; omega)]
    simp only [Nat.add_sub_cancel_left, List.length_cons, List.length_nil]
  | three a x y h =>
    simp only [List.cons_append, List.nil_append, decodeRune]
    rw [if_neg (ge (by decide)), if_neg (ge (by decide)), if_neg (ge (by decide)), if_pos (by omega),
      if_pos (by simp only [Bool.and_eq_true, decide_eq_true_eq, isCont_iff, ite_le_iff, le_ite_iff]; omega)]
    simp only [Nat.add_sub_cancel_left, List.length_cons, List.length_nil, Prod.mk.injEq, and_true]
    omega
  | four a x y z h =>
    simp only [List.cons_append, List.nil_append, decodeRune]
    rw [if_neg (ge (by decide)), if_neg (ge (by decide)), if_neg (ge (by decide)), if_neg (ge (by decide)),
      if_pos (by omega),
      if_pos (by simp only [Bool.and_eq_true, decide_eq_true_eq, isCont_iff, ite_le_iff, le_ite_iff]; omega)]
    simp only [Nat.add_sub_cancel_left, List.length_cons, List.length_nil, Prod.mk.injEq, and_true]
    omega

theorem decodeRune_shape (s : List Nat) (hne : s ≠ []) :
    (∃ r bs t, Enc r bs ∧ s = bs ++ t ∧ decodeRune s = (r, bs.length)) ∨
    (∃ b t, s = b :: t ∧ 0x80 ≤ b ∧ decodeRune s = (0xFFFD, 1)) := by
  match s, hne with
  | b0 :: t, _ =>
    by_cases h0 : b0 < 0x80
    · exact Or.inl ⟨_, _, t, .one b0 h0, rfl, decodeRune_enc (.one b0 h0) t⟩
    -- every exit of `decodeRune` that does not return a decoded sequence returns `(0xFFFD, 1)`
    suffices h : decodeRune (b0 :: t) = (0xFFFD, 1) ∨ ∃ r bs t', Enc r bs ∧ b0 :: t = bs ++ t' from
      h.elim (fun h => Or.inr ⟨b0, t, rfl, Nat.le_of_not_lt h0, h⟩)
        fun ⟨r, bs, t', he, e⟩ => Or.inl ⟨r, bs, t', he, e, e ▸ decodeRune_enc he t'⟩
    simp only [decodeRune, if_neg h0]
    by_cases h1 : b0 < 0xC2
    · exact Or.inl (if_pos h1)
    rw [if_neg h1]
    by_cases h2 : b0 < 0xE0
    · rw [if_pos h2]
      obtain ⟨a, rfl⟩ := Nat.exists_eq_add_of_le (Nat.le_trans (by decide : 0xC0 ≤ 0xC2) (Nat.le_of_not_lt h1))
      rcases t with _ | ⟨b1, t⟩
      · exact Or.inl rfl
      · refine ite_eq_or fun hc => ?_
        rw [isCont_iff] at hc
        obtain ⟨x, rfl⟩ := Nat.exists_eq_add_of_le hc.1
        exact ⟨_, _, t, .two a x (by omega), rfl⟩
    rw [if_neg h2]
    by_cases h3 : b0 < 0xF0
    · rw [if_pos h3]
      obtain ⟨a, rfl⟩ := Nat.exists_eq_add_of_le (Nat.le_of_not_lt h2)
      rcases t with _ | ⟨b1, _ | ⟨b2, t⟩⟩
      · exact Or.inl rfl
      · exact Or.inl rfl
      · refine ite_eq_or fun hc => ?_
        simp only [Bool.and_eq_true, decide_eq_true_eq, isCont_iff, ite_le_iff, le_ite_iff] at hc
        obtain ⟨x, rfl⟩ := Nat.exists_eq_add_of_le (show 0x80 ≤ b1 by omega)
        obtain ⟨y, rfl⟩ := Nat.exists_eq_add_of_le hc.2.1
        exact ⟨_, _, t, .three a x y (by omega), rfl⟩
    rw [if_neg h3]
    by_cases h4 : b0 < 0xF5
    · rw [if_pos h4]
      obtain ⟨a, rfl⟩ := Nat.exists_eq_add_of_le (Nat.le_of_not_lt h3)
      rcases t with _ | ⟨b1, _ | ⟨b2, _ | ⟨b3, t⟩⟩⟩
      · exact Or.inl rfl
      · exact Or.inl rfl
      · exact Or.inl rfl
      · refine ite_eq_or fun hc => ?_
        simp only [Bool.and_eq_true, decide_eq_true_eq, isCont_iff, ite_le_iff, le_ite_iff] at hc
        obtain ⟨x, rfl⟩ := Nat.exists_eq_add_of_le (show 0x80 ≤ b1 by omega)
        obtain ⟨y, rfl⟩ := Nat.exists_eq_add_of_le hc.1.2.1
        obtain ⟨z, rfl⟩ := Nat.exists_eq_add_of_le hc.2.1
        exact ⟨_, _, t, .four a x y z (by omega), rfl⟩
    · exact Or.inl (if_neg h4)

theorem enc_bytes {r : Nat} {bs : List Nat} (h : Enc r bs) :
    ∃ b t, bs = b :: t ∧ isCont b = false ∧ (∀ c ∈ t, isCont c = true) ∧ t.length ≤ 3 := by
  have cont : ∀ x, x < 64 → isCont (0x80 + x) = true := fun x hx => by rw [isCont_iff]; omega
  cases h with
  | one r h => exact ⟨_, _, rfl, not_cont_of_ascii h, by simp, by simp⟩
  | two a x h => exact ⟨_, _, rfl, not_cont_of_lead _ _ (by decide), by simp [cont, h], by simp⟩
  | three a x y h => exact ⟨_, _, rfl, not_cont_of_lead _ _ (by decide), by simp [cont, h], by simp⟩
  | four a x y z h => exact ⟨_, _, rfl, not_cont_of_lead _ _ (by decide), by simp [cont, h], by simp⟩

theorem decodeRune_size_le (s : List Nat) : (decodeRune s).2 ≤ s.length := by
  by_cases hne : s = []
  · subst hne; exact Nat.le_refl 0
  rcases decodeRune_shape s hne with ⟨r, bs, t, _, rfl, hd⟩ | ⟨b, t, rfl, _, hd⟩ <;> rw [hd] <;> simp

theorem decodeRune_size_pos (s : List Nat) (hne : s ≠ []) : 1 ≤ (decodeRune s).2 := by
  rcases decodeRune_shape s hne with ⟨r, bs, t, he, rfl, hd⟩ | ⟨b, t, rfl, _, hd⟩
  · obtain ⟨b, t', rfl, _⟩ := enc_bytes he
    rw [hd]; simp
  · rw [hd]; exact Nat.le_refl 1

theorem decodeRune_size_le4 (s : List Nat) (hne : s ≠ []) : (decodeRune s).2 ≤ 4 := by
  rcases decodeRune_shape s hne with ⟨r, bs, t, he, rfl, hd⟩ | ⟨b, t, rfl, _, hd⟩
  · obtain ⟨b, t', rfl, _, _, hl⟩ := enc_bytes he
    rw [hd]; simp; omega
  · rw [hd]; decide

theorem decodeRune_validRune (s : List Nat) : validRune (decodeRune s).1 = true := by
  by_cases hne : s = []
  · subst hne; decide
  rcases decodeRune_shape s hne with ⟨r, bs, t, he, rfl, hd⟩ | ⟨b, t, rfl, _, hd⟩
  · rw [hd]; exact (enc_encode he).1
  · rw [hd]; decide

theorem decodeRune_cont (s : List Nat) (j : Nat) (h0 : 0 < j) (hj : j < (decodeRune s).2) :
    isCont (s.getD j 0) = true := by
  have hne : s ≠ [] := by rintro rfl; exact absurd hj (Nat.not_lt_zero _)
  rcases decodeRune_shape s hne with ⟨r, bs, t, he, rfl, hd⟩ | ⟨b, t, rfl, _, hd⟩
  · obtain ⟨b, t', rfl, _, hc, _⟩ := enc_bytes he
    rw [hd] at hj
    obtain ⟨j, rfl⟩ := Nat.exists_eq_add_of_le h0
    have hj : j < t'.length := by simp only [List.length_cons] at hj; omega
    apply hc
    simp [List.getD_eq_getElem?_getD, Nat.add_comm 1 j, List.getElem?_append_left hj, List.getElem?_eq_getElem hj]
  · rw [hd] at hj; omega

/-- a decoded sequence other than a single invalid byte (U+FFFD of width ≥ 2 is the literal `EF BF BD`; an invalid
    byte decodes to U+FFFD of width 1) -/
def GoodSeq (s : List Nat) : Prop := (decodeRune s).1 ≠ 0xFFFD ∨ 2 ≤ (decodeRune s).2

theorem goodSeq_enc (s : List Nat) (hg : GoodSeq s) :
    ∃ r bs t, Enc r bs ∧ s = bs ++ t ∧ decodeRune s = (r, bs.length) := by
  have hne : s ≠ [] := by rintro rfl; rcases hg with h | h <;> simp [decodeRune] at h
  rcases decodeRune_shape s hne with h | ⟨b, t, rfl, _, hd⟩
  · exact h
  · rw [GoodSeq, hd] at hg; rcases hg with h | h <;> simp at h

theorem goodSeq_head (s : List Nat) (hg : GoodSeq s) : ∃ b t, s = b :: t ∧ isCont b = false := by
  obtain ⟨r, bs, t, he, rfl, _⟩ := goodSeq_enc s hg
  obtain ⟨b, t', rfl, hb, _⟩ := enc_bytes he
  exact ⟨b, t' ++ t, rfl, hb⟩

theorem decodeRune_prefix_congr (a b : List Nat) (hg : GoodSeq a)
    (hp : a.take (decodeRune a).2 = b.take (decodeRune a).2) : decodeRune b = decodeRune a := by
  obtain ⟨r, bs, t, he, rfl, hd⟩ := goodSeq_enc a hg
  rw [hd] at hp ⊢
  rw [← List.take_append_drop bs.length b, ← hp, List.take_left]
  exact decodeRune_enc he _

theorem encode_of_decode (s : List Nat) (hr : (decodeRune s).1 ≠ 0xFFFD) :
    s.take (decodeRune s).2 = encodeRune (decodeRune s).1 := by
  obtain ⟨r, bs, t, he, rfl, hd⟩ := goodSeq_enc s (Or.inl hr)
  rw [hd, (enc_encode he).2, List.take_left]

theorem ascii_of_decode (u : List Nat) (h : (decodeRune u).1 < 0x80) :
    ∃ t, u = (decodeRune u).1 :: t ∧ (decodeRune u).2 = 1 := by
  obtain ⟨r, bs, t, he, rfl, hd⟩ := goodSeq_enc u (Or.inl (by omega))
  rw [hd] at h ⊢
  have : bs = [r] := by rw [← (enc_encode he).2, encodeRune, if_pos h]
  subst this
  exact ⟨t, rfl, rfl⟩

/-! ## `decodeB`: the `range` loop -/

theorem decodeAux_fuel (f1 : Nat) : ∀ (f2 : Nat) (s : List Nat), s.length ≤ f1 → s.length ≤ f2 →
    decodeAux f1 s = decodeAux f2 s := by
  induction f1 with
  | zero =>
    intro f2 s h1 _
    have : s = [] := List.eq_nil_of_length_eq_zero (by omega)
    subst this
    cases f2 <;> rfl
  | succ f1 ih =>
    intro f2 s h1 h2
    match s, f2 with
    | [], 0 => rfl
    | [], _ + 1 => rfl
    | b :: t, 0 => simp at h2
    | b :: t, f2 + 1 =>
      simp only [decodeAux]
      congr 1
      apply ih
      · simp at h1 ⊢; omega
      · simp at h2 ⊢; omega

theorem decodeB_nil : decodeB [] = [] := rfl

theorem decodeB_unfold (s : List Nat) (hne : s ≠ []) :
    decodeB s = decodeRune s :: decodeB (s.drop (decodeRune s).2) := by
  match s with
  | [] => exact absurd rfl hne
  | b :: t =>
    have hw := decodeRune_size_pos (b :: t) (by simp)
    have hd : (b :: t).drop (decodeRune (b :: t)).2 = t.drop ((decodeRune (b :: t)).2 - 1) := by
      obtain ⟨w, hw'⟩ : ∃ w, (decodeRune (b :: t)).2 = w + 1 := ⟨(decodeRune (b :: t)).2 - 1, by omega⟩
      rw [hw']; simp
    rw [hd]
    unfold decodeB
    simp only [List.length_cons, decodeAux]
    congr 1
    apply decodeAux_fuel <;> simp

theorem decode_induction {P : List Nat → Prop} (nil : P [])
    (step : ∀ s, s ≠ [] → P (s.drop (decodeRune s).2) → P s) : ∀ s, P s := by
  intro s
  generalize hn : s.length = n
  induction n using Nat.strongRecOn generalizing s with
  | _ n ih =>
    by_cases hne : s = []
    · subst hne; exact nil
    · apply step s hne
      have hw := decodeRune_size_pos s hne
      have hl : 0 < s.length := List.length_pos_iff.mpr hne
      exact ih (s.drop (decodeRune s).2).length (by simp; omega) _ rfl

theorem decodeB_eq_nil (s : List Nat) : decodeB s = [] ↔ s = [] := by
  constructor
  · intro h
    by_cases hne : s = []
    · exact hne
    · rw [decodeB_unfold s hne] at h; simp at h
  · intro h; subst h; rfl

theorem mem_decodeB (s : List Nat) : ∀ seg ∈ decodeB s, ∃ u, u ≠ [] ∧ seg = decodeRune u := by
  induction s using decode_induction with
  | nil => simp [decodeB_nil]
  | step s hne ih =>
    intro seg hseg
    rw [decodeB_unfold s hne] at hseg
    rcases List.mem_cons.mp hseg with rfl | h
    · exact ⟨s, hne, rfl⟩
    · exact ih seg h

theorem decodeB_width_pos (s : List Nat) : ∀ w ∈ (decodeB s).map (·.2), 1 ≤ w := by
  intro w hw
  obtain ⟨seg, hseg, rfl⟩ := List.mem_map.mp hw
  obtain ⟨u, hu, rfl⟩ := mem_decodeB s seg hseg
  exact decodeRune_size_pos u hu

theorem runesOf_valid (s : List Nat) : ∀ r ∈ runesOf s, validRune r = true := by
  intro r hr
  obtain ⟨seg, hseg, rfl⟩ := List.mem_map.mp hr
  obtain ⟨u, _, rfl⟩ := mem_decodeB s seg hseg
  exact decodeRune_validRune u

theorem byteOff_zero (s : List Nat) : byteOff s 0 = 0 := by simp [byteOff]

theorem byteOff_succ (s : List Nat) (hne : s ≠ []) (k : Nat) :
    byteOff s (k + 1) = (decodeRune s).2 + byteOff (s.drop (decodeRune s).2) k := by
  unfold byteOff
  rw [decodeB_unfold s hne]
  simp

theorem byteOff_len (s : List Nat) : byteOff s (decodeB s).length = s.length := by
  induction s using decode_induction with
  | nil => simp [decodeB_nil, byteOff]
  | step s hne ih =>
    rw [decodeB_unfold s hne, List.length_cons, byteOff_succ s hne, ih]
    have := decodeRune_size_le s
    simp; omega

theorem byteOff_mono (s : List Nat) (k j : Nat) (h : k ≤ j) : byteOff s k ≤ byteOff s j :=
  sum_take_mono _ k j h

theorem byteOff_lt (s : List Nat) (k j : Nat) (h : k < j) (hj : j ≤ (decodeB s).length) : byteOff s k < byteOff s j :=
  sum_take_lt _ (decodeB_width_pos s) k j h (by simpa using hj)

theorem byteOff_le_len (s : List Nat) (k : Nat) : byteOff s k ≤ s.length := by
  conv => rhs; rw [← byteOff_len s, byteOff, ← List.length_map (f := (·.2)), List.take_length]
  exact sum_take_le_sum _ k

theorem byteOff_le_iff (s : List Nat) (k j : Nat) (hk : k ≤ (decodeB s).length) :
    byteOff s k ≤ byteOff s j ↔ k ≤ j :=
  sum_take_le_iff _ (decodeB_width_pos s) k j (by simpa using hk)

theorem byteOff_inj (s : List Nat) (k j : Nat) (hk : k ≤ (decodeB s).length) (hj : j ≤ (decodeB s).length)
    (h : byteOff s k = byteOff s j) : k = j :=
  sum_take_inj _ (decodeB_width_pos s) k j (by simpa using hk) (by simpa using hj) h

theorem decodeB_drop (k : Nat) : ∀ (s : List Nat), k ≤ (decodeB s).length →
    decodeB (s.drop (byteOff s k)) = (decodeB s).drop k := by
  induction k with
  | zero => intro s _; simp [byteOff_zero]
  | succ k ih =>
    intro s hk
    have hne : s ≠ [] := by
      intro h; subst h; simp [decodeB_nil] at hk
    rw [byteOff_succ s hne, ← List.drop_drop]
    have hk' : k ≤ (decodeB (s.drop (decodeRune s).2)).length := by
      rw [decodeB_unfold s hne] at hk; simpa using hk
    rw [ih _ hk']
    conv => rhs; rw [decodeB_unfold s hne]
    simp

theorem byteOff_add (s : List Nat) (k j : Nat) (hk : k ≤ (decodeB s).length) :
    byteOff s (k + j) = byteOff s k + byteOff (s.drop (byteOff s k)) j := by
  unfold byteOff
  rw [sum_take_add]
  congr 1
  have := decodeB_drop k s hk
  unfold byteOff at this
  rw [this]; simp

theorem runesOf_drop (s : List Nat) (k : Nat) (hk : k ≤ (decodeB s).length) :
    runesOf (s.drop (byteOff s k)) = (runesOf s).drop k := by
  unfold runesOf; rw [decodeB_drop k s hk]; simp

theorem runesOf_length (s : List Nat) : (runesOf s).length = (decodeB s).length := by simp [runesOf]

theorem decodeB_get (s : List Nat) (k : Nat) (hk : k < (decodeB s).length) :
    (decodeB s)[k]? = some (decodeRune (s.drop (byteOff s k))) ∧ s.drop (byteOff s k) ≠ [] := by
  have hd := decodeB_drop k s (by omega)
  have hne : s.drop (byteOff s k) ≠ [] := by
    intro h; rw [h, decodeB_nil] at hd
    have : ((decodeB s).drop k).length = 0 := by rw [← hd]; rfl
    simp at this; omega
  refine ⟨?_, hne⟩
  rw [decodeB_unfold _ hne] at hd
  have : ((decodeB s).drop k)[0]? = some (decodeRune (s.drop (byteOff s k))) := by rw [← hd]; rfl
  simpa using this

theorem runesOf_get (s : List Nat) (k : Nat) (hk : k < (decodeB s).length) :
    (runesOf s)[k]? = some (decodeRune (s.drop (byteOff s k))).1 := by
  unfold runesOf
  rw [List.getElem?_map, (decodeB_get s k hk).1]; rfl

theorem byteOff_succ_at (s : List Nat) (k : Nat) (hk : k < (decodeB s).length) :
    byteOff s (k + 1) = byteOff s k + (decodeRune (s.drop (byteOff s k))).2 := by
  rw [byteOff, sum_take_succ, List.getD_eq_getElem?_getD, List.getElem?_map, (decodeB_get s k hk).1]; rfl

/-! ## rune boundaries -/

def Bnd (s : List Nat) (i : Nat) : Prop := ∃ k, k ≤ (decodeB s).length ∧ byteOff s k = i

theorem bnd_le (s : List Nat) (i : Nat) (h : Bnd s i) : i ≤ s.length := by
  obtain ⟨k, _, rfl⟩ := h; exact byteOff_le_len s k

def Starts (s : List Nat) (i : Nat) : Prop := ∃ k, k < (decodeB s).length ∧ byteOff s k = i

theorem Starts.bnd {s : List Nat} {i : Nat} (h : Starts s i) : Bnd s i :=
  h.elim fun k hk => ⟨k, Nat.le_of_lt hk.1, hk.2⟩

theorem getD_drop (s : List Nat) (a j : Nat) : (s.drop a).getD j 0 = s.getD (a + j) 0 := by
  simp [List.getD_eq_getElem?_getD, List.getElem?_drop]

theorem getD_take (s : List Nat) (b i : Nat) (h : i < b) : (s.take b).getD i 0 = s.getD i 0 := by
  simp [List.getD_eq_getElem?_getD, h]

theorem starts_of_not_cont : ∀ (s : List Nat) (i b : Nat), s[i]? = some b → isCont b = false → Starts s i := by
  intro s
  induction s using decode_induction with
  | nil => intro i b h; simp at h
  | step s hne ih =>
    intro i b h hb
    rw [Starts, decodeB_unfold s hne]
    by_cases hlt : i < (decodeRune s).2
    · by_cases h0 : i = 0
      · exact ⟨0, by simp, h0 ▸ byteOff_zero s⟩
      · have := decodeRune_cont s i (by omega) hlt
        rw [List.getD_eq_getElem?_getD, h, Option.getD_some, hb] at this
        cases this
    · obtain ⟨k, hk, hoff⟩ := ih (i - (decodeRune s).2) b
        (by rw [List.getElem?_drop, ← h]; congr 1; omega) hb
      exact ⟨k + 1, by simpa using hk, by rw [byteOff_succ s hne, hoff]; omega⟩

/-! ## `DecodeLastRuneInString` agrees with the forward decoding -/

theorem scanBack_le (t : List Nat) (lim : Nat) : ∀ j, scanBack t lim j ≤ j := by
  intro j
  induction j with
  | zero => exact Nat.le_refl 0
  | succ j ih =>
    unfold scanBack
    split
    · exact Nat.le_succ j
    · split
      · exact Nat.le_succ j
      · exact Nat.le_succ_of_le ih

theorem scanBack_stop (t : List Nat) (lim a : Nat) (hl : lim ≤ a) (ha : isCont (t.getD a 0) = false) :
    ∀ j, a < j → (∀ i, a < i → i < j → isCont (t.getD i 0) = true) → scanBack t lim j = a := by
  intro j
  induction j with
  | zero => intro h; exact absurd h (Nat.not_lt_zero a)
  | succ j ih =>
    intro haj hc
    unfold scanBack
    rw [if_neg (by omega)]
    by_cases h : a = j
    · subst h; rw [ha]; rfl
    · rw [hc j (by omega) (Nat.lt_succ_self j)]
      exact ih (by omega) fun i h1 h2 => hc i h1 (Nat.lt_succ_of_lt h2)

theorem take_drop_take (s : List Nat) (b st n : Nat) (h : n ≤ b - st) :
    ((s.take b).drop st).take n = (s.drop st).take n := by
  rw [List.drop_take, List.take_take, Nat.min_eq_left h]

theorem decodeRune_of_take (s : List Nat) (b st : Nat) (h : 2 ≤ (decodeRune ((s.take b).drop st)).2) :
    decodeRune (s.drop st) = decodeRune ((s.take b).drop st) := by
  have := decodeRune_size_le ((s.take b).drop st)
  exact decodeRune_prefix_congr _ _ (Or.inr h) (take_drop_take s b st _ (by simp at this; omega))

/-- `DecodeLastRuneInString` on a string whose last `w` bytes decode as one rune, when no multi-byte sequence that
    ends at the end of the string starts anywhere else, returns `w` -/
theorem lastRuneSize_take (s : List Nat) (a w : Nat) (hw : (decodeRune (s.drop a)).2 = w) (hw1 : 1 ≤ w)
    (hw4 : w ≤ 4) (hb : a + w ≤ s.length)
    (huniq : ∀ st, 2 ≤ (decodeRune (s.drop st)).2 → st + (decodeRune (s.drop st)).2 = a + w → st = a) :
    lastRuneSize (s.take (a + w)) = w := by
  have hlen : (s.take (a + w)).length = a + w := List.length_take_of_le hb
  have hcont : ∀ i, a < i → i < a + w → isCont (s.getD i 0) = true := fun i h1 h2 => by
    have := decodeRune_cont (s.drop a) (i - a) (by omega) (by omega)
    rwa [getD_drop, Nat.add_sub_cancel' (Nat.le_of_lt h1)] at this
  unfold lastRuneSize
  rw [if_neg (by rw [List.isEmpty_iff_length_eq_zero]; omega), hlen]
  dsimp only
  rw [getD_take s _ _ (by omega)]
  by_cases h1 : w = 1
  · -- a multi-byte sequence from the place the scan stops at to the end would be the last rune
    by_cases hx : s.getD (a + w - 1) 0 < 0x80
    · rw [if_pos hx, h1]
    rw [if_neg hx]
    have hle := scanBack_le (s.take (a + w)) (a + w - 4) (a + w - 1)
    generalize scanBack (s.take (a + w)) (a + w - 4) (a + w - 1) = st at hle
    by_cases hsz : st + (decodeRune ((s.take (a + w)).drop st)).2 ≠ a + w
    · rw [if_pos hsz, h1]
    rw [if_neg hsz]
    by_cases h2 : 2 ≤ (decodeRune ((s.take (a + w)).drop st)).2
    · have e := decodeRune_of_take s (a + w) st h2
      have := huniq st (e ▸ h2) (by rw [e]; omega)
      omega
    · omega
  · -- the last byte is a continuation byte, and the scan stops at the first byte of the sequence
    have := (isCont_iff _).mp (hcont (a + w - 1) (by omega) (by omega))
    rw [if_neg (by omega)]
    obtain ⟨c, t, hc, hcc⟩ := goodSeq_head (s.drop a) (Or.inr (by omega))
    have ha : s.getD a 0 = c := by have := getD_drop s a 0; rw [hc] at this; exact this.symm
    rw [scanBack_stop _ _ a (by omega) (by rw [getD_take s _ _ (by omega), ha, hcc]) _ (by omega)
      fun i h1 h2 => by rw [getD_take s _ _ (by omega)]; exact hcont i h1 (by omega)]
    have : decodeRune ((s.take (a + w)).drop a) = decodeRune (s.drop a) :=
      decodeRune_prefix_congr _ _ (Or.inr (by omega)) (by rw [hw]; exact (take_drop_take s _ a w (by omega)).symm)
    rw [this, hw, if_neg (by omega)]

/-- **`DecodeLastRuneInString` on a prefix that ends at a rune boundary returns the width of the rune that ends
    there**: one byte for an invalid byte, the full width of a well-formed sequence -/
theorem lastRuneSize_boundary (s : List Nat) (k : Nat) (hk : k < (decodeB s).length) :
    lastRuneSize (s.take (byteOff s (k + 1))) = (decodeRune (s.drop (byteOff s k))).2 := by
  have hne := (decodeB_get s k hk).2
  have hsucc := byteOff_succ_at s k hk
  have hble := byteOff_le_len s (k + 1)
  rw [hsucc] at hble ⊢
  refine lastRuneSize_take s _ _ rfl (decodeRune_size_pos _ hne) (decodeRune_size_le4 _ hne) hble ?_
  -- a multi-byte sequence starts a rune; two runes that end at the same byte are the same rune
  intro st h2 hend
  obtain ⟨c, t, hc, hcc⟩ := goodSeq_head (s.drop st) (Or.inr h2)
  obtain ⟨k', hk', hoff⟩ := starts_of_not_cont s st c
    (by have := congrArg (·[0]?) hc; simpa using this) hcc
  have := byteOff_succ_at s k' hk'
  rw [hoff, hend, ← hsucc] at this
  have := byteOff_inj s _ _ (by omega) (by omega) this
  rw [← hoff]; congr 1; omega

theorem candidateStart_spec (s : List Nat) (ks : Nat) : ∀ (d ki : Nat), ki ≤ (decodeB s).length → ks ≤ ki →
    candidateStart s (byteOff s ks) d (byteOff s ki) = if ks + d ≤ ki then some (byteOff s (ki - d)) else none := by
  intro d
  induction d with
  | zero => intro ki _ h; simp [candidateStart, h]
  | succ d ih =>
    intro ki hki hks
    unfold candidateStart
    by_cases heq : ki = ks
    · subst heq; rw [if_pos (Nat.le_refl _), if_neg (by omega)]
    · obtain ⟨k', rfl⟩ : ∃ k', ki = k' + 1 := ⟨ki - 1, by omega⟩
      have hs := byteOff_succ_at s k' hki
      have hw := decodeRune_size_pos _ (decodeB_get s k' hki).2
      have hm := byteOff_mono s ks k' (by omega)
      rw [if_neg (by omega), lastRuneSize_boundary s k' hki]
      dsimp only
      rw [if_neg (by omega), show byteOff s (k' + 1) - (decodeRune (s.drop (byteOff s k'))).2 = byteOff s k' by omega,
        ih k' (by omega) (by omega)]
      by_cases h : ks + d ≤ k'
      · rw [if_pos h, if_pos (by omega), Nat.add_sub_add_right]
      · rw [if_neg h, if_neg (by omega)]

/-! ## searches: the first index at which a test holds -/

theorem first_succ {P : Nat → Prop} {r : Option Nat} (h0 : ¬ P 0) (hr : First (fun i => P (i + 1)) r) :
    First P (r.map (· + 1)) := by
  cases r with
  | none =>
    refine first_none fun j => ?_
    cases j with
    | zero => exact h0
    | succ j => exact hr.2 rfl j
  | some i =>
    obtain ⟨hi, hlt⟩ := hr.1 i rfl
    show First P (some (i + 1))
    refine first_some hi fun j hj => ?_
    cases j with
    | zero => exact h0
    | succ j => exact hlt j (Nat.lt_of_succ_lt_succ hj)

theorem first_bestOf {P Q : Nat → Prop} {a b : Option Nat} (ha : First P a) (hb : First Q b) :
    First (fun i => P i ∨ Q i) (bestOf a b) := by
  unfold bestOf
  cases b with
  | none => exact ha.congr fun i => ⟨Or.inl, fun h => h.resolve_right (hb.2 rfl i)⟩
  | some o =>
    obtain ⟨ho, hlo⟩ := hb.1 o rfl
    cases a with
    | none => exact hb.congr fun i => ⟨Or.inr, fun h => h.resolve_left (ha.2 rfl i)⟩
    | some l =>
      obtain ⟨hl, hll⟩ := ha.1 l rfl
      dsimp only
      split
      · exact first_some (Or.inr ho) fun j hj h => h.elim (hll j (by omega)) (hlo j hj)
      · exact first_some (Or.inl hl) fun j hj h => h.elim (hll j hj) (hlo j (by omega))

theorem firstSuffix_add (P : List Nat → Bool) : ∀ (s : List Nat) (i : Nat),
    firstSuffix P s (i + 1) = (firstSuffix P s i).map (· + 1) := by
  intro s
  induction s with
  | nil =>
    intro i
    unfold firstSuffix
    split
    · rfl
    · rfl
  | cons b t ih =>
    intro i
    unfold firstSuffix
    split
    · rfl
    · exact ih (i + 1)

theorem firstSuffix_first (P : List Nat → Bool) : ∀ (s : List Nat),
    First (fun d => P (s.drop d) = true) (firstSuffix P s 0) := by
  intro s
  induction s with
  | nil =>
    unfold firstSuffix
    split
    · exact first_some ‹_› fun j hj => absurd hj (Nat.not_lt_zero j)
    · exact first_none fun j => by rwa [List.drop_nil]
  | cons b t ih =>
    unfold firstSuffix
    split
    · exact first_some ‹_› fun j hj => absurd hj (Nat.not_lt_zero j)
    · rw [firstSuffix_add]; exact first_succ ‹_› ih

theorem first_suffix (P : List Nat → Bool) (input : List Nat) (s : Nat) :
    First (fun o => P (input.drop (s + o)) = true) (firstSuffix P (input.drop s) 0) :=
  (firstSuffix_first P (input.drop s)).congr fun o => by rw [List.drop_drop]

theorem first_from {Occ : Nat → Prop} {s : Nat} {r : Option Nat} (hr : First (fun o => Occ (s + o)) r) :
    (∀ o, r = some o → Occ (s + o) ∧ ∀ j, s ≤ j → j < s + o → ¬ Occ j) ∧ (r = none → ∀ j, s ≤ j → ¬ Occ j) := by
  have at_ : ∀ j, s ≤ j → Occ j → Occ (s + (j - s)) := fun j hj h => by rwa [Nat.add_sub_cancel' hj]
  exact ⟨fun o ho => ⟨(hr.1 o ho).1, fun j hj hlt h => (hr.1 o ho).2 (j - s) (by omega) (at_ j hj h)⟩,
    fun hn j hj h => hr.2 hn (j - s) (at_ j hj h)⟩

theorem headSat_drop (Q : Nat → Bool) (s : List Nat) (j : Nat) :
    headSat Q (s.drop j) = true ↔ ∃ b, s[j]? = some b ∧ Q b = true := by
  cases h : s.drop j with
  | nil =>
    have : s.length ≤ j := by simpa using h
    simp [headSat, List.getElem?_eq_none this]
  | cons b t =>
    have : s[j]? = some b := by
      have := congrArg (·[0]?) h; simpa using this
    simp [headSat, this]

theorem firstSeg_first (Q : Nat → Bool) : ∀ (segs : List (Nat × Nat)) (off : Nat),
    ∃ r, First (fun k => ∃ seg, segs[k]? = some seg ∧ Q seg.1 = true) r ∧
      firstSeg Q segs off = r.map fun k => off + ((segs.map (·.2)).take k).sum := by
  intro segs
  induction segs with
  | nil => intro off; exact ⟨none, first_none (by simp), rfl⟩
  | cons sg t ih =>
    intro off
    obtain ⟨c, w⟩ := sg
    unfold firstSeg
    split
    · exact ⟨some 0, first_some ⟨(c, w), rfl, ‹_›⟩ fun j hj => absurd hj (Nat.not_lt_zero j), rfl⟩
    · next hq =>
      obtain ⟨r, hr, he⟩ := ih (off + w)
      refine ⟨r.map (· + 1), first_succ (by simpa using hq) (hr.congr fun k => by simp), ?_⟩
      rw [he]; cases r <;> simp [Nat.add_assoc]

/-! ## runes → bytes: where a clean literal's runes occur in the decoded text, its bytes occur in the string -/

/-- no U+FFFD among the runes of the literal: it is valid UTF-8 and holds no literal U+FFFD
    (`!strings.ContainsRune(lit, utf8.RuneError)`) -/
def Clean (lit : List Nat) : Prop := ∀ seg ∈ decodeB lit, seg.1 ≠ 0xFFFD

theorem runesOf_unfold (s : List Nat) (hne : s ≠ []) :
    runesOf s = (decodeRune s).1 :: runesOf (s.drop (decodeRune s).2) := by
  unfold runesOf; rw [decodeB_unfold s hne]; rfl

theorem clean_head (lit : List Nat) (hne : lit ≠ []) (hc : Clean lit) :
    (decodeRune lit).1 ≠ 0xFFFD ∧ Clean (lit.drop (decodeRune lit).2) := by
  unfold Clean at *
  rw [decodeB_unfold lit hne] at hc
  exact ⟨hc _ (by simp), fun seg hs => hc seg (by simp [hs])⟩

theorem bytes_of_runes_exact : ∀ (lit u : List Nat), Clean lit →
    prefixOf eqExact (runesOf lit) (runesOf u) = true → lit <+: u := by
  intro lit
  induction lit using decode_induction with
  | nil => intro u _ _; exact List.nil_prefix
  | step lit hne ih =>
    intro u hc hp
    obtain ⟨hr, hc'⟩ := clean_head lit hne hc
    rw [runesOf_unfold lit hne] at hp
    have hune : u ≠ [] := by rintro rfl; simp [runesOf, decodeB_nil, prefixOf] at hp
    rw [runesOf_unfold u hune] at hp
    simp only [prefixOf, eqExact, Bool.and_eq_true, beq_iff_eq] at hp
    -- both strings start with the encoding of the same rune
    have e1 := encode_of_decode lit hr
    have e2 := encode_of_decode u (hp.1 ▸ hr)
    rw [hp.1] at e2
    have hw : (decodeRune u).2 = (decodeRune lit).2 := by
      have l1 := congrArg List.length e1
      have l2 := congrArg List.length e2
      have := decodeRune_size_le lit
      have := decodeRune_size_le u
      simp only [List.length_take] at l1 l2; omega
    rw [← List.take_append_drop (decodeRune lit).2 lit, ← List.take_append_drop (decodeRune lit).2 u, e1, ← hw, e2, hw]
    exact (List.prefix_append_right_inj _).mpr (ih _ hc' (hw ▸ hp.2))

theorem head_of_prefix (s : List Nat) (c : Nat) (t : List Nat) (j : Nat) (h : (c :: t) <+: s.drop j) :
    s[j]? = some c := by
  obtain ⟨rest, hr⟩ := h
  have := congrArg (·[0]?) hr
  simp only [List.cons_append, List.getElem?_cons_zero, List.getElem?_drop, Nat.add_zero] at this
  exact this.symm

theorem runesOf_ascii (lit : List Nat) (h : isASCIIString lit = true) : runesOf lit = lit := by
  induction lit with
  | nil => rfl
  | cons c ps ih =>
    simp only [isASCIIString, List.all_cons, Bool.and_eq_true, decide_eq_true_eq] at h
    have hd : decodeRune (c :: ps) = (c, 1) := decodeRune_enc (.one c h.1) ps
    rw [runesOf_unfold _ (List.cons_ne_nil c ps), hd]
    exact congrArg (c :: ·) (ih h.2)

theorem clean_ascii (lit : List Nat) (h : isASCIIString lit = true) : Clean lit := by
  intro seg hseg
  have : seg.1 ∈ runesOf lit := List.mem_map.mpr ⟨seg, hseg, rfl⟩
  rw [runesOf_ascii lit h] at this
  simp only [isASCIIString, List.all_eq_true, decide_eq_true_eq] at h
  have := h _ this
  omega


theorem fold_lt_iff (c : Nat) : foldASCII c < 128 ↔ c < 128 := by unfold foldASCII; split <;> omega

theorem bytes_of_runes_fold : ∀ (lit u : List Nat), isASCIIString lit = true →
    prefixOf eqAsciiFold lit (runesOf u) = true → prefixOf eqAsciiFold lit u = true := by
  intro lit
  induction lit with
  | nil => intro u _ _; rfl
  | cons c ps ih =>
    intro u ha hp
    simp only [isASCIIString, List.all_cons, Bool.and_eq_true, decide_eq_true_eq] at ha
    have hune : u ≠ [] := by rintro rfl; simp [runesOf, decodeB_nil, prefixOf] at hp
    rw [runesOf_unfold u hune] at hp
    simp only [prefixOf, Bool.and_eq_true] at hp
    -- a rune that folds like an ASCII character is one ASCII byte
    obtain ⟨t, hu, hw⟩ := ascii_of_decode u (by
      have := hp.1
      simp only [eqAsciiFold, beq_iff_eq] at this
      rw [← fold_lt_iff, this, fold_lt_iff]; exact ha.1)
    rw [hu, prefixOf, Bool.and_eq_true]
    refine ⟨hp.1, ih t ha.2 ?_⟩
    rw [hw, hu] at hp
    exact hp.2

theorem encode_at (s : List Nat) (k ch : Nat) (h : (runesOf s)[k]? = some ch) (hne : ch ≠ 0xFFFD) :
    k < (decodeB s).length ∧ encodeRune ch <+: s.drop (byteOff s k) := by
  have hk : k < (decodeB s).length := by
    rw [← runesOf_length]; exact (List.getElem?_eq_some_iff.mp h).1
  refine ⟨hk, ?_⟩
  rw [runesOf_get s k hk, Option.some.injEq] at h
  have := encode_of_decode (s.drop (byteOff s k)) (h ▸ hne)
  rw [h] at this
  rw [← this]; exact List.take_prefix _ _

theorem ascii_at (s : List Nat) (k c : Nat) (h : (runesOf s)[k]? = some c) (hc : c < 128) :
    k < (decodeB s).length ∧ s[byteOff s k]? = some c := by
  have hk : k < (decodeB s).length := by
    rw [← runesOf_length]; exact (List.getElem?_eq_some_iff.mp h).1
  rw [runesOf_get s k hk, Option.some.injEq] at h
  obtain ⟨t, hu, _⟩ := ascii_of_decode (s.drop (byteOff s k)) (h ▸ hc)
  refine ⟨hk, ?_⟩
  have := congrArg (·[0]?) hu
  simp only [List.getElem?_drop, Nat.add_zero, List.getElem?_cons_zero] at this
  rw [this, h]

/-! ## `helpers.IndexStringIgnoreCaseASCII` returns the first occurrence under ASCII folding -/

theorem prefixOf_take (eq : Nat → Nat → Bool) : ∀ (pre u : List Nat) (n : Nat), pre.length ≤ n →
    prefixOf eq pre (u.take n) = prefixOf eq pre u := by
  intro pre
  induction pre with
  | nil => intro u n _; rfl
  | cons c ps ih =>
    intro u n h
    cases u with
    | nil => simp
    | cons t ts =>
      cases n with
      | zero => simp at h
      | succ n =>
        simp only [List.take_succ_cons, prefixOf]
        rw [ih ts n (by simpa using h)]

theorem indexByteP_first (Q : Nat → Bool) (s : List Nat) :
    First (fun j => ∃ b, s[j]? = some b ∧ Q b = true) (indexByteP Q s) :=
  (firstSuffix_first _ s).congr (headSat_drop Q s)

theorem indexByte_first (s : List Nat) (c : Nat) : First (fun j => s[j]? = some c) (indexByte s c) :=
  (indexByteP_first _ s).congr fun j => by simp

def foldHit (s : List Nat) (ch j : Nat) : Prop := ∃ b, s[j]? = some b ∧ foldASCII b = foldASCII ch

theorem fold_eq_iff (b ch : Nat) : foldASCII b = foldASCII ch ↔
    (b = foldASCII ch ∨ (97 ≤ foldASCII ch ∧ foldASCII ch ≤ 122 ∧ b = foldASCII ch - 32)) := by
  -- a folded value is no upper-case letter
  have hf : ¬ (65 ≤ foldASCII ch ∧ foldASCII ch ≤ 90) := by unfold foldASCII; split <;> omega
  generalize foldASCII ch = f at hf
  unfold foldASCII
  split <;> omega

theorem indexASCIIByteIgnoreCase_spec (s : List Nat) (ch : Nat) :
    First (foldHit s ch) (indexASCIIByteIgnoreCase s ch) := by
  have hit : ∀ j, (s[j]? = some (foldASCII ch) ∨
      (97 ≤ foldASCII ch ∧ foldASCII ch ≤ 122) ∧ s[j]? = some (foldASCII ch - 32)) ↔ foldHit s ch j := fun j => by
    simp only [foldHit, fold_eq_iff]
    constructor
    · rintro (h | ⟨⟨h1, h2⟩, h⟩)
      · exact ⟨_, h, Or.inl rfl⟩
      · exact ⟨_, h, Or.inr ⟨h1, h2, rfl⟩⟩
    · rintro ⟨b, hb, rfl | ⟨h1, h2, rfl⟩⟩
      · exact Or.inl hb
      · exact Or.inr ⟨⟨h1, h2⟩, hb⟩
  unfold indexASCIIByteIgnoreCase
  dsimp only
  split
  · next hr =>
    refine (indexByte_first s _).congr fun j => (hit j).symm.trans ?_ |>.symm
    exact ⟨fun h => h.elim id fun h => by omega, Or.inl⟩
  · next hr =>
    -- the case distinction on the two results is `bestOf`
    have hb := (first_bestOf (indexByte_first s (foldASCII ch)) (indexByte_first s (foldASCII ch - 32))).congr
      fun j => (or_congr_right (and_iff_right (by omega))).symm.trans (hit j)
    revert hb
    unfold bestOf
    cases indexByte s (foldASCII ch) <;> cases indexByte s (foldASCII ch - 32) <;> exact id

theorem isicLoop_first (s : List Nat) (c : Nat) (ps : List Nat) (hlen : (c :: ps).length ≤ s.length) :
    ∀ (fuel start : Nat), s.length + 1 ≤ start + fuel → (∀ j, j < start → ¬ occursAt eqAsciiFold (c :: ps) s j = true) →
      First (fun j => occursAt eqAsciiFold (c :: ps) s j = true) (isicLoop s (c :: ps) (s.length - (c :: ps).length) fuel start) := by
  -- nothing below `b`, and `b` behind the last position at which the prefix fits: nothing at all
  have tail : ∀ b, s.length - (c :: ps).length < b → (∀ j, j < b → ¬ occursAt eqAsciiFold (c :: ps) s j = true) →
      First (fun j => occursAt eqAsciiFold (c :: ps) s j = true) none := fun b hb hno => first_none fun j hj => by
    by_cases hjb : j < b
    · exact hno j hjb hj
    · have := occursAt_fits' _ _ s j (List.cons_ne_nil c ps) hj; simp only [List.length_cons] at this hlen hb; omega
  intro fuel
  induction fuel with
  | zero => intro start hf hinv; exact tail start (by omega) hinv
  | succ fuel ih =>
    intro start hf hinv
    unfold isicLoop
    by_cases hse : start ≤ s.length - (c :: ps).length
    · have hb := indexASCIIByteIgnoreCase_spec (s.drop start) c
      -- an occurrence from `start` on puts a byte that folds like `c` at its place
      have skip : ∀ b, (∀ o, start + o < b → ¬ foldHit (s.drop start) c o) → ∀ j, j < b → ¬ occursAt eqAsciiFold (c :: ps) s j = true :=
        fun b hno j hjb hj => by
          by_cases hjs : j < start
          · exact hinv j hjs hj
          · obtain ⟨t, ht, hf⟩ := occursAt_head _ c ps s j hj
            exact hno (j - start) (by omega) ⟨t, by rw [List.getElem?_drop, ← ht]; congr 1; omega, of_decide_eq_true hf⟩
      rw [if_pos hse, List.headD_cons]
      cases hoff : indexASCIIByteIgnoreCase (s.drop start) c with
      | none => exact tail (s.length + 1) (by omega) (skip _ fun o _ => hb.2 hoff o)
      | some offset =>
        have hsk := skip (start + offset) fun o ho => (hb.1 offset hoff).2 o (by omega)
        dsimp only
        by_cases hgt : start + offset > s.length - (c :: ps).length
        · rw [if_pos hgt]; exact tail _ (by omega) hsk
        · have heq : equalStringIgnoreCaseASCII ((s.drop (start + offset)).take (c :: ps).length) (c :: ps) =
              prefixOf eqAsciiFold (c :: ps) (s.drop (start + offset)) := by
            unfold equalStringIgnoreCaseASCII
            rw [if_neg (by simp only [List.length_take, List.length_drop, List.length_cons] at hgt hlen ⊢; omega)]
            exact prefixOf_take _ _ _ _ (Nat.le_refl _)
          rw [if_neg hgt, heq]
          cases hocc : prefixOf eqAsciiFold (c :: ps) (s.drop (start + offset)) with
          | true => exact first_some hocc hsk
          | false =>
            refine ih (start + offset + 1) (by omega) fun j hj => ?_
            by_cases hje : j = start + offset
            · exact hje ▸ (by rw [occursAt, hocc]; exact Bool.false_ne_true)
            · exact hsk j (by omega)
    · rw [if_neg hse]; exact tail start (by omega) hinv

theorem indexStringIgnoreCaseASCII_spec (s pre : List Nat) :
    First (fun j => occursAt eqAsciiFold pre s j = true) (indexStringIgnoreCaseASCII s pre) := by
  unfold indexStringIgnoreCaseASCII
  cases pre with
  | nil => exact first_some rfl fun j hj => absurd hj (Nat.not_lt_zero j)
  | cons c ps =>
    rw [if_neg (by simp)]
    by_cases hl : s.length < (c :: ps).length
    · rw [if_pos hl]
      refine first_none fun j hj => ?_
      have := prefixOf_length _ _ _ hj
      simp only [List.length_drop] at this; omega
    · rw [if_neg hl]
      exact isicLoop_first s c ps (by omega) (s.length + 1) 0 (by omega) fun j hj => absurd hj (Nat.not_lt_zero j)

/-! ## soundness of a filter answer; the loop rule -/

/-- what a sound answer `(candidate, ok)` from `startAt` is: "no" only if no attempt succeeds at a rune position
    whose byte offset is `≥ startAt`; a candidate is a rune boundary `≥ startAt` before which (from `startAt`)
    no attempt succeeds.  Rune positions `p` and byte offsets are related by `byteOff` (one rune per invalid byte). -/
def FilterPost (s : List Nat) (attempt : Nat → Option (Nat × Nat)) (startAt : Nat) (r : Nat × Bool) : Prop :=
  (r.2 = false → ∀ p, p ≤ (decodeB s).length → startAt ≤ byteOff s p → attempt p = none) ∧
  (r.2 = true → Bnd s r.1 ∧ startAt ≤ r.1 ∧
    ∀ p, p ≤ (decodeB s).length → startAt ≤ byteOff s p → byteOff s p < r.1 → attempt p = none)

/-- a filter is sound on the input `s` for the attempts of a program on the decoded runes of `s` -/
def StrFilterSound (s : List Nat) (attempt : Nat → Option (Nat × Nat)) (f : Filter) : Prop :=
  ∀ startAt, Bnd s startAt → FilterPost s attempt startAt (f s startAt)

theorem post_none {s : List Nat} {attempt : Nat → Option (Nat × Nat)} {startAt : Nat}
    (h : ∀ p, p ≤ (decodeB s).length → startAt ≤ byteOff s p → attempt p = none) :
    FilterPost s attempt startAt (0, false) :=
  ⟨fun _ => h, nofun⟩

theorem post_some {s : List Nat} {attempt : Nat → Option (Nat × Nat)} {startAt c : Nat} (hb : Bnd s c)
    (hle : startAt ≤ c)
    (h : ∀ p, p ≤ (decodeB s).length → startAt ≤ byteOff s p → byteOff s p < c → attempt p = none) :
    FilterPost s attempt startAt (c, true) :=
  ⟨nofun, fun _ => ⟨hb, hle, h⟩⟩

/-- Hoare rule for `loop`: `Inv` on the search position, every exit gives `Post`.  `bound`: a number no position that
    passes the guard reaches (`len(input) + 1`); positions grow, so the model's fuel `len(input) + 2` suffices. -/
theorem loop_rule (guard : Nat → Bool) (idx : Nat → Option Nat) (step : Nat → Step)
    (Inv : Nat → Prop) (Post : Nat × Bool → Prop) (bound : Nat)
    (hguard : ∀ s, guard s = true → s < bound)
    (hexit : ∀ s, Inv s → guard s = false → Post (0, false))
    (hnone : ∀ s, Inv s → guard s = true → idx s = none → Post (0, false))
    (hsome : ∀ s i, Inv s → guard s = true → idx s = some i →
      match step i with
      | .found c => Post (c, true)
      | .giveUp => Post (0, false)
      | .next s' => s < s' ∧ Inv s') :
    ∀ (fuel s : Nat), bound ≤ s + fuel → Inv s → Post (loop guard idx step fuel s) := by
  intro fuel
  induction fuel with
  | zero =>
    intro s hb hinv
    refine hexit s hinv ?_
    cases hg : guard s with
    | false => rfl
    | true => have := hguard s hg; omega
  | succ fuel ih =>
    intro s hb hinv
    unfold loop
    cases hg : guard s with
    | false => exact hexit s hinv hg
    | true =>
      rw [if_pos rfl]
      cases hi : idx s with
      | none => exact hnone s hinv hg hi
      | some i =>
        have hstep := hsome s i hinv hg hi
        dsimp only
        cases hs : step i with
        | found q => rw [hs] at hstep; exact hstep
        | giveUp => rw [hs] at hstep; exact hstep
        | next s' => rw [hs] at hstep; exact ih s' (by omega) hstep.2

theorem byteOff_ge (s : List Nat) (k : Nat) (hk : k ≤ (decodeB s).length) : k ≤ byteOff s k := by
  unfold byteOff
  have h := sum_eq_len_add_extra (((decodeB s).map (·.2)).take k)
    (fun w hw => decodeB_width_pos s w (List.mem_of_mem_take hw))
  rw [h]; simp; omega

theorem remaining_bytes (s : List Nat) (p : Nat) (hp : p ≤ (decodeB s).length) :
    byteOff s p + ((decodeB s).length - p) ≤ s.length := by
  have h1 := byteOff_add s p ((decodeB s).length - p) hp
  rw [show p + ((decodeB s).length - p) = (decodeB s).length by omega, byteOff_len] at h1
  have h2 := byteOff_ge (s.drop (byteOff s p)) ((decodeB s).length - p)
    (by rw [decodeB_drop p s hp]; simp)
  omega

/-- the first guard of every filter: fewer bytes than `MinRequiredLength` remain -/
theorem minBytes_false (s : List Nat) (attempt : Nat → Option (Nat × Nat)) (minLen c : Nat)
    (hM : MinLenSound false (decodeB s).length minLen attempt)
    (h : hasMinRequiredBytes s c minLen = false) (hc : c ≤ s.length) :
    ∀ p, p ≤ (decodeB s).length → c ≤ byteOff s p → attempt p = none := by
  intro p hp hcp
  refine Decidable.byContradiction fun ha => ?_
  have := Lemmas.Finders.minLen_ltr hM p hp ha
  have hr := remaining_bytes s p hp
  simp only [hasMinRequiredBytes, Bool.and_eq_false_iff, Bool.or_eq_false_iff, decide_eq_false_iff_not] at h
  omega

/-- **A filter that searches once.**  `Occ j`: the necessary condition of a match, at byte `j`.  `hbnd`: `Occ` holds
    at rune boundaries only, unless it holds at `startAt` itself (an empty prefix occurs everywhere). -/
theorem post_of_first (input : List Nat) (attempt : Nat → Option (Nat × Nat)) (ks : Nat)
    (hks : ks ≤ (decodeB input).length) (Occ : Nat → Prop) (r : Option Nat)
    (hr : First (fun o => Occ (byteOff input ks + o)) r)
    (hocc : ∀ p, p ≤ (decodeB input).length → attempt p ≠ none → Occ (byteOff input p))
    (hbnd : ∀ i, Occ i → Bnd input i ∨ Occ (byteOff input ks)) :
    FilterPost input attempt (byteOff input ks)
      (match (motive := Option Nat → Nat × Bool) r with
        | none => (0, false)
        | some o => (byteOff input ks + o, true)) := by
  obtain ⟨hsome, hnone⟩ := first_from hr
  cases r with
  | none => exact post_none fun p hp hsp => Decidable.byContradiction fun ha => hnone rfl _ hsp (hocc p hp ha)
  | some o =>
    obtain ⟨ho, hlt⟩ := hsome o rfl
    refine post_some ?_ (Nat.le_add_right _ o) fun p hp hsp hpo =>
      Decidable.byContradiction fun ha => hlt _ hsp hpo (hocc p hp ha)
    rcases hbnd _ ho with h | h
    · exact h
    · have : o = 0 := Decidable.byContradiction fun h0 => hlt _ (Nat.le_refl _) (by omega) h
      exact ⟨ks, hks, by omega⟩

/-- `r` answers a search, from byte `s` on, for the runes satisfying `Hit`: a position found is the byte offset of a
    rune and not behind any `Hit` rune from `s` on; nothing found means there is no such rune -/
def RuneSearch (input : List Nat) (Hit : Nat → Prop) (s : Nat) (r : Option Nat) : Prop :=
  (∀ i, r = some i → s ≤ i ∧ Starts input i ∧
    ∀ k, Hit k → s ≤ byteOff input k → i ≤ byteOff input k) ∧
  (r = none → ∀ k, Hit k → ¬ s ≤ byteOff input k)

theorem runeSearch_first (input : List Nat) (Hit Occ : Nat → Prop) (s : Nat) (r : Option Nat)
    (hr : First (fun o => Occ (s + o)) r)
    (hhit : ∀ k, Hit k → Occ (byteOff input k))
    (hlead : ∀ i, Occ i → Starts input i) :
    RuneSearch input Hit s (r.map (s + ·)) := by
  obtain ⟨hsome, hnone⟩ := first_from hr
  cases r with
  | none => exact ⟨nofun, fun _ k hk hsk => hnone rfl _ hsk (hhit k hk)⟩
  | some o =>
    obtain ⟨ho, hlt⟩ := hsome o rfl
    refine ⟨fun i hi => ?_, nofun⟩
    obtain rfl : s + o = i := Option.some.inj hi
    exact ⟨Nat.le_add_right s o, hlead _ ho, fun k hk hsk =>
      Decidable.byContradiction fun h => hlt _ hsk (by omega) (hhit k hk)⟩

theorem runeSearch_seg (input : List Nat) (Hit : Nat → Prop) (Q : Nat → Bool) (ks : Nat)
    (hks : ks ≤ (decodeB input).length)
    (hhit : ∀ k, Hit k → ∃ c, (runesOf input)[k]? = some c ∧ Q c = true) :
    RuneSearch input Hit (byteOff input ks)
      ((firstSeg Q ((decodeB input).drop ks) 0).map (byteOff input ks + ·)) := by
  obtain ⟨r, hr, he⟩ := firstSeg_first Q ((decodeB input).drop ks) 0
  -- a `Hit` rune from `ks` on is a segment of the rest of the decoding that satisfies `Q`
  have hit_at : ∀ k, Hit k → byteOff input ks ≤ byteOff input k →
      ks ≤ k ∧ k ≤ (decodeB input).length ∧ ∃ seg, ((decodeB input).drop ks)[k - ks]? = some seg ∧ Q seg.1 = true :=
    fun k hk hsk => by
      obtain ⟨c, hc, hq⟩ := hhit k hk
      rw [runesOf, List.getElem?_map] at hc
      cases hs : (decodeB input)[k]? with
      | none => rw [hs] at hc; cases hc
      | some seg =>
        rw [hs, Option.map_some, Option.some.injEq] at hc
        have hk' := (List.getElem?_eq_some_iff.mp hs).1
        have hle := (byteOff_le_iff input ks k hks).mp hsk
        exact ⟨hle, by omega, seg, by rw [List.getElem?_drop, ← hs]; congr 1; omega, hc ▸ hq⟩
  rw [he]
  cases r with
  | none => exact ⟨nofun, fun _ k hk hsk => hr.2 rfl _ (hit_at k hk hsk).2.2⟩
  | some k =>
    obtain ⟨⟨seg, hseg, _⟩, hlt⟩ := hr.1 k rfl
    have hk : ks + k < (decodeB input).length := by
      have := (List.getElem?_eq_some_iff.mp hseg).1
      simp only [List.length_drop] at this; omega
    have hoff : byteOff input ks + (0 + (((decodeB input).drop ks).map (·.2) |>.take k).sum) = byteOff input (ks + k) := by
      rw [byteOff_add input ks k hks, Nat.zero_add, ← decodeB_drop ks input hks]; rfl
    refine ⟨fun i hi => ?_, nofun⟩
    obtain rfl : byteOff input (ks + k) = i := hoff.symm.trans (Option.some.inj hi)
    refine ⟨byteOff_mono input _ _ (Nat.le_add_right ks k), ⟨ks + k, hk, rfl⟩, fun k' hk' hsk => ?_⟩
    obtain ⟨h1, h2, h3⟩ := hit_at k' hk' hsk
    exact byteOff_mono input _ _ (Decidable.byContradiction fun h => hlt (k' - ks) (by omega) h3)

/-- **The shared argument of the three fixed-distance filters.**  `Hit k`: the searched item sits at rune `k`; every
    match from rune `p` has a hit at `p + d`; `idx` is a search for `Hit` runes; the loop resumes behind a rejected
    hit, at most one rune behind it.  `Good s`: what `idx` needs of the position it starts from (a rune boundary for
    `strings.IndexRune`, nothing for the searches that resume one byte on). -/
theorem fixedLoop_sound (input : List Nat) (attempt : Nat → Option (Nat × Nat)) (minLen d ks : Nat)
    (hks : ks ≤ (decodeB input).length)
    (Hit : Nat → Prop) (Good : Nat → Prop) (guard : Nat → Bool) (idx : Nat → Option Nat) (step : Nat → Step) (next : Nat → Nat)
    (hM : MinLenSound false (decodeB input).length minLen attempt)
    (hFact : ∀ p, p ≤ (decodeB input).length → attempt p ≠ none → Hit (p + d))
    (hguardB : ∀ s, guard s = true → s < input.length + 1)
    (hG0 : Good (byteOff input ks))
    (hexit : ∀ s, guard s = false → ∀ k, Hit k → ¬ s ≤ byteOff input k)
    (hidx : ∀ s, Good s → RuneSearch input Hit s (idx s))
    (hstep : ∀ s i, Good s → idx s = some i →
      step i = fixedStep input (byteOff input ks) d minLen i (next i) ∧
      i < next i ∧ (∀ ki, ki < (decodeB input).length → byteOff input ki = i → next i ≤ byteOff input (ki + 1)) ∧
      Good (next i)) :
    FilterPost input attempt (byteOff input ks) (loop guard idx step (input.length + 2) (byteOff input ks)) := by
  -- from a position that no hit of a match precedes, a search that finds no hit leaves no match
  have no_match : ∀ s, (∀ p, ks ≤ p → p ≤ (decodeB input).length → attempt p ≠ none → s ≤ byteOff input (p + d)) →
      (∀ k, Hit k → ¬ s ≤ byteOff input k) → FilterPost input attempt (byteOff input ks) (0, false) :=
    fun s h3 hno => post_none fun p hp hsp => Decidable.byContradiction fun ha =>
      hno (p + d) (hFact p hp ha) (h3 p ((byteOff_le_iff input ks p hks).mp hsp) hp ha)
  apply loop_rule guard idx step
    (fun s => byteOff input ks ≤ s ∧ Good s ∧
      ∀ p, ks ≤ p → p ≤ (decodeB input).length → attempt p ≠ none → s ≤ byteOff input (p + d))
    (FilterPost input attempt (byteOff input ks)) (input.length + 1) hguardB
  · rintro s ⟨_, _, h3⟩ hg
    exact no_match s h3 (hexit s hg)
  · rintro s ⟨_, h2, h3⟩ _ hi
    exact no_match s h3 ((hidx s h2).2 hi)
  · rintro s i ⟨h1, h2, h3⟩ _ hi
    obtain ⟨hsi, ⟨ki, hki, rfl⟩, hmin⟩ := (hidx s h2).1 i hi
    obtain ⟨hstep, hnx1, hnx2, hnx3⟩ := hstep s _ h2 hi
    have hkski : ks ≤ ki := (byteOff_le_iff input ks ki hks).mp (by omega)
    -- every match from `ks` on has its hit at or after `ki`
    have hall : ∀ p, byteOff input ks ≤ byteOff input p → p ≤ (decodeB input).length → attempt p ≠ none →
        ks ≤ p ∧ ki ≤ p + d := fun p hsp hp ha => by
      have hkp := (byteOff_le_iff input ks p hks).mp hsp
      have hh := hFact p hp ha
      exact ⟨hkp, (byteOff_le_iff input ki (p + d) (by omega)).mp
        (hmin _ hh (h3 p hkp hp ha))⟩
    rw [hstep, fixedStep, candidateStart_spec input ks d ki (by omega) hkski]
    by_cases hd : ks + d ≤ ki
    · rw [if_pos hd]
      dsimp only
      cases hmb : hasMinRequiredBytes input (byteOff input (ki - d)) minLen with
      | true =>
        refine post_some ⟨ki - d, by omega, rfl⟩ (byteOff_mono input _ _ (by omega)) fun p hp hsp hlt =>
          Decidable.byContradiction fun ha => ?_
        have := byteOff_mono input (ki - d) p (by have := hall p hsp hp ha; omega)
        omega
      | false =>
        refine post_none fun p hp hsp => Decidable.byContradiction fun ha => ha ?_
        exact minBytes_false input attempt minLen _ hM hmb (byteOff_le_len input _) p hp
          (byteOff_mono input (ki - d) p (by have := hall p hsp hp ha; omega))
    · rw [if_neg hd]
      refine ⟨by omega, by omega, hnx3, fun p hkp hp ha => Nat.le_trans (hnx2 ki hki rfl) ?_⟩
      exact byteOff_mono input _ _ (by have := hall p (byteOff_mono input _ _ hkp) hp ha; omega)
  · omega
  · exact ⟨Nat.le_refl _, hG0, fun p hkp _ _ => byteOff_mono input _ _ (by omega)⟩

/-! ## a literal at a position, in bytes and in runes -/

abbrev litEq (ic : Bool) : Nat → Nat → Bool := if ic then eqAsciiFold else eqExact

/-- the condition under which the byte search for `pre` is meaningful: valid UTF-8 without U+FFFD, or ASCII when
    the comparison folds ASCII case -/
def PrefixOK (ic : Bool) (pre : List Nat) : Prop := if ic then isASCIIString pre = true else Clean pre

def runeOcc (ic : Bool) (input pre : List Nat) (p : Nat) : Prop :=
  occursAt (if ic then eqAsciiFold else eqExact) (runesOf pre) (runesOf input) p = true

theorem occurs_lt (eq : Nat → Nat → Bool) (input lit : List Nat) (k : Nat) (hne : lit ≠ [])
    (h : occursAt eq (runesOf lit) (runesOf input) k = true) : k < (decodeB input).length :=
  Decidable.byContradiction fun hk => by
    rw [occursAt, List.drop_eq_nil_of_le (by rw [runesOf_length]; omega)] at h
    cases hr : runesOf lit with
    | nil => exact hne ((decodeB_eq_nil lit).mp (by simpa [runesOf] using hr))
    | cons r rs => rw [hr] at h; simp [prefixOf] at h

theorem occursAt_bytes (ic : Bool) (input pre : List Nat) (p : Nat) (hp : p ≤ (decodeB input).length)
    (hok : PrefixOK ic pre) (h : runeOcc ic input pre p) : occursAt (litEq ic) pre input (byteOff input p) = true := by
  unfold runeOcc occursAt at h
  rw [← runesOf_drop input p hp] at h
  cases ic with
  | true =>
    rw [runesOf_ascii pre hok] at h
    exact bytes_of_runes_fold pre _ hok h
  | false => exact (occursAt_exact_prefix pre input _).mpr (bytes_of_runes_exact pre _ hok h)

theorem starts_of_occ (ic : Bool) (input pre : List Nat) (j : Nat) (hne : pre ≠ []) (hok : PrefixOK ic pre)
    (h : occursAt (litEq ic) pre input j = true) : Starts input j := by
  match pre, hne with
  | c :: ps, hne =>
    obtain ⟨t, ht, he⟩ := occursAt_head _ c ps input j h
    refine starts_of_not_cont input j t ht ?_
    cases ic with
    | true =>
      simp only [PrefixOK, if_true, isASCIIString, List.all_cons, Bool.and_eq_true, decide_eq_true_eq] at hok
      exact not_cont_of_ascii (by rw [← fold_lt_iff, of_decide_eq_true he, fold_lt_iff]; exact hok.1)
    | false =>
      obtain ⟨b, t', hb, hcont⟩ := goodSeq_head (c :: ps) (Or.inl (clean_head (c :: ps) hne hok).1)
      obtain rfl : t = b := (of_decide_eq_true he).trans (List.cons.inj hb).1
      exact hcont

theorem firstOcc_search (ic : Bool) (input pre : List Nat) (s : Nat) :
    First (fun o => occursAt (litEq ic) pre input (s + o) = true)
      (if ic then indexStringIgnoreCaseASCII (input.drop s) pre else indexBytes (input.drop s) pre) := by
  cases ic with
  | true =>
    exact (indexStringIgnoreCaseASCII_spec (input.drop s) pre).congr fun o => by
      simp only [occursAt, List.drop_drop, litEq, if_true]
  | false =>
    exact (first_suffix (fun u => pre.isPrefixOf u) input s).congr fun o =>
      List.isPrefixOf_iff_prefix.trans (occursAt_exact_prefix pre input _).symm

/-! ## the fixed-distance filters -/

/-- every filter body starts with the `MinRequiredLength` guard -/
theorem guarded_sound (input : List Nat) (attempt : Nat → Option (Nat × Nat)) (minLen : Nat) (g : Filter)
    (hM : MinLenSound false (decodeB input).length minLen attempt)
    (h : ∀ ks, ks ≤ (decodeB input).length → FilterPost input attempt (byteOff input ks) (g input (byteOff input ks))) :
    StrFilterSound input attempt
      (fun input startAt => if !hasMinRequiredBytes input startAt minLen then (0, false) else g input startAt) := by
  rintro _ ⟨ks, hks, rfl⟩
  dsimp only
  cases hmb : hasMinRequiredBytes input (byteOff input ks) minLen with
  | false => exact post_none (minBytes_false input attempt minLen _ hM hmb (byteOff_le_len input ks))
  | true => exact h ks hks

theorem fixedStringFilter_sound (lit : List Nat) (d minLen : Nat) (input : List Nat) (attempt : Nat → Option (Nat × Nat))
    (hne : lit ≠ []) (hc : Clean lit)
    (hC : ∀ p, p ≤ (decodeB input).length → attempt p ≠ none → occursAt eqExact (runesOf lit) (runesOf input) (p + d) = true)
    (hM : MinLenSound false (decodeB input).length minLen attempt) :
    StrFilterSound input attempt (fixedStringFilterBody lit d minLen) := by
  refine guarded_sound input attempt minLen _ hM fun ks hks => ?_
  have hpos : 0 < lit.length := List.length_pos_iff.mpr hne
  have hlt := fun k => occurs_lt eqExact input lit k hne
  have hbytes : ∀ k, runeOcc false input lit k → occursAt eqExact lit input (byteOff input k) = true := fun k hk =>
    occursAt_bytes false input lit k (Nat.le_of_lt (hlt k hk)) hc hk
  apply fixedLoop_sound input attempt minLen d ks hks (runeOcc false input lit) (fun _ => True)
    _ _ _ (· + 1) hM hC
  · intro s hg; simp at hg; omega
  · trivial
  · intro s hg k hk hsk
    have hl := occursAt_fits' eqExact lit input _ hne (hbytes k hk)
    simp only [decide_eq_false_iff_not] at hg; omega
  · intro s _
    exact runeSearch_first input _ (fun i => occursAt eqExact lit input i = true) s _
      (firstOcc_search false input lit s) hbytes (fun i hi => starts_of_occ false input lit i hne hc hi)
  · exact fun s i _ _ => ⟨rfl, by omega, fun ki hki hoff => hoff ▸ byteOff_lt input ki _ (Nat.lt_succ_self ki) hki, trivial⟩

theorem setFilter_sound (sc : Scanner) (Q : Nat → Bool) (minLen : Nat) (input : List Nat) (attempt : Nat → Option (Nat × Nat))
    (hQ : ∀ c, Q c = true → c < 128)
    (hidx : ∀ u, sc.index u = indexByteP Q u)
    (hC : ∀ p, p ≤ (decodeB input).length → attempt p ≠ none → memAt Q (runesOf input) (p + sc.distance) = true)
    (hM : MinLenSound false (decodeB input).length minLen attempt) :
    StrFilterSound input attempt (setFilterBody sc minLen) := by
  refine guarded_sound input attempt minLen _ hM fun ks hks => ?_
  -- a rune satisfying `Q` is one ASCII byte
  have hitB : ∀ k, memAt Q (runesOf input) k = true →
      k < (decodeB input).length ∧ headSat Q (input.drop (byteOff input k)) = true := fun k hk => by
    unfold memAt at hk
    cases hg : (runesOf input)[k]? with
    | none => rw [hg] at hk; cases hk
    | some c =>
      rw [hg] at hk
      obtain ⟨a1, a2⟩ := ascii_at input k c hg (hQ c hk)
      exact ⟨a1, (headSat_drop Q input _).mpr ⟨c, a2, hk⟩⟩
  apply fixedLoop_sound input attempt minLen sc.distance ks hks
    (fun k => memAt Q (runesOf input) k = true) (fun _ => True)
    _ _ _ (· + 1) hM hC
  · intro s hg; simp at hg; omega
  · trivial
  · intro s hg k hk hsk
    obtain ⟨b, hb, _⟩ := (headSat_drop Q input _).mp (hitB k hk).2
    have := (List.getElem?_eq_some_iff.mp hb).1
    simp only [decide_eq_false_iff_not] at hg; omega
  · intro s _
    rw [hidx]
    refine runeSearch_first input _ (fun i => headSat Q (input.drop i) = true) s _ (first_suffix _ input s)
      (fun k hk => (hitB k hk).2) fun i hi => ?_
    obtain ⟨b, hb, hqb⟩ := (headSat_drop Q input i).mp hi
    exact starts_of_not_cont input i b hb (not_cont_of_ascii (hQ b hqb))
  · exact fun s i _ _ => ⟨rfl, by omega, fun ki hki hoff => hoff ▸ byteOff_lt input ki _ (Nat.lt_succ_self ki) hki, trivial⟩

/-! ### `strings.IndexRune` from a rune boundary -/

theorem encodeRune_head (ch : Nat) : ∃ b t, encodeRune ch = b :: t ∧ isCont b = false := by
  unfold encodeRune
  by_cases h1 : ch < 0x80
  · exact ⟨_, _, if_pos h1, not_cont_of_ascii h1⟩
  rw [if_neg h1]
  by_cases h2 : ch < 0x800
  · exact ⟨_, _, if_pos h2, not_cont_of_lead _ _ (by decide)⟩
  rw [if_neg h2]
  by_cases h3 : (!validRune ch) = true
  · exact ⟨_, _, if_pos h3, by decide⟩
  rw [if_neg h3]
  by_cases h4 : ch < 0x10000
  · exact ⟨_, _, if_pos h4, not_cont_of_lead _ _ (by decide)⟩
  · exact ⟨_, _, if_neg h4, not_cont_of_lead _ _ (by decide)⟩

/-- `strings.IndexRune(input[s:], ch)` from a rune boundary: a byte for an ASCII rune, the `range` loop for U+FFFD,
    nothing for a surrogate or a rune above U+10FFFF (no decoded rune is one), the encoding otherwise -/
theorem indexRune_spec (input : List Nat) (ch s : Nat) (hB : Bnd input s) :
    RuneSearch input (fun k => (runesOf input)[k]? = some ch) s ((indexRune (input.drop s) ch).map (s + ·)) := by
  unfold indexRune
  by_cases h1 : ch < 0x80
  · rw [if_pos h1]
    refine runeSearch_first input _ (fun i => headSat (· == ch) (input.drop i) = true) s _ (first_suffix _ input s)
      (fun k hk => (headSat_drop _ input _).mpr ⟨ch, (ascii_at input k ch hk h1).2, beq_self_eq_true ch⟩)
      fun i hi => ?_
    obtain ⟨b, hb, hqb⟩ := (headSat_drop _ input i).mp hi
    exact starts_of_not_cont input i b hb (not_cont_of_ascii (by rw [beq_iff_eq] at hqb; omega))
  rw [if_neg h1]
  by_cases h2 : ch = 0xFFFD
  · obtain ⟨ks, hks, rfl⟩ := hB
    rw [if_pos h2, decodeB_drop ks input hks]
    exact runeSearch_seg input _ (· == 0xFFFD) ks hks fun k hk => ⟨ch, hk, by rw [h2]; rfl⟩
  rw [if_neg h2]
  by_cases hv : (!validRune ch) = true
  · rw [if_pos hv]
    refine ⟨nofun, fun _ k hk _ => ?_⟩
    rw [runesOf_valid input ch (List.mem_of_getElem? hk)] at hv
    cases hv
  · rw [if_neg hv]
    refine runeSearch_first input _ (fun i => (encodeRune ch).isPrefixOf (input.drop i) = true) s _
      (first_suffix _ input s)
      (fun k hk => List.isPrefixOf_iff_prefix.mpr (encode_at input k ch hk h2).2) fun i hi => ?_
    obtain ⟨b, t, hbt, hb⟩ := encodeRune_head ch
    exact starts_of_not_cont input i b (head_of_prefix input b t i (hbt ▸ List.isPrefixOf_iff_prefix.mp hi)) hb

/-- for U+FFFD the hits include every invalid byte of the input; the resumption `searchAt = byteIndex + size` uses the
    width of the rune actually found (one byte for an invalid byte) -/
theorem fixedCharFilter_sound (ch d minLen : Nat) (input : List Nat) (attempt : Nat → Option (Nat × Nat))
    (hC : ∀ p, p ≤ (decodeB input).length → attempt p ≠ none → (runesOf input)[p + d]? = some ch)
    (hM : MinLenSound false (decodeB input).length minLen attempt) :
    StrFilterSound input attempt (fixedCharFilterBody ch d minLen) := by
  refine guarded_sound input attempt minLen _ hM fun ks hks => ?_
  apply fixedLoop_sound input attempt minLen d ks hks
    (fun k => (runesOf input)[k]? = some ch) (Bnd input)
    _ _ _ (fun i => i + (decodeRune (input.drop i)).2) hM hC
  · intro s hg; simp at hg; omega
  · exact ⟨ks, hks, rfl⟩
  · intro s hg k _ hsk
    have := byteOff_le_len input k
    simp at hg; omega
  · exact fun s hB => indexRune_spec input ch s hB
  · intro s i hB hi
    obtain ⟨_, ⟨ki, hki, rfl⟩, _⟩ := (indexRune_spec input ch s hB).1 _ hi
    have hw := decodeRune_size_pos _ (decodeB_get input ki hki).2
    have hsucc := byteOff_succ_at input ki hki
    refine ⟨?_, by omega, fun ki' hki' hoff => ?_, ⟨ki + 1, hki, hsucc⟩⟩
    · have hne : ¬ (decodeRune (input.drop (byteOff input ki))).2 = 0 := by omega
      simp only [hne, if_false]
      unfold StringFilter.fixedStep
      cases candidateStart input (byteOff input ks) d (byteOff input ki) with
      | none => rfl
      | some c => dsimp only; cases hasMinRequiredBytes input c minLen <;> rfl
    · rw [byteOff_succ_at input ki' hki', hoff]; exact Nat.le_refl _

/-! ## the prefix filters -/

theorem prefixFilter_sound (pre : List Nat) (ic : Bool) (minLen : Nat) (input : List Nat) (attempt : Nat → Option (Nat × Nat))
    (hne : pre ≠ []) (hok : PrefixOK ic pre)
    (hP : ∀ p, p ≤ (decodeB input).length → attempt p ≠ none → runeOcc ic input pre p)
    (hM : MinLenSound false (decodeB input).length minLen attempt) :
    StrFilterSound input attempt (prefixFilterBody pre ic minLen) := by
  refine guarded_sound input attempt minLen _ hM fun ks hks => ?_
  exact post_of_first input attempt ks hks (fun j => occursAt (litEq ic) pre input j = true) _
    (firstOcc_search ic input pre _) (fun p hp ha => occursAt_bytes ic input pre p hp hok (hP p hp ha))
    (fun i hi => Or.inl (starts_of_occ ic input pre i hne hok hi).bnd)

/-! ### `indexAnyPrefixFallback` -/

theorem foldl_bestOf (P : List Nat → Nat → Prop) (srch : List Nat → Option Nat) :
    ∀ (prefixes : List (List Nat)), (∀ pre ∈ prefixes, First (P pre) (srch pre)) →
    ∀ (Q : Nat → Prop) (init : Option Nat), First Q init →
      First (fun o => Q o ∨ ∃ pre ∈ prefixes, P pre o) (prefixes.foldl (fun b pre => bestOf b (srch pre)) init) := by
  intro prefixes
  induction prefixes with
  | nil => intro _ Q init hi; exact hi.congr fun o => by simp
  | cons pre rest ih =>
    intro h Q init hi
    exact (ih (fun p hp => h p (List.mem_cons_of_mem _ hp)) _ _
      (first_bestOf hi (h pre List.mem_cons_self))).congr fun o => by simp [or_assoc]

/-- every prefix is searched in the whole rest of the input (the seeded change C02b truncated the haystack) -/
theorem prefixesFallback_sound (prefixes : List (List Nat)) (ic : Bool) (minLen : Nat) (input : List Nat)
    (attempt : Nat → Option (Nat × Nat))
    (hok : ∀ pre ∈ prefixes, PrefixOK ic pre)
    (hP : ∀ p, p ≤ (decodeB input).length → attempt p ≠ none → ∃ pre ∈ prefixes, runeOcc ic input pre p)
    (hM : MinLenSound false (decodeB input).length minLen attempt) :
    StrFilterSound input attempt (indexAnyPrefixFallback prefixes ic minLen) := by
  refine guarded_sound input attempt minLen _ hM fun ks hks => ?_
  refine post_of_first input attempt ks hks (fun j => ∃ pre ∈ prefixes, occursAt (litEq ic) pre input j = true) _
    ((foldl_bestOf (fun pre o => occursAt (litEq ic) pre input (byteOff input ks + o) = true) _ prefixes
      (fun pre _ => firstOcc_search ic input pre _) (fun _ => False) none (first_none fun _ => id)).congr
      fun o => by simp) ?_ ?_
  · intro p hp ha
    obtain ⟨pre, hpre, ho⟩ := hP p hp ha
    exact ⟨pre, hpre, occursAt_bytes ic input pre p hp (hok pre hpre) ho⟩
  · rintro i ⟨pre, hpre, ho⟩
    by_cases hemp : pre = []
    · exact Or.inr ⟨pre, hpre, hemp ▸ rfl⟩
    · exact Or.inl (starts_of_occ ic input pre i hemp (hok pre hpre) ho).bnd

/-! ### `asciiStringSetPrefixFilter.index` -/

/-- invariant of the loop at `s`: no prefix occurs at a byte of `[startAt, s)` -/
theorem asciiSetFilter_sound (f : AsciiSetFilter) (input : List Nat) (attempt : Nat → Option (Nat × Nat))
    (hne : ∀ pre ∈ f.prefixes, pre ≠ [] ∧ isASCIIString pre = true)
    (hfirst : ∀ pre ∈ f.prefixes, ∀ c t, pre = c :: t → f.firstChars.contains c = true)
    (hP : ∀ p, p ≤ (decodeB input).length → attempt p ≠ none → ∃ pre ∈ f.prefixes, runeOcc false input pre p)
    (hM : MinLenSound false (decodeB input).length f.minRequiredBytes attempt) :
    StrFilterSound input attempt f.index := by
  refine guarded_sound input attempt f.minRequiredBytes _ hM fun ks hks => ?_
  -- no match at a byte offset at which no prefix occurs
  have none_at : ∀ p, p ≤ (decodeB input).length →
      (¬ ∃ pre ∈ f.prefixes, pre <+: input.drop (byteOff input p)) → attempt p = none := fun p hp hno =>
    Decidable.byContradiction fun ha => hno <| by
      obtain ⟨pre, hpre, ho⟩ := hP p hp ha
      exact ⟨pre, hpre, (occursAt_exact_prefix pre input _).mp
        (occursAt_bytes false input pre p hp (clean_ascii pre (hne pre hpre).2) ho)⟩
  -- an occurrence of a prefix at `j` puts a first character at `j`
  have hhead : ∀ j, (∃ pre ∈ f.prefixes, pre <+: input.drop j) →
      headSat (fun b => f.firstChars.contains b) (input.drop j) = true ∧ j < input.length := by
    rintro j ⟨pre, hpre, hp⟩
    match pre, (hne pre hpre).1 with
    | c :: t, _ =>
      have hg := head_of_prefix input c t j hp
      exact ⟨(headSat_drop _ input j).mpr ⟨c, hg, hfirst _ hpre c t rfl⟩, (List.getElem?_eq_some_iff.mp hg).1⟩
  have hfs := fun s => first_from (Occ := fun j => headSat (fun b => f.firstChars.contains b) (input.drop j) = true)
    (first_suffix _ input s)
  apply loop_rule _ _ _
    (fun s => byteOff input ks ≤ s ∧ ∀ j, byteOff input ks ≤ j → j < s → ¬ ∃ pre ∈ f.prefixes, pre <+: input.drop j)
    (FilterPost input attempt (byteOff input ks)) (input.length + 1)
  · intro s hg; simp at hg; omega
  · rintro s ⟨_, h2⟩ hg
    refine post_none fun p hp hsp => none_at p hp fun h => h2 _ hsp ?_ h
    have := (hhead _ h).2
    simp only [decide_eq_false_iff_not] at hg; omega
  · rintro s ⟨_, h2⟩ _ hi
    have hr := (hfs s).2 (Option.map_eq_none_iff.mp hi)
    refine post_none fun p hp hsp => none_at p hp fun h => ?_
    by_cases hps : byteOff input p < s
    · exact h2 _ hsp hps h
    · exact hr _ (by omega) (hhead _ h).1
  · rintro s i ⟨h1, h2⟩ _ hi
    obtain ⟨o, ho, rfl⟩ := Option.map_eq_some_iff.mp hi
    have hlt := ((hfs s).1 o ho).2
    have skip : ∀ j, byteOff input ks ≤ j → j < s + o → ¬ ∃ pre ∈ f.prefixes, pre <+: input.drop j :=
      fun j hj hji h => by
        by_cases hjs : j < s
        · exact h2 j hj hjs h
        · exact hlt j (by omega) hji (hhead _ h).1
    cases hany : (f.bucket (input.getD (s + o) 0)).any
      (fun p => decide (p.length ≤ input.length - (s + o)) && p.isPrefixOf (input.drop (s + o))) with
    | true =>
      simp only [if_true]
      obtain ⟨pre, hpre, hq⟩ := List.any_eq_true.mp hany
      have hmem := (hne pre (List.mem_filter.mp hpre).1)
      obtain ⟨k, hk, hoff⟩ := starts_of_occ false input pre (s + o) hmem.1 (clean_ascii pre hmem.2)
        ((occursAt_exact_prefix pre input _).mpr (List.isPrefixOf_iff_prefix.mp (Bool.and_eq_true_iff.mp hq).2))
      exact post_some ⟨k, Nat.le_of_lt hk, hoff⟩ (by omega) fun p hp hsp hlt' => none_at p hp (skip _ hsp hlt')
    | false =>
      simp only [Bool.false_eq_true, if_false]
      refine ⟨by omega, by omega, fun j hj hji h => ?_⟩
      by_cases hje : j = s + o
      · -- a prefix that occurs at the hit is in the bucket of the byte found there, and fits
        obtain ⟨pre, hpre, hp⟩ := h
        match pre, (hne pre hpre).1, hp with
        | c :: t, _, hp =>
          have hg := head_of_prefix input c t j hp
          have hl := hp.length_le
          rw [List.length_drop] at hl
          refine Bool.false_ne_true (hany ▸ List.any_eq_true.mpr ⟨c :: t, List.mem_filter.mpr ⟨hpre, ?_⟩, ?_⟩)
          · simp [← hje, List.getD_eq_getElem?_getD, hg]
          · rw [← hje, Bool.and_eq_true, decide_eq_true_eq]
            exact ⟨hl, List.isPrefixOf_iff_prefix.mpr hp⟩
      · exact skip j hj (by omega) h
  · omega
  · exact ⟨Nat.le_refl _, fun j h1 h2 => by omega⟩

theorem compile_spec (prefixes : List (List Nat)) (minLen : Nat) (f : AsciiSetFilter)
    (h : compileASCIIStringSetPrefixFilter prefixes false minLen = some f) :
    f.prefixes = prefixes ∧ f.minRequiredBytes = minLen ∧
    (∀ pre ∈ prefixes, pre ≠ [] ∧ isASCIIString pre = true) ∧
    (∀ pre ∈ prefixes, ∀ c t, pre = c :: t → f.firstChars.contains c = true) := by
  unfold compileASCIIStringSetPrefixFilter at h
  rw [if_neg Bool.false_ne_true] at h
  obtain ⟨hall, h⟩ := Option.ite_none_left_eq_some.mp h
  have hall : ∀ pre ∈ prefixes, pre ≠ [] ∧ isASCIIString pre = true := by simpa using hall
  obtain ⟨_, h⟩ := Option.ite_none_left_eq_some.mp h
  obtain ⟨_, h⟩ := Option.ite_none_left_eq_some.mp h
  obtain rfl := Option.some.inj h
  refine ⟨rfl, rfl, hall, fun pre hpre c t hct => ?_⟩
  subst hct
  have hasc := (hall _ hpre).2
  simp only [isASCIIString, List.all_cons, Bool.and_eq_true, decide_eq_true_eq] at hasc
  simp only [List.contains_iff_mem, List.mem_filter, List.mem_range]
  exact ⟨by omega, List.any_eq_true.mpr ⟨_, hpre, by simp⟩⟩

/-! ### `stringLiteralAfterLoopFilter` -/

/-- the literal of a `LiteralAfterLoop` record at rune `k` of the decoded text -/
def litAtB (l : LitB) (text : List Nat) (k : Nat) : Prop :=
  if l.str.isEmpty = false then
    occursAt (if l.strIgnoreCase then eqAsciiFold else eqExact) (runesOf l.str) text k = true
  else if l.chars.isEmpty = false then memAt (fun c => l.chars.contains c) text k = true
  else text[k]? = some l.char

/-- by the three shapes of the literal (string, one of `Chars`, `Char`): each search answers `none` only if no rune from
    `ks` on carries the literal (`firstOcc_search`, `runeSearch_seg`, `indexRune_spec`) -/
theorem hasLiteral_of_litAtB (l : LitB) (input : List Nat) (ks k : Nat) (hks : ks ≤ (decodeB input).length)
    (hstr : l.str.isEmpty = false → PrefixOK l.strIgnoreCase l.str) (hk : ks ≤ k)
    (hlit : litAtB l (runesOf input) k) : stringHasLiteralAfterLoop input (byteOff input ks) l = true := by
  have hsk := byteOff_mono input ks k hk
  unfold stringHasLiteralAfterLoop
  unfold litAtB at hlit
  cases hse : l.str.isEmpty with
  | false =>
    rw [if_pos hse] at hlit
    have hne : l.str ≠ [] := by rintro h; rw [h] at hse; cases hse
    have hlt := occurs_lt _ input l.str k hne hlit
    have hob := occursAt_bytes l.strIgnoreCase input l.str k (by omega) (hstr hse) hlit
    have hfs := (first_from (Occ := fun j => occursAt (litEq l.strIgnoreCase) l.str input j = true)
      (firstOcc_search l.strIgnoreCase input l.str (byteOff input ks))).2
    rw [if_pos (by decide)]
    cases hci : l.strIgnoreCase <;> simp only [hci, if_true, Bool.false_eq_true, if_false] at hfs hob ⊢ <;>
      exact Option.isSome_iff_ne_none.mpr fun hn => hfs hn _ hsk hob
  | true =>
    rw [if_neg (by rw [hse]; decide)] at hlit
    rw [if_neg (by decide)]
    cases hce : l.chars.isEmpty with
    | false =>
      rw [if_pos hce, memAt] at hlit
      rw [if_pos (by decide), indexAnyRunes, decodeB_drop ks input hks]
      refine Option.isSome_iff_ne_none.mpr fun hn => ?_
      cases hg : (runesOf input)[k]? with
      | none => rw [hg] at hlit; cases hlit
      | some c =>
        rw [hg] at hlit
        refine (runeSearch_seg input (fun k' => k' = k) _ ks hks fun k' hk' => ⟨c, hk' ▸ hg, ?_⟩).2
          (by rw [hn]; rfl) k rfl hsk
        have hv := runesOf_valid input c (List.mem_of_getElem? hg)
        simp only [List.contains_iff_mem, List.mem_map] at hlit ⊢
        exact ⟨c, by simpa using hlit, by simp [sanitize, hv]⟩
    | true =>
      rw [if_neg (by rw [hce]; decide)] at hlit
      rw [if_neg (by decide), containsRune]
      exact Option.isSome_iff_ne_none.mpr fun hn =>
        (indexRune_spec input l.char _ ⟨ks, hks, rfl⟩).2 (by rw [hn]; rfl) k hlit hsk

theorem literalAfterLoopFilter_sound (l : LitB) (minLen : Nat) (input : List Nat) (attempt : Nat → Option (Nat × Nat))
    (hstr : l.str.isEmpty = false → PrefixOK l.strIgnoreCase l.str)
    (hL : ∀ p, p ≤ (decodeB input).length → attempt p ≠ none → ∃ k, p ≤ k ∧ litAtB l (runesOf input) k)
    (hM : MinLenSound false (decodeB input).length minLen attempt) :
    StrFilterSound input attempt (literalAfterLoopFilterBody l minLen) := by
  refine guarded_sound input attempt minLen _ hM fun ks hks => ?_
  cases hhas : stringHasLiteralAfterLoop input (byteOff input ks) l with
  | true => exact post_some ⟨ks, hks, rfl⟩ (Nat.le_refl _) fun p _ h1 h2 => by omega
  | false =>
    refine post_none fun p hp hsp => Decidable.byContradiction fun ha => ?_
    obtain ⟨k, hpk, hlit⟩ := hL p hp ha
    have := hasLiteral_of_litAtB l input ks k hks hstr
      (Nat.le_trans ((byteOff_le_iff input ks p hks).mp hsp) hpk) hlit
    rw [hhas] at this; cases this

/-! ## `newStringPrefixFilter`: whatever is installed is sound -/

/-- `charInFixedDistanceSet` on the fields the filter reads (no `CharSet`) -/
def setMemB (s : SetB) (ch : Nat) : Bool :=
  if !s.chars.isEmpty then (if s.negated then !s.chars.contains ch else s.chars.contains ch)
  else match s.range with
    | some (lo, hi) => if s.negated then !(decide (lo ≤ ch) && decide (ch ≤ hi)) else decide (lo ≤ ch) && decide (ch ≤ hi)
    | none => false

/-- the facts `newStringPrefixFilter`'s choice consumes, per find mode, about the attempts of the program on the
    DECODED input (`runesOf input`); positions and distances in RUNES.  These are the fact predicates of the
    candidate finders (C03 `OptFacts`, delivered by C04) with the literal taken as the runes of the published
    string; for the two ignore-case modes the comparison is ASCII folding, which is what the byte search
    performs (`findLeadingStringsLeftToRight` itself compares with `unicode.ToLower` — a weaker fact).  `.leadingSetLtr`
    asks `range.isSome → chars = []`: the scanner reads `Range` first, `setMemB` reads `Chars` first. -/
def StrFactsSound (o : StrOpts) (input : List Nat) (attempt : Nat → Option (Nat × Nat)) : Prop :=
  MinLenSound false (decodeB input).length o.minLen attempt ∧
  match o.mode with
  | .leadingStringLtr => ∀ p, p ≤ (decodeB input).length → attempt p ≠ none → runeOcc false input o.leadingPrefix p
  | .leadingStringOrdinalIgnoreCaseLtr => ∀ p, p ≤ (decodeB input).length → attempt p ≠ none → runeOcc true input o.leadingPrefix p
  | .leadingStringsLtr => ∀ p, p ≤ (decodeB input).length → attempt p ≠ none → ∃ pre ∈ o.prefixes, runeOcc false input pre p
  | .leadingStringsOrdinalIgnoreCaseLtr => ∀ p, p ≤ (decodeB input).length → attempt p ≠ none → ∃ pre ∈ o.prefixes, runeOcc true input pre p
  | .leadingSetLtr => ∀ set rest, o.sets = set :: rest → (set.range.isSome = true → set.chars = []) ∧
      ∀ p, p ≤ (decodeB input).length → attempt p ≠ none → memAt (setMemB set) (runesOf input) (p + set.distance.toNat) = true
  | .fixedDistanceCharLtr => ∀ p, p ≤ (decodeB input).length → attempt p ≠ none → (runesOf input)[p + o.fixedDistance.toNat]? = some o.fixedChar
  | .fixedDistanceStringLtr => ∀ p, p ≤ (decodeB input).length → attempt p ≠ none →
      occursAt eqExact (runesOf o.fixedString) (runesOf input) (p + o.fixedDistance.toNat) = true
  | .literalAfterLoopLtr => ∀ l, o.literalAfterLoop = some l →
      ∀ p, p ≤ (decodeB input).length → attempt p ≠ none → ∃ k, p ≤ k ∧ litAtB l (runesOf input) k
  | _ => True

theorem clean_of_not_containsRune (s : List Nat) (h : containsRune s 0xFFFD = false) : Clean s := by
  rw [containsRune, indexRune, if_neg (by decide), if_pos rfl] at h
  obtain ⟨r, hr, he⟩ := firstSeg_first (· == 0xFFFD) (decodeB s) 0
  rw [he] at h
  cases r with
  | some k => cases h
  | none =>
    intro seg hseg hfd
    obtain ⟨k, hk⟩ := List.getElem?_of_mem hseg
    exact hr.2 rfl k ⟨seg, hk, by rw [hfd]; rfl⟩

theorem prefixFilter_installed (pre : List Nat) (ic : Bool) (minLen : Nat) (f : Filter)
    (h : stringIndexPrefixFilter pre ic minLen = some f) :
    pre ≠ [] ∧ (ic = true → isASCIIString pre = true) ∧ f = prefixFilterBody pre ic minLen := by
  unfold stringIndexPrefixFilter at h
  obtain ⟨hne, h⟩ := Option.ite_none_left_eq_some.mp h
  obtain ⟨hasc, h⟩ := Option.ite_none_left_eq_some.mp h
  refine ⟨by rintro rfl; exact hne rfl, fun hic => ?_, (Option.some.inj h).symm⟩
  simpa [hic] using hasc

theorem scanner_spec (set : SetB) (sc : Scanner) (h : newASCIISetStringScanner set = some sc)
    (hwf : set.range.isSome = true → set.chars = []) :
    sc.distance = set.distance.toNat ∧ ∃ Q : Nat → Bool, (∀ c, Q c = true → c < 128) ∧
      (∀ u, sc.index u = indexByteP Q u) ∧ setMemB set = Q := by
  unfold newASCIISetStringScanner at h
  obtain ⟨hneg, h⟩ := Option.ite_none_left_eq_some.mp h
  simp only [Bool.or_eq_true, decide_eq_true_eq, not_or, Bool.not_eq_true] at hneg
  cases hrg : set.range with
  | some lohi =>
    obtain ⟨lo, hi⟩ := lohi
    rw [hrg] at h
    obtain ⟨_, h⟩ := Option.ite_none_left_eq_some.mp h
    obtain rfl := Option.some.inj h
    refine ⟨rfl, fun b => decide (lo ≤ b) && decide (b ≤ hi), fun c hc => by simp at hc; omega,
      fun u => by simp [Scanner.index], ?_⟩
    funext b; simp [setMemB, hwf (by rw [hrg]; rfl), hrg, hneg.1]
  | none =>
    rw [hrg] at h
    obtain ⟨hce, h⟩ := Option.ite_none_left_eq_some.mp h
    obtain ⟨hasc, h⟩ := Option.ite_none_left_eq_some.mp h
    obtain rfl := Option.some.inj h
    refine ⟨rfl, fun b => set.chars.contains b, fun c hc => ?_, fun u => by simp [Scanner.index], ?_⟩
    · have hasc' : ∀ x, x ∈ set.chars → x ≤ 127 := by simpa using hasc
      have := hasc' c (by simpa using hc)
      omega
    · funext b; simp [setMemB, hce, hneg.1]

theorem prefixes_sound (prefixes : List (List Nat)) (ic : Bool) (minLen : Nat) (f : Filter) (input : List Nat)
    (attempt : Nat → Option (Nat × Nat))
    (hinst : stringIndexPrefixesFilter prefixes ic minLen = some f)
    (hclean : ∀ pre ∈ prefixes, Clean pre)
    (hP : ∀ p, p ≤ (decodeB input).length → attempt p ≠ none → ∃ pre ∈ prefixes, runeOcc ic input pre p)
    (hM : MinLenSound false (decodeB input).length minLen attempt) : StrFilterSound input attempt f := by
  unfold stringIndexPrefixesFilter at hinst
  obtain ⟨_, hinst⟩ := Option.ite_none_left_eq_some.mp hinst
  obtain ⟨hasc, hinst⟩ := Option.ite_none_left_eq_some.mp hinst
  have hok : ∀ pre ∈ prefixes, PrefixOK ic pre := fun pre hpre => by
    cases ic with
    | false => exact hclean pre hpre
    | true =>
      have : prefixes.any (fun p => !isASCIIString p) = false := by simpa using hasc
      simpa [PrefixOK] using List.any_eq_false.mp this pre hpre
  cases hc : compileASCIIStringSetPrefixFilter prefixes ic minLen with
  | some af =>
    obtain rfl := Option.some.inj (hc ▸ hinst)
    obtain rfl : ic = false := by
      cases ic with
      | false => rfl
      | true => simp [compileASCIIStringSetPrefixFilter] at hc
    obtain ⟨c1, c2, c3, c4⟩ := compile_spec prefixes minLen af hc
    exact asciiSetFilter_sound af input attempt (c1 ▸ c3) (c1 ▸ c4) (c1 ▸ hP) (c2 ▸ hM)
  | none =>
    obtain rfl := Option.some.inj (hc ▸ hinst)
    exact prefixesFallback_sound prefixes ic minLen input attempt hok hP hM

theorem installed_of_map {g : Option Filter} {k k' : Kind} {f : Filter}
    (h : g.map (fun x => (k, x)) = some (k', f)) : g = some f := by
  cases g with
  | none => cases h
  | some x => exact congrArg some (Prod.mk.inj (Option.some.inj h)).2

theorem dispatch_sound (code : CodeB) (o : StrOpts) (k : Kind) (f : Filter) (input : List Nat)
    (attempt : Nat → Option (Nat × Nat))
    (ho : code.opts = some o) (hinst : newStringPrefixFilter code = some (k, f))
    (hF : StrFactsSound o input attempt) : StrFilterSound input attempt f := by
  unfold newStringPrefixFilter at hinst
  rw [ho] at hinst
  dsimp only at hinst
  obtain ⟨_, hinst⟩ := Option.ite_none_left_eq_some.mp hinst
  obtain ⟨_, hinst⟩ := Option.ite_none_left_eq_some.mp hinst
  obtain ⟨hre, hinst⟩ := Option.ite_none_left_eq_some.mp hinst
  -- the literal strings hold no U+FFFD
  have hre' : hasRuneError o = false := by simpa using hre
  simp only [hasRuneError, Bool.or_eq_false_iff] at hre'
  obtain ⟨⟨⟨e1, e2⟩, e3⟩, e4⟩ := hre'
  have e4 : ∀ pre ∈ o.prefixes, Clean pre := fun pre hpre =>
    clean_of_not_containsRune pre (by simpa using List.any_eq_false.mp e4 pre hpre)
  obtain ⟨hM, hfact⟩ := hF
  split at hinst
  · next hm =>
    simp only [hm] at hfact
    obtain ⟨hne, _, rfl⟩ := prefixFilter_installed _ _ _ f (installed_of_map hinst)
    exact prefixFilter_sound _ false _ input attempt hne (clean_of_not_containsRune _ e1) hfact hM
  · next hm =>
    simp only [hm] at hfact
    obtain ⟨hne, hasc, rfl⟩ := prefixFilter_installed _ _ _ f (installed_of_map hinst)
    exact prefixFilter_sound _ true _ input attempt hne (hasc rfl) hfact hM
  · next hm =>
    simp only [hm] at hfact
    exact prefixes_sound _ false _ f input attempt (installed_of_map hinst) e4 hfact hM
  · next hm =>
    simp only [hm] at hfact
    exact prefixes_sound _ true _ f input attempt (installed_of_map hinst) e4 hfact hM
  · next hm =>
    simp only [hm] at hfact
    cases hsets : o.sets with
    | nil => rw [hsets] at hinst; cases hinst
    | cons set rest =>
      rw [hsets] at hinst
      obtain ⟨hwf, hmem⟩ := hfact set rest hsets
      obtain ⟨sc, hsc, rfl⟩ := Option.map_eq_some_iff.mp (installed_of_map (Option.ite_none_left_eq_some.mp hinst).2)
      obtain ⟨hd, Q, hQ, hidx, rfl⟩ := scanner_spec set sc hsc hwf
      exact setFilter_sound sc _ _ input attempt hQ hidx (hd ▸ hmem) hM
  · next hm =>
    simp only [hm] at hfact
    obtain rfl := Option.some.inj (Option.ite_none_left_eq_some.mp (installed_of_map hinst)).2
    exact fixedCharFilter_sound _ _ _ input attempt hfact hM
  · next hm =>
    simp only [hm] at hfact
    obtain ⟨hg, hs⟩ := Option.ite_none_left_eq_some.mp (installed_of_map hinst)
    obtain rfl := Option.some.inj hs
    simp only [Bool.or_eq_true, not_or, Bool.not_eq_true] at hg
    exact fixedStringFilter_sound _ _ _ input attempt (by rintro h; rw [h] at hg; simp at hg)
      (clean_of_not_containsRune _ e2) hfact hM
  · next hm =>
    simp only [hm] at hfact
    have hs := installed_of_map hinst
    cases hl : o.literalAfterLoop with
    | none => rw [hl] at hs; cases hs
    | some l =>
      rw [hl] at hs e3
      obtain ⟨_, hs⟩ := Option.ite_none_left_eq_some.mp hs
      obtain ⟨hci, hs⟩ := Option.ite_none_left_eq_some.mp hs
      obtain rfl := Option.some.inj hs
      refine literalAfterLoopFilter_sound l _ input attempt (fun hse => ?_) (hfact l hl) hM
      cases hic : l.strIgnoreCase with
      | false => exact clean_of_not_containsRune _ e3
      | true =>
        simp only [hic, Bool.true_and, Bool.or_eq_true, not_or, Bool.not_eq_true, Bool.not_eq_false'] at hci
        simpa [PrefixOK] using hci.2
  · cases hinst

/-! ## from the byte filter to the `FilterSound` hypothesis of `Model/Api.lean` -/

theorem widths_decode (input : List Nat) : widths (decode input) = (decodeB input).map (·.2) := by
  simp [widths, decode]

/-- `decodeStringWithStart` / `getRunesAndStart` map the byte offset of rune `k` back to `k` -/
theorem runeStart_byteOff (input : List Nat) (k : Nat) (hk : k ≤ (decodeB input).length) :
    runeStart (decode input) ((byteOff input k : Nat) : Int) = (k : Int) := by
  have := runeStartLoop_at (decode input)
    (by
      intro sg hsg
      have : sg.2 ∈ widths (decode input) := List.mem_map.mpr ⟨sg, hsg, rfl⟩
      rw [widths_decode] at this
      exact decodeB_width_pos input _ this)
    0 0 k (-1) (by simp [decode]; exact hk)
  rw [widths_decode] at this
  simp only [Nat.zero_add] at this
  exact this

theorem installed_has_opts (code : CodeB) (kf : Kind × Filter) (h : newStringPrefixFilter code = some kf) :
    ∃ o, code.opts = some o := by
  unfold newStringPrefixFilter at h
  cases ho : code.opts with
  | none => rw [ho] at h; cases h
  | some o => exact ⟨o, rfl⟩

/-- the checks `findStringPrefixCandidate` adds keep a sound answer sound: a candidate it rejects is replaced by
    `startAt` itself -/
theorem candidate_sound (filter : Option Filter) (input : List Nat) (attempt : Nat → Option (Nat × Nat))
    (h : ∀ f, filter = some f → StrFilterSound input attempt f) :
    FilterPost input attempt 0 (findStringPrefixCandidate filter false input 0) := by
  have here : FilterPost input attempt 0 (0, true) :=
    post_some ⟨0, Nat.zero_le _, byteOff_zero input⟩ (Nat.le_refl 0) fun p _ _ hlt => absurd hlt (Nat.not_lt_zero _)
  unfold findStringPrefixCandidate
  cases filter with
  | none => exact here
  | some f =>
    have hpost := h f rfl 0 ⟨0, Nat.zero_le _, byteOff_zero input⟩
    dsimp only
    rw [if_neg Bool.false_ne_true]
    cases hok : (f input 0).2 with
    | false => exact post_none (hpost.1 hok)
    | true =>
      rw [if_neg (by decide)]
      split
      · exact here
      · exact ⟨nofun, fun _ => hpost.2 hok⟩

theorem runeFilter_sound (filter : Option Filter) (input : List Nat) (attempt : Nat → Option (Nat × Nat))
    (h : ∀ f, filter = some f → StrFilterSound input attempt f) :
    Api.FilterSound attempt (decodeB input).length (runeFilter filter input) := by
  have hpost := candidate_sound filter input attempt h
  -- `findStringMatchStart(s, -1)` is `findStringPrefixCandidate(s, 0)`
  have hrf : runeFilter filter input 0 =
      if (findStringPrefixCandidate filter false input 0).2 then
        some (if runeStart (decode input) ((findStringPrefixCandidate filter false input 0).1 : Int) < 0 then 0
          else (runeStart (decode input) ((findStringPrefixCandidate filter false input 0).1 : Int)).toNat)
      else none := by
    unfold runeFilter findStringMatchStart
    rw [if_neg (by omega), if_neg (by omega)]
    rfl
  rw [Api.FilterSound, hrf]
  generalize findStringPrefixCandidate filter false input 0 = r at hpost
  obtain ⟨c, ok⟩ := r
  cases ok with
  | false => exact ⟨fun _ p hp => hpost.1 rfl p hp (Nat.zero_le _), nofun⟩
  | true =>
    obtain ⟨⟨kc, hkc, rfl⟩, _, hskip⟩ := hpost.2 rfl
    refine ⟨nofun, fun c hc p hpc hp => hskip p hp (Nat.zero_le _) (byteOff_lt input p kc ?_ hkc)⟩
    rw [if_pos rfl, runeStart_byteOff input kc hkc, if_neg (by omega), Option.some.injEq] at hc
    omega

end RegexVerif.Lemmas.StringFilter
