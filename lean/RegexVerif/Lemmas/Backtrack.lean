/-
`run_eq`: the executable backtracking matcher returns exactly the first success (in priority
order) of the specification that the continuation accepts.
-/
import RegexVerif.Model.Backtrack
import RegexVerif.Lemmas.ListFacts

namespace RegexVerif.Spec

theorem iterK_eq {α : Type} (f : St → (St → Option α) → Option α) (g : St → List St)
    (hfg : ∀ st k, f st k = (g st).findSome? k) (lzy : Bool) (lo : Nat) (hi : Option Nat) :
    ∀ (fuel cnt : Nat) (st : St) (k : St → Option α),
      iterK f lzy lo hi fuel cnt st k = (iter g lzy lo hi fuel cnt st).findSome? k := by
  intro fuel
  induction fuel with
  | zero => intro cnt st k; simp only [iterK, iter, findSome?_ite_nil]
  | succ fuel ih =>
    intro cnt st k
    have more : f st (fun st' => if (st'.pos == st.pos && decide (lo ≤ cnt + 1)) = true then k st'
          else iterK f lzy lo hi fuel (cnt + 1) st' k)
        = ((g st).flatMap fun st' => if (st'.pos == st.pos && decide (lo ≤ cnt + 1)) = true then [st']
          else iter g lzy lo hi fuel (cnt + 1) st').findSome? k := by
      rw [hfg, findSome?_flatMap]
      congr 1
      funext st'
      split
      · exact List.findSome?_singleton.symm
      · exact ih (cnt + 1) st' k
    simp only [iterK, iter, Option.orElse_eq_or, more]
    cases lzy <;>
      simp only [Bool.false_eq_true, if_false, if_true, List.findSome?_append, apply_ite (List.findSome? k),
        List.findSome?_nil, List.findSome?_singleton]

theorem run_eq (e : Env) (p : Pat) :
    ∀ (rtl : Bool) {α : Type} (st : St) (k : St → Option α), run e p rtl st k = (m e p rtl st).findSome? k := by
  intro rtl α st k
  induction p generalizing rtl α st k with
  | empty => exact List.findSome?_singleton.symm
  | nothing => rfl
  | chr p =>
    simp only [run, m]
    cases stepChar e rtl st.pos with
    | none => rfl
    | some x => exact (findSome?_ite_nil _ _ k).symm
  | anchor a => simp only [run, m, findSome?_ite_nil]
  | seq a b iha ihb =>
    simp only [run, m]
    split
    · rw [ihb, findSome?_flatMap]; congr 1; funext st'; exact iha rtl st' k
    · rw [iha, findSome?_flatMap]; congr 1; funext st'; exact ihb rtl st' k
  | alt a b iha ihb => simp only [run, m, List.findSome?_append, Option.orElse_eq_or, iha, ihb]
  | quant lzy lo hi body ih =>
    simp only [run, m]
    exact iterK_eq _ (m e body rtl) (fun st k => ih rtl st k) lzy lo hi _ 0 st k
  | cap g body ih =>
    simp only [run, m, ih, List.findSome?_map]
    rfl
  | look behind neg body ih =>
    simp only [run, m, ih behind st some, findSome?_some_eq_head?]
    cases m e body behind st <;> cases neg <;>
      simp only [Bool.false_eq_true, if_false, if_true, List.findSome?_nil, List.findSome?_singleton, List.head?_nil,
        List.head?_cons]
  | atomic body ih =>
    simp only [run, m, ih rtl st some, findSome?_some_eq_head?]
    cases m e body rtl st with
    | nil => rfl
    | cons y ys => exact List.findSome?_singleton.symm
  | ref g ci =>
    simp only [run, m]
    cases lastCap st.caps g with
    | none => rfl
    | some x =>
      simp only
      cases refMatch e ci rtl x.1 x.2 st.pos with
      | none => rfl
      | some pos' => exact List.findSome?_singleton.symm
  | refCond g yes no ihy ihn =>
    simp only [run, m]
    split
    · exact ihy rtl st k
    · exact ihn rtl st k
  | exprCond c yes no ihc ihy ihn =>
    simp only [run, m, ihc rtl st some, findSome?_some_eq_head?]
    cases m e c rtl st with
    | nil => exact ihn rtl st k
    | cons y ys => exact ihy rtl _ k

theorem attemptRun_eq (e : Env) (p : Pat) (rtl : Bool) (i : Nat) : attemptRun e p rtl i = attempt e p rtl i := by
  unfold attemptRun attempt
  rw [run_eq, findSome?_some_eq_head?]

end RegexVerif.Spec
