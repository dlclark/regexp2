/-
Soundness of the grouping-stack typing (Model/StackTyping.lean) for the interpreter model (Model/VM.lean):
the chained invariant over the backtracking stack, the grouping stack and the crawl stack.

Refined stack types `RTy`: the kinds of Model/StackTyping.lean, where the two slots pushed by `Setjump` carry their
VALUE (`cd v`, `td v`) — these slots are never rewritten, only pushed by `Setjump` and popped by `Forejump` /
`Backjump` / `Setjump|Back`, whereas marks and counters are restored from frame data with other values of the same kind.

`Good core τ cl`: the backtracking stack `core` (without the bottom slot, the text position of the root `Lazybranch`
frame that `UpdateBumpalong` rewrites) is a chain of frames that may be resumed by `backtrack()` with ANY grouping
stack of refined type `τ` (`Vals`) at crawl depth exactly `cl`: the Back / Back2 case of the top frame then finds the
slots it pops, and when it leaves by `backtrack()` again, the rest of the chain is good for the stack type and crawl
depth it leaves (`FrameTy`).  The frame of a `Setjump` fixes the values of the pair it pushed: the crawl depth and
the depth of the chain below it; hence (`pair_lookup`) a pair inside a good type always denotes a frame-aligned
suffix (`Cut`) of the chain that is good for the type below the pair.

Which judgement to reach for.  A program is typed: `StackTyping.typed` (Bool) gives `Typing` (Lemmas/StackTyping.lean),
which `Typing.toW` weakens to `TypingW` below, the form every theorem consumes.  A type is accepted at a code position:
`Succ a q τ` for a refined type, `NextOk a q S` (Lemmas/StackTypingCases.lean) for a plain one as `flow` computes it, `ExitOk F
q S` (Lemmas/StackTypingEmit.lean) for an assignment given as a function; `Succ a q τ` is `NextOk a q (erase τ)`.  The files:
this one holds the definitions and `pair_lookup`; …Cap the invariant of the CAPTURE arrays; …Cases one lemma per case; …Step
the soundness theorems (`tstep_ok`, `typed_run_no_fault`); …Emit the typing of emitted programs; StackCapacity and
StackHeightEmit the height bounds for Props/C13.
-/
import RegexVerif.Lemmas.VM
import RegexVerif.Lemmas.StackTyping
import RegexVerif.Lemmas.StackTypingCap

namespace RegexVerif.Lemmas.StackTypingSound
open RegexVerif RegexVerif.Code RegexVerif.VM RegexVerif.StackTyping RegexVerif.Lemmas.VM
open RegexVerif.Lemmas.StackTyping RegexVerif.Lemmas.StackTypingCap

/-- refined kinds: the depth slots carry their value -/
inductive RK where
  | pos | mark | count | td (v : Int) | cd (v : Int)
  deriving DecidableEq, Repr

abbrev RTy := List RK

def RK.erase : RK → Kind
  | .pos => .pos | .mark => .mark | .count => .count | .td _ => .tdepth | .cd _ => .cdepth

def erase (τ : RTy) : STy := τ.map RK.erase

def RK.isMark : RK → Bool
  | .pos | .mark => true
  | _ => false

/-- value of a slot of kind `k` -/
def valOk (n : Int) : RK → Int → Prop
  | .pos, v => 0 ≤ v ∧ v ≤ n
  | .mark, v => -1 ≤ v ∧ v ≤ n
  | .count, _ => True
  | .td x, v => v = x
  | .cd x, v => v = x

/-- the grouping stack `st` has the refined type `τ` -/
def Vals (n : Int) : List Int → RTy → Prop
  | [], [] => True
  | v :: st, k :: τ => valOk n k v ∧ Vals n st τ
  | _, _ => False

/-- `tr'` is a suffix of `tr` reached by removing whole frames -/
inductive Cut (p : Prog) : List Int → List Int → Prop
  | refl (t : List Int) : Cut p t t
  | step (c : Int) (d rest t' : List Int) : frameSize p c = some (d.length + 1) → Cut p rest t' →
      Cut p (c :: (d ++ rest)) t'

/-- number of `uncapture` calls of `Capturemark|Back` at `pc` = crawl entries the forward case made (2 for a balancing
    group with a slot of its own, else 1); `cap` is for captures, not capacity -/
def capK (p : Prog) (pc : Nat) : Int :=
  if (p.codes[pc + 1]?).getD 0 != -1 && (p.codes[pc + 2]?).getD 0 != -1 then 2 else 1

/-- the frame `(o, b2, d)` of the instruction at `pc` whose assigned entry type is `S`, lying on a chain of depth `dl`
    (bottom slot included): it may be resumed with a stack of type `τ` at crawl depth `cl`; when its case leaves by
    `backtrack()` the stack has type `τ'` and the crawl depth is `cl'` -/
def FrameTy (p : Prog) (n : Int) (pc : Nat) (o : Op) (b2 : Bool) (S : STy) (d : List Int) (dl : Int)
    (τ : RTy) (cl : Int) (τ' : RTy) (cl' : Int) : Prop :=
  match o, b2, d with
  | .oneloop, false, _ | .notoneloop, false, _ | .setloop, false, _
  | .onelazy, false, _ | .notonelazy, false, _ | .setlazy, false, _
  | .lazybranch, false, _ => subTy (erase τ) S = true ∧ τ' = τ ∧ cl' = cl
  | .setmark, false, _ => τ = .pos :: τ' ∧ cl' = cl
  | .nullmark, false, _ => τ = .mark :: τ' ∧ cl' = cl
  | .setcount, false, _ => τ = .count :: .pos :: τ' ∧ cl' = cl
  | .nullcount, false, _ => τ = .count :: .mark :: τ' ∧ cl' = cl
  | .setjump, false, _ => τ = .cd cl :: .td dl :: τ' ∧ cl' = cl ∧ 0 ≤ cl
  | .getmark, false, [v] | .branchmark, true, [v] => (∃ k, τ' = k :: τ ∧ k.isMark = true ∧ valOk n k v) ∧ cl' = cl
  | .capturemark, false, [v] =>
    (∃ k, τ' = k :: τ ∧ k.isMark = true ∧ valOk n k v) ∧ cl' = cl - capK p pc ∧ capK p pc ≤ cl
  | .branchmark, false, [_, mark] =>
    (∃ r k K R, τ = .pos :: r ∧ S = K :: R ∧ subTy (erase r) R = true ∧ τ' = k :: r ∧ k.isMark = true ∧
      valOk n k mark) ∧ cl' = cl
  | .lazybranchmark, false, [pos, old] =>
    (∃ k K R, S = K :: R ∧ subTy (erase τ) R = true ∧ 0 ≤ pos ∧ pos ≤ n ∧ τ' = k :: τ ∧ k.isMark = true ∧
      valOk n k old) ∧ cl' = cl
  | .lazybranchmark, true, [np, old] =>
    (∃ k, k.isMark = true ∧ valOk n k old ∧
      (if np != 0 then ∃ r, τ = .pos :: r ∧ τ' = k :: r else τ' = k :: τ)) ∧ cl' = cl
  | .branchcount, false, [pmark] =>
    (∃ r k K R, τ = .count :: .pos :: r ∧ S = .count :: K :: R ∧ subTy (erase r) R = true ∧ τ' = .count :: k :: r ∧
      k.isMark = true ∧ valOk n k pmark) ∧ cl' = cl
  | .branchcount, true, [_, mark] => (∃ k, τ' = .count :: k :: τ ∧ k.isMark = true ∧ valOk n k mark) ∧ cl' = cl
  | .lazybranchcount, false, [tp, _, mark] =>
    (∃ k K R, S = .count :: K :: R ∧ subTy (erase τ) R = true ∧ 0 ≤ tp ∧ tp ≤ n ∧ τ' = .count :: k :: τ ∧
      k.isMark = true ∧ valOk n k mark) ∧ cl' = cl
  | .lazybranchcount, true, [pmark] =>
    (∃ r k, τ = .count :: .pos :: r ∧ τ' = .count :: k :: r ∧ k.isMark = true ∧ valOk n k pmark) ∧ cl' = cl
  | .forejump, false, [cp] => τ' = τ ∧ cl' = cp ∧ 0 ≤ cp ∧ cp ≤ cl
  | _, _, _ => False

/-- **the chain** (head of the file).  The premise `τ.length ≤ S.length + 2` records that the
    grouping stack with which a frame is resumed is at most two slots higher than the type assigned to the frame's
    instruction — what bounds the depth of the grouping stack in Back / Back2 mode (Lemmas/StackCapacity.lean). -/
inductive Good (p : Prog) (bs : List Nat) (n : Int) (a : Assign) : List Int → RTy → Int → Prop
  | root : Good p bs n a [0] [] 0
  | cons (c : Int) (o : Op) (d rest : List Int) (S : STy) (τ τ' : RTy) (cl cl' : Int) :
      (savedPos c).1 ∈ bs → opAt p (savedPos c).1 = some o → frameData o (savedPos c).2 = some d.length →
      a.get (savedPos c).1 = some S →
      FrameTy p n (savedPos c).1 o (savedPos c).2 S d ((rest.length : Int) + 1) τ cl τ' cl' →
      τ.length ≤ S.length + 2 →
      Good p bs n a rest τ' cl' → Good p bs n a (c :: (d ++ rest)) τ cl

section basics
variable {p : Prog} {bs : List Nat} {n : Int} {a : Assign}

theorem Cut.trans {t1 t2 t3 : List Int} (h1 : Cut p t1 t2) (h2 : Cut p t2 t3) : Cut p t1 t3 := by
  induction h1 with
  | refl t => exact h2
  | step c d rest t' hs _ ih => exact Cut.step c d rest t3 hs (ih h2)

theorem Cut.length_le {t1 t2 : List Int} (h : Cut p t1 t2) : t2.length ≤ t1.length := by
  induction h with
  | refl t => exact Nat.le_refl _
  | step c d rest t' hs _ ih => simp; omega

theorem Vals.cons_inv {st : List Int} {k : RK} {ρ : RTy} (h : Vals n st (k :: ρ)) :
    ∃ v st', st = v :: st' ∧ valOk n k v ∧ Vals n st' ρ := by
  cases st with
  | nil => exact h.elim
  | cons v st' => exact ⟨v, st', rfl, h.1, h.2⟩

theorem Vals.nil_inv {st : List Int} (h : Vals n st []) : st = [] := by
  cases st with
  | nil => rfl
  | cons v st' => exact h.elim

theorem opAt_spec {pc : Nat} {o : Op} (h : opAt p pc = some o) : ∃ w, fetch p pc = .ok w ∧ Op.ofNat? w.op = some o := by
  unfold opAt at h
  split at h
  · next w hw => exact ⟨w, hw, h⟩
  · cases h

theorem frameSize_of {c : Int} {o : Op} {d : List Int} (ho : opAt p (savedPos c).1 = some o)
    (hd : frameData o (savedPos c).2 = some d.length) : frameSize p c = some (d.length + 1) := by
  obtain ⟨w, hw, ho'⟩ := opAt_spec ho
  exact frameSize_cons hw ho' hd

theorem Kind.sub_refl (k : Kind) : k.sub k = true := by cases k <;> rfl

theorem subTy_refl : ∀ σ : STy, subTy σ σ = true
  | [] => rfl
  | k :: σ => by simp [subTy, Kind.sub_refl, subTy_refl σ]

theorem subTy_length : ∀ {σ τ : STy}, subTy σ τ = true → σ.length = τ.length
  | [], [], _ => rfl
  | _ :: s, _ :: t, h => by
    simp only [subTy, Bool.and_eq_true] at h
    simp [subTy_length h.2]
  | [], _ :: _, h => by simp [subTy] at h
  | _ :: _, [], h => by simp [subTy] at h

theorem erase_length (τ : RTy) : (erase τ).length = τ.length := by simp [erase]

theorem sub_len {τ : RTy} {S : STy} (h : subTy (erase τ) S = true) : τ.length = S.length := by
  rw [← erase_length, subTy_length h]

theorem Kind.sub_iff {a b : Kind} : a.sub b = true ↔ a = b ∨ (a = .pos ∧ b = .mark) := by
  simp only [Kind.sub, Bool.or_eq_true, Bool.and_eq_true, beq_iff_eq]

theorem Kind.sub_trans {a b c : Kind} (h1 : a.sub b = true) (h2 : b.sub c = true) : a.sub c = true := by
  rw [Kind.sub_iff] at *
  rcases h1 with rfl | ⟨rfl, rfl⟩
  · exact h2
  · rcases h2 with rfl | ⟨h, _⟩
    · exact Or.inr ⟨rfl, rfl⟩
    · cases h

theorem subTy_trans : ∀ {σ τ υ : STy}, subTy σ τ = true → subTy τ υ = true → subTy σ υ = true
  | [], [], [], _, _ => rfl
  | [], [], _ :: _, _, h => by simp [subTy] at h
  | [], _ :: _, _, h, _ => by simp [subTy] at h
  | _ :: _, [], _, h, _ => by simp [subTy] at h
  | _ :: _, _ :: _, [], _, h => by simp [subTy] at h
  | a :: σ, b :: τ, c :: υ, h1, h2 => by
    simp only [subTy, Bool.and_eq_true] at h1 h2 ⊢
    exact ⟨Kind.sub_trans h1.1 h2.1, subTy_trans h1.2 h2.2⟩

theorem subTy_cons_right {σ : RTy} {k : Kind} {ρ : STy} (h : subTy (erase σ) (k :: ρ) = true) :
    ∃ k' ρ', σ = k' :: ρ' ∧ k'.erase.sub k = true ∧ subTy (erase ρ') ρ = true := by
  cases σ with
  | nil => simp [erase, subTy] at h
  | cons k' ρ' =>
    simp only [erase, List.map_cons, subTy, Bool.and_eq_true] at h
    exact ⟨k', ρ', rfl, h.1, h.2⟩

theorem subTy_nil_right {σ : RTy} (h : subTy (erase σ) [] = true) : σ = [] := by
  cases σ with
  | nil => rfl
  | cons k' ρ' => simp [erase, subTy] at h

theorem subTy_cons {k : Kind} {k' : RK} {ρ : STy} {ρ' : RTy} (h1 : k'.erase.sub k = true)
    (h2 : subTy (erase ρ') ρ = true) : subTy (erase (k' :: ρ')) (k :: ρ) = true := by
  simp only [erase, List.map_cons, subTy, Bool.and_eq_true]; exact ⟨h1, h2⟩

theorem RK.sub_pos {k : RK} (h : k.erase.sub .pos = true) : k = .pos := by
  cases k <;> first | rfl | simp [RK.erase, Kind.sub] at h
theorem RK.sub_count {k : RK} (h : k.erase.sub .count = true) : k = .count := by
  cases k <;> first | rfl | simp [RK.erase, Kind.sub] at h
theorem RK.sub_cdepth {k : RK} (h : k.erase.sub .cdepth = true) : ∃ v, k = .cd v := by
  cases k <;> first | exact ⟨_, rfl⟩ | simp [RK.erase, Kind.sub] at h
theorem RK.sub_tdepth {k : RK} (h : k.erase.sub .tdepth = true) : ∃ v, k = .td v := by
  cases k <;> first | exact ⟨_, rfl⟩ | simp [RK.erase, Kind.sub] at h
theorem RK.sub_isMark {k : Kind} {k' : RK} (h : k'.erase.sub k = true) (hm : StackTyping.isMark k = true) :
    k'.isMark = true := by
  cases k <;> cases k' <;> first | rfl | (exact absurd hm (by decide)) | simp [RK.erase, Kind.sub] at h
theorem valOk_isMark {k : RK} {v : Int} (hk : k.isMark = true) (h0 : 0 ≤ v) (hn : v ≤ n) : valOk n k v := by
  cases k <;> first | exact ⟨by omega, hn⟩ | simp [RK.isMark] at hk
theorem valOk_mark_range {k : RK} {v : Int} (hk : k.isMark = true) (h : valOk n k v) : -1 ≤ v ∧ v ≤ n := by
  cases k <;> first | exact ⟨by have := h.1; omega, h.2⟩ | simp [RK.isMark] at hk
theorem erase_pos_sub {k : Kind} (hm : StackTyping.isMark k = true) : RK.pos.erase.sub k = true := by
  cases k <;> first | rfl | simp [StackTyping.isMark] at hm

theorem capK_pos (p : Prog) (pc : Nat) : 1 ≤ capK p pc := by unfold capK; split <;> omega

/-- what a pair `cd, td` inside a good type denotes: a frame-aligned suffix of the chain, of depth `td`, good for the type
    `ρ` below the pair at crawl depth `cd ≤ cl` — so `trackto td` and `uncaptureTo cd` succeed and leave a good chain -/
def Found (p : Prog) (bs : List Nat) (n : Int) (a : Assign) (core : List Int) (cl cd td : Int) (ρ : RTy) : Prop :=
  ∃ tr', Cut p core tr' ∧ (tr'.length : Int) + 1 = td ∧ Good p bs n a tr' ρ cd ∧ 0 ≤ cd ∧ cd ≤ cl

theorem Found.lift {c : Int} {d rest : List Int} {cl cl' cd td : Int} {ρ : RTy}
    (hs : frameSize p c = some (d.length + 1)) (hle : cl' ≤ cl) (h : Found p bs n a rest cl' cd td ρ) :
    Found p bs n a (c :: (d ++ rest)) cl cd td ρ := by
  obtain ⟨tr', h1, h2, h3, h4, h5⟩ := h
  exact ⟨tr', Cut.step c d rest tr' hs h1, h2, h3, h4, by omega⟩

theorem pair_lookup {core : List Int} {τ : RTy} {cl : Int} (h : Good p bs n a core τ cl) :
    ∀ (pre : RTy) (cd td : Int) (ρ : RTy), τ = pre ++ .cd cd :: .td td :: ρ → Found p bs n a core cl cd td ρ := by
  induction h with
  | root => intro pre cd td ρ e; cases pre <;> cases e
  | cons c o d rest S τ τ' cl cl' h1 h2 h3 h4 hft _hlen hg ih =>
    intro pre cd td ρ e
    have hs := frameSize_of h2 h3
    -- the frame replaced the slots `old` on top of `r` by `new`, none of them a saved crawl depth: the pair lies in `r`
    have shift : ∀ old new r : RTy, τ = old ++ r → τ' = new ++ r → (∀ k ∈ old, ∀ v, k ≠ .cd v) → cl' ≤ cl →
        Found p bs n a (c :: (d ++ rest)) cl cd td ρ := by
      intro old new r e1 e1' hk e2
      rw [e1] at e
      rcases List.append_eq_append_iff.1 e with ⟨a', rfl, e3⟩ | ⟨c', rfl, e3⟩
      · exact (ih (new ++ a') cd td ρ (by rw [e1', e3, List.append_assoc])).lift hs e2
      · cases c' with
        | nil => exact (ih new cd td ρ (by rw [e1', e3]; rfl)).lift hs e2
        | cons x c' => exact absurd (List.cons.inj e3).1.symm (hk x (by simp) cd)
    unfold FrameTy at hft
    split at hft
    -- one goal per arm of `FrameTy`, in its order; the seven neutral frames first
    all_goals first
      | exact shift [] [] _ rfl hft.2.1 (by simp) (by omega)
      | skip
    · -- Setmark
      exact shift [_] [] _ hft.1 rfl (by simp) (by omega)
    · -- Nullmark
      exact shift [_] [] _ hft.1 rfl (by simp) (by omega)
    · -- Setcount
      exact shift [_, _] [] _ hft.1 rfl (by simp) (by omega)
    · -- Nullcount
      exact shift [_, _] [] _ hft.1 rfl (by simp) (by omega)
    · -- Setjump: the pair is the one this frame pushed, or lies below it
      obtain ⟨e1, e2, e3⟩ := hft
      rw [e1] at e
      match pre, e with
      | [], e =>
        simp only [List.nil_append, List.cons.injEq, RK.cd.injEq, RK.td.injEq] at e
        obtain ⟨rfl, rfl, rfl⟩ := e
        exact ⟨rest, Cut.step c _ rest rest hs (Cut.refl _), rfl, by rw [← e2]; exact hg, e3, Int.le_refl _⟩
      | [x], e => simp at e
      | x :: y :: pre', e =>
        simp only [List.cons_append, List.cons.injEq] at e
        exact (ih pre' cd td ρ e.2.2).lift hs (by omega)
    · -- Getmark
      obtain ⟨⟨k, e1, _⟩, e2⟩ := hft; exact shift [] [k] _ rfl e1 (by simp) (by omega)
    · -- Branchmark | Back2
      obtain ⟨⟨k, e1, _⟩, e2⟩ := hft; exact shift [] [k] _ rfl e1 (by simp) (by omega)
    · -- Capturemark
      obtain ⟨⟨k, e1, _⟩, e2, _⟩ := hft
      exact shift [] [k] _ rfl e1 (by simp) (by have := capK_pos p (savedPos c).1; omega)
    · -- Branchmark
      obtain ⟨⟨r, k, K, R, e1, _, _, e1', _⟩, e2⟩ := hft; exact shift [_] [k] r e1 e1' (by simp) (by omega)
    · -- Lazybranchmark
      obtain ⟨⟨k, K, R, _, _, _, _, e1, _⟩, e2⟩ := hft; exact shift [] [k] _ rfl e1 (by simp) (by omega)
    · -- Lazybranchmark | Back2
      obtain ⟨⟨k, _, _, hif⟩, e2⟩ := hft
      split at hif
      · obtain ⟨r, e1, e1'⟩ := hif; exact shift [_] [k] r e1 e1' (by simp) (by omega)
      · exact shift [] [k] _ rfl hif (by simp) (by omega)
    · -- Branchcount
      obtain ⟨⟨r, k, K, R, e1, _, _, e1', _⟩, e2⟩ := hft
      exact shift [_, _] [.count, k] r e1 e1' (by simp) (by omega)
    · -- Branchcount | Back2
      obtain ⟨⟨k, e1, _⟩, e2⟩ := hft; exact shift [] [.count, k] _ rfl e1 (by simp) (by omega)
    · -- Lazybranchcount
      obtain ⟨⟨k, K, R, _, _, _, _, e1, _⟩, e2⟩ := hft; exact shift [] [.count, k] _ rfl e1 (by simp) (by omega)
    · -- Lazybranchcount | Back2
      obtain ⟨⟨r, k, e1, e1', _⟩, e2⟩ := hft
      exact shift [_, _] [.count, k] r e1 e1' (by simp) (by omega)
    · -- Forejump
      exact shift [] [] _ rfl hft.1 (by simp) (by omega)
    · -- no other frames
      exact hft.elim

end basics

/-- `Lemmas.StackTyping.Typing` without the clause that successors are instruction boundaries (which the soundness proof
    does not use; `Prog.wf` provides it) -/
structure TypingW (p : Prog) (bs : List Nat) (a : Assign) : Prop where
  zero : a.get 0 = some []
  closed : ∀ pc ∈ bs, ∀ σ, a.get pc = some σ →
    ∃ o succs, opAt p pc = some o ∧ flow p pc o σ = some succs ∧
      ∀ s ∈ succs, ∃ τ, a.get s.1 = some τ ∧ subTy s.2 τ = true

theorem Typing.toW {p : Prog} {bs : List Nat} {a : Assign} (h : Typing p bs a) : TypingW p bs a :=
  ⟨h.zero, fun pc hpc σ hσ => by
    obtain ⟨o, succs, h1, h2, h3⟩ := h.closed pc hpc σ hσ
    exact ⟨o, succs, h1, h2, fun s hs => (h3 s hs).2⟩⟩

def crawlLen (s : VMState) : Int := (s.cap.crawl.length : Int)

/-- `τ` is below the type assigned to code position `q` -/
def Succ (a : Assign) (q : Nat) (τ : RTy) : Prop := ∃ S, a.get q = some S ∧ subTy (erase τ) S = true

/-- the backtracking stack of `s` is a chain (over the bottom slot) that can be resumed with the current grouping stack,
    of type `τ`, at the current crawl depth -/
def ChainS (p : Prog) (bs : List Nat) (n : Int) (a : Assign) (s : VMState) (τ : RTy) : Prop :=
  ∃ core tp, s.track = core ++ [tp] ∧ Good p bs n a core τ (crawlLen s) ∧ Vals n s.stack τ ∧
    CapOk n p.capsize s.cap

/-- Back / Back2 mode: the data of the popped frame is on top -/
def BackS (p : Prog) (bs : List Nat) (n : Int) (a : Assign) (b2 : Bool) (s : VMState) (o : Op) : Prop :=
  ∃ d core tp S τ τ' cl', s.track = d ++ (core ++ [tp]) ∧ frameData o b2 = some d.length ∧
    a.get s.codepos = some S ∧
    FrameTy p n s.codepos o b2 S d ((core.length : Int) + 1) τ (crawlLen s) τ' cl' ∧ Good p bs n a core τ' cl' ∧
    Vals n s.stack τ ∧ CapOk n p.capsize s.cap

/-- the typing part of the invariant, by the mode of the operator about to run -/
def TShape (p : Prog) (bs : List Nat) (n : Int) (a : Assign) (s : VMState) (o : Op) : Prop :=
  match s.oper.back, s.oper.back2 with
  | false, false =>
    (∃ σ, ChainS p bs n a s σ ∧ Succ a s.codepos σ) ∨
    (s.track = [] ∧ s.stack = [] ∧ s.cap.crawl = [] ∧ s.codepos = 0 ∧ CapOk n p.capsize s.cap) ∨
    (s.track = [] ∧ o = .stop)
  | true, false => BackS p bs n a false s o ∨ (s.codepos = 0 ∧ ∃ tp, s.track = [tp])
  | false, true => BackS p bs n a true s o
  | true, true => False

/-- **the invariant**: the frame invariant of Lemmas/VM.lean and the typing part -/
def TInv (p : Prog) (bs : List Nat) (env : Env) (a : Assign) (s : VMState) : Prop :=
  ∃ w o, Ctx p bs env s w o ∧ Shape p bs env.len s o ∧ TShape p bs env.len a s o

/-- what a case body that started in `s` hands to `advance` / `goTo` / `backtrack` (typing part); with nothing left on the
    backtracking stack (`Lazybranch|Back` at code position 0) the grouping stack is as the case found it; nothing after a halt -/
def TMid (p : Prog) (bs : List Nat) (n : Int) (a : Assign) (s s1 : VMState) : Exit → Prop
  | .halt => True
  | .back => ∃ σ, ChainS p bs n a s1 σ
  | .advance i => ∃ σ, ChainS p bs n a s1 σ ∧ Succ a (s.codepos + i + 1) σ
  | .goto t => (∃ σ, ChainS p bs n a s1 σ ∧ Succ a t.toNat σ) ∨
      (s1.track = [] ∧ s1.stack = s.stack ∧ ∃ wt, fetch p t.toNat = .ok wt ∧ Op.ofNat? wt.op = some .stop)

/-- what `tbody_ok` says of a case body: a fault is structural, none of the five discipline faults; otherwise `TMid` -/
def TBodyOk (p : Prog) (bs : List Nat) (n : Int) (a : Assign) (s : VMState) : Res → Prop
  | .error f => f.structural = true
  | .ok (s1, e) => TMid p bs n a s s1 e

theorem Succ.mono {a : Assign} {q : Nat} {τ σ : RTy} (h : Succ a q τ) (hs : subTy (erase σ) (erase τ) = true) :
    Succ a q σ := by
  obtain ⟨S, h1, h2⟩ := h
  exact ⟨S, h1, subTy_trans hs h2⟩

section push
variable {p : Prog} {bs : List Nat} {env : Env} {a : Assign} {s : VMState} {w : Word} {o : Op}

theorem ctx_opAt (c : Ctx p bs env s w o) : opAt p s.codepos = some o := by
  unfold opAt; rw [c.facts.fetch]; exact c.facts.op

theorem good_push (c : Ctx p bs env s w o) (b2 : Bool) (d core : List Int) (S : STy) (τ τ' : RTy) (cl cl' : Int)
    (hd : frameData o b2 = some d.length) (hne : b2 = true → o ≠ .lazybranch)
    (hS : a.get s.codepos = some S)
    (hft : FrameTy p env.len s.codepos o b2 S d ((core.length : Int) + 1) τ cl τ' cl')
    (hg : Good p bs env.len a core τ' cl') (hlen : τ.length ≤ S.length + 2) :
    Good p bs env.len a ((if b2 then -(s.codepos : Int) else (s.codepos : Int)) :: (d ++ core)) τ cl := by
  cases b2 with
  | false =>
    simp only [Bool.false_eq_true, ite_false]
    have hs := savedPos_pos s.codepos
    exact Good.cons _ o d core S τ τ' cl cl' (by rw [hs]; exact c.pcIn) (by rw [hs]; exact ctx_opAt c)
      (by rw [hs]; exact hd) (by rw [hs]; exact hS) (by rw [hs]; exact hft) hlen hg
  | true =>
    simp only [ite_true]
    have hs := savedPos_neg s.codepos (codepos_ne_zero c (hne rfl))
    exact Good.cons _ o d core S τ τ' cl cl' (by rw [hs]; exact c.pcIn) (by rw [hs]; exact ctx_opAt c)
      (by rw [hs]; exact hd) (by rw [hs]; exact hS) (by rw [hs]; exact hft) hlen hg

end push

end RegexVerif.Lemmas.StackTypingSound
