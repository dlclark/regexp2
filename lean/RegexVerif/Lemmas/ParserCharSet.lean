/-
The class scanner (mutual recursion `scanCharSet` / `csLoop` with fuel `2·length + 4`) is a scanner.  The pieces of the
loop body are specified against a floor `p` with the next turn (`next`) and the nested class (`sub`) as parameters; then
an induction over the fuel with the measure `2·(length − pos) + 1` for the loop and `+ 2` for a (nested) class.
-/
import RegexVerif.Lemmas.ParserEscape

namespace RegexVerif.Parser

variable (E : Env)

theorem scans_csFinish (ci so : Bool) (c : CS) : Scans E (csFinish E ci so c) := by
  refine Scans.of_run fun q σ hq => ?_
  unfold csFinish
  run_steps

theorem scans_csNegate : Scans E (csNegate E) := by
  refine Scans.of_run fun q σ hq => ?_
  unfold csNegate
  run_steps
  run_peek Peek.nextIs

section
variable {p : Nat} {sub : Bool → M Class.Class} {next : CS → M Class.Class}

theorem scansF_csSubtract (sub0 : M Class.Class) (hsub0 : ScansF E p 0 p sub0)
    (hnext : ∀ c, ScansF E p 0 p (next c)) (c : CS) : ScansF E p 0 p (csSubtract E sub0 next c) := by
  refine ScansF.of_run fun q σ ha hq => ?_
  unfold csSubtract
  run_steps
  run_call hsub0
  run_peek .andM fun _ => .rcNe (by omega)
  run_call hnext _

theorem scansF_csRangeEnd (hsub : ∀ so, ScansF E p 0 p (sub so)) (hnext : ∀ c, ScansF E p 0 p (next c))
    (so : Bool) (c : CS) (ch : Nat) (tr : Bool) : ScansF E p 0 p (csRangeEnd E sub next so c ch tr) := by
  refine ScansF.of_run fun q σ ha hq => ?_
  unfold csRangeEnd
  run_steps
  any_goals run_call hnext _
  run_call scansF_csSubtract E _ (hsub _) hnext _

theorem scansF_csDashBracket (hsub : ∀ so, ScansF E p 0 p (sub so)) (hnext : ∀ c, ScansF E p 0 p (next c))
    (so : Bool) (c : CS) : ScansF E p 1 p (csDashBracket E sub next so c) := by
  refine ScansF.of_run fun q σ ha hq => ?_
  unfold csDashBracket
  run_steps
  · run_call scansF_csSubtract E _ (hsub _) hnext _
  · run_call (hsub true).ignoreErr E
    run_call hnext _

theorem scansF_csTail (hsub : ∀ so, ScansF E p 0 p (sub so)) (hnext : ∀ c, ScansF E p 0 p (next c))
    (so : Bool) (c : CS) (ch : Nat) (tr : Bool) : ScansF E p 0 p (csTail E sub next so c ch tr) := by
  refine ScansF.of_run fun q σ ha hq => ?_
  unfold csTail
  run_steps
  · run_call scansF_csRangeEnd E hsub hnext _ _ _ _
  run_peek .andM fun _ => .andMM (.rcIs (by omega)) fun _ => .rcNe (by omega)
  · run_call hnext _
  run_peek .andM fun _ => .rcIs (by omega)
  any_goals run_call hnext _
  run_call scansF_csDashBracket E hsub hnext _ _

theorem scansF_csShorthand (hnext : ∀ c, ScansF E p 0 p (next c))
    (so : Bool) (o : Opts) (c : CS) (it : Class.Item) : ScansF E p 0 p (csShorthand E next so o c it) := by
  refine ScansF.of_run fun q σ ha hq => ?_
  unfold csShorthand
  run_steps
  all_goals run_call hnext _

theorem scansF_csLetterP (hnext : ∀ c, ScansF E p 0 p (next c))
    (so : Bool) (c : CS) (ch : Nat) : ScansF E p 0 p (csLetterP E next so c ch) := by
  refine ScansF.of_run fun q σ ha hq => ?_
  unfold csLetterP
  run_steps
  any_goals run_call hnext _
  run_peek .andM fun _ => .andMM (.rcIs (by omega)) fun _ => .rcNe (by omega)
  all_goals run_call hnext _

theorem scansF_csProperty (hnext : ∀ c, ScansF E p 0 p (next c))
    (ci so : Bool) (o : Opts) (c : CS) (ch : Nat) : ScansF E p 0 p (csProperty E next ci so o c ch) := by
  refine ScansF.of_run fun q σ ha hq => ?_
  unfold csProperty
  run_steps
  · run_call scansF_csLetterP E hnext _ _ _
  · run_call scans_parseProperty E
    all_goals run_call hnext _

theorem scansF_csEscape (hsub : ∀ so, ScansF E p 0 p (sub so)) (hnext : ∀ c, ScansF E p 0 p (next c))
    (ci so : Bool) (o : Opts) (c : CS) : ScansF E p 1 p (csEscape E sub next ci so o c) := by
  refine ScansF.of_run fun q σ ha hq => ?_
  unfold csEscape
  run_steps
  any_goals run_call scansF_csShorthand E hnext _ _ _ _
  · run_call scansF_csProperty E hnext _ _ _ _ _
  · run_call hnext _
  · run_call scansLt_scanCharEscape E
    run_call scansF_csTail E hsub hnext _ _ _ _

theorem scansF_csPosix (hsub : ∀ so, ScansF E p 0 p (sub so)) (hnext : ∀ c, ScansF E p 0 p (next c))
    (so : Bool) (o : Opts) (c : CS) (ch : Nat) : ScansF E p 1 p (csPosix E sub next so o c ch) := by
  refine ScansF.of_run fun q σ ha hq => ?_
  unfold csPosix
  run_steps
  run_peek .andM fun _ => .rcIs (by omega)
  all_goals
    run_call scans_scanWord E
    -- the class of the name is a value, or the error
    run_still Still.ite (T := fun _ => True) (fun _ => by split <;> first | exact .pure trivial | exact .throw) fun _ => .pure trivial
  any_goals run_call hnext _
  all_goals run_call scansF_csTail E hsub hnext _ _ _ _

theorem scansF_csBody (hsub : ∀ so, ScansF E (p + 1) 0 (p + 1) (sub so))
    (hnext : ∀ c, ScansF E (p + 1) 0 (p + 1) (next c))
    (ci so : Bool) (c : CS) : ScansF E p 0 p (csBody E sub next ci so c) := by
  refine ScansF.of_run fun q σ ha hq => ?_
  unfold csBody
  run_steps
  · run_call scans_csFinish E _ _ _
  · run_call scans_csFinish E _ _ _
  · run_call scansF_csTail E hsub hnext _ _ _ _
  · run_call scansF_csEscape E hsub hnext _ _ _ _
  · run_peek .andM fun _ => .rcIs (by omega)
    · run_call scansF_csPosix E hsub hnext _ _ _ _
    all_goals run_call scansF_csTail E hsub hnext _ _ _ _
  · run_call scansF_csTail E hsub hnext _ _ _ _

end

/-- `2·(length − p) + 1` turns of fuel are enough for the loop at or after `p`, one more for a class starting there
    (past the end of the pattern there is nothing to show) -/
theorem csLoop_scanCharSet_fuel : ∀ f p : Nat,
    (2 * (E.pat.length - p) + 1 ≤ f → ∀ ci so c, ScansF E p 0 p (csLoop E f ci so c)) ∧
    (2 * (E.pat.length - p) + 2 ≤ f → ∀ ci so, ScansF E p 0 p (scanCharSet E f ci so)) := by
  intro f
  induction f with
  | zero => exact fun p => ⟨fun h => by omega, fun h => by omega⟩
  | succ f ih =>
    intro p
    refine ⟨fun hf ci so c => ?_, fun hf ci so => ?_⟩
    · rw [csLoop]
      by_cases hp : p < E.pat.length
      · exact scansF_csBody E (fun so' => (ih (p + 1)).2 (by omega) ci so')
          (fun c' => (ih (p + 1)).1 (by omega) ci so _) ci so c
      · exact scansF_csBody E (fun _ s ha hk => by omega) (fun _ s ha hk => by omega) ci so c
    · refine ScansF.of_run fun q σ ha hq => ?_
      rw [scanCharSet]
      run_steps
      run_call scans_csNegate E
      run_call (ih p).1 (by omega) ci so _

theorem scans_scanCharSet (ci so : Bool) : Scans E (scanCharSet E (2 * E.pat.length + 4) ci so) :=
  ScansF.toScans E fun p => (csLoop_scanCharSet_fuel E _ p).2 (by omega) ci so

end RegexVerif.Parser
