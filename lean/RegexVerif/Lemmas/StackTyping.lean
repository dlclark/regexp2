/-
What the decidable check `StackTyping.typed` (Model/StackTyping.lean) provides, as the soundness proof consumes it once
`Typing.toW` has weakened it to `TypingW` (Lemmas/StackTypingSound.lean): the analogue of `Lemmas.VM.wf_spec` for `Prog.wf`.
-/
import RegexVerif.Model.StackTyping

namespace RegexVerif.Lemmas.StackTyping
open RegexVerif RegexVerif.Code RegexVerif.VM RegexVerif.StackTyping

/-- a grouping-stack typing of a program: `[]` at code position 0; every typed boundary holds a known opcode whose
    transfer function accepts the type there, and every continuation of every case of that instruction is again a
    typed boundary whose type is above the computed one (`pos ≤ mark`, equal heights) -/
structure Typing (p : Prog) (bs : List Nat) (a : Assign) : Prop where
  zero : a.get 0 = some []
  closed : ∀ pc ∈ bs, ∀ σ, a.get pc = some σ →
    ∃ o succs, opAt p pc = some o ∧ flow p pc o σ = some succs ∧
      ∀ s ∈ succs, s.1 ∈ bs ∧ ∃ τ, a.get s.1 = some τ ∧ subTy s.2 τ = true

theorem checkAt_spec {p : Prog} {bs : List Nat} {a : Assign} {pc : Nat} (h : checkAt p bs a pc = true)
    (σ : STy) (hσ : a.get pc = some σ) :
    ∃ o succs, opAt p pc = some o ∧ flow p pc o σ = some succs ∧
      ∀ s ∈ succs, s.1 ∈ bs ∧ ∃ τ, a.get s.1 = some τ ∧ subTy s.2 τ = true := by
  unfold checkAt at h
  rw [hσ] at h
  simp only at h
  split at h
  · simp at h
  · next o ho =>
    split at h
    · simp at h
    · next succs hs =>
      refine ⟨o, succs, ho, hs, ?_⟩
      intro s hsm
      rw [List.all_eq_true] at h
      have := h s hsm
      simp only [Bool.and_eq_true, List.contains_iff_mem] at this
      refine ⟨this.1, ?_⟩
      have h2 := this.2
      split at h2
      · next τ hτ => exact ⟨τ, hτ, h2⟩
      · simp at h2

theorem typed_spec {p : Prog} (h : typed p = true) : ∃ bs, p.boundaries = some bs ∧ Typing p bs (assignOf p) := by
  unfold typed at h
  split at h
  · simp at h
  · next bs hbs =>
    refine ⟨bs, hbs, ?_⟩
    unfold check at h
    simp only [Bool.and_eq_true, beq_iff_eq, List.all_eq_true] at h
    exact ⟨h.1, fun pc hpc σ hσ => checkAt_spec (h.2 pc hpc) σ hσ⟩

/-- a well-formed program (`Prog.wf`, `potOk`) that is not typed: `Lazybranch 3; Getmark; Stop` -/
def untypedDemo : Prog :=
  { codes := #[23, 3, 33, 40], strings := #[], nsets := 0, trackcount := 2, capsize := 1, caps := [], rtl := false }

end RegexVerif.Lemmas.StackTyping
