/-
Lemmas for the C19 theorems about `RegexVerif.Model.EscapeParse` (the pattern parser on the literal
fragment): the category tables, one turn of the parser loop on one escaped rune, consumption (fuel
sufficiency), and the agreement of the option-free instance with the `Unescape` model — from which the
round trip `Unescape (Escape s) = s` follows.
-/
import RegexVerif.Model.EscapeParse
import RegexVerif.Lemmas.Escape

namespace RegexVerif.Lemmas.EscapeParse
open RegexVerif RegexVerif.Escape RegexVerif.EscapeParse RegexVerif.Lemmas.Escape

/-! ### tables -/

/-- the rune after the backslash is none of the anchor, class, property and reference letters of
    `scanBackslash`/`scanBasicBackslash` (`b B A G Z z w W s S d D p P k`), not `<` `'`, not `1`…`9`:
    the escape is handed to `scanCharEscape` -/
def bsPass (c : Nat) : Bool :=
  !([98, 66, 65, 71, 90, 122, 119, 87, 115, 83, 100, 68, 112, 80, 107, 60, 39].contains c) &&
  !(decide (49 ≤ c ∧ c ≤ 57))

theorem meta_bsPass : Generated.metaChars.all bsPass = true := by decide

theorem letter_bsPass : letterEscapes.all (fun p => bsPass p.1) = true := by decide

theorem all_zipIdx_getD {α : Type} {P : α → Nat → Bool} {l : List α}
    (h : (l.zipIdx.all fun p => P p.1 p.2) = true) (d : α) {i : Nat} (hi : i < l.length) :
    P (l.getD i d) i = true := by
  have := List.all_eq_true.mp h (l[i], i) (List.mem_zipIdx_iff_getElem?.mpr (List.getElem?_eq_getElem hi))
  rwa [List.getD_eq_getElem?_getD, List.getElem?_eq_getElem hi]

/-- the category sets written out in the parser model are those of the `_category` table of parser.go -/
theorem category_sets (ch : Nat) :
    isSpaceCh ch = (decide (ch ≤ 32) && (Generated.parserCategory.getD ch 0 == Generated.catX)) ∧
    isSpecialCh ch = (decide (ch ≤ 124) && decide (Generated.catS ≤ Generated.parserCategory.getD ch 0)) ∧
    isQuantCh ch = (decide (ch ≤ 123) && decide (Generated.catQ ≤ Generated.parserCategory.getD ch 0)) ∧
    (isSpaceCh ch || ch == 35 || isSpecialCh ch) =
      (decide (ch ≤ 124) && decide (Generated.catX ≤ Generated.parserCategory.getD ch 0)) := by
  by_cases h : ch < 128
  · have := all_zipIdx_getD (l := Generated.parserCategory) (P := fun cat ch =>
        (isSpaceCh ch == (decide (ch ≤ 32) && (cat == Generated.catX))) &&
        (isSpecialCh ch == (decide (ch ≤ 124) && decide (Generated.catS ≤ cat))) &&
        (isQuantCh ch == (decide (ch ≤ 123) && decide (Generated.catQ ≤ cat))) &&
        ((isSpaceCh ch || ch == 35 || isSpecialCh ch) == (decide (ch ≤ 124) && decide (Generated.catX ≤ cat))))
      (by decide +kernel) 0 h
    simp only [Bool.and_eq_true, beq_iff_eq] at this
    exact ⟨this.1.1.1, this.1.1.2, this.1.2, this.2⟩
  · -- beyond the table every set is empty: its members are at most 124
    have big : ∀ l : List Nat, l.all (· ≤ 124) = true → l.contains ch = false := fun l hl =>
      Bool.eq_false_iff.mpr fun hc =>
        h (Nat.lt_of_le_of_lt (of_decide_eq_true (List.all_eq_true.mp hl ch (List.contains_iff_mem.mp hc))) (by decide))
    have a : isSpaceCh ch = false := big _ rfl
    have b : isSpecialCh ch = false := big _ rfl
    have c : isQuantCh ch = false := big _ rfl
    have d : (ch == 35) = false := beq_eq_false_iff_ne.mpr (by omega)
    have h1 : ¬ ch ≤ 32 := by omega
    have h2 : ¬ ch ≤ 124 := by omega
    have h3 : ¬ ch ≤ 123 := by omega
    simp [a, b, c, d, h1, h2, h3]

/-- every ASCII character of category ≥ X is in `meta` or one of the whitespace controls -/
theorem specials_escaped (ch : Nat) (hlt : ch < 128) (hc : Generated.catX ≤ Generated.parserCategory.getD ch 0) :
    Generated.metaChars.contains ch = true ∨ [9, 10, 11, 12, 13].contains ch = true := by
  have := all_zipIdx_getD (l := Generated.parserCategory) (P := fun cat ch =>
      !decide (Generated.catX ≤ cat) || (Generated.metaChars.contains ch || [9, 10, 11, 12, 13].contains ch))
    (by decide) 0 hlt
  rwa [decide_eq_true hc, Bool.not_true, Bool.false_or, Bool.or_eq_true] at this

/-- a rune `escape` writes raw is no blank and not `#`: those have category X or Z, so they are in `meta` or are
    whitespace controls, which are not printable -/
theorem raw_not_blank (isPrint : Nat → Bool) (hP : ∀ c, 9 ≤ c → c ≤ 13 → isPrint c = false) (r : Nat)
    (h : (isPrint r = true ∧ Generated.metaChars.contains r = false) ∨ (isPrint r = false ∧ 0x10000 ≤ r)) :
    isSpaceCh r = false ∧ (r == 35) = false := by
  cases hst : (isSpaceCh r || r == 35) with
  | false => exact Bool.or_eq_false_iff.mp hst
  | true =>
    have hx : (isSpaceCh r || r == 35 || isSpecialCh r) = true := by rw [hst]; rfl
    rw [(category_sets r).2.2.2, Bool.and_eq_true, decide_eq_true_eq, decide_eq_true_eq] at hx
    rcases h with ⟨hp, hm⟩ | ⟨_, hr⟩
    · rcases specials_escaped r (by omega) hx.2 with hm' | hc
      · rw [hm] at hm'; cases hm'
      · have : 9 ≤ r ∧ r ≤ 13 := by simp at hc; omega
        rw [hP r this.1 this.2] at hp; cases hp
    · omega

/-! ### blanks -/

theorem skipBlank_nil (o : ParseOpts) : skipBlank o [] = [] := by
  unfold skipBlank; split <;> simp [skipBlankX]

theorem skipBlank_cons (o : ParseOpts) (c : Nat) (p : List Nat)
    (h : o.x = true → isSpaceCh c = false ∧ (c == 35) = false) : skipBlank o (c :: p) = c :: p := by
  unfold skipBlank
  split
  · obtain ⟨hs, hh⟩ := h ‹_›
    simp only [beq_eq_false_iff_ne] at hh
    simp [skipBlankX, hs, hh]
  · rfl

theorem skipBlankX_length (b : Bool) (p : List Nat) : (skipBlankX b p).length ≤ p.length := by
  induction p generalizing b with
  | nil => cases b <;> simp [skipBlankX]
  | cons c r ih =>
    cases b
    · simp only [skipBlankX]
      split
      · have := ih false; simp only [List.length_cons]; omega
      · split
        · have := ih true; simp only [List.length_cons]; omega
        · simp
    · simp only [skipBlankX]
      split
      · have := ih false; simp only [List.length_cons]; omega
      · have := ih true; simp only [List.length_cons]; omega

theorem skipBlank_length (o : ParseOpts) (p : List Nat) : (skipBlank o p).length ≤ p.length := by
  unfold skipBlank; split
  · exact skipBlankX_length false p
  · exact Nat.le_refl _

/-! ### one escaped rune is one turn of the loop -/

theorem scanCharEscapeO_plain (o : ParseOpts) (isWord : Nat → Bool) (c : Nat) (rest : List Nat)
    (hp : plainAfterBackslash c = true) (hw : isWord c = false) :
    scanCharEscapeO o isWord (c :: rest) = some (c, rest) := by
  simp only [plainAfterBackslash, Bool.and_eq_true, Bool.not_eq_true', decide_eq_false_iff_not] at hp
  have ne := ne_of_not_contains hp.2
  simp [scanCharEscapeO, hp.1, hw, ne 120 rfl, ne 117 rfl, ne 97 rfl, ne 98 rfl, ne 101 rfl, ne 102 rfl, ne 110 rfl,
    ne 114 rfl, ne 116 rfl, ne 118 rfl, ne 99 rfl]

theorem scanCharEscapeO_letter (o : ParseOpts) (isWord : Nat → Bool) {c r : Nat} (h : (c, r) ∈ letterEscapes)
    (rest : List Nat) : scanCharEscapeO o isWord (c :: rest) = some (r, rest) := by
  simp only [letterEscapes, List.mem_cons, Prod.mk.injEq, List.not_mem_nil, or_false] at h
  rcases h with ⟨rfl, rfl⟩ | ⟨rfl, rfl⟩ | ⟨rfl, rfl⟩ | ⟨rfl, rfl⟩ | ⟨rfl, rfl⟩ | ⟨rfl, rfl⟩ <;> rfl

/-- `\xHH` -/
theorem scanCharEscapeO_hex2 (o : ParseOpts) (isWord : Nat → Bool) (r : Nat) (h : r < 256) (rest : List Nat) :
    scanCharEscapeO o isWord (120 :: (hex2 r ++ rest)) = some (r, rest) := by
  have hb : hexChar (r / 16) ≠ 123 := hexChar_ne_brace _ (by omega)
  have := scanHex_hex2 r h rest
  simp only [hex2, List.cons_append, List.nil_append] at this ⊢
  simp [scanCharEscapeO, ecmaFallback, hb, this]

/-- `\uHHHH` -/
theorem scanCharEscapeO_hex4 (o : ParseOpts) (isWord : Nat → Bool) (r : Nat) (h : r < 65536) (rest : List Nat) :
    scanCharEscapeO o isWord (117 :: (hex4 r ++ rest)) = some (r, rest) := by
  have hb : hexChar (r / 4096) ≠ 123 := hexChar_ne_brace _ (by omega)
  have := scanHex_hex4 r h rest
  simp only [hex4, List.cons_append, List.nil_append] at this ⊢
  simp [scanCharEscapeO, ecmaFallback, hb, this]

/-- `scanBackslash` on a rune of `bsPass` is `scanCharEscape` ("Not backreference: must be char code") -/
theorem scanBackslash_pass (o : ParseOpts) (isWord : Nat → Bool) (c v : Nat) (rest rest' : List Nat)
    (hp : bsPass c = true) (h : scanCharEscapeO o isWord (c :: rest) = some (v, rest')) :
    scanBackslash o isWord (c :: rest) = .emit v rest' := by
  simp only [bsPass, Bool.and_eq_true, Bool.not_eq_true', decide_eq_false_iff_not] at hp
  have ne := ne_of_not_contains hp.1
  simp [scanBackslash, backslashKind, basicBackslashKind, hp.2, h, ne 98 rfl, ne 66 rfl, ne 65 rfl, ne 71 rfl,
    ne 90 rfl, ne 122 rfl, ne 119 rfl, ne 87 rfl, ne 115 rfl, ne 83 rfl, ne 100 rfl, ne 68 rfl, ne 112 rfl, ne 80 rfl,
    ne 107 rfl, ne 60 rfl, ne 39 rfl]

theorem step_ordinary (o : ParseOpts) (isWord : Nat → Bool) (r : Nat) (rest : List Nat)
    (hs : isSpecialCh r = false) (hx : o.x = true → isSpaceCh r = false ∧ (r == 35) = false) :
    step o isWord (r :: rest) = .emit r rest := by
  have ne := ne_of_not_contains hs
  have hq : isTrueQuant r rest = false := by simp [isTrueQuant, isQuantCh, ne 123 rfl, ne 42 rfl, ne 43 rfl, ne 63 rfl]
  simp [step, headKind, skipBlank_cons o r rest hx, hq, ne 92 rfl, ne 123 rfl, ne 40 rfl, ne 41 rfl, ne 91 rfl,
    ne 124 rfl, ne 36 rfl, ne 46 rfl, ne 94 rfl]

theorem step_bslash (o : ParseOpts) (isWord : Nat → Bool) (body : List Nat) :
    step o isWord (bslash :: body) = scanBackslash o isWord body := by
  simp [step, bslash, skipBlank_cons o 92 body fun _ => by decide]

theorem special_in_meta (c : Nat) (h : isSpecialCh c = true) : Generated.metaChars.contains c = true :=
  List.all_eq_true.mp (by decide : [36, 40, 41, 42, 43, 46, 63, 91, 92, 94, 123, 124].all
    Generated.metaChars.contains = true) c (List.contains_iff_mem.mp h)

theorem raw_not_special {isPrint : Nat → Bool} {r : Nat}
    (h : (isPrint r = true ∧ Generated.metaChars.contains r = false) ∨ (isPrint r = false ∧ 0x10000 ≤ r)) :
    isSpecialCh r = false := by
  cases hs : isSpecialCh r with
  | false => rfl
  | true =>
    rcases h with ⟨_, hm⟩ | ⟨_, hr⟩
    · rw [special_in_meta r hs] at hm; cases hm
    · rw [(category_sets r).2.1, Bool.and_eq_true, decide_eq_true_eq] at hs; omega

/-- each spelling of a rune is one turn of the parser loop and denotes that rune -/
theorem step_spelled (isPrint isWord : Nat → Bool)
    (hW : ∀ c, Generated.metaChars.contains c = true → isWord c = false)
    (o : ParseOpts) (hP : o.x = true → ∀ c, 9 ≤ c → c ≤ 13 → isPrint c = false) {r : Nat} {out : List Nat} (h : Spelled isPrint r out) (rest : List Nat) :
    step o isWord (out ++ rest) = .emit r rest := by
  cases h with
  | raw h =>
    exact step_ordinary o isWord r rest (raw_not_special h) fun hx => raw_not_blank isPrint (hP hx) r h
  | quoted _ hm =>
    have hm' : r ∈ Generated.metaChars := by simpa using hm
    exact (step_bslash o isWord _).trans (scanBackslash_pass o isWord r r rest rest
      (List.all_eq_true.mp meta_bsPass r hm')
      (scanCharEscapeO_plain o isWord r rest (List.all_eq_true.mp meta_plain r hm') (hW r hm)))
  | letter c _ hl =>
    exact (step_bslash o isWord _).trans (scanBackslash_pass o isWord c r rest rest
      (List.all_eq_true.mp letter_bsPass _ hl) (scanCharEscapeO_letter o isWord hl rest))
  | x _ hx =>
    exact (step_bslash o isWord _).trans (scanBackslash_pass o isWord 120 r _ rest (by decide)
      (scanCharEscapeO_hex2 o isWord r hx rest))
  | u _ hu =>
    exact (step_bslash o isWord _).trans (scanBackslash_pass o isWord 117 r _ rest (by decide)
      (scanCharEscapeO_hex4 o isWord r hu rest))

/-- the parser reads `Escape s` as the literal `s`; the whitespace controls matter only under
    IgnorePatternWhitespace -/
theorem parseFuel_escape (isPrint isWord : Nat → Bool)
    (hW : ∀ c, Generated.metaChars.contains c = true → isWord c = false)
    (o : ParseOpts) (hP : o.x = true → ∀ c, 9 ≤ c → c ≤ 13 → isPrint c = false)
    (s : List Nat) : ∀ (acc : List Nat) (fuel : Nat), s.length + 1 ≤ fuel →
      parseFuel o isWord fuel (escape isPrint s) acc = .lit (acc.reverse ++ s) := by
  induction s with
  | nil =>
    intro acc fuel hf
    obtain ⟨f, rfl⟩ : ∃ f, fuel = f + 1 := ⟨fuel - 1, by omega⟩
    simp [escape, parseFuel, step, skipBlank_nil]
  | cons r s ih =>
    intro acc fuel hf
    obtain ⟨f, rfl⟩ : ∃ f, fuel = f + 1 := ⟨fuel - 1, by omega⟩
    rw [escape_cons, parseFuel, step_spelled isPrint isWord hW o hP (escapeRune_spelled isPrint r)]
    simp only []
    rw [ih (r :: acc) f (by simp at hf; omega)]
    simp

/-! ### every turn consumes: `fuel = length + 1` is enough -/

/-- a scanner's result, if there is one, leaves no more text than `t` -/
def LeavesWithin (t : List Nat) (res : Option (Nat × List Nat)) : Prop :=
  ∀ v rest, res = some (v, rest) → rest.length ≤ t.length

theorem LeavesWithin.none (t : List Nat) : LeavesWithin t none := fun _ _ h => nomatch h

theorem LeavesWithin.some {t : List Nat} {p : Nat × List Nat} (h : p.2.length ≤ t.length) :
    LeavesWithin t (some p) := fun _ _ e => by cases e; exact h

theorem LeavesWithin.mono {t t' : List Nat} {res : Option (Nat × List Nat)} (h : LeavesWithin t' res)
    (hl : t'.length ≤ t.length) : LeavesWithin t res := fun v r e => Nat.le_trans (h v r e) hl

theorem scanHex_within : ∀ (n acc : Nat) (l : List Nat), LeavesWithin l (scanHex n acc l)
  | 0, _, _ => .some (Nat.le_refl _)
  | _ + 1, _, [] => .none _
  | n + 1, acc, ch :: t => by
    rw [scanHex]
    cases hexDigit ch with
    | none => exact .none _
    | some d => exact (scanHex_within n _ t).mono (Nat.le_succ _)

theorem scanHexBrace_within : ∀ (l : List Nat) (acc : Nat) (has : Bool), LeavesWithin l (scanHexBrace acc has l)
  | [], _, _ => .none _
  | ch :: t, acc, has => by
    rw [scanHexBrace]
    refine ite_cases (fun _ => ite_cases (fun _ => .some (Nat.le_succ _)) fun _ => .none _) fun _ => ?_
    cases hexDigit ch with
    | none => exact .none _
    | some d => exact ite_cases (fun _ => .none _) fun _ => (scanHexBrace_within t _ true).mono (Nat.le_succ _)

theorem scanOctalO_length (e : Bool) : ∀ (n acc : Nat) (l : List Nat),
    (scanOctalO e n acc l).2.length ≤ l.length
  | 0, _, _ => Nat.le_refl _
  | _ + 1, _, [] => Nat.le_refl _
  | n + 1, acc, ch :: t => by
    have ih := Nat.le_succ_of_le (scanOctalO_length e n (acc * 8 + (ch - 48)) t)
    rw [scanOctalO]
    split
    · split
      · exact Nat.le_refl _
      · exact ih
    · exact Nat.le_refl _

theorem scanControl_within : ∀ l : List Nat, LeavesWithin l (scanControl l)
  | [] => .none _
  | _ :: _ => ite_cases (fun _ => .some (Nat.le_succ _)) fun _ => .none _

theorem ecmaFallback_within (o : ParseOpts) (ch : Nat) {t : List Nat} {res : Option (Nat × List Nat)}
    (h : LeavesWithin t res) : LeavesWithin t (ecmaFallback o ch t res) := by
  cases res with
  | some v => exact h
  | none => exact ite_cases (fun _ => .some (Nat.le_refl _)) fun _ => .none _

theorem scanCharEscapeO_within (o : ParseOpts) (isWord : Nat → Bool) (ch : Nat) (t : List Nat) :
    LeavesWithin t (scanCharEscapeO o isWord (ch :: t)) := by
  have brace : LeavesWithin t (scanHexBrace 0 false t.tail) :=
    (scanHexBrace_within _ 0 false).mono (by rw [List.length_tail]; exact Nat.sub_le _ _)
  rw [scanCharEscapeO]
  -- octal: the first digit is consumed (the value so far is 0 < 0x20)
  refine ite_cases (fun hoct => .some ?_) fun _ => ?_
  · rw [scanOctalO, if_pos hoct, if_neg (by simp)]
    exact scanOctalO_length _ _ _ t
  refine ite_cases (fun _ => ?_) fun _ => ?_
  · exact ite_cases (fun _ => ite_cases (fun _ => .some (Nat.le_refl _)) fun _ => brace)
      fun _ => ecmaFallback_within o _ (scanHex_within 2 0 t)
  refine ite_cases (fun _ => ?_) fun _ => ?_
  · exact ite_cases (fun _ => brace) fun _ => ecmaFallback_within o _ (scanHex_within 4 0 t)
  -- the letter escapes return the text after the letter
  iterate 8 refine ite_cases (fun _ => .some (Nat.le_refl _)) fun _ => ?_
  refine ite_cases (fun _ => ecmaFallback_within o _ (scanControl_within t)) fun _ => ?_
  exact ite_cases (fun _ => .none _) fun _ => .some (Nat.le_refl _)

theorem scanCharEscapeO_length (o : ParseOpts) (isWord : Nat → Bool) (body : List Nat) (c : Nat)
    (rest : List Nat) (h : scanCharEscapeO o isWord body = some (c, rest)) : rest.length < body.length := by
  cases body with
  | nil => cases h
  | cons ch t => exact Nat.lt_succ_of_le (scanCharEscapeO_within o isWord ch t c rest h)

theorem scanBackslash_emit (o : ParseOpts) (isWord : Nat → Bool) (body : List Nat) (c : Nat)
    (rest : List Nat) (h : scanBackslash o isWord body = .emit c rest) :
    scanCharEscapeO o isWord body = some (c, rest) := by
  unfold scanBackslash at h
  split at h
  · cases h
  · split at h
    · cases h
    · rename_i c' rest' heq; cases h; exact heq

theorem scanBackslash_ne_done (o : ParseOpts) (isWord : Nat → Bool) (body : List Nat) :
    scanBackslash o isWord body ≠ .done := by
  intro h
  unfold scanBackslash at h
  split at h
  · cases h
  · split at h <;> cases h

theorem step_emit_length (o : ParseOpts) (isWord : Nat → Bool) (p : List Nat) (c : Nat) (rest : List Nat)
    (h : step o isWord p = .emit c rest) : rest.length < p.length := by
  have hl := skipBlank_length o p
  unfold step at h
  split at h
  · cases h
  · rename_i c0 r0 hsk
    rw [hsk] at hl
    simp only [List.length_cons] at hl
    split at h
    · have := scanCharEscapeO_length o isWord _ _ _ (scanBackslash_emit o isWord _ _ _ h); omega
    · split at h
      · cases h
      · injection h with h1 h2; subst h2; omega

theorem parseFuel_ne_outOfFuel (o : ParseOpts) (isWord : Nat → Bool) : ∀ (fuel : Nat) (p acc : List Nat),
    p.length < fuel → parseFuel o isWord fuel p acc ≠ .outOfFuel := by
  intro fuel
  induction fuel with
  | zero => intro p acc h; omega
  | succ f ih =>
    intro p acc hlen
    simp only [parseFuel]
    split
    · intro h; cases h
    · intro h; cases h
    · rename_i c rest hst
      have := step_emit_length o isWord p c rest hst
      exact ih rest (c :: acc) (by omega)

/-! ### the option-free parser and `Unescape` -/

theorem scanOctalO_false : ∀ (n acc : Nat) (l : List Nat), scanOctalO false n acc l = scanOctal n acc l := by
  intro n
  induction n with
  | zero => intro acc l; simp [scanOctalO, scanOctal]
  | succ n ih =>
    intro acc l
    cases l with
    | nil => simp [scanOctalO, scanOctal]
    | cons ch t => simp [scanOctalO, scanOctal, ih]

theorem ecmaFallback_default (ch : Nat) (rest : List Nat) (res : Option (Nat × List Nat)) :
    ecmaFallback {} ch rest res = res := by
  cases res <;> simp [ecmaFallback]

/-- with no option set, the parser's `scanCharEscape` is the one `Unescape` drives -/
theorem scanCharEscapeO_default (isWord : Nat → Bool) (l : List Nat) :
    scanCharEscapeO {} isWord l = scanCharEscape isWord l := by
  cases l with
  | nil => simp [scanCharEscapeO, scanCharEscape]
  | cons ch t =>
    by_cases hx : ch = 120
    · subst hx
      cases t with
      | nil => simp [scanCharEscapeO, scanCharEscape, ecmaFallback_default]
      | cons a t' =>
        by_cases ha : a = 123
        · subst ha; simp [scanCharEscapeO, scanCharEscape]
        · simp [scanCharEscapeO, scanCharEscape, ha, ecmaFallback_default]
    · simp [scanCharEscapeO, scanCharEscape, hx, scanOctalO_false, ecmaFallback_default]

theorem scanCharEscape_plain (isWord : Nat → Bool) (c : Nat) (rest : List Nat)
    (hp : plainAfterBackslash c = true) (hw : isWord c = false) :
    scanCharEscape isWord (c :: rest) = some (c, rest) :=
  (scanCharEscapeO_default isWord _).symm.trans (scanCharEscapeO_plain {} isWord c rest hp hw)

theorem step_default_ordinary (isWord : Nat → Bool) (c0 : Nat) (r0 : List Nat) (h0 : c0 ≠ 92) (c : Nat)
    (rest : List Nat) (h : step {} isWord (c0 :: r0) = .emit c rest) : c = c0 ∧ rest = r0 := by
  simp only [step, skipBlank] at h
  simp [h0] at h
  split at h
  · cases h
  · injection h with h1 h2; exact ⟨h1.symm, h2.symm⟩

/-- what the option-free loop reads as the literal `t`, the loop of `Unescape` returns for the same text; two units of
    its fuel per rune suffice: one for a backslash, one for the escape after it -/
theorem parseFuel_sound_unescape (isWord : Nat → Bool) : ∀ (fuel : Nat) (p acc t : List Nat),
    parseFuel {} isWord fuel p acc = .lit t →
    ∀ f2, 2 * p.length + 1 ≤ f2 → unescapeFuel isWord f2 true p acc = some t := by
  intro fuel
  induction fuel with
  | zero => intro p acc t h; simp [parseFuel] at h
  | succ f ih =>
    intro p acc t h f2 hf2
    simp only [parseFuel] at h
    split at h
    · -- done: the pattern is exhausted
      rename_i hst
      cases p with
      | nil =>
        injection h with h; subst h
        obtain ⟨g, rfl⟩ : ∃ g, f2 = g + 1 := ⟨f2 - 1, by omega⟩
        simp [unescapeFuel]
      | cons c0 r0 =>
        exfalso
        simp only [step, skipBlank] at hst
        simp at hst
        split at hst
        · exact scanBackslash_ne_done _ _ _ hst
        · split at hst <;> cases hst
    · cases h
    · rename_i c rest hst
      cases p with
      | nil => simp [step, skipBlank] at hst
      | cons c0 r0 =>
        by_cases h0 : c0 = 92
        · subst h0
          have hsb : scanBackslash {} isWord r0 = .emit c rest := by
            simpa [step, skipBlank] using hst
          have hce := scanBackslash_emit {} isWord r0 c rest hsb
          have hlen := scanCharEscapeO_length {} isWord r0 c rest hce
          rw [scanCharEscapeO_default] at hce
          simp only [List.length_cons] at hf2
          obtain ⟨g, rfl⟩ : ∃ g, f2 = g + 2 := ⟨f2 - 2, by omega⟩
          have := step_esc isWord g c r0 rest acc hce
          simp only [bslash] at this
          rw [this]
          exact ih rest (c :: acc) t h g (by omega)
        · obtain ⟨e1, e2⟩ := step_default_ordinary isWord c0 r0 h0 c rest hst
          subst e1; subst e2
          simp only [List.length_cons] at hf2
          obtain ⟨g, rfl⟩ : ∃ g, f2 = g + 1 := ⟨f2 - 1, by omega⟩
          rw [step_lit isWord g c rest acc (by simpa [bslash] using h0)]
          exact ih rest (c :: acc) t h g (by omega)

end RegexVerif.Lemmas.EscapeParse
