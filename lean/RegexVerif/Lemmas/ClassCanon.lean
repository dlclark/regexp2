/-
`canonicalize`: sorting and the merge loop keep `inRanges` on valid runes and leave a canonical list; each of the
three normal forms is a `Renorm` step, which keeps membership, the `building` mark and canonical ranges.
-/
import RegexVerif.Lemmas.Class
import RegexVerif.Lemmas.Ite

namespace RegexVerif.Class

/-! ## sorting -/

theorem insertByFirst_perm (r : Nat × Nat) : ∀ rs, (insertByFirst r rs).Perm (r :: rs)
  | [] => .refl _
  | x :: xs => by
    unfold insertByFirst
    split
    · exact .refl _
    · exact ((insertByFirst_perm r xs).cons x).trans (.swap r x xs)

theorem sortByFirst_perm : ∀ rs, (sortByFirst rs).Perm rs
  | [] => .refl _
  | r :: rs => (insertByFirst_perm r _).trans ((sortByFirst_perm rs).cons r)

theorem sorted_insertByFirst (r : Nat × Nat) (rs : List (Nat × Nat)) (h : SortedFirst rs) :
    SortedFirst (insertByFirst r rs) := by
  induction rs with
  | nil => exact List.pairwise_singleton _ _
  | cons x xs ih =>
    have hx := List.pairwise_cons.mp h
    rw [insertByFirst]
    refine ite_cases (fun hle => List.pairwise_cons.mpr ⟨fun b hb => ?_, h⟩) fun hgt =>
      List.pairwise_cons.mpr ⟨fun b hb => ?_, ih hx.2⟩
    · rcases List.mem_cons.mp hb with rfl | hb
      · exact hle
      · exact Nat.le_trans hle (hx.1 b hb)
    · rcases List.mem_cons.mp ((insertByFirst_perm r xs).mem_iff.mp hb) with rfl | hb
      · exact Nat.le_of_lt (Nat.lt_of_not_le hgt)
      · exact hx.1 b hb

theorem sorted_sortByFirst : ∀ rs, SortedFirst (sortByFirst rs)
  | [] => List.Pairwise.nil
  | r :: rs => sorted_insertByFirst r _ (sorted_sortByFirst rs)

/-! ## the merge loop -/

theorem canon_single {a b : Nat} (h : a ≤ b) : Canon [(a, b)] :=
  ⟨List.pairwise_singleton _ _, fun _ hr => List.mem_singleton.mp hr ▸ h⟩

theorem mergeGo_ne_nil : ∀ (rest : List (Nat × Nat)) (first last : Nat), mergeGo first last rest ≠ []
  | [], _, _ => List.cons_ne_nil _ _
  | c :: rest, first, last => by
    have t := @ite_cases _ (· ≠ ([] : List (Nat × Nat)))
    rw [mergeGo]
    exact t (fun _ => List.cons_ne_nil _ _) fun _ => t (fun _ => List.cons_ne_nil _ _) fun _ => mergeGo_ne_nil rest _ _

/-- By the three branches of `mergeGo`: once `last` reaches `maxRune` the rest is dropped (it holds no valid rune that
`(first, last)` does not); a range starting beyond `last + 1` opens a new one; any other grows `(first, last)`. -/
theorem mergeGo_mem (ch : Nat) (hch : ch ≤ maxRune) :
    ∀ (rest : List (Nat × Nat)) (first last : Nat), (∀ c ∈ rest, first ≤ c.1) → SortedFirst rest →
      inRanges (mergeGo first last rest) ch = (inRange (first, last) ch || inRanges rest ch) := by
  intro rest
  induction rest with
  | nil => intro first last _ _; simp [mergeGo]
  | cons c rest ih =>
    intro first last hf hs
    rw [SortedFirst, List.pairwise_cons] at hs
    have hc := hf c (List.mem_cons_self ..)
    have t := @ite_cases _ (fun l => inRanges l ch = (inRange (first, last) ch || inRanges (c :: rest) ch))
    rw [mergeGo]
    refine t (fun hdone => ?_) fun _ => t (fun _ => ?_) fun _ => ?_
    · -- whatever the dropped ranges hold below `maxRune` is above `first`
      apply Bool.eq_iff_iff.mpr
      simp only [inRanges_cons, inRanges_nil, Bool.or_false, Bool.or_eq_true, inRange_iff, inRanges_iff]
      refine ⟨Or.inl, ?_⟩
      rintro (h | h | ⟨b, hb, h1, h2⟩)
      · exact h
      · omega
      · have := hf b (List.mem_cons_of_mem _ hb)
        omega
    · rw [inRanges_cons, ih c.1 c.2 hs.1 hs.2, inRanges_cons]
    · rw [ih first _ (fun b hb => hf b (List.mem_cons_of_mem _ hb)) hs.2, inRanges_cons, ← Bool.or_assoc]
      congr 1
      apply Bool.eq_iff_iff.mpr
      simp only [Bool.or_eq_true, inRange_iff]
      split <;> omega

/-- The second conjunct — every range of the result starts at or above `first` — is what turns the gap test
`c.1 > last + 1` into the separation `Canon` asks when a new range is opened. -/
theorem mergeGo_canon :
    ∀ (rest : List (Nat × Nat)) (first last : Nat), first ≤ last → (∀ c ∈ rest, c.1 ≤ c.2) →
      (∀ c ∈ rest, first ≤ c.1) → SortedFirst rest →
      Canon (mergeGo first last rest) ∧ ∀ b ∈ mergeGo first last rest, first ≤ b.1 := by
  have single : ∀ first last : Nat, first ≤ last →
      Canon [(first, last)] ∧ ∀ b ∈ [(first, last)], first ≤ b.1 := fun first last hfl =>
    ⟨canon_single hfl, fun b hb => List.mem_singleton.mp hb ▸ Nat.le_refl _⟩
  intro rest
  induction rest with
  | nil => intro first last hfl _ _ _; exact single first last hfl
  | cons c rest ih =>
    intro first last hfl hw hf hs
    rw [SortedFirst, List.pairwise_cons] at hs
    have hc := hf c (List.mem_cons_self ..)
    have hw' : ∀ c ∈ rest, c.1 ≤ c.2 := fun b hb => hw b (List.mem_cons_of_mem _ hb)
    have t := @ite_cases _ (fun l : List (Nat × Nat) => Canon l ∧ ∀ b ∈ l, first ≤ b.1)
    rw [mergeGo]
    refine t (fun _ => single first last hfl) fun _ => t (fun hgap => ?_) fun _ =>
      ih first _ (by split <;> omega) hw' (fun b hb => hf b (List.mem_cons_of_mem _ hb)) hs.2
    obtain ⟨⟨hp, hwf⟩, hfirst⟩ := ih c.1 c.2 (hw c (List.mem_cons_self ..)) hw' hs.1 hs.2
    refine ⟨⟨List.pairwise_cons.mpr ⟨fun b hb => Nat.lt_of_lt_of_le hgap (hfirst b hb), hp⟩, fun r hr => ?_⟩,
      fun b hb => ?_⟩
    · rcases List.mem_cons.mp hr with rfl | hr
      · exact hfl
      · exact hwf r hr
    · rcases List.mem_cons.mp hb with rfl | hb
      · exact Nat.le_refl _
      · exact Nat.le_trans hc (hfirst b hb)

theorem mergeRanges_cases (rs : List (Nat × Nat)) :
    (rs = [] ∧ mergeRanges rs = []) ∨
    ∃ r rest, (∀ x, x ∈ r :: rest ↔ x ∈ rs) ∧ (∀ c ∈ rest, r.1 ≤ c.1) ∧ SortedFirst rest ∧
      mergeRanges rs = mergeGo r.1 r.2 rest := by
  unfold mergeRanges
  have hp := sortByFirst_perm rs
  have hs := sorted_sortByFirst rs
  cases hsort : sortByFirst rs with
  | nil => rw [hsort] at hp; exact .inl ⟨hp.nil_eq.symm, rfl⟩
  | cons r rest =>
    rw [hsort] at hp hs
    rw [SortedFirst, List.pairwise_cons] at hs
    exact .inr ⟨r, rest, fun x => hp.mem_iff, hs.1, hs.2, rfl⟩

theorem mergeRanges_mem (rs : List (Nat × Nat)) (ch : Nat) (hch : ch ≤ maxRune) :
    inRanges (mergeRanges rs) ch = inRanges rs ch := by
  rcases mergeRanges_cases rs with ⟨rfl, h⟩ | ⟨r, rest, hm, hf, hs, h⟩
  · rw [h]
  · rw [h, mergeGo_mem ch hch rest r.1 r.2 hf hs]
    apply Bool.eq_iff_iff.mpr
    simp only [inRanges_iff, ← hm, Bool.or_eq_true, inRange_iff, List.mem_cons, exists_eq_or_imp]

theorem mergeRanges_nil_iff (rs : List (Nat × Nat)) : mergeRanges rs = [] ↔ rs = [] := by
  rcases mergeRanges_cases rs with ⟨rfl, h⟩ | ⟨r, rest, hm, _, _, h⟩
  · exact ⟨fun _ => rfl, fun _ => h⟩
  · rw [h]
    exact ⟨fun e => absurd e (mergeGo_ne_nil _ _ _),
      fun e => absurd ((hm r).mp (List.mem_cons_self ..)) (e ▸ List.not_mem_nil)⟩

/-! ## the normal forms -/

theorem eq_not_of_iff_not {a b : Bool} (h : a = true ↔ ¬ (b = true)) : a = !b := by
  cases a <;> cases b <;> simp_all

theorem makeAnything_pos (cat : Nat → Nat → Bool) (f : Flat) (ch : Nat) (hch : ch ≤ maxRune) :
    f.makeAnything.pos cat ch = true := by
  simp only [Flat.makeAnything, Flat.pos, inRanges_cons, inRanges_nil, inCats_nil, Bool.or_false, inRange_iff]
  exact ⟨Nat.zero_le _, hch⟩

/-- What a normal form of `canonicalize` may do to `f`: nothing; put the negated `[a, b]` in its place, when `f` is not
negated and its positive side is every valid rune but those of `[a, b]`; `makeAnything`, when it is every valid rune. -/
inductive Renorm (cat : Nat → Nat → Bool) (f g : Flat) : Prop
  | same (h : g = f)
  | gap (a b : Nat) (hab : a ≤ b) (hn : f.neg = false)
      (hg : g.ranges = [(a, b)] ∧ g.cats = [] ∧ g.neg = true ∧ g.building = f.building)
      (hpos : ∀ ch, ch ≤ maxRune → f.pos cat ch = !inRange (a, b) ch)
  | any (h : g = f.makeAnything) (hpos : ∀ ch, ch ≤ maxRune → f.pos cat ch = true)

theorem Renorm.mem {cat : Nat → Nat → Bool} {f g : Flat} (h : Renorm cat f g) (ch : Nat) (hch : ch ≤ maxRune) : g.memAlg cat ch = f.memAlg cat ch := by
  cases h with
  | same h => rw [h]
  | gap a b _ hn hg hpos =>
    rw [Flat.memAlg, Flat.memAlg, hpos ch hch, Flat.pos, hg.1, hg.2.1, hg.2.2.1, hn, inRanges_cons, inRanges_nil,
      inCats_nil, Bool.or_false, Bool.or_false, Bool.bne_true, Bool.bne_false]
  | any h hpos => rw [h, Flat.memAlg, Flat.memAlg, makeAnything_pos cat f ch hch, hpos ch hch]; rfl

theorem Renorm.building {cat : Nat → Nat → Bool} {f g : Flat} (h : Renorm cat f g) : g.building = f.building := by
  cases h with
  | same h => rw [h]
  | gap _ _ _ _ hg _ => exact hg.2.2.2
  | any h _ => rw [h]; rfl

theorem Renorm.canon {cat : Nat → Nat → Bool} {f g : Flat} (h : Renorm cat f g) (hc : Canon f.ranges) : Canon g.ranges := by
  cases h with
  | same h => rw [h]; exact hc
  | gap a b hab _ hg _ => rw [hg.1]; exact canon_single hab
  | any h _ => rw [h]; exact canon_single (Nat.zero_le _)

theorem norm1_renorm (cat : Nat → Nat → Bool) (hasSub : Bool) (f : Flat) : Renorm cat f (norm1 hasSub f) := by
  have hM : 1 ≤ maxRune := by decide
  unfold norm1
  refine ite_cases (fun hcond => ?_) fun _ => .same rfl
  simp only [Bool.and_eq_true, Bool.not_eq_true', List.isEmpty_iff] at hcond
  -- the positive side is the ranges; the three shapes are "everything but `[a, b]`"
  have gap : ∀ a b : Nat, a ≤ b → (∀ ch, ch ≤ maxRune → (inRanges f.ranges ch = true ↔ ¬ (a ≤ ch ∧ ch ≤ b))) →
      Renorm cat f { f with ranges := [(a, b)], neg := true } := fun a b hab h =>
    .gap a b hab hcond.1.1 ⟨rfl, hcond.2, rfl, rfl⟩ fun ch hch => by
      rw [Flat.pos, hcond.2, inCats_nil, Bool.or_false]
      exact eq_not_of_iff_not ((h ch hch).trans (not_congr (inRange_iff (a, b) ch).symm))
  rcases hr : f.ranges with _ | ⟨r0, _ | ⟨r1, _ | _⟩⟩
  · exact .same rfl
  · refine ite_cases (fun h0 => ite_cases (fun h1 => ?_) fun _ => .same rfl) fun h0 =>
      ite_cases (fun h1 => ite_cases (fun h2 => ?_) fun _ => .same rfl) fun _ => .same rfl
    all_goals
      refine gap _ _ (Nat.le_refl _) fun ch hch => ?_
      simp only [hr, inRanges_cons, inRanges_nil, Bool.or_false, inRange_iff]
      omega
  · refine ite_cases (fun h => gap _ _ (by omega) fun ch hch => ?_) fun _ => .same rfl
    simp only [hr, inRanges_cons, inRanges_nil, Bool.or_false, Bool.or_eq_true, inRange_iff]
    omega
  · exact .same rfl

theorem norm2_renorm (cat : Nat → Nat → Bool) (hasSub : Bool) (f : Flat) : Renorm cat f (norm2 hasSub f) := by
  unfold norm2
  refine ite_cases (fun _ => ?_) fun _ => .same rfl
  rcases hr : f.ranges with _ | ⟨r0, _ | _⟩
  · exact .same rfl
  · refine ite_cases (fun h => .any rfl fun ch hch => ?_) fun _ => .same rfl
    rw [Flat.pos, hr, inRanges_cons, Bool.or_eq_true, Bool.or_eq_true, inRange_iff]
    exact .inl (.inl ⟨h.1 ▸ Nat.zero_le _, Nat.le_trans hch h.2⟩)
  · exact .same rfl

theorem norm3_renorm (cat : Nat → Nat → Bool) (hasSub : Bool) (f : Flat) : Renorm cat f (norm3 cat hasSub f) := by
  unfold norm3
  refine ite_cases (fun hcond => ?_) fun _ => .same rfl
  simp only [Bool.and_eq_true, Bool.not_eq_true'] at hcond
  rcases hr : f.ranges with _ | ⟨r0, _ | ⟨r1, _ | _⟩⟩
  · exact .same rfl
  · exact .same rfl
  · refine ite_cases (fun h => ?_) fun _ => .same rfl
    -- the ranges omit exactly `r0.2 + 1`; the categories are asked about it
    have hrs : ∀ ch, ch ≤ maxRune → (inRanges f.ranges ch = true ↔ ch ≠ r0.2 + 1) := fun ch hch => by
      simp only [hr, inRanges_cons, inRanges_nil, Bool.or_false, Bool.or_eq_true, inRange_iff]
      omega
    refine ite_cases (fun hcatx => .any rfl fun ch hch => ?_) fun hcatx =>
      .gap (r0.2 + 1) (r0.2 + 1) (Nat.le_refl _) hcond.1.1 ⟨rfl, rfl, rfl, rfl⟩ fun ch hch => eq_not_of_iff_not ?_
    · rw [catLoop_eq_inCats] at hcatx
      rw [Flat.pos, Bool.or_eq_true]
      by_cases hx : ch = r0.2 + 1
      · exact .inr (hx ▸ hcatx)
      · exact .inl ((hrs ch hch).2 hx)
    · rw [catLoop_eq_inCats, Bool.not_eq_true] at hcatx
      rw [Flat.pos, Bool.or_eq_true, inRange_iff, hrs ch hch]
      refine ⟨fun h e => ?_, fun h => .inl fun e => h (e ▸ ⟨Nat.le_refl _, Nat.le_refl _⟩)⟩
      have : ch = r0.2 + 1 := Nat.le_antisymm e.2 e.1
      rcases h with h | h
      · exact h this
      · rw [this, hcatx] at h
        cases h
  · exact .same rfl

theorem norm1_mem (cat : Nat → Nat → Bool) (hasSub : Bool) (f : Flat) (ch : Nat) (hch : ch ≤ maxRune) :
    (norm1 hasSub f).memAlg cat ch = f.memAlg cat ch :=
  (norm1_renorm cat hasSub f).mem ch hch

theorem norm2_mem (cat : Nat → Nat → Bool) (hasSub : Bool) (f : Flat) (ch : Nat) (hch : ch ≤ maxRune) :
    (norm2 hasSub f).memAlg cat ch = f.memAlg cat ch :=
  (norm2_renorm cat hasSub f).mem ch hch

theorem Flat.canonicalize_mem (cat : Nat → Nat → Bool) (hasSub : Bool) (f : Flat) (ch : Nat) (hch : ch ≤ maxRune) :
    (f.canonicalize cat hasSub).memAlg cat ch = f.memAlg cat ch := by
  have hm : ({ f with ranges := mergeRanges f.ranges } : Flat).memAlg cat ch = f.memAlg cat ch := by
    simp only [Flat.memAlg, Flat.pos, mergeRanges_mem f.ranges ch hch]
  unfold Flat.canonicalize
  split
  · rfl
  · simp only
    split
    · exact hm
    · rw [(norm3_renorm cat hasSub _).mem ch hch, (norm2_renorm cat hasSub _).mem ch hch,
        (norm1_renorm cat hasSub _).mem ch hch, hm]

theorem Flat.canonicalize_canon (cat : Nat → Nat → Bool) (hasSub : Bool) (f : Flat)
    (hw : ∀ r ∈ f.ranges, r.1 ≤ r.2) : Canon (f.canonicalize cat hasSub).ranges := by
  have hm : Canon (mergeRanges f.ranges) := by
    rcases mergeRanges_cases f.ranges with ⟨_, h⟩ | ⟨r, rest, hm, hf, hs, h⟩
    · rw [h]
      exact ⟨List.Pairwise.nil, nofun⟩
    · rw [h]
      exact (mergeGo_canon rest r.1 r.2 (hw r ((hm r).mp (List.mem_cons_self ..)))
        (fun b hb => hw b ((hm b).mp (List.mem_cons_of_mem _ hb))) hf hs).1
  unfold Flat.canonicalize
  split
  · next he =>
    rw [List.isEmpty_iff.mp he]
    exact ⟨List.Pairwise.nil, nofun⟩
  · simp only
    split
    · exact hm
    · exact (norm3_renorm cat hasSub _).canon ((norm2_renorm cat hasSub _).canon ((norm1_renorm cat hasSub _).canon hm))

/-! ## the `building` mark: `canonicalize` keeps it, and under it only sorts and merges -/

theorem Flat.canonicalize_building (cat : Nat → Nat → Bool) (hs : Bool) (f : Flat) :
    (f.canonicalize cat hs).building = f.building := by
  unfold Flat.canonicalize
  split
  · rfl
  · simp only
    split
    · rfl
    · rw [(norm3_renorm cat hs _).building, (norm2_renorm cat hs _).building, (norm1_renorm cat hs _).building]

theorem Flat.canonicalize_of_building (cat : Nat → Nat → Bool) (hs : Bool) (f : Flat) (hb : f.building = true) :
    f.canonicalize cat hs = { f with ranges := mergeRanges f.ranges } := by
  unfold Flat.canonicalize
  split
  · next he =>
    have : mergeRanges f.ranges = f.ranges := by rw [List.isEmpty_iff.mp he]; rfl
    rw [this]
  · simp [hb]

end RegexVerif.Class
