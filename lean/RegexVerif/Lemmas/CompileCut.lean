/-
Compiler correctness: the rules of the cutting constructs — atomic group, positive and negative lookaround, the body in
its own direction (lookahead or lookbehind).  All rest on `Forejump` dropping the frames pushed since `Setjump`
(`forejump_cut`, `Delivers.cut`).
-/
import RegexVerif.Lemmas.CompileStep

namespace RegexVerif.Compile
open RegexVerif.VM RegexVerif.Code RegexVerif.Writer RegexVerif.Generated.Opcodes RegexVerif RegexVerif.Spec
open RegexVerif.Lemmas.VM

/-- `for Crawlpos() != target { uncapture() }` removes the captures made since the log had `C.length` entries -/
theorem uncaptureTo_spec {sl : Nat → Nat} {N : Nat} {C : List (Nat × Nat × Nat)} :
    ∀ (k : Nat) (ext : List (Nat × Nat × Nat)) (s : VMState) (fuel : Nat), ext.length = k →
      CapRep sl N s.cap (C ++ ext) → k ≤ fuel →
      ∃ R', VM.uncaptureTo (C.length : Int) fuel s = .ok { s with cap := R' } ∧ CapRep sl N R' C := by
  intro k
  induction k with
  | zero =>
    intro ext s fuel hk hrep _
    have : ext = [] := List.eq_nil_of_length_eq_zero hk
    subst this
    rw [List.append_nil] at hrep
    have hlen : (s.cap.crawl.length : Int) = (C.length : Int) := by rw [hrep.crawl]; simp
    refine ⟨s.cap, ?_, hrep⟩
    cases fuel <;> simp [VM.uncaptureTo, hlen]
  | succ k ih =>
    intro ext s fuel hk hrep hfuel
    rcases List.eq_nil_or_concat ext with h | ⟨ext', x, h⟩
    · subst h; simp at hk
    · rw [List.concat_eq_append] at h
      subst h
      have hk' : ext'.length = k := by simp at hk; exact hk
      rw [← List.append_assoc] at hrep
      obtain ⟨rest, hcr, hrep'⟩ := capRep_uncapture hrep
      obtain ⟨f, rfl⟩ : ∃ f, fuel = f + 1 := ⟨fuel - 1, by omega⟩
      have hne : ¬ (s.cap.crawl.length : Int) = (C.length : Int) := by
        rw [hrep.crawl]; simp; omega
      have hun : VM.uncapture s = .ok { s with cap := MatchBuilder.uncapture s.cap } := by
        simp [VM.uncapture, hcr]
      obtain ⟨R', h1, h2⟩ := ih ext' { s with cap := MatchBuilder.uncapture s.cap } f hk' hrep' (by omega)
      refine ⟨R', ?_, h2⟩
      simp only [VM.uncaptureTo, hne, if_false, hun]
      exact h1

section cut
variable {X : Setup} {a i : Nat} {T S : List Int} {C : List (Nat × Nat × Nat)} {s : VMState} {v : Int}

/-- `Setjump` saves the depth of the backtracking stack (the bottom slot included) and of the capture log, above a frame
    whose `Back` case takes both off again -/
theorem setjump_delivers (he : Entry X a i (T ++ [v]) S C s) (hia : InstrAt X.p a (i0 opSetjump))
    (hf : ∃ w, VM.fetch X.p (a + 1) = .ok w) :
    Delivers X (a + 1) T S ((C.length : Int) :: ((T.length + 1 : Nat) : Int) :: S) C [⟨i, C⟩] s := by
  obtain ⟨cap, rfl, hc⟩ := he.eq hia rfl
  have hcl : (cap.crawl.length : Int) = C.length := by rw [hc.crawl]; simp
  have hlen : ((T ++ [v]).length : Int) = ((T.length + 1 : Nat) : Int) := by simp
  exact Delivers.single_above (v := v) [(a : Int)] (frame_pos (w := decode opSetjump) hia.fetch [] rfl)
    (hcl ▸ hlen ▸ leads_of_advance (k := 0)
      (s1 := ⟨a, _, i, (a : Int) :: (T ++ [v]), (cap.crawl.length : Int) :: ((T ++ [v]).length : Int) :: S, cap⟩) rfl hf rfl hc)
    fun _ _ hfl => fail_through (w := decode opSetjump) hfl hia.fetch fun _ _ => rfl

theorem trackto_framed {F : List Int} (hF : Framed X.p F) (s1 : VMState) (ht : s1.track = F ++ (T ++ [v])) :
    VM.trackto X.p s1 ((T.length + 1 : Nat) : Int) = .ok { s1 with track := T ++ [v] } := by
  have := trackto_of_cut (p := X.p) (s1 := s1) (t := T ++ [v]) (by simp) (by rw [ht]; simp) (by
    rw [ht]; simpa using cutFrames_framed hF (T ++ [v]) _ (by simp))
  simpa using this

/-- `Forejump|Back` removes the captures made since the matching `Setjump` -/
theorem forejump_back {ext : List (Nat × Nat × Nat)} {T : List Int}
    (hfail : FailAt X ((a : Int) :: (C.length : Int) :: T) S (C ++ ext) s) (hia : InstrAt X.p a (i0 opForejump)) :
    Leads X s (FailAt X T S C) := by
  obtain ⟨tp, cap, chk, hst, hc⟩ := fail_back (w := decode opForejump) hfail hia.fetch
  obtain ⟨R', h1, h2⟩ := uncaptureTo_spec ext.length ext ⟨a, { decode opForejump with back := true }, tp, T, S, cap⟩
    cap.crawl.length rfl hc (by rw [hc.crawl]; simp)
  exact Leads.of_step hst (Leads.here ⟨⟨a, { decode opForejump with back := true }, tp, T, S, R'⟩,
    congrArg (Except.map fun s1 => (s1, Exit.back)) h1, rfl, rfl, h2⟩)

/-- **the cut**: `Forejump` reached above whole frames `F` pushed since the matching `Setjump` drops them; what follows runs
    above the frame of `Forejump`, which on backtracking undoes the captures made since `Setjump` -/
theorem forejump_cut {F G : List Int} {C' ext : List (Nat × Nat × Nat)} {j b : Nat} {S' : List Int} {rs : List St}
    (hF : Framed X.p F) (hG : G = F ++ (T ++ [v])) (hC : C' = C ++ ext) (hia : InstrAt X.p a (i0 opForejump))
    (hf : ∃ w, VM.fetch X.p (a + 1) = .ok w)
    (he : Entry X a j G ((C.length : Int) :: ((T.length + 1 : Nat) : Int) :: S) C' s)
    (hcont : ∀ s1, Entry X (a + 1) j ((a : Int) :: (C.length : Int) :: (T ++ [v])) S C' s1 →
      Delivers X b ((a : Int) :: (C.length : Int) :: T) S S' C' rs s1) :
    Delivers X b T S S' C rs s := by
  subst hG hC
  obtain ⟨cap, rfl, hc⟩ := he.eq (t := opForejump) hia rfl
  have htt := trackto_framed hF ⟨a, decode opForejump, j, F ++ (T ++ [v]), S, cap⟩ rfl
  have hb : VM.body X.p X.env ⟨a, decode opForejump, j, F ++ (T ++ [v]), (C.length : Int) :: _ :: S, cap⟩ =
      .ok (⟨a, decode opForejump, j, (a : Int) :: (C.length : Int) :: (T ++ [v]), S, cap⟩, .advance 0) :=
    congrArg (Except.map fun s1 => (VM.push1 s1 (C.length : Int), Exit.advance 0)) htt
  obtain ⟨s1, hr, he1⟩ := leads_of_advance hb hf rfl hc
  exact Delivers.of_reach hr (Delivers.under (F := [(a : Int), (C.length : Int)])
    (frame_pos (w := decode opForejump) hia.fetch [_] rfl) (hcont s1 he1) fun s'' v' hfl => forejump_back hfl hia)

/-- `Backjump` reached above whole frames `F` pushed since `Setjump`: frames and captures are dropped and the construct fails -/
theorem backjump_fails {F G : List Int} {C' ext : List (Nat × Nat × Nat)} (hF : Framed X.p F) (hG : G = F ++ (T ++ [v]))
    (hC : C' = C ++ ext) (he : Entry X a i G ((C.length : Int) :: ((T.length + 1 : Nat) : Int) :: S) C' s)
    (hia : InstrAt X.p a (i0 opBackjump)) : FailAt X (T ++ [v]) S C s := by
  subst hG hC
  obtain ⟨cap, rfl, hc⟩ := he.eq (t := opBackjump) hia rfl
  obtain ⟨R', h1, h2⟩ := uncaptureTo_spec ext.length ext ⟨a, decode opBackjump, i, T ++ [v], S, cap⟩ cap.crawl.length rfl hc
    (by rw [hc.crawl]; simp)
  have htt := trackto_framed hF ⟨a, decode opBackjump, i, F ++ (T ++ [v]), S, cap⟩ rfl
  refine ⟨⟨a, decode opBackjump, i, T ++ [v], S, R'⟩, ?_, rfl, rfl, h2⟩
  show VM.caseBackjump X.p ⟨a, _, i, _, (C.length : Int) :: ((T.length + 1 : Nat) : Int) :: S, cap⟩ = _
  simp only [caseBackjump, bind, Except.bind, htt, h1, pure, Except.pure]

/-- `Getmark`: back to the marked position; the `Back` case puts the mark on the grouping stack again -/
theorem getmark_delivers {TPx : TP} {sets : List (List Nat)} (hrel : EnvRel TPx sets X.env X.se) {m : Nat} (hm : m ≤ X.se.n)
    (he : Entry X a i (T ++ [v]) ((m : Int) :: S) C s) (hia : InstrAt X.p a (i0 opGetmark))
    (hf : ∃ w, VM.fetch X.p (a + 1) = .ok w) : Delivers X (a + 1) T ((m : Int) :: S) S C [⟨m, C⟩] s := by
  obtain ⟨cap, rfl, hc⟩ := he.eq (t := opGetmark) hia rfl
  have hrange : (0 : Int) ≤ (m : Int) ∧ (m : Int) ≤ X.env.len := by rw [env_len hrel]; omega
  refine Delivers.single_above (v := v) [(a : Int), (m : Int)] (frame_pos (w := decode opGetmark) hia.fetch [_] rfl)
    (leads_of_advance (k := 0) (s1 := ⟨a, decode opGetmark, m, (a : Int) :: (m : Int) :: (T ++ [v]), S, cap⟩) ?_ hf rfl hc)
    fun _ _ hfl => fail_through (w := decode opGetmark) hfl hia.fetch fun _ _ => rfl
  show (VM.texttoStack X.env _ _).map _ = _
  rw [VM.texttoStack, if_pos hrange]; rfl

/-- **`Forejump` after a fragment entered behind the matching `Setjump`** keeps that fragment's first success -/
theorem Delivers.cut {rs : List St}
    (h : Delivers X a T S ((C.length : Int) :: ((T.length + 1 : Nat) : Int) :: S) C rs s)
    (hext : ∀ r ∈ rs, ∃ ext, r.caps = C ++ ext) (hia : InstrAt X.p a (i0 opForejump))
    (hf : ∃ w, VM.fetch X.p (a + 1) = .ok w) : Delivers X (a + 1) T S S C (rs.take 1) s := by
  cases rs with
  | nil => exact h
  | cons r rs =>
    obtain ⟨F, hF, ⟨s2, hr2, v', he2⟩, -⟩ := h
    obtain ⟨ext, hx⟩ := hext r (by simp)
    exact Delivers.of_reach hr2 (forejump_cut hF (List.append_assoc ..) hx hia hf he2
      fun s3 he3 => Delivers.single (v := v') (Leads.here he3) rfl)

end cut

section nodes
variable {X : Setup} {a : Nat} {body : Code} {pat : Pat} {d b : Bool}

/-- `Atomic`: `Setjump; ⟨body⟩; Forejump` keeps the first success of the body and cuts its frames -/
theorem Computes.atomic (hb : Computes X (a + 1) body (m X.se pat d)) :
    Computes X a ([i0 opSetjump] ++ body ++ [i0 opForejump]) (m X.se (.atomic pat) d) := by
  intro hcode i T S v C s hst he
  refine Delivers.cast ?_ (by rw [codeLen_seq (codeLen_seq (k := 1) rfl rfl) (l := 1) rfl, ← Nat.add_assoc, ← Nat.add_assoc]) rfl
  simp only [List.cons_append, List.nil_append] at hcode
  obtain ⟨hsj, h⟩ := hcode.cons0
  obtain ⟨hB, h⟩ := h.app
  obtain ⟨hfj, hE⟩ := h.cons0
  exact (Delivers.bind1 (setjump_delivers he hsj hB.fetch_start) fun F s1 v1 _ he1 =>
    hb hB i (F ++ T) _ v1 C s1 hst he1).cut (m_caps_ext X.se pat d ⟨i, C⟩) hfj hE.fetch_end

/-- positive lookaround: `Setjump; Setmark; ⟨body⟩; Getmark; Forejump` -/
theorem Computes.poslook {TPx : TP} {sets : List (List Nat)} (hrel : EnvRel TPx sets X.env X.se)
    (hb : Computes X (a + 2) body (m X.se pat b)) :
    Computes X a ([i0 opSetjump, i0 opSetmark] ++ body ++ [i0 opGetmark, i0 opForejump]) (m X.se (.look b false pat) d) := by
  intro hcode i T S v C s hst he
  simp only [List.cons_append, List.nil_append] at hcode
  obtain ⟨hsj, h⟩ := hcode.cons0
  obtain ⟨hsm, h⟩ := h.cons0
  obtain ⟨hB, h⟩ := h.app
  obtain ⟨hgm, h⟩ := h.cons0
  obtain ⟨hfj, hE⟩ := h.cons0
  have h := Delivers.bind1 (setjump_delivers he hsj ⟨_, hsm.fetch⟩) fun F s1 v1 _ he1 =>
    Delivers.bind1 (setmark_delivers he1 hsm hB.fetch_start) fun F' s2 v2 _ he2 =>
      Delivers.bind (g := fun r => [⟨i, r.caps⟩]) _ s2 (hb hB i (F' ++ (F ++ T)) _ v2 C s2 hst he2) fun r _ F'' s3 v3 _ he3 =>
        getmark_delivers hrel hst.1 he3 hgm ⟨_, hfj.fetch⟩
  refine (h.cut ?_ hfj hE.fetch_end).cast
    (by rw [codeLen_seq (codeLen_seq (k := 2) rfl rfl) (l := 2) rfl]; omega) ?_
  · intro r hr
    obtain ⟨r', hr', h⟩ := List.mem_flatMap.1 hr
    rw [List.mem_singleton.1 h]
    exact m_caps_ext X.se pat b ⟨i, C⟩ r' hr'
  · simp only [m]; cases m X.se pat b ⟨i, C⟩ <;> rfl

/-- negative lookaround: `Setjump; Lazybranch L; ⟨body⟩; Backjump; L: Forejump` — `Backjump` drops the frames of `Lazybranch`
    and `Setjump` together with the body's, so this is not a sequence of deliveries -/
theorem Computes.neglook {sz : Nat} (hsz : codeLen body = sz) (hb : Computes X (a + 3) body (m X.se pat b)) :
    Computes X a ([i0 opSetjump, i1 opLazybranch ((a + 3 + sz + 1 : Nat) : Int)] ++ body ++ [i0 opBackjump, i0 opForejump])
      (m X.se (.look b true pat) d) := by
  subst hsz
  intro hcode i T S v C s hst he
  refine Delivers.cast (b := a + 3 + codeLen body + 1 + 1) ?_
    (by rw [codeLen_seq (codeLen_seq (k := 3) rfl rfl) (l := 2) rfl]; omega) rfl
  simp only [List.cons_append, List.nil_append] at hcode
  obtain ⟨hsj, h⟩ := hcode.cons0
  obtain ⟨hlb, h⟩ := h.cons1
  obtain ⟨hB, h⟩ := h.app
  obtain ⟨hbj, h⟩ := h.cons0
  obtain ⟨hfj, hE⟩ := h.cons0
  obtain ⟨F1, hF1, ⟨s1, hr1, v1, he1⟩, -⟩ := setjump_delivers he hsj ⟨_, hlb.fetch⟩
  refine Delivers.of_reach hr1 (Delivers.of_leads (lazybranch_leads he1 hlb hB.fetch_start) fun s2 he2 => ?_)
  have hb := hb hB i ([((a + 1 : Nat) : Int), (i : Int)] ++ (F1 ++ T)) _ v1 C s2 hst he2
  have hext := m_caps_ext X.se pat b ⟨i, C⟩
  simp only [Spec.m]
  cases hrs : Spec.m X.se pat b ⟨i, C⟩ with
  | nil =>
    rw [hrs] at hb
    obtain ⟨s3, hr3, v', hfl⟩ := hb
    obtain ⟨s4, hr4, he4⟩ := lazybranch_back hfl hlb ⟨_, hfj.fetch⟩
    exact Delivers.of_reach (hr3.trans hr4) (forejump_cut hF1 (List.append_assoc ..) (List.append_nil C).symm hfj
      hE.fetch_end he4 fun s5 he5 => Delivers.single (r := ⟨i, C⟩) (v := v') (Leads.here he5) rfl)
  | cons r rs' =>
    rw [hrs] at hb hext
    obtain ⟨F, hF, ⟨s3, hr3, v', he3⟩, -⟩ := hb
    obtain ⟨ext, hx⟩ := hext r (by simp)
    exact Delivers.fail (v := v') (Leads.of_reach hr3 (Leads.here
      (backjump_fails (hF.append ((lazybranch_frame hlb (i : Int)).append hF1)) (by simp) hx he3 hbj)))

end nodes

end RegexVerif.Compile
