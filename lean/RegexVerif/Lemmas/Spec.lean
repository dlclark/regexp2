/-
What every later file uses about `Spec.m`: one more round of a loop (`iterMore`, `iter_succ`), that character tests
read two oracle tables only (`Pred.test_congr`), and the induction over a pattern done once (`m_rel`; `m_wf` is an
instance).  `St.wf`, "the state lies inside the text", is proof vocabulary and is defined here.

Elsewhere: the equations of `m` constructor by constructor open Lemmas/Rewrites.lean, which ends with the step from
the first success to `find` (`find_congr_head`); `find_eq_none_iff` / `find_eq_some_iff` are theorems of Props/C01.lean.
-/
import RegexVerif.Model.Spec
import RegexVerif.Lemmas.ListFacts

namespace RegexVerif.Spec

/-- a state is well-formed for a text of length `n`: position and every capture inside the text -/
def St.wf (n : Nat) (st : St) : Prop := st.pos ≤ n ∧ ∀ c ∈ st.caps, c.2.1 + c.2.2 ≤ n

theorem St.wf_start {n p : Nat} (hp : p ≤ n) : St.wf n { pos := p, caps := [] } := ⟨hp, nofun⟩

/-- the successes of a loop that pass through the body once more -/
def iterMore (f : St → List St) (lzy : Bool) (lo : Nat) (hi : Option Nat) (fuel cnt : Nat) (st : St) : List St :=
  if canGo hi cnt then
    (f st).flatMap fun st' => if st'.pos == st.pos && lo ≤ cnt + 1 then [st'] else iter f lzy lo hi fuel (cnt + 1) st'
  else []

theorem iter_succ (f : St → List St) (lzy : Bool) (lo : Nat) (hi : Option Nat) (fuel cnt : Nat) (st : St) :
    iter f lzy lo hi (fuel + 1) cnt st =
      if lzy then (if lo ≤ cnt then [st] else []) ++ iterMore f lzy lo hi fuel cnt st
      else iterMore f lzy lo hi fuel cnt st ++ (if lo ≤ cnt then [st] else []) := rfl

theorem mem_iter_succ {f : St → List St} {lzy : Bool} {lo : Nat} {hi : Option Nat} {fuel cnt : Nat} {st x : St} :
    x ∈ iter f lzy lo hi (fuel + 1) cnt st ↔
      (lo ≤ cnt ∧ x = st) ∨ (canGo hi cnt = true ∧ ∃ y ∈ f st,
        x ∈ if (y.pos == st.pos && decide (lo ≤ cnt + 1)) = true then [y] else iter f lzy lo hi fuel (cnt + 1) y) := by
  rw [iter_succ, iterMore]
  cases lzy
  · simp only [Bool.false_eq_true, if_false, List.mem_append, List.mem_ite_nil_right, List.mem_singleton, List.mem_flatMap]
    exact Or.comm
  · simp only [if_true, List.mem_append, List.mem_ite_nil_right, List.mem_singleton, List.mem_flatMap]

theorem iter_preserves (P : St → Prop) (f : St → List St) (hf : ∀ st, P st → ∀ st' ∈ f st, P st')
    (lzy : Bool) (lo : Nat) (hi : Option Nat) :
    ∀ (fuel cnt : Nat) (st : St), P st → ∀ st' ∈ iter f lzy lo hi fuel cnt st, P st' := by
  intro fuel
  induction fuel with
  | zero =>
    intro cnt st hst st' hmem
    rw [iter, List.mem_ite_nil_right, List.mem_singleton] at hmem
    exact hmem.2 ▸ hst
  | succ fuel ih =>
    intro cnt st hst st' hmem
    rcases mem_iter_succ.mp hmem with ⟨_, rfl⟩ | ⟨_, y, hy, hxy⟩
    · exact hst
    · split at hxy
      · exact List.mem_singleton.mp hxy ▸ hf st hst y hy
      · exact ih (cnt + 1) y (hf st hst y hy) st' hxy

/-- A map `φ` on states that carries the successes of `f` to those of `g` (on the states satisfying `P`) and keeps
    apart the positions the empty-iteration rule compares (`hpos`) carries a loop over `f` to the loop over `g`. -/
theorem iter_map_conj (P : St → Prop) (φ : St → St) (f g : St → List St)
    (hP : ∀ st, P st → ∀ st' ∈ f st, P st')
    (hfg : ∀ st, P st → (f st).map φ = g (φ st))
    (hpos : ∀ st st', P st → P st' → ((φ st').pos == (φ st).pos) = (st'.pos == st.pos))
    (lzy : Bool) (lo : Nat) (hi : Option Nat) :
    ∀ (fuel cnt : Nat) (st : St), P st →
      (iter f lzy lo hi fuel cnt st).map φ = iter g lzy lo hi fuel cnt (φ st) := by
  intro fuel
  induction fuel with
  | zero =>
    intro cnt st _
    rw [iter, iter]
    split <;> rfl
  | succ fuel ih =>
    intro cnt st hst
    have more : (iterMore f lzy lo hi fuel cnt st).map φ = iterMore g lzy lo hi fuel cnt (φ st) := by
      unfold iterMore
      split
      · rw [← hfg st hst, List.map_flatMap, List.flatMap_map]
        refine flatMap_congr_mem _ _ _ fun x hx => ?_
        rw [hpos st x hst (hP st hst x hx)]
        split
        · rfl
        · exact ih (cnt + 1) x (hP st hst x hx)
      · rfl
    rw [iter_succ, iter_succ, ← more]
    cases lzy <;>
      simp only [Bool.false_eq_true, if_false, if_true, List.map_append, apply_ite (List.map φ), List.map_nil,
        List.map_cons]

theorem Cls.mem_congr (e e' : Env) (hn : e'.named = e.named) (hf : e'.fold = e.fold) (ci : Bool) (c : Cls) (r : Nat) :
    c.mem e' ci r = c.mem e ci r := by
  induction c with
  | base neg rs ns => simp only [Cls.mem, inNames, Env.partner, hn, hf]
  | diff a b iha ihb => simp only [Cls.mem, iha, ihb]

theorem Pred.test_congr (e e' : Env) (hn : e'.named = e.named) (hf : e'.fold = e.fold) (p : Pred) (r : Nat) :
    p.test e' r = p.test e r := by
  cases p <;> simp only [Pred.test, Env.eqCi, Env.partner, hf, Cls.mem_congr e e' hn hf]

theorem stepChar_eq_some (e : Env) (rtl : Bool) (pos r pos' : Nat) :
    stepChar e rtl pos = some (r, pos') ↔
      if rtl then pos' + 1 = pos ∧ e.text[pos']? = some r else pos' = pos + 1 ∧ e.text[pos]? = some r := by
  cases rtl with
  | false =>
    simp only [stepChar, Bool.false_eq_true, if_false, Option.map_eq_some_iff, Prod.mk.injEq]
    exact ⟨fun ⟨_, hx, hr, hp⟩ => ⟨hp.symm, hr ▸ hx⟩, fun ⟨hp, hx⟩ => ⟨r, hx, rfl, hp.symm⟩⟩
  | true =>
    cases pos with
    | zero => simp [stepChar]
    | succ k =>
      simp only [stepChar, if_true, Nat.succ_ne_zero, if_false, Nat.add_sub_cancel, Option.map_eq_some_iff,
        Prod.mk.injEq, Nat.add_right_cancel_iff]
      exact ⟨fun ⟨_, hx, hr, hp⟩ => ⟨hp.symm, hp ▸ hr ▸ hx⟩, fun ⟨hp, hx⟩ => ⟨r, hp ▸ hx, rfl, hp.symm⟩⟩

theorem stepChar_le (e : Env) (rtl : Bool) (pos r pos' : Nat) (h : stepChar e rtl pos = some (r, pos')) :
    pos' ≤ e.n := by
  rw [stepChar_eq_some] at h
  cases rtl
  · exact h.1 ▸ (List.getElem?_eq_some_iff.mp h.2).1
  · exact Nat.le_of_lt (List.getElem?_eq_some_iff.mp h.2).1

theorem sliceEq_bound (e : Env) (ci : Bool) (s t len : Nat) (h : sliceEq e ci s t len = true) :
    len = 0 ∨ t + len ≤ e.text.length := by
  have hb : ((e.text.drop t).take len).length = len := by
    simp only [sliceEq, Bool.and_eq_true, beq_iff_eq] at h
    exact h.1.2
  rw [List.length_take, List.length_drop] at hb
  omega

theorem refMatch_le (e : Env) (ci rtl : Bool) (s len pos pos' : Nat) (hpos : pos ≤ e.n)
    (h : refMatch e ci rtl s len pos = some pos') : pos' ≤ e.n := by
  cases rtl with
  | true =>
    rw [refMatch, if_pos rfl] at h
    split at h
    · cases h
    · split at h
      · exact Option.some.inj h ▸ Nat.le_trans (Nat.sub_le pos len) hpos
      · cases h
  | false =>
    rw [refMatch, if_neg Bool.false_ne_true] at h
    split at h
    · rename_i hs
      have := sliceEq_bound e ci s pos len hs
      cases h
      unfold Env.n at hpos ⊢
      omega
    · cases h

theorem span_le {a b n : Nat} (ha : a ≤ n) (hb : b ≤ n) : min a b + (max a b - min a b) ≤ n := by
  rw [Nat.add_sub_cancel' (Nat.le_trans (Nat.min_le_left a b) (Nat.le_max_left a b))]
  exact Nat.max_le.mpr ⟨ha, hb⟩

/-- The one induction over `p` behind every fact "each success `st'` of `p` from `st` stands in `R` to `st`".  `R` (it
    may depend on the direction) is reflexive and transitive, holds across the leaf steps (`hchr`, `href`; `hcap`:
    a group's span appended to the log), and survives a lookaround or a condition handing back the captures of its
    first success at the old position (`hlook`, the body having run in direction `b`). -/
theorem m_rel (e : Env) (R : Bool → St → St → Prop) (hrefl : ∀ d st, R d st st)
    (htrans : ∀ d a b c, R d a b → R d b c → R d a c)
    (hchr : ∀ d (st : St) r pos', stepChar e d st.pos = some (r, pos') → R d st { st with pos := pos' })
    (href : ∀ d (st : St) ci s len pos', refMatch e ci d s len st.pos = some pos' → R d st { st with pos := pos' })
    (hcap : ∀ d st (st' : St) g, R d st st' →
      R d st { st' with caps := st'.caps ++ [(g, min st.pos st'.pos, max st.pos st'.pos - min st.pos st'.pos)] })
    (hlook : ∀ d b (st st' : St), R b st st' → R d st ⟨st.pos, st'.caps⟩) :
    ∀ (p : Pat) (d : Bool) (st : St), ∀ st' ∈ m e p d st, R d st st' := by
  intro p d st st' hm
  induction p generalizing d st st' with
  | empty => exact List.mem_singleton.mp hm ▸ hrefl d st
  | nothing => cases hm
  | chr p =>
    rw [m] at hm
    split at hm
    · rename_i r pos' hstep
      rw [List.mem_ite_nil_right, List.mem_singleton] at hm
      exact hm.2 ▸ hchr d st r pos' hstep
    · cases hm
  | anchor a =>
    rw [m, List.mem_ite_nil_right, List.mem_singleton] at hm
    exact hm.2 ▸ hrefl d st
  | seq a b iha ihb =>
    rw [m] at hm
    split at hm
    · obtain ⟨y, hy, hxy⟩ := List.mem_flatMap.mp hm
      exact htrans _ _ _ _ (ihb d st y hy) (iha d y st' hxy)
    · obtain ⟨y, hy, hxy⟩ := List.mem_flatMap.mp hm
      exact htrans _ _ _ _ (iha d st y hy) (ihb d y st' hxy)
  | alt a b iha ihb => exact (List.mem_append.mp hm).elim (iha d st st') (ihb d st st')
  | quant lzy lo hi body ih =>
    exact iter_preserves (R d st) (m e body d) (fun s hs s' hs' => htrans _ _ _ _ hs (ih d s s' hs')) lzy lo hi _ 0 st
      (hrefl d st) st' hm
  | cap g body ih =>
    obtain ⟨y, hy, rfl⟩ := List.mem_map.mp hm
    exact hcap d st y g (ih d st y hy)
  | look behind neg body ih =>
    rw [m] at hm
    split at hm
    · rw [List.mem_ite_nil_right, List.mem_singleton] at hm
      exact hm.2 ▸ hrefl d st
    · rename_i y ys heq
      rw [List.mem_ite_nil_left, List.mem_singleton] at hm
      exact hm.2 ▸ hlook d behind st y (ih behind st y (heq ▸ List.mem_cons_self))
  | atomic body ih => exact ih d st st' (List.mem_of_mem_take hm)
  | ref g ci =>
    rw [m] at hm
    split at hm
    · cases hm
    · rename_i s len _
      split at hm
      · rename_i pos' hr
        exact List.mem_singleton.mp hm ▸ href d st ci s len pos' hr
      · cases hm
  | refCond g yes no ihy ihn =>
    rw [m] at hm
    split at hm
    · exact ihy d st st' hm
    · exact ihn d st st' hm
  | exprCond c yes no ihc ihy ihn =>
    rw [m] at hm
    split at hm
    · rename_i y ys heq
      exact htrans _ _ _ _ (hlook d d st y (ihc d st y (heq ▸ List.mem_cons_self))) (ihy d ⟨st.pos, y.caps⟩ st' hm)
    · exact ihn d st st' hm

theorem m_wf (e : Env) (p : Pat) : ∀ (rtl : Bool) (st : St), st.wf e.n → ∀ st' ∈ m e p rtl st, st'.wf e.n :=
  fun rtl st h st' hm =>
    m_rel e (fun _ st st' => st.wf e.n → st'.wf e.n) (fun _ _ h => h) (fun _ _ _ _ h1 h2 h => h2 (h1 h))
      (fun d st r pos' hs h => ⟨stepChar_le e d st.pos r pos' hs, h.2⟩)
      (fun d st ci s len pos' hr h => ⟨refMatch_le e ci d s len st.pos pos' h.1 hr, h.2⟩)
      (fun _ _ _ _ hr h => ⟨(hr h).1, fun c hc => (List.mem_append.mp hc).elim ((hr h).2 c)
        fun hc => List.mem_singleton.mp hc ▸ span_le h.1 (hr h).1⟩)
      (fun _ _ _ _ hr h => ⟨h.1, (hr h).2⟩) p rtl st st' hm h

theorem scanOrder_ltr (start n : Nat) : scanOrder false start n = List.range' start (n + 1 - start) := by
  rw [scanOrder, if_neg Bool.false_ne_true, List.range_eq_range', List.drop_range', Nat.mul_one, Nat.zero_add]

theorem scanOrder_rtl (start n : Nat) : scanOrder true start n = (List.range (start + 1)).map (start - ·) := by
  rw [scanOrder, if_pos rfl, List.range_eq_range', List.reverse_range', Nat.zero_add, Nat.add_sub_cancel,
    ← List.range_eq_range']

theorem mem_scanOrder_le (rtl : Bool) (start n i : Nat) (hs : start ≤ n) (h : i ∈ scanOrder rtl start n) :
    i ≤ n := by
  cases rtl with
  | true =>
    rw [scanOrder_rtl, List.mem_map] at h
    obtain ⟨k, _, rfl⟩ := h
    exact Nat.le_trans (Nat.sub_le start k) hs
  | false =>
    rw [scanOrder_ltr, List.mem_range'_1, Nat.add_sub_cancel' (Nat.le_succ_of_le hs)] at h
    exact Nat.le_of_lt_succ h.2

end RegexVerif.Spec
