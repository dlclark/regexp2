/-
The scanners of escapes, names and backslash constructs are scanners (`Scans`: they end in an `Adv`-related state, no
fault, no fuel exhaustion), proved in the position calculus of `ParserRun.lean`.  "Not a back-reference after all" returns
to the rune after the backslash (`bbCharCode`), so the backslash cases are specified against that position as floor.
-/
import RegexVerif.Lemmas.ParserRun

namespace RegexVerif.Parser

variable {α : Type}
variable (E : Env)

theorem Scans.attempt {m : M α} (h : Scans E m) : Scans E (attempt m) :=
  fun s hs => wp_attempt _ _ _ _ (wp_mono (h s hs) (fun _ _ x => x) (fun _ x _ => x))

/-! ## `scanCharEscape`, `scanECMACapname`, `scanCapname` -/

theorem scansLt_scanCharEscape : ScansLt E (scanCharEscape E) := by
  refine ScansLt.of_run fun q σ hq => ?_
  unfold scanCharEscape
  run_steps
  · run_call scansLt_scanOctal E
  · run_call scans_scanHexUntilBrace E
  · run_call scans_scanHexUntilBrace E
  · refine (Scans.attempt E ?_).run (by omega) ?_
    · split
      · exact scans_scanHex E 2
      · split
        · exact scans_scanHex E 4
        · exact scans_scanControl E
    · run_steps
      split <;> run_steps

theorem scans_scanECMACapname : Scans E (scanECMACapname E) := by
  refine Scans.of_run fun q σ hq => ?_
  unfold scanECMACapname
  run_steps
  refine Run.iter (q0 := q) ?_ _ _ q σ (by omega) (Nat.le_refl _) hq
  run_steps
  -- the rune of the name, plain or `\u…`: both ways lead to the test of the rune
  rw [M.ite_bind]
  run_steps
  run_peek Peek.nextIs
  · run_call scans_scanHexUntilBrace E
  · run_call scans_scanHex E 4

theorem scans_scanCapname : Scans E (scanCapname E) := by
  refine Scans.of_run fun q σ hq => ?_
  unfold scanCapname
  run_steps
  · run_call scans_scanECMACapname E
  · run_call scans_scanWord E

theorem namesOK_noteSlot (i : Nat) (g : Groups.PState) (h : NamesOK g) : NamesOK (Groups.noteSlot i g) := by
  unfold NamesOK at *
  unfold Groups.noteSlot
  split <;> simpa using h

theorem namesOK_noteSlotP (i : Nat) (g : Groups.PState) (h : NamesOK g) : NamesOK (noteSlotP i g) := by
  have h' := namesOK_noteSlot i g h
  unfold NamesOK at *
  unfold noteSlotP
  split <;> simpa using h'

theorem namesOK_noteName (cfg : Groups.Cfg) (n : String) (g g' : Groups.PState) (h : NamesOK g)
    (hn : Groups.noteName cfg n g = some g') : NamesOK g' := by
  unfold NamesOK at *
  unfold Groups.noteName at hn
  simp only at hn
  split at hn
  · split at hn
    · simp at hn
    · simp only [Option.some.injEq] at hn
      subst hn
      intro _
      rename_i hlook _
      cases hc : g.capnames with
      | none => rename_i hl _; simp [hc] at hl
      | some l => exact h (by simp [hc])
  · split at hn <;> (simp only [Option.some.injEq] at hn; subst hn; intro _)
    · unfold Groups.noteSlot; split <;> simp
    · simp

/-! ### `noteCaptureSlot`, `noteCaptureName`, `consumeCaptureSlot`: only the tables change -/

theorem scans_noteCaptureSlot (i : Nat) : Scans E (noteCaptureSlot i) := by
  intro s hs
  exact ⟨Nat.le_refl _, hs, rfl, fun h => namesOK_noteSlotP i s.g h⟩

theorem scans_noteCaptureName (n : List Nat) : Scans E (noteCaptureName E n) := by
  intro s hs
  unfold wp noteCaptureName
  cases hn : Groups.noteName E.cfg (nameStr n) s.g with
  | none => exact ⟨Nat.le_refl _, hs, rfl, id⟩
  | some g' => exact ⟨Nat.le_refl _, hs, rfl, fun h => namesOK_noteName _ _ _ _ h hn⟩

theorem scans_consumeCaptureSlot (c : Option Nat) : Scans E (consumeCaptureSlot E c) := by
  intro s hs
  unfold wp consumeCaptureSlot
  by_cases hc : (E.ord && c == some s.g.autocap) = true
  · simp only [hc, if_true]
    exact ⟨Nat.le_refl _, hs, rfl, fun h => (namesOK_autocap _ _).mpr h⟩
  · simp only [hc]
    exact ⟨Nat.le_refl _, hs, rfl, id⟩

/-! ## `\p{…}` -/

theorem scans_parseProperty : Scans E (parseProperty E) := by
  refine Scans.of_run fun q σ hq => ?_
  have hcw := countWhile_drop_le E (fun c => E.orc.isWord c || c == 45 || c == 61) (q + 1)
  unfold parseProperty
  run_steps
  run_still .rightCharIf (by omega)
  all_goals (split <;> run_steps)

theorem scansF_bbCharCode (so : Bool) (o : Opts) (backpos : Nat) (hb : backpos < E.pat.length) :
    ScansF E 0 0 backpos (bbCharCode E so o backpos) := by
  refine ScansF.of_run fun q σ ha hq => ?_
  unfold bbCharCode
  run_steps
  run_call scansLt_scanCharEscape E

theorem scans_bbKOpen (o : Opts) : Scans E (bbKOpen E o) := by
  refine Scans.of_run fun q σ hq => ?_
  unfold bbKOpen
  run_steps

theorem scansLt_bbHead (o : Opts) : ScansLt E (bbHead E o) := by
  refine ScansLt.of_run fun q σ hq => ?_
  unfold bbHead
  run_steps
  run_call scans_bbKOpen E _

theorem scansF_bbAngledNumber (so : Bool) (o : Opts) (backpos close : Nat) (hb : backpos < E.pat.length) :
    ScansF E backpos 0 backpos (bbAngledNumber E so o backpos close) := by
  refine ScansF.of_run fun q σ ha hq => ?_
  unfold bbAngledNumber
  run_steps
  run_call scans_scanDecimal E
  all_goals run_call scansF_bbCharCode E _ _ _ hb

theorem scansF_bbNumber (so : Bool) (o : Opts) (backpos : Nat) (hb : backpos < E.pat.length) :
    ScansF E backpos 0 backpos (bbNumber E so o backpos) := by
  refine ScansF.of_run fun q σ ha hq => ?_
  unfold bbNumber
  run_steps
  run_call scans_scanDecimal E
  run_call scansF_bbCharCode E _ _ _ hb

theorem scansF_bbName (so : Bool) (o : Opts) (backpos close : Nat) (k : Bool) (hb : backpos < E.pat.length) :
    ScansF E backpos 0 backpos (bbName E so o backpos close k) := by
  refine ScansF.of_run fun q σ ha hq => ?_
  unfold bbName
  run_steps
  run_call scans_scanCapname E
  · split <;> run_steps
  all_goals run_call scansF_bbCharCode E _ _ _ hb

theorem scans_scanBasicBackslash (so : Bool) : Scans E (scanBasicBackslash E so) := by
  refine Scans.of_run fun q σ hq => ?_
  unfold scanBasicBackslash
  run_steps
  run_call scansLt_bbHead E _
  · run_call scansF_bbAngledNumber E _ _ _ _ (by omega)
  · run_call scansF_bbNumber E _ _ _ (by omega)
  · run_call scansF_bbName E _ _ _ _ _ (by omega)
  · run_call scansF_bbCharCode E _ _ _ (by omega)

theorem scansLt_bsProperty (o : Opts) (ch : Nat) : ScansLt E (bsProperty E o ch) := by
  refine ScansLt.of_run fun q σ hq => ?_
  unfold bsProperty
  run_steps
  run_call scans_parseProperty E

theorem scans_scanBackslash (so : Bool) : Scans E (scanBackslash E so) := by
  refine Scans.of_run fun q σ hq => ?_
  unfold scanBackslash
  run_steps
  · run_call scansLt_bsProperty E _ _
  · run_call scans_scanBasicBackslash E _

end RegexVerif.Parser
