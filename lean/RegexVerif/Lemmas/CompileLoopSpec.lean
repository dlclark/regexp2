/-
Compiler correctness, the single-character loops on the specification side, in either direction `d` (`true`: right to
left).  `runLenD e P d i` is the number of runes ahead of `i` that satisfy `P` in a row; the successes of
`loopPat t m n (.chr P)` are described by it the way the two instructions `rep x m ; t x (n − m)` compute them
(`m_loopPat_dir`) — left to right from the run-length description of `Lemmas/Rewrites.lean`, right to left from that
one through the mirror theorem (`Lemmas/SpecMirror.lean`).
-/
import RegexVerif.Lemmas.CompileSpec
import RegexVerif.Lemmas.Dir
import RegexVerif.Lemmas.Rewrites
import RegexVerif.Lemmas.SpecMirror

namespace RegexVerif.Compile
open RegexVerif.Writer RegexVerif RegexVerif.Spec
open RegexVerif.Lemmas.Scan (dist)  -- Lemmas/Dir.lean

/-- the environment with `\G` bound to 0 (the character loops do not read it; the mirror theorem wants it inside the
    text) -/
def env0 (e : Spec.Env) : Spec.Env := { e with textstart := 0 }

/-- how many runes before `pos`, going left, satisfy the predicate -/
def runLenR (e : Spec.Env) (P : Pred) (pos : Nat) : Nat := runLen (revEnv (env0 e)) P (e.n - pos)

theorem revEnv_env0_n (e : Spec.Env) : (revEnv (env0 e)).n = e.n := by simp [revEnv, env0, Spec.Env.n]

theorem runLenR_le (e : Spec.Env) (P : Pred) {pos : Nat} (hp : pos ≤ e.n) : runLenR e P pos ≤ pos := by
  have := runLen_le (revEnv (env0 e)) P (e.n - pos)
  rw [revEnv_env0_n] at this
  unfold runLenR; omega

theorem runLenR_zero (e : Spec.Env) (P : Pred) : runLenR e P 0 = 0 :=
  Nat.le_zero.1 (runLenR_le e P (Nat.zero_le _))

theorem runLenR_sub (e : Spec.Env) (P : Pred) {d pos : Nat} (hp : pos ≤ e.n) (hd : d ≤ runLenR e P pos) :
    runLenR e P (pos - d) = runLenR e P pos - d := by
  have hle := runLenR_le e P hp
  unfold runLenR at *
  rw [← runLen_add (revEnv (env0 e)) P d (e.n - pos) hd]
  congr 1; omega

theorem runLenR_step (e : Spec.Env) (P : Pred) {pos c : Nat} (hpos : 0 < pos) (hp : pos ≤ e.n) (hc : e.text[pos - 1]? = some c) :
    runLenR e P pos = if P.test e c then runLenR e P (pos - 1) + 1 else 0 := by
  have hacc : acc (revEnv (env0 e)) P (e.n - pos) = P.test e c := by
    have hget : (revEnv (env0 e)).text[e.n - pos]? = e.text[pos - 1]? := by
      unfold Spec.Env.n at *
      simp only [revEnv, env0]
      rw [List.getElem?_reverse (by omega)]
      congr 1; omega
    unfold acc
    rw [hget, hc]
    exact (Pred.test_revEnv _ P c).trans (Pred.test_congr e (env0 e) rfl rfl P c)
  unfold runLenR
  cases ht : P.test e c
  · exact runLen_of_not_acc (hacc.trans ht)
  · rw [runLen_of_acc (hacc.trans ht), if_pos rfl]
    congr 2; omega

def adv (d : Bool) (i k : Nat) : Nat := if d then i - k else i + k

/-- how many of the runes ahead of `i` satisfy the predicate in a row -/
def runLenD (e : Spec.Env) (P : Pred) (d : Bool) (i : Nat) : Nat := if d then runLenR e P i else runLen e P i

theorem adv_zero (d : Bool) (i : Nat) : adv d i 0 = i := by cases d <;> rfl

theorem adv_adv (d : Bool) (i j k : Nat) : adv d (adv d i j) k = adv d i (j + k) := by
  cases d <;> simp only [adv, Bool.false_eq_true, if_false, if_true] <;> omega

theorem adv_le {d : Bool} {n i k : Nat} (hi : i ≤ n) (hk : k ≤ dist d n i) : adv d i k ≤ n := by
  cases d <;> simp only [adv, dist, Bool.false_eq_true, if_false, if_true] at hk ⊢ <;> omega

theorem dist_adv {d : Bool} {n i k : Nat} (hk : k ≤ dist d n i) : dist d n (adv d i k) = dist d n i - k := by
  cases d <;> simp only [adv, dist, Bool.false_eq_true, if_false, if_true] at hk ⊢ <;> omega

theorem runLenD_le (e : Spec.Env) (P : Pred) (d : Bool) {i : Nat} (hi : i ≤ e.n) : runLenD e P d i ≤ dist d e.n i := by
  cases d
  · exact runLen_le e P i
  · exact runLenR_le e P hi

theorem runLenD_step (e : Spec.Env) (P : Pred) (d : Bool) {i c : Nat} (hi : i ≤ e.n) (h : 0 < dist d e.n i)
    (hc : e.text[if d then i - 1 else i]? = some c) :
    runLenD e P d i = if P.test e c then runLenD e P d (adv d i 1) + 1 else 0 := by
  cases d
  · have hacc : acc e P i = P.test e c := by simp [acc, show e.text[i]? = some c from hc]
    show runLen e P i = if P.test e c then runLen e P (i + 1) + 1 else 0
    cases ht : P.test e c
    · exact runLen_of_not_acc (hacc.trans ht)
    · rw [runLen_of_acc (hacc.trans ht), if_pos rfl]
  · exact runLenR_step e P h hi hc

/-- the positions a greedy loop gives back, farthest first -/
def downFrom (d : Bool) (i k : Nat) (C : List (Nat × Nat × Nat)) : List St :=
  (List.range (k + 1)).reverse.map (fun t => ⟨adv d i t, C⟩)

theorem downFrom_succ (d : Bool) (i k : Nat) (C : List (Nat × Nat × Nat)) :
    downFrom d i (k + 1) C = ⟨adv d i (k + 1), C⟩ :: downFrom d i k C := by
  unfold downFrom
  rw [List.range_succ, List.reverse_append]
  rfl

theorem downFrom_zero (d : Bool) (i : Nat) (C : List (Nat × Nat × Nat)) : downFrom d i 0 C = [⟨i, C⟩] := by
  simp [downFrom, adv_zero]

/-- the positions a lazy loop offers after the first one, nearest first -/
def upFrom (d : Bool) (q k : Nat) (C : List (Nat × Nat × Nat)) : List St := (List.range k).map (fun t => ⟨adv d q (1 + t), C⟩)

theorem upFrom_succ (d : Bool) (q k : Nat) (C : List (Nat × Nat × Nat)) :
    upFrom d q (k + 1) C = ⟨adv d q 1, C⟩ :: upFrom d (adv d q 1) k C := by
  unfold upFrom
  rw [List.range_succ_eq_map]
  simp only [List.map_cons, List.map_map, Nat.add_zero, List.cons.injEq, true_and]
  apply List.map_congr_left
  intro t _
  simp only [Function.comp, adv_adv, Nat.succ_eq_add_one, Nat.add_comm t 1]

/-- the successes of the variable part, by kind of loop -/
def kindList (d : Bool) (t i k : Nat) (C : List (Nat × Nat × Nat)) : List St :=
  if isAtomicT t then [⟨adv d i k, C⟩] else if isLazyT t then ⟨i, C⟩ :: upFrom d i k C else downFrom d i k C

theorem kindList_zero (d : Bool) (t i : Nat) (C : List (Nat × Nat × Nat)) : kindList d t i 0 C = [⟨i, C⟩] := by
  unfold kindList
  split
  · rw [adv_zero]
  · split
    · rfl
    · exact downFrom_zero d i C

/-- the operand of the variable part, as a number of characters -/
def varMax (m n : Int) : Nat := if n > m then (repArg m n).toNat else 0

/-- the number of successes `charloop_successes` (Lemmas/Rewrites.lean) counts — `capN hi 0 R` is the run `R` cut by the
    upper bound, `+ 1 - lo` of its lengths reach the minimum — in the terms of the two instructions: the variable part takes
    at most its operand (`varMax`) of the `R - m` characters the fixed part leaves.  `N ≤ MaxInt32` bounds the run, so an
    unbounded loop's operand `MaxInt32` never cuts it. -/
theorem capN_arith {m n : Int} {R N : Nat} (h0 : 0 ≤ m) (hmn : m ≤ n) (hn : n ≤ maxInt32) (hR : R ≤ N)
    (hN : N ≤ 2147483647) (hlo : m.toNat ≤ R) :
    capN (hiOf n) 0 R + 1 - m.toNat = min (varMax m n) (R - m.toNat) + 1 := by
  unfold varMax hiOf repArg maxInt32 at *
  by_cases hmax : n = 2147483647
  · subst hmax
    simp only [beq_self_eq_true, if_true, capN]
    split <;> omega
  · have : (n == 2147483647) = false := by simpa using hmax
    simp only [this, Bool.false_eq_true, if_false, capN]
    split <;> omega

theorem capN_small {m n : Int} {R : Nat} (hlo : ¬ m.toNat ≤ R) : capN (hiOf n) 0 R + 1 - m.toNat = 0 := by
  unfold hiOf capN
  split <;> omega

theorem kinds_excl : ∀ t ∈ charloopTypes ++ setloopTypes, isAtomicT t = false ∨ isLazyT t = false := by decide

/-- left to right: the greedy and the lazy list are `charloop_successes` / `lazy_charloop_successes` of Lemmas/Rewrites.lean
    with the count rewritten by `capN_arith`; an atomic kind keeps the head of the greedy list, the longest run -/
theorem m_loopPat (e : Spec.Env) {t : Nat} (ht : t ∈ charloopTypes ++ setloopTypes) {m n : Int} (P : Pred) (i : Nat)
    (C : List (Nat × Nat × Nat)) (h0 : 0 ≤ m) (hmn : m ≤ n) (hn : n ≤ maxInt32) (hN : e.n ≤ 2147483647) :
    Spec.m e (loopPat t m n (.chr P)) false ⟨i, C⟩ =
      (if m.toNat ≤ runLen e P i then [(⟨i + m.toNat, C⟩ : St)] else []).flatMap
        (fun r => kindList false t r.pos (min (varMax m n) (runLen e P r.pos)) r.caps) := by
  have hR := runLen_le e P i
  have hgreedy : Spec.m e (.quant false m.toNat (hiOf n) (.chr P)) false ⟨i, C⟩ =
      if m.toNat ≤ runLen e P i then downFrom false (i + m.toNat) (min (varMax m n) (runLen e P (i + m.toNat))) C else [] := by
    rw [charloop_successes]
    by_cases hlo : m.toNat ≤ runLen e P i
    · rw [if_pos hlo, capN_arith h0 hmn hn (show runLen e P i ≤ e.n by omega) hN hlo, runLen_add e P _ _ hlo]
      rfl
    · rw [if_neg hlo, capN_small hlo]; rfl
  have hlazy : Spec.m e (.quant true m.toNat (hiOf n) (.chr P)) false ⟨i, C⟩ =
      if m.toNat ≤ runLen e P i then
        ⟨i + m.toNat, C⟩ :: upFrom false (i + m.toNat) (min (varMax m n) (runLen e P (i + m.toNat))) C else [] := by
    rw [lazy_charloop_successes]
    by_cases hlo : m.toNat ≤ runLen e P i
    · rw [if_pos hlo, capN_arith h0 hmn hn (show runLen e P i ≤ e.n by omega) hN hlo, runLen_add e P _ _ hlo]
      rw [List.range_succ_eq_map]
      simp only [List.map_cons, List.map_map, Nat.add_zero, upFrom, List.cons.injEq, true_and]
      apply List.map_congr_left
      intro j _
      simp only [Function.comp, adv, Bool.false_eq_true, if_false, St.mk.injEq, and_true]
      omega
    · rw [if_neg hlo, capN_small hlo]; rfl
  unfold loopPat kindList
  by_cases hat : isAtomicT t = true
  · have hlz : isLazyT t = false := (kinds_excl t ht).resolve_left (by rw [hat]; decide)
    simp only [hat, if_true, hlz, m_atomic, hgreedy]
    split
    · simp only [List.flatMap_cons, List.flatMap_nil, List.append_nil]
      generalize min (varMax m n) (runLen e P (i + m.toNat)) = k
      cases k with
      | zero => simp [downFrom_zero, adv_zero]
      | succ k => rw [downFrom_succ]; simp
    · simp
  · have hat' : isAtomicT t = false := by simpa using hat
    simp only [hat', Bool.false_eq_true, if_false]
    by_cases hlz : isLazyT t = true
    · simp only [hlz, if_true, hlazy]
      split <;> simp
    · have hlz' : isLazyT t = false := by simpa using hlz
      simp only [hlz', Bool.false_eq_true, if_false, hgreedy]
      split <;> simp

theorem m_chr_env0 (e : Spec.Env) (P : Pred) (rtl : Bool) : Spec.m (env0 e) (.chr P) rtl = Spec.m e (.chr P) rtl := by
  funext st
  simp only [Spec.m]
  have : stepChar (env0 e) rtl st.pos = stepChar e rtl st.pos := rfl
  rw [this]
  cases stepChar e rtl st.pos with
  | none => rfl
  | some x => simp only [Pred.test_congr e (env0 e) rfl rfl]

theorem m_loopPat_env0 (e : Spec.Env) (t : Nat) (m n : Int) (P : Pred) (rtl : Bool) (st : St) :
    Spec.m (env0 e) (loopPat t m n (.chr P)) rtl st = Spec.m e (loopPat t m n (.chr P)) rtl st := by
  have hn : (env0 e).n = e.n := rfl
  unfold loopPat
  split <;> simp only [m_atomic, m_quant, m_chr_env0, hn]

theorem mirrorPat_loopPat (t : Nat) (m n : Int) (P : Pred) :
    mirrorPat (loopPat t m n (.chr P)) = loopPat t m n (.chr P) := by
  unfold loopPat
  split <;> simp [mirrorPat]

/-- the successes of the variable part from `n - q` rightwards, mirrored (`mirrorSt n`: positions `p ↦ n - p`, every capture
    `(g, s, l) ↦ (g, n - (s + l), l)`, which is what `hC` says of the two logs), are those from `q` leftwards -/
theorem kindList_mirror (t n q k : Nat) (C C' : List (Nat × Nat × Nat)) (hq : q ≤ n) (hk : k ≤ q)
    (hC : C'.map (fun c => (c.1, n - (c.2.1 + c.2.2), c.2.2)) = C) :
    (kindList false t (n - q) k C').map (mirrorSt n) = kindList true t q k C := by
  have hadv : ∀ j, j ≤ k → n - adv false (n - q) j = adv true q j := by
    intro j hj
    simp only [adv, Bool.false_eq_true, if_false, if_true]
    omega
  unfold kindList
  split
  · simp only [List.map_cons, List.map_nil, mirrorSt, hC, hadv k (Nat.le_refl _)]
  · split
    · simp only [List.map_cons, mirrorSt, hC, upFrom, List.map_map, List.cons.injEq, St.mk.injEq, and_true]
      refine ⟨by omega, ?_⟩
      apply List.map_congr_left
      intro j hj
      have := List.mem_range.1 hj
      simp only [Function.comp, mirrorSt, hC, hadv (1 + j) (by omega)]
    · simp only [downFrom, List.map_map]
      apply List.map_congr_left
      intro j hj
      have := List.mem_range.1 (List.mem_reverse.1 hj)
      simp only [Function.comp, mirrorSt, hC, hadv j (by omega)]

/-- right to left, from `m_loopPat` on the reversed text through `m_mirror` (which wants `\G` inside the text: `env0`);
    `kindList_mirror` carries the list back -/
theorem m_loopPat_rtl (e : Spec.Env) {t : Nat} (ht : t ∈ charloopTypes ++ setloopTypes) {m n : Int} (P : Pred) (i : Nat)
    (C : List (Nat × Nat × Nat)) (h0 : 0 ≤ m) (hmn : m ≤ n) (hn : n ≤ maxInt32) (hN : e.n ≤ 2147483647)
    (hwf : St.wf e.n ⟨i, C⟩) :
    Spec.m e (loopPat t m n (.chr P)) true ⟨i, C⟩ =
      (if m.toNat ≤ runLenR e P i then [(⟨i - m.toNat, C⟩ : St)] else []).flatMap
        (fun r => kindList true t r.pos (min (varMax m n) (runLenR e P r.pos)) r.caps) := by
  have hin : i ≤ e.n := hwf.1
  have hn0 : (env0 e).n = e.n := rfl
  have hnr := revEnv_env0_n e
  rw [← m_loopPat_env0, m_mirror (env0 e) (Nat.zero_le _) _ true ⟨i, C⟩ (by rw [hn0]; exact hwf), mirrorPat_loopPat, hn0]
  have hmm := mirrorSt_mirrorSt e.n ⟨i, C⟩ hwf
  have hC : ((mirrorSt e.n ⟨i, C⟩).caps).map (fun c => (c.1, e.n - (c.2.1 + c.2.2), c.2.2)) = C := by
    have := congrArg St.caps hmm
    simpa [mirrorSt] using this
  have hst : mirrorSt e.n ⟨i, C⟩ = ⟨e.n - i, (mirrorSt e.n ⟨i, C⟩).caps⟩ := rfl
  rw [hst, Bool.not_true, m_loopPat (revEnv (env0 e)) ht P (e.n - i) _ h0 hmn hn (by rw [hnr]; exact hN)]
  have hR : runLen (revEnv (env0 e)) P (e.n - i) = runLenR e P i := rfl
  rw [hR]
  have hRle := runLenR_le e P hin
  by_cases hlo : m.toNat ≤ runLenR e P i
  · simp only [if_pos hlo, List.flatMap_cons, List.flatMap_nil, List.append_nil]
    have hpos : e.n - i + m.toNat = e.n - (i - m.toNat) := by omega
    have hR2 : runLen (revEnv (env0 e)) P (e.n - (i - m.toNat)) = runLenR e P (i - m.toNat) := rfl
    rw [hpos, hR2]
    have hRle2 := runLenR_le e P (show i - m.toNat ≤ e.n by omega)
    exact kindList_mirror t e.n (i - m.toNat) _ C _ (by omega) (by omega) hC
  · simp only [if_neg hlo, List.flatMap_nil, List.map_nil]

/-- the specification of a single-character loop node in direction `d`: `m` runes of the predicate, then what the kind
    of loop makes of the run that follows -/
theorem m_loopPat_dir (e : Spec.Env) {t : Nat} (ht : t ∈ charloopTypes ++ setloopTypes) {m n : Int} (P : Pred) (d : Bool)
    (i : Nat) (C : List (Nat × Nat × Nat)) (h0 : 0 ≤ m) (hmn : m ≤ n) (hn : n ≤ maxInt32) (hN : e.n ≤ 2147483647)
    (hwf : St.wf e.n ⟨i, C⟩) :
    Spec.m e (loopPat t m n (.chr P)) d ⟨i, C⟩ =
      (if m.toNat ≤ runLenD e P d i then [(⟨adv d i m.toNat, C⟩ : St)] else []).flatMap
        (fun r => kindList d t r.pos (min (varMax m n) (runLenD e P d r.pos)) r.caps) := by
  cases d
  · exact m_loopPat e ht P i C h0 hmn hn hN
  · exact m_loopPat_rtl e ht P i C h0 hmn hn hN hwf

end RegexVerif.Compile
