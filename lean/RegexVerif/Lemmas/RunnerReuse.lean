/-
What a recycled runner and its result object cannot show of their history (`Model/RunnerReuse.lean`).
* The runner: `observe` / `Obs`, what a scan can depend on, is the notion of observation.  `observe_scanInit` writes
  the observable state after `scanInit` out, so a pooled runner is observably a new one (`observe_scanInit_pooled`);
  `poolInv_put` and `runInv_scanInit` close the cycle pool → call → pool.  `put` here is `putRunner`, the invariant
  of a pooled runner is `PoolInv`; the buffer pools, with a `put` and an `Inv` of their own, are in Lemmas/Pool.lean.
* One level down, a capture slot: `Slot.Equiv` (same count, same cells below `2*count`) is what `observe` keeps of
  a slot.  The builder operations respect it (`equiv_*`); on a well-formed slot the Go reads stay below `2*count`
  (`*_any_eq_live`: references point below themselves, `wf_ref`), and `WF` is preserved (`wf_*`).
* The backtracking stack: `ensureTrack_spec`, for a stack with `d` cells in use and `pos` free: success or failure
  depends on `d` only.
-/
import RegexVerif.Model.RunnerReuse

namespace RegexVerif.Lemmas.RunnerReuse
open RegexVerif.RunnerReuse

theorem set_set_take (L R : List Int) (a b : Int) (hR : 2 ≤ R.length) :
    (((L ++ R).set L.length a).set (L.length + 1) b).take (L.length + 2) = L ++ [a, b] := by
  match R, hR with
  | r0 :: r1 :: R', _ =>
    have h1 : (L ++ r0 :: r1 :: R').set L.length a = L ++ a :: r1 :: R' := by
      rw [List.set_append_right _ _ (Nat.le_refl _)]; simp
    have h2 : (L ++ a :: r1 :: R').set (L.length + 1) b = L ++ a :: b :: R' := by
      rw [List.set_append_right _ _ (by omega)]; simp
    rw [h1, h2]
    rw [List.take_length_add_append]
    simp

theorem addMatch_count (s : Slot) (a b : Int) : (s.addMatch a b).count = s.count + 1 := rfl

/-- the array `addMatch` writes into is `live ++ R` with at least two cells in `R` -/
theorem addMatch_split (s : Slot) (h : s.lenOK) :
    ∃ R : List Int, 2 ≤ R.length ∧
      (let arr0 := if s.arr = [] then [0, 0] else s.arr
       if s.count * 2 + 2 > arr0.length
         then arr0.take (s.count * 2) ++ List.replicate (s.count * 8 - s.count * 2) 0
         else arr0) = s.live ++ R := by
  unfold Slot.lenOK at h
  unfold Slot.live
  obtain ⟨h, h1⟩ := h
  by_cases hnil : s.arr = []
  · -- nil array: count = 0
    have hc : s.count = 0 := by simp [hnil] at h; omega
    refine ⟨[0, 0], by simp, ?_⟩
    simp [hnil, hc]
  · simp only [hnil, if_false]
    by_cases hg : s.count * 2 + 2 > s.arr.length
    · simp only [hg, if_true]
      have hpos : 0 < s.arr.length := List.length_pos_iff.mpr hnil
      refine ⟨List.replicate (s.count * 8 - s.count * 2) 0, by simp; omega, ?_⟩
      rw [Nat.mul_comm]
    · simp only [hg, if_false]
      refine ⟨s.arr.drop (2 * s.count), by simp; omega, ?_⟩
      simp

theorem live_length {s : Slot} (h : s.lenOK) : s.live.length = 2 * s.count := by
  have := h.1; unfold Slot.live; simp; omega

theorem live_addMatch {s : Slot} (a b : Int) (h : s.lenOK) :
    (s.addMatch a b).live = s.live ++ [a, b] ∧ (s.addMatch a b).lenOK := by
  obtain ⟨R, hR, hsplit⟩ := addMatch_split s h
  have hlen : s.live.length = s.count * 2 := (live_length h).trans (Nat.mul_comm ..)
  have key : (s.addMatch a b).arr = ((s.live ++ R).set s.live.length a).set (s.live.length + 1) b := by
    unfold Slot.addMatch
    simp only at hsplit ⊢
    rw [hsplit, hlen]
  constructor
  · unfold Slot.live at *
    rw [addMatch_count, key]
    have : 2 * (s.count + 1) = (List.take (2 * s.count) s.arr).length + 2 := by rw [hlen]; omega
    rw [this]
    exact set_set_take _ R a b hR
  · unfold Slot.lenOK
    rw [addMatch_count, key]
    simp only [List.length_set, List.length_append]
    omega

theorem equiv_refl (s : Slot) : Slot.Equiv s s := ⟨rfl, rfl⟩
theorem equiv_symm {s t : Slot} (h : Slot.Equiv s t) : Slot.Equiv t s := ⟨h.1.symm, h.2.symm⟩
theorem equiv_trans {s t u : Slot} (h1 : Slot.Equiv s t) (h2 : Slot.Equiv t u) : Slot.Equiv s u :=
  ⟨h1.1.trans h2.1, h1.2.trans h2.2⟩

theorem equiv_addMatch {s t : Slot} (h : Slot.Equiv s t) (hs : s.lenOK) (ht : t.lenOK) (a b : Int) :
    Slot.Equiv (s.addMatch a b) (t.addMatch a b) := by
  refine ⟨by simp [addMatch_count, h.1], ?_⟩
  rw [(live_addMatch a b hs).1, (live_addMatch a b ht).1, h.2]

theorem live_removeMatch {s s' : Slot} (h : s.removeMatch = some s') :
    s'.count = s.count - 1 ∧ s'.live = s.live.take (2 * (s.count - 1)) ∧ (s.lenOK → s'.lenOK) := by
  unfold Slot.removeMatch at h
  by_cases hc : s.count = 0
  · simp [hc] at h
  · simp only [hc, if_false, Option.some.injEq] at h
    subst h
    refine ⟨rfl, ?_, ?_⟩
    · unfold Slot.live
      simp only [List.take_take]
      congr 1
      omega
    · unfold Slot.lenOK; simp only; omega

theorem equiv_removeMatch {s t s' : Slot} (h : Slot.Equiv s t) (hs : s.removeMatch = some s') :
    ∃ t', t.removeMatch = some t' ∧ Slot.Equiv s' t' := by
  have hc : s.count ≠ 0 := by
    intro hc; simp [Slot.removeMatch, hc] at hs
  have ht : t.removeMatch = some { t with count := t.count - 1 } := by
    unfold Slot.removeMatch; simp [← h.1, hc]
  refine ⟨_, ht, ?_⟩
  obtain ⟨c1, l1, _⟩ := live_removeMatch hs
  obtain ⟨c2, l2, _⟩ := live_removeMatch ht
  exact ⟨by rw [c1, c2, h.1], by rw [l1, l2, h.1, h.2]⟩

theorem rdLive_congr {s t : Slot} (h : Slot.Equiv s t) : rdLive s = rdLive t := by
  funext i; unfold rdLive; rw [h.2]

theorem isMatched_congr {s t : Slot} (h : Slot.Equiv s t) :
    s.isMatchedWith rdLive = t.isMatchedWith rdLive := by
  unfold Slot.isMatchedWith; rw [h.1, rdLive_congr h]

theorem matchIndex_congr {s t : Slot} (h : Slot.Equiv s t) :
    s.matchIndexWith rdLive = t.matchIndexWith rdLive := by
  unfold Slot.matchIndexWith; rw [h.1, rdLive_congr h]

theorem matchLength_congr {s t : Slot} (h : Slot.Equiv s t) :
    s.matchLengthWith rdLive = t.matchLengthWith rdLive := by
  unfold Slot.matchLengthWith; rw [h.1, rdLive_congr h]

theorem equiv_balanceMatch {s t : Slot} (h : Slot.Equiv s t) (hs : s.lenOK) (ht : t.lenOK) :
    (s.balanceMatchWith rdLive = none ∧ t.balanceMatchWith rdLive = none) ∨
    ∃ s' t', s.balanceMatchWith rdLive = some s' ∧ t.balanceMatchWith rdLive = some t' ∧ Slot.Equiv s' t' := by
  unfold Slot.balanceMatchWith
  rw [rdLive_congr h, h.1]
  cases balancePair (rdLive t) t.count with
  | none => exact Or.inl ⟨rfl, rfl⟩
  | some p => exact Or.inr ⟨_, _, rfl, rfl, equiv_addMatch h hs ht _ _⟩

theorem rd_eq_live (s : Slot) (i : Int) (h : i < 2 * (s.count : Int)) : rd s.arr i = rd s.live i := by
  unfold rd Slot.live
  by_cases h0 : 0 ≤ i
  · simp only [h0, if_true, List.getElem?_take]
    have : i.toNat < 2 * s.count := by omega
    simp [this]
  · simp [h0]

theorem wf_ref {s : Slot} (h : s.WF) {i v : Int} (hr : rdLive s i = some v) (hv : v < 0) : -3 - v < i := by
  unfold rdLive rd at hr
  split at hr
  · have := h.2 i.toNat v hr hv
    omega
  · cases hr

theorem isMatched_any_eq_live (s : Slot) : s.isMatchedWith rdAny = s.isMatchedWith rdLive := by
  unfold Slot.isMatchedWith rdAny rdLive
  by_cases hc : s.count = 0
  · simp [hc]
  · simp only [hc, if_false]
    rw [rd_eq_live s _ (by omega)]

/-- the common shape of `matchIndex` and `matchLength`: a cell below `2*matchcount` and, if it holds a balancing
    reference, the cell it refers to, which lies below it -/
theorem deref_any_eq_live {s : Slot} (h : s.WF) (k : Int) (hk : k < 2 * (s.count : Int)) :
    (match rdAny s k with
      | none => none
      | some i => if i ≥ 0 then some i else rdAny s (-3 - i)) =
    (match rdLive s k with
      | none => none
      | some i => if i ≥ 0 then some i else rdLive s (-3 - i)) := by
  rw [show rdAny s k = rdLive s k from rd_eq_live s k hk]
  cases hr : rdLive s k with
  | none => rfl
  | some i =>
    by_cases hi : i ≥ 0
    · simp only [hi, if_true]
    · simp only [hi, if_false]
      have := wf_ref h hr (by omega)
      exact rd_eq_live s _ (by omega)

theorem matchIndex_any_eq_live {s : Slot} (h : s.WF) : s.matchIndexWith rdAny = s.matchIndexWith rdLive :=
  deref_any_eq_live h _ (by omega)

theorem matchLength_any_eq_live {s : Slot} (h : s.WF) : s.matchLengthWith rdAny = s.matchLengthWith rdLive :=
  deref_any_eq_live h _ (by omega)

/-- `balancePair` reads below `2*count` only, when the references it follows point below themselves; the
    pair it returns then holds references to cells below `2*count` (resp. `2*count + 1`) -/
theorem balancePair_spec {read read' : Int → Option Int} {count : Nat}
    (href : ∀ i v, read i = some v → v < 0 → -3 - v < i)
    (heq : ∀ i, i < 2 * (count : Int) → read' i = read i) :
    balancePair read' count = balancePair read count ∧
    ∀ a b, balancePair read count = some (a, b) →
      (a < 0 → -3 - a < 2 * (count : Int)) ∧ (b < 0 → -3 - b < 2 * (count : Int) + 1) := by
  unfold balancePair
  dsimp only
  rw [heq _ (by omega)]
  cases hr : read ((count : Int) * 2 - 2) with
  | none => exact ⟨rfl, nofun⟩
  | some v0 =>
    dsimp only
    have ht : (if v0 < 0 then -3 - v0 else (count : Int) * 2 - 2) - 2 ≤ (count : Int) * 2 - 4 := by
      split
      · next hv => have := href _ _ hr hv; omega
      · omega
    generalize (if v0 < 0 then -3 - v0 else (count : Int) * 2 - 2) - 2 = target at ht
    rw [heq target (by omega), heq (target + 1) (by omega)]
    refine ⟨rfl, fun a b hp => ?_⟩
    split at hp
    · cases hrt : read target with
      | none => rw [hrt] at hp; cases hp
      | some v =>
        rw [hrt] at hp
        dsimp only at hp
        split at hp
        · next hv =>
          cases hrt1 : read (target + 1) with
          | none => rw [hrt1] at hp; cases hp
          | some v' =>
            rw [hrt1] at hp
            cases hp
            exact ⟨fun _ => by have := href _ _ hrt hv; omega, fun hv' => by have := href _ _ hrt1 hv'; omega⟩
        · cases hp; exact ⟨fun _ => by omega, fun _ => by omega⟩
    · cases hp; exact ⟨fun _ => by omega, fun _ => by omega⟩

theorem balanceMatch_any_eq_live {s : Slot} (h : s.WF) :
    s.balanceMatchWith rdAny = s.balanceMatchWith rdLive := by
  unfold Slot.balanceMatchWith
  rw [(balancePair_spec (read' := rdAny s) (fun _ _ => wf_ref h) (fun i hi => rd_eq_live s i hi)).1]

theorem wf_addMatch {s : Slot} (h : s.WF) (a b : Int)
    (ha : a < 0 → -3 - a < 2 * (s.count : Int)) (hb : b < 0 → -3 - b < 2 * (s.count : Int) + 1) :
    (s.addMatch a b).WF := by
  obtain ⟨hl, hw⟩ := live_addMatch a b h.1
  refine ⟨hw, ?_⟩
  rw [hl]
  have hlen := live_length h.1
  intro p v hp hv
  by_cases hlt : p < s.live.length
  · rw [List.getElem?_append_left hlt] at hp
    exact h.2 p v hp hv
  · -- one of the two new cells
    rw [List.getElem?_append_right (by omega)] at hp
    have hp2 : p - s.live.length = 0 ∨ p - s.live.length = 1 := by
      have := (List.getElem?_eq_some_iff.mp hp).1
      simp at this; omega
    rcases hp2 with h0 | h1
    · rw [h0] at hp; cases hp; have := ha hv; omega
    · rw [h1] at hp; cases hp; have := hb hv; omega

/-- `Capture` adds `(start, end-start)` with `0 ≤ start ≤ end`: no reference at all -/
theorem wf_capture {s : Slot} (h : s.WF) (start len : Int) (h1 : 0 ≤ start) (h2 : 0 ≤ len) :
    (s.addMatch start len).WF :=
  wf_addMatch h start len (by omega) (by omega)

theorem wf_removeMatch {s s' : Slot} (h : s.WF) (hr : s.removeMatch = some s') : s'.WF := by
  obtain ⟨_, hl, hk⟩ := live_removeMatch hr
  refine ⟨hk h.1, ?_⟩
  rw [hl]
  intro p v hp hv
  rw [List.getElem?_take] at hp
  by_cases hlt : p < 2 * (s.count - 1)
  · simp only [hlt, if_true] at hp; exact h.2 p v hp hv
  · simp [hlt] at hp

/-- the cells `balanceMatch` appends are references that point below the position they are written to -/
theorem wf_balanceMatch {s s' : Slot} (h : s.WF) (hb : s.balanceMatchWith rdLive = some s') : s'.WF := by
  unfold Slot.balanceMatchWith at hb
  cases hp : balancePair (rdLive s) s.count with
  | none => rw [hp] at hb; cases hb
  | some p =>
    rw [hp] at hb
    cases hb
    have := (balancePair_spec (read' := rdLive s) (fun _ _ => wf_ref h) (fun _ _ => rfl)).2 p.1 p.2 hp
    exact wf_addMatch h _ _ this.1 this.2

theorem wf_reset (s : Slot) (h : s.arr.length ≠ 1) : ({ s with count := 0 } : Slot).WF := by
  refine ⟨⟨by simp, h⟩, ?_⟩
  intro p v hp; simp [Slot.live] at hp

theorem compactLoop_bounds : ∀ (fuel : Nat) (a : List Int) (i : Nat) (j : Int) (a' : List Int) (j' : Int),
    compactLoop fuel a i j = some (a', j') → a'.length = a.length ∧ j' ≤ j + fuel := by
  intro fuel
  induction fuel with
  | zero => intro a i j a' j' h; cases h; exact ⟨rfl, by omega⟩
  | succ fuel ih =>
    intro a i j a' j' h
    simp only [compactLoop] at h
    split at h
    · cases h; exact ⟨rfl, by omega⟩
    · split at h
      · have := ih _ _ _ _ _ h
        exact ⟨this.1, by omega⟩
      · split at h
        · cases h
        · have := ih _ _ _ _ _ h
          exact ⟨by rw [this.1]; split <;> simp, by omega⟩

theorem firstNeg_le (l : List Int) : firstNeg l ≤ l.length := by
  induction l with
  | nil => simp [firstNeg]
  | cons v vs ih => simp only [firstNeg]; split <;> simp <;> omega

theorem equiv_compact {s t : Slot} (h : Slot.Equiv s t) :
    (s.compact = none ∧ t.compact = none) ∨
    ∃ s' t', s.compact = some s' ∧ t.compact = some t' ∧ Slot.Equiv s' t' := by
  unfold Slot.compact
  rw [h.2]
  dsimp only
  cases hl : compactLoop (t.live.length - firstNeg t.live) t.live (firstNeg t.live) (firstNeg t.live) with
  | none => exact Or.inl ⟨rfl, rfl⟩
  | some r =>
    obtain ⟨a', j⟩ := r
    by_cases hj : j < 0
    · simp only [hj, if_true]; exact Or.inl ⟨trivial, trivial⟩
    · simp only [hj, if_false]
      refine Or.inr ⟨_, _, rfl, rfl, rfl, ?_⟩
      obtain ⟨hlen, hjb⟩ := compactLoop_bounds _ _ _ _ _ _ hl
      have hfn := firstNeg_le t.live
      have hle : 2 * (j.toNat / 2) ≤ a'.length := by
        rw [hlen]; omega
      unfold Slot.live
      simp only
      rw [List.take_append_of_le_length hle, List.take_append_of_le_length hle]

/-- what `ensureTrack` preserves: the position is inside the array and the array is within a
    non-negative limit (true after `initMatch`, kept by `growTrack`) -/
def TrackInv (limit : Int) (len pos : Nat) : Prop := pos ≤ len ∧ (limit ≥ 0 → (len : Int) ≤ limit)

/-- the new length `growTrack` aims for -/
def newLen (limit : Int) (len : Nat) : Nat :=
  if limit ≥ 0 ∧ (((if len * 2 = 0 then 1 else len * 2 : Nat)) : Int) > limit then limit.toNat
  else (if len * 2 = 0 then 1 else len * 2)

theorem growTrack_eq (limit : Int) (len pos : Nat) :
    growTrack limit len pos =
      if newLen limit len ≤ len then none else some (newLen limit len, pos + (newLen limit len - len)) := rfl

/-- a length clamped to a non-negative limit is within it (`growTrack`, and the first allocation in `initMatch`) -/
theorem clamp_le_limit (limit : Int) (n : Nat) (h : limit ≥ 0) :
    ((if limit ≥ 0 ∧ (n : Int) > limit then limit.toNat else n : Nat) : Int) ≤ limit := by
  split <;> omega

theorem newLen_gt (limit : Int) (len : Nat) (h : limit < 0 ∨ (len : Int) < limit) : len < newLen limit len := by
  unfold newLen; split <;> split <;> omega

theorem newLen_at_limit (limit : Int) (len : Nat) (h : limit ≥ 0) (hl : (len : Int) = limit) :
    newLen limit len ≤ len := by
  unfold newLen; split <;> split <;> omega

theorem ensureTrack_done (limit : Int) (tc fuel len pos : Nat) (h : ¬ pos < tc * 4) :
    ensureTrack limit tc fuel len pos = some (len, pos) := by
  cases fuel <;> rw [ensureTrack, if_neg h]

/-- on a stack with `d` cells in use and `pos` free `ensureTrack` only adds free cells, and fails exactly when the
    used depth plus the reserve exceeds the limit, whatever the capacity `pos + d` is -/
theorem ensureTrack_spec (limit : Int) (tc d : Nat) :
    ∀ (fuel pos : Nat), (limit ≥ 0 → ((pos + d : Nat) : Int) ≤ limit) → tc * 4 ≤ pos + fuel →
      if limit ≥ 0 ∧ (d : Int) + tc * 4 > limit then ensureTrack limit tc fuel (pos + d) pos = none
      else ∃ pos', ensureTrack limit tc fuel (pos + d) pos = some (pos' + d, pos') ∧ tc * 4 ≤ pos' ∧
             (limit ≥ 0 → ((pos' + d : Nat) : Int) ≤ limit) ∧ pos ≤ pos' := by
  intro fuel
  induction fuel with
  | zero =>
    intro pos hl hf
    rw [if_neg (by omega)]
    exact ⟨pos, ensureTrack_done _ _ _ _ _ (by omega), hf, hl, Nat.le_refl _⟩
  | succ fuel ih =>
    intro pos hl hf
    by_cases hp : pos < tc * 4
    · rw [ensureTrack, if_pos hp, growTrack_eq]
      by_cases hg : newLen limit (pos + d) ≤ pos + d
      · -- the stack cannot grow: it is at the limit, and the reserve does not fit
        have hlim : ¬ (limit < 0 ∨ ((pos + d : Nat) : Int) < limit) :=
          fun h => Nat.not_le_of_lt (newLen_gt limit _ h) hg
        rw [if_pos hg, if_pos (by omega)]
      · have hnl : limit ≥ 0 → (newLen limit (pos + d) : Int) ≤ limit := clamp_le_limit limit _
        obtain ⟨k, hk⟩ := Nat.exists_eq_add_of_lt (Nat.lt_of_not_le hg)
        rw [if_neg hg, hk, Nat.add_assoc (pos + d), Nat.add_sub_cancel_left, Nat.add_right_comm pos d]
        rw [hk, Nat.add_assoc (pos + d), Nat.add_right_comm pos d] at hnl
        have := ih (pos + (k + 1)) hnl (by omega)
        by_cases hc : limit ≥ 0 ∧ (d : Int) + tc * 4 > limit
        · rw [if_pos hc] at this ⊢; exact this
        · rw [if_neg hc] at this ⊢
          obtain ⟨p, h1, h2, h3, h4⟩ := this
          exact ⟨p, h1, h2, h3, by omega⟩
    · rw [if_neg (by omega)]
      exact ⟨pos, ensureTrack_done _ _ _ _ _ hp, by omega, hl, Nat.le_refl _⟩

theorem view_reset (b : Builder) (text : Option Nat) (ts : Int) :
    (b.reset text ts).view = List.replicate b.slots.length (0, []) := by
  unfold Builder.reset Builder.view Slot.live
  simp only [List.map_map]
  apply List.ext_getElem
  · simp
  · intro i h1 h2; simp

theorem view_new (n : Nat) (text : Option Nat) (ts : Int) :
    (Builder.new n text ts).view = List.replicate n (0, []) := by
  unfold Builder.new Builder.view Slot.live
  simp only [List.map_map]
  apply List.ext_getElem
  · simp
  · intro i h1 h2; simp

theorem runInv_fresh (re : Re) : RunInv re Runner.fresh := by
  constructor
  · intro h; simp [Runner.fresh] at h
  · intro m h; simp [Runner.fresh] at h

theorem _root_.RegexVerif.RunnerReuse.PoolInv.runInv {re : Re} {r : Runner} (h : PoolInv re r) : RunInv re r :=
  h.2.2.2

theorem poolInv_fresh (re : Re) : PoolInv re Runner.fresh :=
  ⟨rfl, rfl, by intro m h; simp [Runner.fresh] at h, runInv_fresh re⟩

theorem sel_eq (re : Re) (q : Bool) (r : Runner) :
    (if q then selectQuick re r else r) = { r with code := if q ∧ re.hasQuick then .quick else r.code } := by
  unfold selectQuick
  cases q <;> cases re.hasQuick <;> rfl

theorem runInv_sel {re : Re} {r : Runner} (q : Bool) (h : RunInv re r) :
    RunInv re (if q then selectQuick re r else r) :=
  sel_eq re q r ▸ h

/-! `scanInit` branches on `allocated` and `noTimeout` only: with both fields exposed as constructors its
result is a record that the lemmas about it read off by `rfl`. -/

theorem scanInit_runmatch (re : Re) (a : ScanArgs) (r : Runner) :
    (scanInit re a r).runmatch = some (match r.runmatch with
      | none => Builder.new re.capsize a.textInfo a.textstart
      | some m => m.reset a.textInfo a.textstart) := by
  obtain ⟨_, _, _, _, _, _, _, _, _, _, _, _, allocated, _, _, _, _, _, _, _, _, _⟩ := r
  obtain ⟨_, _, _, _, _, noTimeout, _⟩ := a
  cases allocated <;> cases noTimeout <;> rfl

theorem runInv_scanInit {re : Re} {r : Runner} (a : ScanArgs) (h : RunInv re r) : RunInv re (scanInit re a r) := by
  refine ⟨fun _ => ?_, fun m hm => ?_⟩
  · obtain ⟨_, _, _, _, _, _, _, _, _, _, _, _, allocated, _, _, _, _, _, _, _, _, _⟩ := r
    obtain ⟨_, _, _, _, _, noTimeout, _⟩ := a
    cases allocated <;> cases noTimeout
    case true.false | true.true => exact h.1 rfl
    all_goals rfl
  · rw [scanInit_runmatch, Option.some.injEq] at hm
    subst hm
    cases hr : r.runmatch with
    | none => simp [Builder.new]
    | some m0 => simp [Builder.reset, h.2 m0 hr]

theorem poolInv_put {re : Re} {r : Runner} (h : RunInv re r) : PoolInv re (put r) := by
  refine ⟨rfl, rfl, ?_, ?_, ?_⟩
  · intro m hm
    simp only [put, Option.map_eq_some_iff] at hm
    obtain ⟨m0, _, rfl⟩ := hm; rfl
  · intro hal; exact h.1 hal
  · intro m hm
    simp only [put, Option.map_eq_some_iff] at hm
    obtain ⟨m0, hm0, rfl⟩ := hm
    exact h.2 m0 hm0

/-- the observable state after `scanInit`, written out: nothing of the incoming runner is left in it
    except the selected program -/
theorem observe_scanInit (re : Re) (a : ScanArgs) (r : Runner) (h : RunInv re r) :
    observe (scanInit re a r) =
      { code := r.code, debug := re.debug, runtextstart := a.textstart, runtext := some a.rt,
        runtextpos := a.textstart, runtextend := a.rtLen, trackUsed := [], stackUsed := [], crawlUsed := [],
        runtrackcount := re.trackCount,
        matchView := some (List.replicate re.capsize (0, []), false, a.textstart, a.textInfo),
        ignoreTimeout := a.noTimeout, timeout := a.timeout,
        deadline := if a.noTimeout then none else some a.newDeadline } := by
  obtain ⟨htc, hm⟩ := h
  have hmv : (scanInit re a r).runmatch.map (fun m => (m.view, m.balancing, m.textstart, m.text)) =
      some (List.replicate re.capsize (0, []), false, a.textstart, a.textInfo) := by
    rw [scanInit_runmatch]
    cases hr : r.runmatch with
    | none => exact congrArg (fun v => some (v, false, a.textstart, a.textInfo)) (view_new ..)
    | some m => exact congrArg (fun v => some (v, false, a.textstart, a.textInfo)) ((view_reset ..).trans (by rw [hm m hr]))
  unfold observe
  rw [hmv, Obs.mk.injEq]
  obtain ⟨_, _, _, _, _, _, _, _, _, _, _, _, allocated, _, _, _, _, _, _, _, _, _⟩ := r
  obtain ⟨_, _, _, _, _, noTimeout, _⟩ := a
  have hdrop : ∀ n : Nat, (List.replicate n (0 : Int)).drop n = [] :=
    fun n => List.drop_eq_nil_of_le (Nat.le_of_eq (List.length_replicate ..))
  cases allocated <;> cases noTimeout
  case true.false | true.true =>
    exact ⟨rfl, rfl, rfl, rfl, rfl, rfl, List.drop_length, List.drop_length, List.drop_length, htc rfl, rfl, rfl, rfl, rfl⟩
  all_goals exact ⟨rfl, rfl, rfl, rfl, rfl, rfl, hdrop _, hdrop _, hdrop _, rfl, rfl, rfl, rfl, rfl⟩

theorem observe_scanInit_pooled {re : Re} {r : Runner} (a : ScanArgs) (q : Bool) (h : PoolInv re r) :
    observe (scanInit re a (if q then selectQuick re r else r)) =
      observe (scanInit re a (if q then selectQuick re Runner.fresh else Runner.fresh)) := by
  rw [observe_scanInit re a _ (runInv_sel q h.runInv), observe_scanInit re a _ (runInv_sel q (runInv_fresh re)),
    sel_eq, sel_eq, h.1]
  rfl

end RegexVerif.Lemmas.RunnerReuse
