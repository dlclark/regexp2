/-
The replacement cache (`Model/LRU.lean`) read as the partial map `k ↦ lookup k entries`: what `removeKey` and
`dropLast` do to that map, `get` / `add` case by case, and under the invariant `CacheInv` (defined here under
its name `Props.C12.CacheInv`) the refinement `refines_map`, with `get_sound` / `add_sound`.
-/
import RegexVerif.Model.LRU

namespace RegexVerif.Props.C12
open RegexVerif.LRU
variable {κ ν : Type}

/-- cache invariant: no key occurs twice (so the Go map and the list agree) and, when a bound is
    set, the list is no longer than `maxSize` (`maxSize = 0` means no bound, as in `add` and `evicted`) -/
def CacheInv (c : Cache κ ν) : Prop :=
  (keys c.entries).Nodup ∧ (c.maxSize > 0 → c.entries.length ≤ c.maxSize)

end RegexVerif.Props.C12

namespace RegexVerif.Lemmas.LRU
open RegexVerif.LRU RegexVerif.Props.C12

variable {κ ν : Type} [DecidableEq κ]

theorem lookup_none_iff (k : κ) (es : List (κ × ν)) : lookup k es = none ↔ k ∉ keys es := by
  induction es with
  | nil => simp [lookup, keys]
  | cons e es ih =>
    simp only [lookup, keys, List.map_cons, List.mem_cons, not_or]
    by_cases h : e.1 = k
    · simp [h]
    · simp only [h, if_false]
      have : ¬ k = e.1 := fun h' => h h'.symm
      simp only [this, not_false_eq_true, true_and]
      exact ih

theorem lookup_some_mem {k : κ} {v : ν} {es : List (κ × ν)} (h : lookup k es = some v) : (k, v) ∈ es := by
  induction es with
  | nil => simp [lookup] at h
  | cons e es ih =>
    simp only [lookup] at h
    by_cases he : e.1 = k
    · simp only [he, if_true, Option.some.injEq] at h
      have : e = (k, v) := by cases e; simp_all
      simp [this]
    · simp only [he, if_false] at h
      exact List.mem_cons_of_mem _ (ih h)

theorem lookup_removeKey_ne {k k' : κ} (h : k' ≠ k) (es : List (κ × ν)) :
    lookup k' (removeKey k es) = lookup k' es := by
  induction es with
  | nil => rfl
  | cons e es ih =>
    simp only [removeKey]
    by_cases he : e.1 = k
    · simp only [he, if_true, lookup]
      have : ¬ k = k' := fun h' => h h'.symm
      simp [this]
    · simp only [he, if_false, lookup, ih]

theorem removeKey_sublist (k : κ) (es : List (κ × ν)) : (removeKey k es).Sublist es := by
  induction es with
  | nil => exact .slnil
  | cons e es ih =>
    simp only [removeKey]
    split
    · exact .cons _ (List.Sublist.refl _)
    · exact .cons_cons _ ih

theorem nodup_removeKey (k : κ) (es : List (κ × ν)) (h : (keys es).Nodup) : (keys (removeKey k es)).Nodup :=
  h.sublist ((removeKey_sublist k es).map _)

theorem not_mem_removeKey (k : κ) (es : List (κ × ν)) (h : (keys es).Nodup) : k ∉ keys (removeKey k es) := by
  induction es with
  | nil => simp [removeKey, keys]
  | cons e es ih =>
    simp only [keys, List.map_cons, List.nodup_cons] at h
    simp only [removeKey]
    by_cases he : e.1 = k
    · simp only [he, if_true]; rw [← he]; exact h.1
    · simp only [he, if_false, keys, List.map_cons, List.mem_cons, not_or]
      exact ⟨fun h' => he h'.symm, ih h.2⟩

theorem length_removeKey {k : κ} {v : ν} {es : List (κ × ν)} (h : lookup k es = some v) :
    (removeKey k es).length + 1 = es.length := by
  induction es with
  | nil => simp [lookup] at h
  | cons e es ih =>
    simp only [lookup] at h
    simp only [removeKey]
    by_cases he : e.1 = k
    · simp [he]
    · simp only [he, if_false] at h ⊢
      simp only [List.length_cons, ih h]

omit [DecidableEq κ] in
theorem keys_dropLast (es : List (κ × ν)) : keys es.dropLast = (keys es).dropLast := by
  simp [keys, List.map_dropLast]

theorem lookup_dropLast (k : κ) (es : List (κ × ν)) (h : (keys es).Nodup) :
    lookup k es.dropLast = if (keys es).getLast? = some k then none else lookup k es := by
  induction es with
  | nil => simp [lookup, keys]
  | cons e es ih =>
    cases es with
    | nil =>
      simp only [List.dropLast_singleton, lookup, keys, List.map_cons, List.map_nil, List.getLast?_singleton,
        Option.some.injEq]
      by_cases he : e.1 = k <;> simp [he]
    | cons e' es' =>
      simp only [keys, List.map_cons] at h
      have h := List.nodup_cons.mp h
      have ih' := ih (by simp only [keys, List.map_cons]; exact h.2)
      simp only [List.dropLast_cons_cons, lookup]
      simp only [lookup] at ih'
      have hl : (keys (e :: e' :: es')).getLast? = (keys (e' :: es')).getLast? := by
        simp [keys, List.getLast?_cons_cons]
      rw [hl]
      by_cases he : e.1 = k
      · simp only [he, if_true]
        -- k = e.1 is the head key, so it is not the last key (keys are distinct)
        have : ¬ (keys (e' :: es')).getLast? = some k := by
          intro hlast
          have hm : k ∈ keys (e' :: es') := List.mem_of_getLast? hlast
          rw [← he] at hm
          simp only [keys, List.map_cons] at hm
          exact h.1 hm
        simp [this]
      · simp only [he, if_false]
        exact ih'

theorem get_hit {c : Cache κ ν} {k : κ} {v : ν} (h : lookup k c.entries = some v) :
    LRU.get c k = (some v, { c with entries := (k, v) :: removeKey k c.entries }) := by
  unfold LRU.get; simp [h]

theorem get_miss {c : Cache κ ν} {k : κ} (h : lookup k c.entries = none) : LRU.get c k = (none, c) := by
  unfold LRU.get; simp [h]

theorem add_existing {c : Cache κ ν} {k : κ} {w : ν} (v : ν) (h : lookup k c.entries = some w) :
    add c k v = { c with entries := (k, v) :: removeKey k c.entries } := by
  unfold add; simp [h]

theorem get_hit_add {c : Cache κ ν} {k : κ} {w : ν} (h : lookup k c.entries = some w) :
    LRU.get c k = (some w, add c k w) := by rw [get_hit h, add_existing w h]

theorem add_new_full {c : Cache κ ν} {k : κ} (v : ν) (h : lookup k c.entries = none)
    (hf : c.maxSize > 0 ∧ c.entries.length + 1 > c.maxSize) :
    add c k v = { c with entries := ((k, v) :: c.entries).dropLast } := by
  unfold add; simp [h, hf]

theorem add_new_room {c : Cache κ ν} {k : κ} (v : ν) (h : lookup k c.entries = none)
    (hf : ¬ (c.maxSize > 0 ∧ c.entries.length + 1 > c.maxSize)) :
    add c k v = { c with entries := (k, v) :: c.entries } := by
  unfold add; simp only [h, List.length_cons]; simp [hf]

theorem evicted_existing {c : Cache κ ν} {k : κ} {w : ν} (h : lookup k c.entries = some w) : evicted c k = none := by
  unfold evicted; simp [h]

theorem evicted_new_full {c : Cache κ ν} {k : κ} (h : lookup k c.entries = none)
    (hf : c.maxSize > 0 ∧ c.entries.length + 1 > c.maxSize) : evicted c k = (k :: keys c.entries).getLast? := by
  unfold evicted; simp [h, hf]

theorem evicted_new_room {c : Cache κ ν} {k : κ} (h : lookup k c.entries = none)
    (hf : ¬ (c.maxSize > 0 ∧ c.entries.length + 1 > c.maxSize)) : evicted c k = none := by
  unfold evicted; simp only [h]; simp [hf]

/-- `Props.C12.lru_refines_map` says what the conjuncts mean.  `cacheInv_get`, `cacheInv_add`, `get_sound`,
    `add_sound` below name the facts that several proofs use; the others are read by position: `.1.1` what `get`
    returns, `(.2 v).1` and `(.2 v).2.1` what `lookup` gives after `add` for `k` and for another key. -/
theorem refines_map (c : Cache κ ν) (h : CacheInv c) (k : κ) :
    ((LRU.get c k).1 = lookup k c.entries ∧
     (∀ k', lookup k' (LRU.get c k).2.entries = lookup k' c.entries) ∧
     (∀ v, (LRU.get c k).1 = some v → (LRU.get c k).2.entries.head? = some (k, v)) ∧
     CacheInv (LRU.get c k).2) ∧
    ∀ v : ν,
    (lookup k (add c k v).entries = some v ∧
     (∀ k', k' ≠ k → lookup k' (add c k v).entries =
        if evicted c k = some k' then none else lookup k' c.entries) ∧
     (∀ k', evicted c k = some k' → (k :: keys c.entries).getLast? = some k' ∧ lookup k c.entries = none ∧
        c.entries.length = c.maxSize) ∧
     CacheInv (add c k v)) := by
  -- the `get` half follows from the `add` half `hadd`, proved second: a hit is an `add` of the value already stored
  refine (and_iff_right_of_imp fun hadd => ?_).mpr fun v => ?_
  · cases hl : lookup k c.entries with
    | none => rw [get_miss hl]; exact ⟨rfl, fun _ => rfl, nofun, h⟩
    | some w =>
      obtain ⟨a1, a2, _, a4⟩ := hadd w
      rw [get_hit_add hl]
      refine ⟨rfl, fun k' => ?_, ?_, a4⟩
      · by_cases hk : k' = k
        · rw [hk, a1, hl]
        · rw [a2 k' hk, evicted_existing hl]; rfl
      · intro v hv; cases hv; rw [add_existing w hl]; rfl
  · obtain ⟨hnd, hsz⟩ := h
    cases hl : lookup k c.entries with
    | some w =>
      rw [add_existing v hl, evicted_existing hl]
      refine ⟨by simp [lookup], ?_, (by intro k' h; cases h), ?_, ?_⟩
      · intro k' hk
        have : ¬ k = k' := fun h' => hk h'.symm
        simp only [lookup, this, if_false]
        rw [lookup_removeKey_ne hk]; simp
      · simp only [keys, List.map_cons, List.nodup_cons]
        exact ⟨not_mem_removeKey k _ hnd, nodup_removeKey k _ hnd⟩
      · intro hm
        have := length_removeKey hl
        have := hsz hm
        simp only [List.length_cons]; omega
    | none =>
      have hnk : k ∉ keys c.entries := (lookup_none_iff k _).mp hl
      have hnd' : (keys ((k, v) :: c.entries)).Nodup := by
        simp only [keys, List.map_cons, List.nodup_cons]; exact ⟨hnk, hnd⟩
      by_cases hfull : c.maxSize > 0 ∧ c.entries.length + 1 > c.maxSize
      · rw [add_new_full v hl hfull, evicted_new_full hl hfull]
        have hlen : c.entries.length = c.maxSize := by have := hsz hfull.1; omega
        have hne : c.entries ≠ [] := by intro h; rw [h] at hlen; simp at hlen; omega
        refine ⟨?_, ?_, ?_, ?_, ?_⟩
        · -- k itself survives: it is the head and the list has at least two elements
          rw [lookup_dropLast k _ hnd']
          have : ¬ (keys ((k, v) :: c.entries)).getLast? = some k := by
            intro hlast
            obtain ⟨e, es, he⟩ := List.exists_cons_of_ne_nil hne
            rw [he] at hlast hnk
            simp only [keys, List.map_cons, List.getLast?_cons_cons] at hlast
            have hm : k ∈ e.1 :: List.map (fun x => x.1) es := List.mem_of_getLast? hlast
            simp only [keys, List.map_cons] at hnk
            exact hnk hm
          simp [this, lookup]
        · intro k' hk
          rw [lookup_dropLast k' _ hnd']
          have : ¬ k = k' := fun h' => hk h'.symm
          simp only [keys, List.map_cons, lookup, this, if_false]
          by_cases he : (k :: List.map (fun x => x.fst) c.entries).getLast? = some k' <;> simp [he]
        · intro k' hk'
          exact ⟨hk', rfl, hlen⟩
        · show (keys (((k, v) :: c.entries).dropLast)).Nodup
          rw [keys_dropLast]; exact hnd'.sublist (List.dropLast_sublist _)
        · intro _; simp only [List.length_dropLast, List.length_cons]; omega
      · rw [add_new_room v hl hfull, evicted_new_room hl hfull]
        refine ⟨by simp [lookup], ?_, (by intro k' h; cases h), hnd', ?_⟩
        · intro k' hk
          have : ¬ k = k' := fun h' => hk h'.symm
          simp [lookup, this]
        · intro hm
          have hm' : c.maxSize > 0 := hm
          show c.entries.length + 1 ≤ c.maxSize
          omega

theorem cacheInv_get {c : Cache κ ν} (h : CacheInv c) (k : κ) : CacheInv (LRU.get c k).2 :=
  (refines_map c h k).1.2.2.2

theorem cacheInv_add {c : Cache κ ν} (h : CacheInv c) (k : κ) (v : ν) : CacheInv (add c k v) :=
  ((refines_map c h k).2 v).2.2.2

theorem get_sound {P : κ → ν → Prop} (c : Cache κ ν) (h : CacheInv c)
    (hP : ∀ k v, lookup k c.entries = some v → P k v) (k : κ) :
    ∀ k' v', lookup k' (LRU.get c k).2.entries = some v' → P k' v' := by
  intro k' v' h'
  rw [(refines_map c h k).1.2.1 k'] at h'
  exact hP k' v' h'

theorem add_sound {P : κ → ν → Prop} (c : Cache κ ν) (h : CacheInv c)
    (hP : ∀ k v, lookup k c.entries = some v → P k v) (k : κ) (v : ν) (hk : P k v) :
    ∀ k' v', lookup k' (add c k v).entries = some v' → P k' v' := by
  obtain ⟨ha1, ha2, _⟩ := (refines_map c h k).2 v
  intro k' v' h'
  by_cases hk' : k' = k
  · subst hk'; rw [ha1] at h'; cases h'; exact hk
  · rw [ha2 k' hk'] at h'
    split at h'
    · cases h'
    · exact hP k' v' h'

end RegexVerif.Lemmas.LRU
