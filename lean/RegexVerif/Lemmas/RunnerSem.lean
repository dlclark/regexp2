/-
The laws of the interleaving theorem (`Lemmas.Interleave.Laws`) for the instance `RunnerSem.runnerSem` built from the
C12 models: `runnerLaws`, with `Own := OwnR` (`RunInv`, a well-formed result object, the backtracking stack within
its limit) and `InvR := PoolInv ∧ OwnR`.

"The interpreter / the result read only the observable state" is proved here from the definitions.  The device:
`viewS s` is what `observe` keeps of a slot (count and live cells), `ofP (viewS s)` the slot rebuilt from that view
(`canon_*`: it agrees with `s` below `2*count` and stays well formed), and `Respects g` says that `g` on a
well-formed slot yields the view it yields on the rebuilt slot.  With it every builder operation and every read of
the concrete arrays (stale cells included) acts on `observe` as an explicit function of it (`execActO`, `readO`,
`stepO`, `finishO`).  Ingredients: reads stay below `2*matchcount` on well-formed slots, `equiv_*`,
`ensureTrack_spec`; the test of `goToZero` holds for every left-over `codepos`.
-/
import RegexVerif.Model.RunnerSem
import RegexVerif.Lemmas.Interleave
import RegexVerif.Lemmas.Pool
import RegexVerif.Lemmas.RunnerReuse

namespace RegexVerif.Lemmas.RunnerSem
open RegexVerif.Interleave RegexVerif.RunnerReuse RegexVerif.RunnerSem
open RegexVerif.Lemmas.RunnerReuse RegexVerif.Lemmas.Interleave

/-- what `observe` keeps of a slot: its count and its cells below `2*count` -/
def viewS (s : Slot) : Nat × List Int := (s.count, s.live)

/-- the slot rebuilt from its view: no cells above `2*count` -/
def ofP (p : Nat × List Int) : Slot := { count := p.1, arr := p.2 }

theorem canon_live (s : Slot) : (ofP (viewS s)).live = s.live := by
  simp [ofP, viewS, Slot.live, List.take_take]

theorem canon_equiv (s : Slot) : Slot.Equiv s (ofP (viewS s)) := ⟨rfl, (canon_live s).symm⟩

theorem canon_lenOK {s : Slot} (h : s.lenOK) : (ofP (viewS s)).lenOK := by
  have := live_length h
  unfold Slot.lenOK
  simp only [ofP, viewS]
  omega

theorem canon_WF {s : Slot} (h : s.WF) : (ofP (viewS s)).WF :=
  ⟨canon_lenOK h.1, by rw [canon_live]; exact h.2⟩

theorem viewS_of_equiv {s t : Slot} (h : Slot.Equiv s t) : viewS s = viewS t := by
  simp [viewS, h.1, h.2]

/-- on a well-formed slot `g` produces the view it produces on the slot rebuilt from the view (it has read
    nothing else), and keeps well-formedness -/
def Respects (g : Slot → Option Slot) : Prop :=
  ∀ s, s.WF → (g s).map viewS = (g (ofP (viewS s))).map viewS ∧ ∀ s', g s = some s' → s'.WF

theorem respects_add (a b : Nat) : Respects (fun s => some (s.addMatch a b)) := by
  intro s h
  refine ⟨?_, ?_⟩
  · simp only [Option.map_some]
    rw [viewS_of_equiv (equiv_addMatch (canon_equiv s) h.1 (canon_lenOK h.1) a b)]
  · intro s' hs'
    cases hs'
    exact wf_capture h _ _ (by omega) (by omega)

theorem respects_remove : Respects Slot.removeMatch := by
  intro s h
  refine ⟨?_, fun s' hs' => wf_removeMatch h hs'⟩
  cases hr : s.removeMatch with
  | none =>
    have hc : s.count = 0 := by
      unfold Slot.removeMatch at hr
      by_cases hc : s.count = 0
      · exact hc
      · simp [hc] at hr
    have : (ofP (viewS s)).removeMatch = none := by simp [Slot.removeMatch, ofP, viewS, hc]
    rw [this]
  | some s' =>
    obtain ⟨t', ht', he⟩ := equiv_removeMatch (canon_equiv s) hr
    rw [ht']
    simp [viewS_of_equiv he]

theorem respects_balance : Respects (Slot.balanceMatchWith rdAny) := by
  intro s h
  refine ⟨?_, ?_⟩
  · rw [balanceMatch_any_eq_live h, balanceMatch_any_eq_live (canon_WF h)]
    rcases equiv_balanceMatch (canon_equiv s) h.1 (canon_lenOK h.1) with ⟨h1, h2⟩ | ⟨s', t', h1, h2, he⟩
    · rw [h1, h2]
    · rw [h1, h2]; simp [viewS_of_equiv he]
  · intro s' hs'
    rw [balanceMatch_any_eq_live h] at hs'
    exact wf_balanceMatch h hs'

/-- the operation on the view that corresponds to `modifySlot` -/
def modifyView (v : List (Nat × List Int)) (c : Nat) (g : Slot → Option Slot) : Option (List (Nat × List Int)) :=
  match v[c]? with
  | none => none
  | some p => (g (ofP p)).map (fun s' => v.set c (viewS s'))

theorem modifySlot_view (slots : List Slot) (c : Nat) (g : Slot → Option Slot) (hg : Respects g)
    (hw : ∀ s ∈ slots, s.WF) :
    (modifySlot slots c g).map (List.map viewS) = modifyView (slots.map viewS) c g ∧
    ∀ ss, modifySlot slots c g = some ss → (∀ s ∈ ss, s.WF) ∧ ss.length = slots.length := by
  unfold modifySlot modifyView
  rw [List.getElem?_map]
  cases hs : slots[c]? with
  | none => simp
  | some s =>
    have hsw := hw s (List.mem_of_getElem? hs)
    obtain ⟨h1, h2⟩ := hg s hsw
    simp only [Option.map_some]
    refine ⟨?_, ?_⟩
    · -- `viewS` of the updated list is the updated list of views, so only `(g _).map viewS` matters
      have hset : ∀ o : Option Slot, (o.map fun s' => slots.set c s').map (List.map viewS) =
          (o.map viewS).map fun v => (slots.map viewS).set c v := by
        intro o
        cases o <;> simp [List.map_set]
      rw [hset, h1, Option.map_map]
      rfl
    · intro ss hss
      simp only [Option.map_eq_some_iff] at hss
      obtain ⟨s', hs', rfl⟩ := hss
      refine ⟨?_, by simp⟩
      intro x hx
      rcases List.mem_or_eq_of_mem_set hx with hx | hx
      · exact hw x hx
      · subst hx; exact h2 _ hs'

abbrev MView := List (Nat × List Int) × Bool × Int × Option Nat

def mview (m : Builder) : MView := (m.view, m.balancing, m.textstart, m.text)

def BWF (m : Builder) : Prop := ∀ s ∈ m.slots, s.WF

theorem observe_matchView (r : Runner) : (observe r).matchView = r.runmatch.map mview := rfl

/-- the three builder operations have this shape -/
def bop (c : Nat) (g : Slot → Option Slot) (bal : Bool → Bool) (m : Builder) : Option Builder :=
  (modifySlot m.slots c g).map (fun ss => { m with slots := ss, balancing := bal m.balancing })

/-- the same on the observable state -/
def withView (o : Obs) (f : List (Nat × List Int) → Option (List (Nat × List Int))) (bal : Bool → Bool) : Option Obs :=
  match o.matchView with
  | none => none
  | some mv => (f mv.1).map (fun v' => { o with matchView := some (v', bal mv.2.1, mv.2.2.1, mv.2.2.2) })

/-- ownership facts of a runner of this Regexp: `RunInv`, well-formed result object, backtracking stack
    within its limit -/
def OwnR (re : Re) (r : Runner) : Prop :=
  RunInv re r ∧ (∀ m, r.runmatch = some m → BWF m) ∧ TrackInv re.stackLimit r.runtrack.length r.runtrackpos

theorem withMatch_bop_obs {re : Re} {r : Runner} (h : OwnR re r) (c : Nat) (g : Slot → Option Slot)
    (bal : Bool → Bool) (hg : Respects g) :
    (withMatch r (bop c g bal)).map observe = withView (observe r) (fun v => modifyView v c g) bal ∧
    ∀ r', withMatch r (bop c g bal) = some r' → OwnR re r' := by
  unfold withMatch withView
  rw [observe_matchView]
  cases hm : r.runmatch with
  | none => simp
  | some m =>
    obtain ⟨hv, hk⟩ := modifySlot_view m.slots c g hg (h.2.1 m hm)
    simp only [Option.map_some, mview, bop]
    have hview : m.view = m.slots.map viewS := rfl
    rw [hview, ← hv]
    cases hms : modifySlot m.slots c g with
    | none => simp
    | some ss =>
      refine ⟨rfl, ?_⟩
      intro r' hr'
      simp only [Option.map_some, Option.some.injEq] at hr'
      subst hr'
      obtain ⟨hw, hl⟩ := hk ss hms
      refine ⟨⟨h.1.1, ?_⟩, ?_, h.2.2⟩
      · intro m' hm'
        cases hm'
        simp only
        rw [hl]; exact h.1.2 m hm
      · intro m' hm'
        cases hm'
        exact hw

/-- `ensureStorage` on the observable state: fails iff used depth + reserve exceeds the limit -/
def ensureO (re : Re) (o : Obs) : Option Obs :=
  if re.stackLimit ≥ 0 ∧ ((o.trackUsed.length : Nat) : Int) + o.runtrackcount * 4 > re.stackLimit then none
  else some o

theorem ensure_obs {re : Re} {r : Runner} (h : OwnR re r) :
    (ensure re r).map observe = ensureO re (observe r) ∧ ∀ r', ensure re r = some r' → OwnR re r' := by
  obtain ⟨hpl, hll⟩ := h.2.2
  -- `d` cells of the stack are in use
  obtain ⟨d, hd⟩ := Nat.exists_eq_add_of_le hpl
  have hspec := ensureTrack_spec re.stackLimit r.runtrackcount d (r.runtrackcount * 4) r.runtrackpos (hd ▸ hll)
    (by omega)
  rw [← hd] at hspec
  have hlen : (observe r).trackUsed.length = d := by simp [observe, hd]
  have htc : (observe r).runtrackcount = r.runtrackcount := rfl
  unfold ensure ensureO
  rw [hlen, htc]
  split at hspec
  · next hc =>
    rw [hspec, if_pos hc]
    exact ⟨rfl, fun _ hr' => nomatch hr'⟩
  · next hc =>
    obtain ⟨pos', he, _, hti, hpp⟩ := hspec
    rw [he, if_neg hc]
    have hdrop : (List.replicate (pos' + d - r.runtrack.length) 0 ++ r.runtrack).drop pos' =
        r.runtrack.drop r.runtrackpos := by
      have hpos : pos' = r.runtrackpos + (pos' + d - r.runtrack.length) := by omega
      generalize pos' + d - r.runtrack.length = n at hpos ⊢
      rw [hpos, Nat.add_comm, ← List.drop_drop]
      simp
    refine ⟨?_, ?_⟩
    · simp only [Option.map_some, observe, hdrop]
    · intro r' hr'
      cases hr'
      refine ⟨h.1, h.2.1, ?_⟩
      simp only [List.length_append, List.length_replicate]
      exact ⟨by omega, fun hl => by have := hti hl; omega⟩

def execActO (re : Re) : Act → Obs → Option Obs
  | .nop, o => some o
  | .setpos p, o => some { o with runtextpos := p }
  | .capture c s l, o => withView o (fun v => modifyView v c (fun sl => some (sl.addMatch s l))) id
  | .uncapture c, o => withView o (fun v => modifyView v c Slot.removeMatch) id
  | .balance c, o => withView o (fun v => modifyView v c (Slot.balanceMatchWith rdAny)) (fun _ => true)
  | .enter _ _ _, o => ensureO re o

theorem execAct_obs {re : Re} {r : Runner} (act : Act) (h : OwnR re r) :
    (execAct re act r).map observe = execActO re act (observe r) ∧
    ∀ r', execAct re act r = some r' → OwnR re r' := by
  cases act with
  | nop => exact ⟨rfl, fun _ hr' => Option.some.inj hr' ▸ h⟩
  | setpos p => exact ⟨rfl, fun _ hr' => Option.some.inj hr' ▸ h⟩
  | capture c s l => exact withMatch_bop_obs h c _ id (respects_add s l)
  | uncapture c => exact withMatch_bop_obs h c _ id respects_remove
  | balance c => exact withMatch_bop_obs h c _ (fun _ => true) respects_balance
  | enter op0 rtl ci =>
    simp only [execAct, execActO, goToZero, Nat.zero_le, decide_true, if_true]
    exact ensure_obs (show OwnR re _ from h)

def readO (o : Obs) (c : Nat) : Option Bool × Option Int × Option Int :=
  match o.matchView.bind (fun mv => mv.1[c]?) with
  | none => (some false, none, none)
  | some p => ((ofP p).isMatchedWith rdAny, (ofP p).matchIndexWith rdAny, (ofP p).matchLengthWith rdAny)

theorem reads_canon (s : Slot) (h : s.WF) :
    s.isMatchedWith rdAny = (ofP (viewS s)).isMatchedWith rdAny ∧
    s.matchIndexWith rdAny = (ofP (viewS s)).matchIndexWith rdAny ∧
    s.matchLengthWith rdAny = (ofP (viewS s)).matchLengthWith rdAny := by
  have hc := canon_WF h
  have he := canon_equiv s
  refine ⟨?_, ?_, ?_⟩
  · rw [isMatched_any_eq_live s, isMatched_any_eq_live _, isMatched_congr he]
  · rw [matchIndex_any_eq_live h, matchIndex_any_eq_live hc, matchIndex_congr he]
  · rw [matchLength_any_eq_live h, matchLength_any_eq_live hc, matchLength_congr he]

theorem readSlot_obs {re : Re} {r : Runner} (h : OwnR re r) : readSlot r = readO (observe r) := by
  funext c
  unfold readSlot readO
  rw [observe_matchView]
  cases hm : r.runmatch with
  | none => rfl
  | some m =>
    simp only [Option.map_some, Option.bind_some, mview]
    have hview : m.view = m.slots.map viewS := rfl
    rw [hview, List.getElem?_map]
    cases hs : m.slots[c]? with
    | none => rfl
    | some s =>
      obtain ⟨h1, h2, h3⟩ := reads_canon s (h.2.1 m hm s (List.mem_of_getElem? hs))
      simp only [Option.map_some]
      rw [← h1, ← h2, ← h3]

def stepO (re : Re) (a : CallArgs) (t : List Int) (o : Obs × Bool) : Obs × Bool :=
  if o.2 then o
  else
    match execActO re (resolve (a.ctl t o.1) (readO o.1)) o.1 with
    | some o' => (o', false)
    | none => (o.1, true)

theorem stepSt_obs (re : Re) (a : CallArgs) (t : List Int) (s : RunSt) (h : OwnR re s.r) :
    (observe (stepSt re a t s).r, (stepSt re a t s).err) = stepO re a t (observe s.r, s.err) ∧
    OwnR re (stepSt re a t s).r := by
  unfold stepSt stepO
  cases he : s.err with
  | true => simp [he]; exact h
  | false =>
    simp only [Bool.false_eq_true, if_false]
    rw [readSlot_obs h]
    obtain ⟨h1, h2⟩ := execAct_obs (resolve (a.ctl t (observe s.r)) (readO (observe s.r))) h
    cases hx : execAct re (resolve (a.ctl t (observe s.r)) (readO (observe s.r))) s.r with
    | none =>
      rw [hx] at h1
      simp only [Option.map_none] at h1
      rw [← h1]
      exact ⟨rfl, h⟩
    | some r' =>
      rw [hx] at h1
      simp only [Option.map_some] at h1
      rw [← h1]
      exact ⟨rfl, h2 r' hx⟩

/-- `tidy`'s compaction on the view -/
def compactView (mv : MView) : Option (List (Nat × List Int)) :=
  if mv.2.1 then ((mv.1.map ofP).mapM Slot.compact).map (List.map viewS) else some mv.1

def finishO {ν : Type} (d : Option ν) (o : Obs × Bool) : Res ν :=
  { err := o.2, groups := o.1.matchView.bind compactView, textpos := o.1.runtextpos, repl := d }

theorem mapM_compact_view (l : List Slot) :
    (l.mapM Slot.compact).map (List.map viewS) = ((l.map (fun s => ofP (viewS s))).mapM Slot.compact).map (List.map viewS) := by
  induction l with
  | nil => rfl
  | cons s l ih =>
    simp only [List.map_cons, List.mapM_cons]
    rcases equiv_compact (canon_equiv s) with ⟨h1, h2⟩ | ⟨s', t', h1, h2, he⟩
    · rw [h1, h2]; rfl
    · rw [h1, h2]
      cases hA : l.mapM Slot.compact <;> cases hB : (l.map (fun s => ofP (viewS s))).mapM Slot.compact <;>
        rw [hA, hB] at ih <;> simp at ih
      · rfl
      · simp [viewS_of_equiv he, ih]

theorem compact_view (m : Builder) : (m.compact).map Builder.view = compactView (mview m) := by
  unfold Builder.compact compactView mview
  cases hb : m.balancing with
  | false => simp
  | true =>
    simp only [if_true, Option.map_map]
    have hview : m.view = m.slots.map viewS := rfl
    rw [hview, List.map_map]
    exact mapM_compact_view m.slots

theorem finishSt_obs {ν : Type} (d : Option ν) (s : RunSt) : finishSt d s = finishO d (observe s.r, s.err) := by
  unfold finishSt finishO
  rw [observe_matchView]
  cases hm : s.r.runmatch with
  | none => rfl
  | some m =>
    simp only [Option.bind_some, Option.map_some]
    rw [compact_view]
    rfl

theorem scanInit_track (re : Re) (a : ScanArgs) (r : Runner)
    (h : TrackInv re.stackLimit r.runtrack.length r.runtrackpos) :
    TrackInv re.stackLimit (scanInit re a r).runtrack.length (scanInit re a r).runtrackpos := by
  obtain ⟨_, _, _, _, _, _, _, _, _, _, _, _, allocated, _, _, _, _, _, _, _, _, _⟩ := r
  obtain ⟨_, _, _, _, _, noTimeout, _⟩ := a
  cases allocated <;> cases noTimeout
  case true.false | true.true => exact ⟨Nat.le_refl _, h.2⟩
  -- first use: the stack is allocated with `tracksize ≤ stackLimit` cells
  all_goals
    refine ⟨Nat.le_of_eq (List.length_replicate ..).symm, fun hl => ?_⟩
    show ((List.replicate _ 0).length : Int) ≤ _
    rw [List.length_replicate]
    exact clamp_le_limit _ _ hl

theorem bwf_new (n : Nat) (t : Option Nat) (ts : Int) : BWF (Builder.new n t ts) := by
  intro s hs
  simp only [Builder.new, List.mem_map] at hs
  obtain ⟨c, _, rfl⟩ := hs
  have := wf_reset { count := 0, arr := if c = 0 then [0, 0] else [] } (by split <;> simp)
  exact this

theorem bwf_reset (m : Builder) (hm : BWF m) (t : Option Nat) (ts : Int) : BWF (m.reset t ts) := by
  intro s hs
  simp only [Builder.reset, List.mem_map] at hs
  obtain ⟨s0, hs0, rfl⟩ := hs
  exact wf_reset s0 (hm s0 hs0).1.2

theorem ownR_scanInit {re : Re} {r : Runner} (a : ScanArgs) (h : OwnR re r) : OwnR re (scanInit re a r) := by
  refine ⟨runInv_scanInit a h.1, ?_, scanInit_track re a r h.2.2⟩
  intro m hm
  rw [scanInit_runmatch] at hm
  cases hm
  cases hr : r.runmatch with
  | none => exact bwf_new _ _ _
  | some m0 => exact bwf_reset m0 (h.2.1 m0 hr) _ _

theorem ownR_put (re : Re) (r : Runner) (h : OwnR re r) : OwnR re (put r) := by
  refine ⟨(poolInv_put h.1).runInv, ?_, h.2.2⟩
  intro m hm
  simp only [put, Option.map_eq_some_iff] at hm
  obtain ⟨m0, hm0, rfl⟩ := hm
  exact h.2.1 m0 hm0

theorem ownR_fresh (re : Re) : OwnR re Runner.fresh :=
  ⟨runInv_fresh re, by intro m hm; simp [Runner.fresh] at hm,
   ⟨Nat.le_refl _, by intro h; simp [Runner.fresh]; exact h⟩⟩

theorem decodeBuf_spec (a : CallArgs) (b : Pool.Buf) :
    Pool.decode { b with len := a.needed } a.runes = some (decodeBuf a b) ∧
    (decodeBuf a b).visible = a.runes := by
  have := a.hn
  simp [decodeBuf, Pool.decode, this, Pool.Buf.visible]

/-- on whatever `Pool.get` hands out `decodeBuf` is `Pool.decode`: `doPoolGet` at `runnerSem` performs `get` and
    the decode loop of the C12 pool model -/
theorem decodeBuf_of_get (p : Pool.Pools) (a : CallArgs) (pick : Option Nat) :
    Pool.decode (Pool.get p a.needed a.maxPool pick).buf a.runes =
      some (decodeBuf a (Pool.get p a.needed a.maxPool pick).buf) := by
  have h := (Lemmas.Pool.get_len_cap p a.needed a.maxPool pick).1
  generalize (Pool.get p a.needed a.maxPool pick).buf = b at h
  have := (decodeBuf_spec a b).1
  have e : ({ b with len := a.needed } : Pool.Buf) = b := by cases b; simp_all
  rw [e] at this
  exact this

/-- a buffer `Pool.get` takes out of the class list it consults passes `fitsBuf` (under the class
    invariant of `poolIndex_put_get_consistent`: capacity = class size), and vice versa `get` keeps it -/
theorem fitsBuf_iff (sizes : List Nat) (a : CallArgs) (b : Pool.Buf) (idx : Nat)
    (hi : Pool.poolIndex sizes a.needed a.maxPool = some idx) (hc : b.cap = sizes.getD idx 0) :
    fitsBuf sizes a b = decide (b.cap ≥ a.needed) := by
  simp [fitsBuf, hi, hc]

/-! ### a checker for `LiveWF` on concrete lists (used by the non-vacuity examples) -/

def refsBelow : List Int → Nat → Bool
  | [], _ => true
  | v :: vs, p => (if v < 0 then decide (-3 - v < (p : Int)) else true) && refsBelow vs (p + 1)

theorem refsBelow_sound : ∀ (l : List Int) (p0 : Nat), refsBelow l p0 = true →
    ∀ (p : Nat) (v : Int), l[p]? = some v → v < 0 → -3 - v < ((p0 + p : Nat) : Int) := by
  intro l
  induction l with
  | nil => intro p0 _ p v hp; simp at hp
  | cons x xs ih =>
    intro p0 h p v hp hv
    simp only [refsBelow, Bool.and_eq_true] at h
    cases p with
    | zero =>
      simp only [List.getElem?_cons_zero, Option.some.injEq] at hp
      subst hp
      have := h.1
      simp only [hv, if_true, decide_eq_true_eq] at this
      simpa using this
    | succ p =>
      simp only [List.getElem?_cons_succ] at hp
      have := ih (p0 + 1) h.2 p v hp hv
      have e : p0 + 1 + p = p0 + (p + 1) := by omega
      rw [e] at this; exact this

theorem wf_of_check (s : Slot) (h1 : 2 * s.count ≤ s.arr.length) (h2 : s.arr.length ≠ 1)
    (h3 : refsBelow s.live 0 = true) : s.WF := by
  refine ⟨⟨h1, h2⟩, ?_⟩
  intro p v hp hv
  have := refsBelow_sound s.live 0 h3 p v hp hv
  simpa using this

def runnerLaws {κ ν : Type} (re : Re) (sizes : List Nat) (parse : κ → Option ν) :
    Laws (runnerSem re sizes parse) where
  InvR := fun s => PoolInv re s.r ∧ OwnR re s.r
  Own := fun s => OwnR re s.r
  stepO := stepO re
  finishO := fun _ d o => finishO d o
  fresh_inv := ⟨poolInv_fresh re, ownR_fresh re⟩
  inv_own := fun _ h => h.2
  start_obs := by
    intro a t s h
    simp only [runnerSem, observe_scanInit_pooled (scanArgs a t) a.quick h.1]
  start_own := fun a t s h => ownR_scanInit (scanArgs a t) (sel_eq _ a.quick _ ▸ h)
  step_obs := fun a t s h => (stepSt_obs re a t s h).1
  step_own := fun a t s h => (stepSt_obs re a t s h).2
  finish_obs := fun _ d s _ => finishSt_obs d s
  put_inv := fun s h => ⟨poolInv_put h.1, ownR_put re s.r h⟩
  decode_vis := by
    intro a b _
    show (decodeBuf a b).visible = (decodeBuf a _).visible
    rw [(decodeBuf_spec a b).2, (decodeBuf_spec a _).2]

end RegexVerif.Lemmas.RunnerSem
