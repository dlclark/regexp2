/-
Byte offsets of rune indexes (model `RegexVerif.Model.Utf8`).  The specification is a prefix sum of segment widths
(`prefixSums`, sums of `take`).  The three lazily allocated offset tables are one loop (`lazyLoop`, read by
`offsetAt_lazy`); the delta table of `newStringByteMapper` is `tbl`, read linearly by `linLookup` and by
`sort.Search` in `byteIndex`; `runeStartLoop` inverts the mapping.

The exactness theorems built from these stand in Props/C08.lean (`stringByteOffsets_eq_prefixSums`,
`stringByteMapper_eq`, `mappers_agree`, …); there `mapIndex` is the caller's closure: the identity for a `nil`
mapper, `byteIndex` otherwise.  Model names are `RegexVerif.Utf8.*`, the lemmas and proof notions of this file
`RegexVerif.Lemmas.Utf8.*`.
-/
import RegexVerif.Model.Utf8

namespace RegexVerif.Lemmas.Utf8
open RegexVerif.Utf8

/-! ### prefix sums -/

/-- `[p, p+w₀, p+w₀+w₁, …, p+Σw]` -/
def prefixSums : List Nat → Nat → List Nat
  | [], p => [p]
  | w :: t, p => p :: prefixSums t (p + w)

theorem prefixSums_length (ws : List Nat) (p : Nat) : (prefixSums ws p).length = ws.length + 1 := by
  induction ws generalizing p with
  | nil => rfl
  | cons w t ih => simp [prefixSums, ih]

theorem prefixSums_get (ws : List Nat) (p i : Nat) (h : i ≤ ws.length) :
    (prefixSums ws p)[i]? = some (p + (ws.take i).sum) := by
  induction ws generalizing p i with
  | nil => obtain rfl := Nat.le_zero.mp h; rfl
  | cons w t ih =>
    cases i with
    | zero => rfl
    | succ i => exact (ih (p + w) i (Nat.le_of_succ_le_succ h)).trans (congrArg some (Nat.add_assoc ..))

theorem sum_take_ones (ws : List Nat) (h : ∀ w ∈ ws, w = 1) (i : Nat) (hi : i ≤ ws.length) :
    (ws.take i).sum = i := by
  induction ws generalizing i with
  | nil => obtain rfl := Nat.le_zero.mp hi; rfl
  | cons w t ih =>
    cases i with
    | zero => rfl
    | succ i =>
      rw [List.take_succ_cons, List.sum_cons, h w (List.mem_cons_self ..),
        ih (fun w hw => h w (List.mem_cons_of_mem _ hw)) i (Nat.le_of_succ_le_succ hi), Nat.add_comm]

theorem prefixSums_eq_cons_tail (ws : List Nat) (p : Nat) : prefixSums ws p = p :: (prefixSums ws p).tail := by
  cases ws <;> simp [prefixSums]

theorem sum_take_add (ws : List Nat) (a b : Nat) :
    (ws.take (a + b)).sum = (ws.take a).sum + ((ws.drop a).take b).sum := by
  rw [List.take_add]; simp

theorem sum_take_le_sum (ws : List Nat) (i : Nat) : (ws.take i).sum ≤ ws.sum := by
  conv => rhs; rw [← List.take_append_drop i ws, List.sum_append]
  exact Nat.le_add_right _ _

theorem sum_take_succ (ws : List Nat) (i : Nat) : (ws.take (i + 1)).sum = (ws.take i).sum + ws.getD i 0 := by
  rw [sum_take_add, List.getD_eq_getElem?_getD, ← List.head?_drop]
  cases ws.drop i <;> simp

theorem sum_take_lt (ws : List Nat) (h : ∀ w ∈ ws, 1 ≤ w) (i j : Nat) (hij : i < j) (hj : j ≤ ws.length) :
    (ws.take i).sum < (ws.take j).sum := by
  obtain ⟨d, rfl⟩ : ∃ d, j = i + (d + 1) := ⟨j - i - 1, by omega⟩
  rw [sum_take_add]
  have hlen : i < ws.length := by omega
  have : ws.drop i = ws[i] :: ws.drop (i + 1) := by
    rw [List.drop_eq_getElem_cons hlen]
  rw [this]
  have h1 : 1 ≤ ws[i] := h _ (List.getElem_mem hlen)
  simp only [List.take_succ_cons, List.sum_cons]; omega

theorem sum_take_mono (ws : List Nat) (i j : Nat) (h : i ≤ j) : (ws.take i).sum ≤ (ws.take j).sum := by
  obtain ⟨d, rfl⟩ := Nat.exists_eq_add_of_le h
  rw [sum_take_add]; exact Nat.le_add_right _ _

theorem sum_take_le_iff (ws : List Nat) (h : ∀ w ∈ ws, 1 ≤ w) (i j : Nat) (hi : i ≤ ws.length) :
    (ws.take i).sum ≤ (ws.take j).sum ↔ i ≤ j :=
  ⟨fun hle => Decidable.byContradiction fun hij =>
    absurd (sum_take_lt ws h j i (Nat.lt_of_not_le hij) hi) (Nat.not_lt.mpr hle), sum_take_mono ws i j⟩

theorem sum_take_inj (ws : List Nat) (h : ∀ w ∈ ws, 1 ≤ w) (i j : Nat) (hi : i ≤ ws.length) (hj : j ≤ ws.length)
    (he : (ws.take i).sum = (ws.take j).sum) : i = j :=
  Nat.le_antisymm ((sum_take_le_iff ws h i j hi).mp (Nat.le_of_eq he))
    ((sum_take_le_iff ws h j i hj).mp (Nat.le_of_eq he.symm))

/-! ### the lazily allocated tables -/

theorem lazyLoop_some {α : Type} (trig adv : α → Nat) (pt : Bool) (xs : List α) (idx pos : Nat) (l : List Nat) :
    lazyLoop trig adv pt xs idx pos (some l) = some (l ++ prefixSums (xs.map adv) pos) := by
  induction xs generalizing idx pos l with
  | nil => simp [lazyLoop, prefixSums]
  | cons x rest ih => simp [lazyLoop, ih, prefixSums]

theorem lazyLoop_none {α : Type} (trig adv : α → Nat) (pt : Bool) (xs : List α)
    (h : ∀ x ∈ xs, trig x = 1 → adv x = 1) (k : Nat) :
    (lazyLoop trig adv pt xs k k none = none ∧ ∀ x ∈ xs, adv x = 1) ∨
    lazyLoop trig adv pt xs k k none = some (List.range k ++ prefixSums (xs.map adv) k) := by
  induction xs generalizing k with
  | nil => left; simp [lazyLoop]
  | cons x rest ih =>
    by_cases ht : trig x = 1
    · have ha : adv x = 1 := h x (by simp) ht
      have ih' := ih (fun y hy => h y (by simp [hy])) (k + 1)
      simp only [lazyLoop, Option.map_none, ht, ha, ne_eq, not_true_eq_false, and_false, or_false, ite_false]
      rcases ih' with ⟨h1, h2⟩ | h1
      · left; exact ⟨h1, by intro y hy; rcases List.mem_cons.mp hy with rfl | hy; exact ha; exact h2 y hy⟩
      · right; rw [h1]; simp [prefixSums, List.range_succ, ha]
    · right
      simp only [lazyLoop, Option.map_none, ne_eq, ht, not_false_eq_true, or_true, ite_true]
      rw [lazyLoop_some]; simp [prefixSums]

/-- `h`: the trigger misses no element whose advance is not 1 -/
theorem offsetAt_lazy {α : Type} (trig adv : α → Nat) (pt : Bool) (xs : List α)
    (h : ∀ x ∈ xs, trig x = 1 → adv x = 1) (i : Nat) (hi : i ≤ xs.length) :
    offsetAt (lazyLoop trig adv pt xs 0 0 none) i = some (((xs.map adv).take i).sum) := by
  rcases lazyLoop_none trig adv pt xs h 0 with ⟨h1, h2⟩ | h1
  · rw [h1]; simp only [offsetAt]
    rw [sum_take_ones (xs.map adv) (by intro w hw; obtain ⟨x, hx, rfl⟩ := List.mem_map.mp hw; exact h2 x hx) i (by simpa using hi)]
  · rw [h1]; simp only [offsetAt, List.range_zero, List.nil_append]
    rw [prefixSums_get _ _ _ (by simpa using hi)]; simp

/-! ### the decoding contract -/

theorem runeLen_cases (r : Int) : runeLen r = -1 ∨ (1 ≤ runeLen r ∧ runeLen r ≤ 4) := by
  -- every leaf of the cascade is in range
  have leaf : ∀ (p : Prop) [Decidable p] (a b : Int), (a = -1 ∨ (1 ≤ a ∧ a ≤ 4)) → (b = -1 ∨ (1 ≤ b ∧ b ≤ 4)) →
      ((if p then a else b) = -1 ∨ (1 ≤ (if p then a else b) ∧ (if p then a else b) ≤ 4)) :=
    fun p _ a b ha hb => by split <;> assumption
  exact leaf _ _ _ (by decide) (leaf _ _ _ (by decide) (leaf _ _ _ (by decide) (leaf _ _ _ (by decide)
    (leaf _ _ _ (by decide) (leaf _ _ _ (by decide) (by decide))))))

theorem computedLen_eq_width (s : Int × Nat) (h : segOK s = true) : computedLen s = s.2 := by
  unfold segOK at h; unfold computedLen
  split at h
  · rename_i he; simp [he]
  · rename_i he; simp [he]
    have : runeLen s.1 = (s.2 : Int) := by simpa using h
    omega

theorem width_pos (s : Int × Nat) (h : segOK s = true) : 1 ≤ s.2 ∧ s.2 ≤ 4 := by
  unfold segOK at h
  split at h
  · have : s.2 = 1 ∨ s.2 = 3 := by simpa using h
    omega
  · have h' : runeLen s.1 = (s.2 : Int) := by simpa using h
    have := runeLen_cases s.1
    omega

theorem map_computedLen_eq (segs : List (Int × Nat)) (h : WF segs) : segs.map computedLen = widths segs := by
  unfold widths
  apply List.map_congr_left
  intro s hs; exact computedLen_eq_width s (h s hs)

/-! ### the delta table -/

/-- the table `newStringByteMapper` builds, as a list of `(runeIndexes[i], deltas[i])`, without accumulators -/
def tbl : List (Int × Nat) → Nat → Nat → List (Nat × Nat)
  | [], _, _ => []
  | s :: rest, k, d =>
    if computedLen s ≠ 1 then (k + 1, d + (computedLen s - 1)) :: tbl rest (k + 1) (d + (computedLen s - 1))
    else tbl rest (k + 1) d

theorem nsbmLoop_some (rest : List (Int × Nat)) (k d : Nat) (ri ds : List Nat) :
    nsbmLoop rest k d (some ⟨ri, ds⟩) =
      some ⟨ri ++ (tbl rest k d).map (·.1), ds ++ (tbl rest k d).map (·.2)⟩ := by
  induction rest generalizing k d ri ds with
  | nil => simp [nsbmLoop, tbl]
  | cons s rest ih =>
    by_cases hc : computedLen s = 1
    · simp [nsbmLoop, tbl, hc, ih]
    · simp [nsbmLoop, tbl, hc, ih]

theorem nsbmLoop_none (rest : List (Int × Nat)) (k d : Nat) :
    nsbmLoop rest k d none =
      if tbl rest k d = [] then none else some ⟨(tbl rest k d).map (·.1), (tbl rest k d).map (·.2)⟩ := by
  induction rest generalizing k d with
  | nil => simp [nsbmLoop, tbl]
  | cons s rest ih =>
    by_cases hc : computedLen s = 1
    · simp [nsbmLoop, tbl, hc, ih]
    · simp [nsbmLoop, tbl, hc, nsbmLoop_some]

theorem tbl_idx_gt (rest : List (Int × Nat)) (k d : Nat) : ∀ e ∈ tbl rest k d, k < e.1 := by
  induction rest generalizing k d with
  | nil => simp [tbl]
  | cons s rest ih =>
    intro e he
    unfold tbl at he
    split at he
    · rcases List.mem_cons.mp he with rfl | he
      · simp
      · have := ih _ _ e he; omega
    · have := ih _ _ e he; omega

theorem tbl_sorted (rest : List (Int × Nat)) (k d : Nat) : ((tbl rest k d).map (·.1)).Pairwise (· < ·) := by
  induction rest generalizing k d with
  | nil => simp [tbl]
  | cons s rest ih =>
    unfold tbl
    split
    · simp only [List.map_cons, List.pairwise_cons]
      refine ⟨?_, ih _ _⟩
      intro a ha
      obtain ⟨e, he, rfl⟩ := List.mem_map.mp ha
      exact tbl_idx_gt _ _ _ e he
    · exact ih _ _

/-- linear reading of the table: the delta of the last entry whose rune index is ≤ `i` -/
def linLookup : List (Nat × Nat) → Nat → Nat → Nat
  | [], _, acc => acc
  | (idx, d) :: t, i, acc => if idx ≤ i then linLookup t i d else acc

theorem linLookup_all_gt (T : List (Nat × Nat)) (i acc : Nat) (h : ∀ e ∈ T, i < e.1) : linLookup T i acc = acc := by
  cases T with
  | nil => rfl
  | cons e t => exact if_neg (Nat.not_le.mpr (h e (List.mem_cons_self ..)))

/-- the bytes beyond one per rune in the first `m` segments: `newStringByteMapper`'s delta at rune index `m` -/
def extra (segs : List (Int × Nat)) (m : Nat) : Nat := (((segs.map computedLen).take m).map (· - 1)).sum

theorem linLookup_tbl (rest : List (Int × Nat)) (k d m : Nat) (hm : m ≤ rest.length) :
    linLookup (tbl rest k d) (k + m) d = d + extra rest m := by
  induction rest generalizing k d m with
  | nil => obtain rfl := Nat.le_zero.mp hm; rfl
  | cons s rest ih =>
    cases m with
    | zero => exact linLookup_all_gt _ _ _ fun e he => tbl_idx_gt _ _ _ e he
    | succ m =>
      have hextra : extra (s :: rest) (m + 1) = (computedLen s - 1) + extra rest m := rfl
      have e : k + (m + 1) = k + 1 + m := (Nat.add_right_comm k 1 m).symm
      rw [hextra, e]
      unfold tbl
      split
      · rw [linLookup, if_pos (Nat.le_add_right ..), ih _ _ m (Nat.le_of_succ_le_succ hm), Nat.add_assoc]
      · next hc => rw [ih _ _ m (Nat.le_of_succ_le_succ hm), Decidable.not_not.mp hc, Nat.sub_self, Nat.zero_add]

theorem sum_eq_len_add_extra (ws : List Nat) (h : ∀ w ∈ ws, 1 ≤ w) : ws.sum = ws.length + (ws.map (· - 1)).sum := by
  induction ws with
  | nil => rfl
  | cons w t ih =>
    have hw : 1 ≤ w := h w (List.mem_cons_self ..)
    rw [List.sum_cons, ih fun w hw => h w (List.mem_cons_of_mem _ hw), List.map_cons, List.sum_cons, List.length_cons]
    omega

/-! ### `sort.Search` -/

theorem searchLoop_spec (f : Nat → Bool) (n : Nat)
    (hmono : ∀ a b, a ≤ b → b < n → f a = true → f b = true) :
    ∀ fuel i j, i ≤ j → j ≤ n → j - i ≤ fuel → (∀ h, h < i → f h = false) → (∀ h, j ≤ h → h < n → f h = true) →
      searchLoop f fuel i j ≤ j ∧
      (∀ h, h < searchLoop f fuel i j → f h = false) ∧ (∀ h, searchLoop f fuel i j ≤ h → h < n → f h = true) := by
  intro fuel
  induction fuel with
  | zero =>
    intro i j hij _ hf hlo hhi
    obtain rfl : i = j := by omega
    exact ⟨Nat.le_refl _, hlo, hhi⟩
  | succ fuel ih =>
    intro i j hij hjn hf hlo hhi
    unfold searchLoop
    split
    · have hm : i ≤ (i + j) / 2 ∧ (i + j) / 2 < j := by omega
      generalize (i + j) / 2 = m at hm
      cases hfm : f m with
      | false =>
        simp only [hfm, Bool.not_false, if_true]
        refine ih (m + 1) j (by omega) hjn (by omega) (fun h hh => ?_) hhi
        -- `f` is false at `m`, hence below it
        cases hfh : f h with
        | false => rfl
        | true => exact absurd (hmono h m (by omega) (by omega) hfh) (by simp [hfm])
      | true =>
        simp only [hfm, Bool.not_true, Bool.false_eq_true, if_false]
        obtain ⟨b, c, d⟩ := ih i m hm.1 (by omega) (by omega) hlo
          fun h hh hn => hmono _ h hh hn hfm
        exact ⟨by omega, c, d⟩
    · obtain rfl : i = j := by omega
      exact ⟨Nat.le_refl _, hlo, hhi⟩

theorem sortSearch_spec (f : Nat → Bool) (n : Nat)
    (hmono : ∀ a b, a ≤ b → b < n → f a = true → f b = true) :
    sortSearch n f ≤ n ∧ (∀ h, h < sortSearch n f → f h = false) ∧ (∀ h, sortSearch n f ≤ h → h < n → f h = true) :=
  searchLoop_spec f n hmono n 0 n (Nat.zero_le _) (Nat.le_refl _) (Nat.le_refl _) (fun h hh => by omega)
    (fun h h1 h2 => by omega)

theorem linLookup_of_cut (T : List (Nat × Nat)) (i acc k : Nat) (hk : k ≤ T.length)
    (hlo : ∀ h, h < k → (T.map (·.1)).getD h 0 ≤ i)
    (hhi : ∀ h, k ≤ h → h < T.length → i < (T.map (·.1)).getD h 0) :
    linLookup T i acc = if k = 0 then acc else (T.map (·.2)).getD (k - 1) 0 := by
  induction T generalizing acc k with
  | nil => rw [Nat.le_zero.mp hk]; rfl
  | cons e t ih =>
    obtain ⟨idx, d⟩ := e
    cases k with
    | zero => exact if_neg (Nat.not_le.mpr (hhi 0 (Nat.le_refl _) (Nat.zero_lt_succ _)))
    | succ k =>
      have h0 : idx ≤ i := hlo 0 (Nat.zero_lt_succ _)
      rw [linLookup, if_pos h0, ih d k (Nat.le_of_succ_le_succ hk) (fun h hh => hlo (h + 1) (Nat.succ_lt_succ hh))
        fun h h1 h2 => hhi (h + 1) (Nat.succ_le_succ h1) (Nat.succ_lt_succ h2)]
      cases k <;> rfl

theorem getD_mono_of_pairwise (l : List Nat) (hp : l.Pairwise (· < ·)) (a b : Nat) (hab : a ≤ b) (hb : b < l.length) :
    l.getD a 0 ≤ l.getD b 0 := by
  rcases Nat.eq_or_lt_of_le hab with rfl | hlt
  · exact Nat.le_refl _
  · have ha : a < l.length := Nat.lt_trans hlt hb
    rw [List.getD_eq_getElem?_getD, List.getD_eq_getElem?_getD, List.getElem?_eq_getElem ha, List.getElem?_eq_getElem hb]
    exact Nat.le_of_lt (List.pairwise_iff_getElem.mp hp a b ha hb hlt)

theorem byteIndex_eq_linLookup (T : List (Nat × Nat)) (hs : (T.map (·.1)).Pairwise (· < ·)) (i : Nat) :
    byteIndex ⟨T.map (·.1), T.map (·.2)⟩ i = i + linLookup T i 0 := by
  obtain ⟨h1, h2, h3⟩ := sortSearch_spec (fun h => decide ((T.map (·.1)).getD h 0 > i)) (T.map (·.1)).length
    fun a b hab hb ha => decide_eq_true (Nat.lt_of_lt_of_le (of_decide_eq_true ha) (getD_mono_of_pairwise _ hs a b hab hb))
  have hcut := linLookup_of_cut T i 0 _ (Nat.le_trans h1 (Nat.le_of_eq (List.length_map ..)))
    (fun h hh => Nat.not_lt.mp (of_decide_eq_false (h2 h hh)))
    fun h hh hl => of_decide_eq_true (h3 h hh (by rw [List.length_map]; exact hl))
  unfold byteIndex
  simp only
  rw [hcut]
  split <;> rfl

/-! ### byte index → rune index -/

theorem runeStartLoop_past (startAt : Int) (rest : List (Int × Nat)) (n p : Nat) (rs : Int) (h : startAt < (p : Int)) :
    runeStartLoop startAt rest n p rs = rs := by
  induction rest generalizing n p rs with
  | nil => exact if_neg fun hc => by omega
  | cons s rest ih =>
    rw [runeStartLoop, if_neg fun hc => by omega]
    exact ih _ _ _ (by omega)

theorem runeStartLoop_at (rest : List (Int × Nat)) (hw : ∀ s ∈ rest, 1 ≤ s.2) (n p m : Nat) (rs : Int)
    (hm : m ≤ rest.length) :
    runeStartLoop ((p + ((widths rest).take m).sum : Nat) : Int) rest n p rs = ((n + m : Nat) : Int) := by
  induction rest generalizing n p m rs with
  | nil => obtain rfl := Nat.le_zero.mp hm; exact if_pos ⟨Int.natCast_nonneg _, rfl⟩
  | cons s rest ih =>
    have hs : 1 ≤ s.2 := hw s (List.mem_cons_self ..)
    cases m with
    | zero =>
      rw [runeStartLoop, if_pos ⟨Int.natCast_nonneg _, rfl⟩]
      exact runeStartLoop_past _ _ _ _ _ (by simp only [widths, List.take_zero, List.sum_nil]; omega)
    | succ m =>
      have := ih (fun s hs => hw s (List.mem_cons_of_mem _ hs)) (n + 1) (p + s.2) m rs (Nat.le_of_succ_le_succ hm)
      rw [Nat.add_assoc p, Nat.add_assoc n, Nat.add_comm 1 m] at this
      rw [runeStartLoop, if_neg fun hc => by simp only [widths, List.map_cons, List.take_succ_cons, List.sum_cons] at hc; omega]
      exact this
theorem runeStartLoop_found (startAt : Int) (rest : List (Int × Nat)) (n p : Nat) (rs : Int) :
    runeStartLoop startAt rest n p rs = rs ∨
    ∃ m, m ≤ rest.length ∧ runeStartLoop startAt rest n p rs = ((n + m : Nat) : Int) ∧
      startAt = ((p + ((widths rest).take m).sum : Nat) : Int) := by
  induction rest generalizing n p rs with
  | nil =>
    simp only [runeStartLoop]
    split
    · rename_i h; right; exact ⟨0, by simp, by simp, by simp [widths]; omega⟩
    · left; rfl
  | cons s rest ih =>
    simp only [runeStartLoop]
    rcases ih (n + 1) (p + s.2) (if startAt ≥ 0 ∧ (p : Int) = startAt then (n : Int) else rs) with h | ⟨m, hm, h1, h2⟩
    · rw [h]
      split
      · rename_i hc; right; exact ⟨0, by simp, by simp, by simp [widths]; omega⟩
      · left; rfl
    · right
      refine ⟨m + 1, by simpa using hm, ?_, ?_⟩
      · rw [h1]; congr 1; omega
      · rw [h2]; simp [widths]; omega

/-! ### `readRunes`, spans, the rune mapper -/

theorem readRunesLoop_eq (rest : List (Int × Nat)) (text : List Int) (offs : List Nat) (last : Nat) :
    readRunesLoop rest text offs last = (text ++ runes rest, offs ++ (prefixSums (widths rest) last).tail) := by
  induction rest generalizing text offs last with
  | nil => simp [readRunesLoop, runes, widths, prefixSums]
  | cons s rest ih =>
    obtain ⟨ch, w⟩ := s
    simp only [readRunesLoop, ih, runes, widths, List.map_cons, prefixSums, List.tail_cons, List.append_assoc,
      List.cons_append, List.nil_append]
    cases rest <;> simp [prefixSums]

theorem byteRange_of_offsetAt (bo : Option (List Nat)) (ri rl a b : Nat) (h1 : offsetAt bo ri = some a)
    (h2 : offsetAt bo (ri + rl) = some (a + b)) : byteRange bo ri rl = some (a, b) := by
  unfold byteRange
  cases bo with
  | none =>
    simp only [offsetAt, Option.some.injEq] at h1 h2
    simp only [Option.some.injEq, Prod.mk.injEq]
    omega
  | some l =>
    simp only [offsetAt] at h1 h2
    simp only [h1, h2, Nat.add_sub_cancel_left]

theorem encLen_eq_width (s : Int × Nat) (h : segOK s = true) (hv : s.1 = runeError → s.2 = 3) : encLen s.1 = s.2 := by
  unfold segOK at h
  split at h
  · rename_i he
    rw [he, hv he]; decide
  · have h' : runeLen s.1 = (s.2 : Int) := by simpa using h
    unfold encLen
    simp only [h']
    have : ¬ ((s.2 : Int) < 0) := by omega
    simp [this]

end RegexVerif.Lemmas.Utf8
