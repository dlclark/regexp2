/-
The interleaving model of makeDeadline (Model/ClockConc.lean, C14), `Variant.new`: a thread-modular invariant.
`Inv` here is `Lemmas.Clock.Inv` of the shared clock together with `GInv` for every call in flight, an assertion
indexed by the call's program counter.  A call that moves re-establishes its own `GInv` (`ginv_readCE`,
`ginv_readCur`, `ginv_lock`); the others keep theirs because every step is an `Adv` of the clock (`GInv.adv`),
except `stop`, against which the guard `s0 = stops` protects.
`step_tick`, `inv_step`, `inv_of_reachable`, `reachable_of_run` … are this model's counterparts of the lemmas of the
same names in `Lemmas.Clock`, written `Lemmas.Clock.…` here.  Both models define `Event`, `step`, `run`, `Reachable`:
a file that opens both opens `RegexVerif.Clock` hiding these four, as below.
-/
import RegexVerif.Model.ClockConc
import RegexVerif.Lemmas.Clock
namespace RegexVerif.Lemmas.ClockConc
open RegexVerif.Clock hiding step run Event Reachable
open RegexVerif.ClockConc RegexVerif.Lemmas.Clock

/-- `Lemmas.Clock.Inv` without `loopcond` and `dls` (`CInv.of_inv`); no lemma takes it, they take `Inv` itself -/
structure CInv (p : Params) (c : State) : Prop where
  lw_le : c.lastWrite ≤ c.now
  unstarted : c.started = false → c.current = 0 ∧ c.clockEnd = 0 ∧ c.running = false
  cur_eq : c.started = true → c.current = (c.lastWrite - c.startNs) / 1048576 ∧ c.startNs ≤ c.lastWrite
  progress : c.running = true → c.started = true ∧ c.now ≤ c.lastWrite + p.period + p.eps
  stopped : c.started = true → c.running = false → c.clockEnd < c.current

/-- invariant of one call in flight (`Variant.new`) -/
structure GInv (p : Params) (c : State) (stops : Nat) (g : G) : Prop where
  d_nonneg : 0 ≤ g.d
  d_le : g.d ≤ maxInt64
  t0_le : g.t0 ≤ c.now
  s0_le : g.s0 ≤ stops
  no_ext : g.pc ≠ .needExtend
  /-- after the read of clockEnd: `current` is fresh with respect to `t0`, or has passed what was read -/
  first : g.pc = .gotFirst → c.started = true →
    (g.t0 - p.period - p.eps - c.startNs) / 1048576 ≤ c.current ∨ g.ce < c.current
  /-- the returned `end` is not early (the bound of `Lemmas.Clock.DlInv.early`, which explains `2097150`).
      On a clock never started `end = ⌊effDur / 2^20⌋`: the floor loses at most `1048575 = 2^20 - 1`. -/
  early : g.pc = .done →
    (c.started = true → (g.t0 - c.startNs) + effDur p.period g.d - p.period - p.eps - 2097150 ≤ 1048576 * g.e) ∧
    (c.started = false → effDur p.period g.d - 1048575 ≤ 1048576 * g.e)
  /-- `s0 = stops`: no StopTimeoutClock since the call began; a stop writes `clockEnd := 0` and covers nothing -/
  covFirst : g.s0 = stops → g.pc = .gotFirst →
    g.ce ≤ c.clockEnd ∧ (c.running = true ∨ g.ce < c.current ∨ c.started = false)
  covDone : g.s0 = stops → g.pc = .done → g.e ≤ c.clockEnd ∧ (c.running = true ∨ g.e ≤ c.current)
  /-- the deadline was made after the call began, and not in the future -/
  made_ge : g.t0 ≤ g.tMade
  made_le : g.tMade ≤ c.now
  /-- the returned `end` is not late: reached already, or at most `effDur` after the time it was made -/
  within : g.pc = .done → c.started = true →
    g.e ≤ c.current ∨ 1048576 * g.e ≤ (g.tMade - c.startNs) + effDur p.period g.d
  /-- on a clock never started `current = clockEnd = 0`: what was read or returned there is at most 0 -/
  withinUn : g.pc = .done → c.started = false → g.e ≤ 0
  firstUn : g.pc = .gotFirst → c.started = false → g.ce ≤ 0

/-- the clock satisfies the invariant of the atomic model (its steps here are steps of `Clock`; `pending` stays
    empty, so `dls` says nothing), and every call in flight or returned satisfies `GInv` with respect to it -/
structure Inv (p : Params) (s : CState) : Prop where
  clk : Lemmas.Clock.Inv p s.clk
  gs : ∀ g ∈ s.gs, GInv p s.clk s.stops g

section
variable {p : Params} {c : State} {n : Nat} {g : G}

theorem CInv.of_inv (h : Lemmas.Clock.Inv p c) : CInv p c :=
  ⟨h.lw_le, h.unstarted, h.cur_eq, h.progress, h.stopped⟩

theorem GInv.adv {c' : State} (hg : GInv p c n g) (hp : p.Valid)
    (h : Lemmas.Clock.Inv p c) (ha : Adv c c') : GInv p c' n g := by
  obtain ⟨hp0, _, he0, _, _⟩ := hp
  have hnow := ha.now_le
  have hend := ha.end_le
  have hcur := ha.cur_le
  have ht0 := hg.t0_le
  have hmade := hg.made_le
  have hcovF : g.s0 = n → g.pc = .gotFirst →
      g.ce ≤ c'.clockEnd ∧ (c'.running = true ∨ g.ce < c'.current ∨ c'.started = false) := fun hs hpc => by
    obtain ⟨h1, h2⟩ := hg.covFirst hs hpc
    refine ⟨by omega, ?_⟩
    cases hst' : c'.started
    · exact .inr (.inr rfl)
    · rcases or_assoc.mpr h2 with h2 | hst
      · exact (ha.covered h1 (Int.le_refl _) h2).imp_right .inl
      · exact .inl (ha.start_ge hst hst').2
  have hcovD : g.s0 = n → g.pc = .done → g.e ≤ c'.clockEnd ∧ (c'.running = true ∨ g.e ≤ c'.current) :=
    fun hs hpc => ⟨by have := (hg.covDone hs hpc).1; omega,
      ha.covered (hg.covDone hs hpc).1 (by omega) (hg.covDone hs hpc).2⟩
  cases hs : c.started
  · -- the clock had never been started: `current = 0`; if it is started now, `startNs` is not before `g.t0`
    have h0 := (h.unstarted hs).1
    refine ⟨hg.d_nonneg, hg.d_le, by omega, hg.s0_le, hg.no_ext, fun hpc hs' => .inl ?_,
      fun hpc => ⟨fun hs' => ?_, fun _ => (hg.early hpc).2 hs⟩, hcovF, hcovD, hg.made_ge, by omega,
      fun hpc _ => .inl ?_, fun hpc _ => hg.withinUn hpc hs, fun hpc _ => hg.firstUn hpc hs⟩
    · have := (ha.start_ge hs hs').1; omega
    · have := (ha.start_ge hs hs').1; have := (hg.early hpc).2 hs; omega
    · have := hg.withinUn hpc hs; omega
  · obtain ⟨hs', hns⟩ := ha.start_eq hs
    have hne : c'.started = false → False := fun h' => absurd (h'.symm.trans hs') (by decide)
    refine ⟨hg.d_nonneg, hg.d_le, by omega, hg.s0_le, hg.no_ext, fun hpc _ => ?_,
      fun hpc => ⟨fun _ => hns ▸ (hg.early hpc).1 hs, fun h' => (hne h').elim⟩, hcovF, hcovD, hg.made_ge, by omega,
      fun hpc _ => ?_, fun _ h' => (hne h').elim, fun _ h' => (hne h').elim⟩
    · have := hg.first hpc hs
      rw [hns]
      omega
    · have := hg.within hpc hs
      rw [hns]
      omega

/-- step 1: read clockEnd.  A running clock is fresh; one that is not running has passed its `clockEnd`. -/
theorem ginv_readCE (h : Lemmas.Clock.Inv p c)
    (hg : GInv p c n g) : GInv p c n { g with pc := .gotFirst, ce := c.clockEnd } := by
  refine ⟨hg.d_nonneg, hg.d_le, hg.t0_le, hg.s0_le, nofun, fun _ hs => ?_, nofun, fun _ _ => ⟨Int.le_refl _, ?_⟩,
    fun _ => nofun, hg.made_ge, hg.made_le, nofun, nofun, fun _ hs => ?_⟩
  · cases hr : c.running
    · exact .inr (h.stopped hs hr)
    · exact .inl (fresh_of_running h hr hg.t0_le)
  · rcases h.mode with ⟨hst, _⟩ | ⟨_, _, hlt⟩ | ⟨_, hr, _⟩
    · exact .inr (.inr hst)
    · exact .inr (.inl hlt)
    · exact .inl hr
  · exact Int.le_of_eq (h.unstarted hs).2.1

/-- `hfresh`: the `current` read now is fresh with respect to `t0`; `hcov`: `clockEnd` covers the result unless
    StopTimeoutClock came in between; `hun`: on a clock never started the result is at most 0 -/
theorem ginv_done (hp : p.Valid) (h : Lemmas.Clock.Inv p c)
    (hg : GInv p c n g)
    (hfresh : c.started = true → (g.t0 - p.period - p.eps - c.startNs) / 1048576 ≤ c.current)
    (hcov : g.s0 = n → c.current + deadlineTicks p.period g.d ≤ c.clockEnd)
    (hun : c.started = false → c.current + deadlineTicks p.period g.d ≤ 0) :
    GInv p c n { g with e := c.current + deadlineTicks p.period g.d, tMade := c.now, pc := .done } := by
  have hdt := deadlineTicks_eq p.period g.d
  have heff := effDur_cases p.period g.d
  have hp0 := hp.1
  have hp1 := hp.2.1
  have hd0 := hg.d_nonneg
  have hl := h.lw_le
  refine ⟨hg.d_nonneg, hg.d_le, hg.t0_le, hg.s0_le, nofun, nofun, fun _ => ⟨fun hs => ?_, fun hs => ?_⟩, fun _ => nofun,
    fun hs _ => ⟨hcov hs, ?_⟩, hg.t0_le, Int.le_refl _, fun _ hs => .inr ?_, fun _ => hun, nofun⟩ <;> dsimp only
  · have := hfresh hs; omega
  · have := (h.unstarted hs).1; omega
  · have := hcov hs
    rcases h.mode with ⟨hst, _, h0, _⟩ | ⟨_, _, hlt⟩ | ⟨_, hr, _⟩
    · exact .inr (by have := hun hst; omega)
    · exact .inr (by omega)
    · exact .inl hr
  · have := h.cur_eq hs; omega

/-- step 2: read current, compute `end`, compare.  A lock-free return has `current + D ≤ ce`, so the clock
    had not passed the `clockEnd` read in step 1: it was running then, and `current` is fresh. -/
theorem ginv_readCur (hp : p.Valid) (h : Lemmas.Clock.Inv p c)
    (hg : GInv p c n g) (hpc : g.pc = .gotFirst) :
    GInv p c n { g with e := c.current + deadlineTicks p.period g.d, tMade := c.now,
                        pc := if c.current + deadlineTicks p.period g.d > g.ce then .needLock else .done } := by
  split
  · exact ⟨hg.d_nonneg, hg.d_le, hg.t0_le, hg.s0_le, nofun, nofun, nofun, fun _ => nofun, fun _ => nofun, hg.t0_le,
      Int.le_refl _, nofun, nofun, nofun⟩
  · next hle =>
    have hD := deadlineTicks_nonneg hp hg.d_nonneg hg.d_le
    refine ginv_done hp h hg (fun hs => ?_) (fun hs => ?_) (fun hs => ?_)
    · rcases hg.first hpc hs with h1 | h1
      · exact h1
      · omega
    · have := (hg.covFirst hs hpc).1; omega
    · have := hg.firstUn hpc hs; omega

theorem ginv_lock (hp : p.Valid) (h : Lemmas.Clock.Inv p c)
    (hg : GInv p c n g) :
    GInv p (extendClock p (refresh c) ((refresh c).current + deadlineTicks p.period g.d)) n
      { g with e := (refresh c).current + deadlineTicks p.period g.d, tMade := c.now, pc := .done } := by
  have hD := deadlineTicks_nonneg hp hg.d_nonneg hg.d_le
  have h' := inv_lock hp h (e := (refresh c).current + deadlineTicks p.period g.d) (by omega)
  exact ginv_done hp h' (hg.adv hp h (adv_lock h _)) (fun _ => fresh_of_running h' rfl hg.t0_le)
    (fun _ => extendClock_covers hp _ _) nofun

theorem step_tick {v : Variant} {s s' : CState} {dt : Int}
    (hs : ClockConc.step v p s (.tick dt) = some s') :
    s' = { s with clk := tick s.clk dt } ∧ Clock.step p s.clk (.tick dt) = some (tick s.clk dt) := by
  simp only [ClockConc.step] at hs
  split at hs
  · next c hc => cases hs; exact ⟨by rw [(Lemmas.Clock.step_tick hc).1], (Lemmas.Clock.step_tick hc).1 ▸ hc⟩
  · cases hs

theorem step_idle {v : Variant} {s s' : CState} {dt : Int}
    (hs : ClockConc.step v p s (.idle dt) = some s') :
    s' = { s with clk := { s.clk with now := s.clk.now + dt } } ∧
      Clock.step p s.clk (.idle dt) = some { s.clk with now := s.clk.now + dt } := by
  simp only [ClockConc.step] at hs
  split at hs
  · next c hc => cases hs; exact ⟨by rw [(Lemmas.Clock.step_idle hc).1], (Lemmas.Clock.step_idle hc).1 ▸ hc⟩
  · cases hs

theorem inv_set {s : CState} {c' : State} {g' : G} (i : Nat) (hc : Lemmas.Clock.Inv p c')
    (hgs : ∀ g ∈ s.gs, GInv p c' s.stops g) (hg : GInv p c' s.stops g') :
    Inv p { s with clk := c', gs := s.gs.set i g' } :=
  ⟨hc, fun g hm => (List.mem_or_eq_of_mem_set hm).elim (hgs g) (· ▸ hg)⟩

theorem inv_stepG {s : CState} {i : Nat} {r : State × G} (hp : p.Valid) (h : Inv p s)
    (hi : s.gs[i]? = some g) (hs : stepG .new p s.clk g = some r) :
    Inv p { s with clk := r.1, gs := s.gs.set i r.2 } := by
  have hg := h.gs g (List.mem_of_getElem? hi)
  have hc := h.clk
  have hD := deadlineTicks_nonneg hp hg.d_nonneg hg.d_le
  cases hpc : g.pc <;> simp only [stepG, hpc, reduceCtorEq, Option.some.injEq] at hs <;> subst hs
  · -- start: read clockEnd
    exact inv_set i hc h.gs (ginv_readCE hc hg)
  · -- gotFirst: read current
    exact inv_set i hc h.gs (ginv_readCur hp hc hg hpc)
  · -- needLock: the locked section
    exact inv_set i (inv_lock hp hc (by omega)) (fun g' hm => (h.gs g' hm).adv hp hc (adv_lock hc _))
      (ginv_lock hp hc hg)

theorem inv_step {s s' : CState} {ev : ClockConc.Event} (hp : p.Valid) (h : Inv p s)
    (hs : ClockConc.step .new p s ev = some s') : Inv p s' := by
  cases ev with
  | begin d =>
    simp only [ClockConc.step] at hs
    split at hs
    · next hd =>
      cases hs
      refine ⟨h.clk, fun g hg => ?_⟩
      rcases List.mem_append.mp hg with hm | hm
      · exact h.gs g hm
      · cases List.mem_singleton.mp hm
        exact ⟨hd.1, hd.2, Int.le_refl _, Nat.le_refl _, nofun, nofun, nofun, fun _ => nofun, fun _ => nofun,
          Int.le_refl _, Int.le_refl _, nofun, nofun, nofun⟩
    · cases hs
  | stepG i =>
    simp only [ClockConc.step] at hs
    split at hs
    · cases hs
    · next g hi =>
      split at hs
      · cases hs
      · next r hr => cases hs; exact inv_stepG hp h hi hr
  | tick dt =>
    obtain ⟨rfl, hc⟩ := step_tick hs
    obtain ⟨_, hr, h0, _⟩ := Lemmas.Clock.step_tick hc
    exact ⟨Lemmas.Clock.inv_step hp h.clk hc, fun g hg => (h.gs g hg).adv hp h.clk (adv_tick h.clk dt hr h0)⟩
  | idle dt =>
    obtain ⟨rfl, hc⟩ := step_idle hs
    obtain ⟨_, h0, _⟩ := Lemmas.Clock.step_idle hc
    exact ⟨Lemmas.Clock.inv_step hp h.clk hc, fun g hg => (h.gs g hg).adv hp h.clk (adv_idle s.clk dt h0)⟩
  | stop =>
    cases hs
    -- `stops` grows: no call has `s0 = stops` any more, the rest does not depend on `clockEnd`.  The fields are taken
    -- in the order of `GInv`; the two `_` are `covFirst` and `covDone`, which hold vacuously afterwards
    refine ⟨inv_stop h.clk, fun g hg => ?_⟩
    obtain ⟨g1, g2, g3, g4, g5, g6, g7, _, _, g10, g11, g12, g13, g14⟩ := h.gs g hg
    have hne : g.s0 ≠ s.stops + 1 := by omega
    exact ⟨g1, g2, g3, Nat.le_succ_of_le g4, g5, g6, g7, fun hs => absurd hs hne, fun hs => absurd hs hne, g10, g11,
      g12, g13, g14⟩
  | retire i =>
    simp only [ClockConc.step] at hs
    split at hs
    · cases hs
    · split at hs
      · cases hs
        exact ⟨h.clk, fun g hg => h.gs g (List.mem_of_mem_eraseIdx hg)⟩
      · cases hs

theorem inv_of_reachable {s : CState} (hp : p.Valid) (h : ClockConc.Reachable .new p s) : Inv p s := by
  induction h with
  | init => exact ⟨Lemmas.Clock.inv_init, fun _ hg => nomatch hg⟩
  | step e _ hs ih => exact inv_step hp ih hs

end

theorem reachable_of_run {v : Variant} {p : Params} {evs : List ClockConc.Event} {s s' : CState}
    (h : ClockConc.Reachable v p s) (hr : ClockConc.run v p s evs = some s') : ClockConc.Reachable v p s' := by
  induction evs generalizing s with
  | nil => simp only [ClockConc.run] at hr; cases hr; exact h
  | cons e es ih =>
    simp only [ClockConc.run] at hr
    split at hr
    · cases hr
    · next s1 hs => exact ih (ClockConc.Reachable.step e h hs) hr

/-- `exists_some_of_decide` for a run from program start: the state it ends in is reachable -/
theorem exists_reachable_of_decide {v : Variant} {p : Params} {evs : List ClockConc.Event} {P : CState → Prop}
    [DecidablePred P] (h : (ClockConc.run v p CState.init evs).any (fun s => decide (P s)) = true) :
    ∃ s, ClockConc.run v p CState.init evs = some s ∧ ClockConc.Reachable v p s ∧ P s :=
  let ⟨s, hs, hP⟩ := exists_some_of_decide h
  ⟨s, hs, reachable_of_run .init hs, hP⟩

def iterG (v : Variant) (p : Params) : Nat → State × G → Option (State × G)
  | 0, r => some r
  | k + 1, r =>
    match stepG v p r.1 r.2 with
    | none => none
    | some r' => iterG v p k r'

theorem step_last (v : Variant) (p : Params) (c : State) (gs : List G) (n : Nat) (g : G) :
    ClockConc.step v p { clk := c, gs := gs ++ [g], stops := n } (.stepG gs.length) =
      match stepG v p c g with
      | none => none
      | some r => some { clk := r.1, gs := gs ++ [r.2], stops := n } := by
  simp only [ClockConc.step, List.getElem?_concat_length]
  cases stepG v p c g with
  | none => rfl
  | some r => simp [List.set_append_right]

theorem run_last (v : Variant) (p : Params) (k : Nat) (c : State) (gs : List G) (n : Nat) (g : G) :
    ClockConc.run v p { clk := c, gs := gs ++ [g], stops := n } (List.replicate k (.stepG gs.length)) =
      match iterG v p k (c, g) with
      | none => none
      | some r => some { clk := r.1, gs := gs ++ [r.2], stops := n } := by
  induction k generalizing c g with
  | zero => simp [ClockConc.run, iterG]
  | succ k ih =>
    simp only [List.replicate, ClockConc.run, step_last, iterG]
    cases hst : stepG v p c g with
    | none => rfl
    | some r => simp only []; exact ih r.1 r.2

theorem run_solo (v : Variant) (p : Params) (s : CState) (d : Int) (hd : 0 ≤ d ∧ d ≤ maxInt64) (k : Nat)
    (r : State × G) (h : iterG v p k (s.clk, newG s d) = some r) :
    ClockConc.run v p s (soloEvents s d k) = some { clk := r.1, gs := s.gs ++ [r.2], stops := s.stops } := by
  simp only [soloEvents, ClockConc.run, ClockConc.step, hd, and_self, ↓reduceIte]
  rw [run_last, h]

/-- the steps of one call executed in a row are `Clock.makeDeadline`, in every variant -/
theorem iterG_makeDeadline (v : Variant) (p : Params) (c : State) (g : G) (hpc : g.pc = .start) :
    ∃ k, k ≤ 4 ∧ iterG v p k (c, g) =
      some ((makeDeadline p c g.d).1,
        { g with pc := .done, ce := c.clockEnd, e := (makeDeadline p c g.d).2, tMade := c.now }) := by
  obtain ⟨t0, d, pc, ce, e, s0, tm⟩ := g
  simp only at hpc
  subst hpc
  generalize hD : deadlineTicks p.period d = D
  by_cases hgt : c.current + D > c.clockEnd
  · cases v
    · refine ⟨4, by omega, ?_⟩
      cases hr : c.running <;> cases hst : c.started <;>
        simp [iterG, stepG, makeDeadline, hD, hgt, refresh, hr, hst]
    · refine ⟨4, by omega, ?_⟩
      simp [iterG, stepG, makeDeadline, hD, hgt]
    · refine ⟨3, by omega, ?_⟩
      simp [iterG, stepG, makeDeadline, hD, hgt]
  · refine ⟨2, by omega, ?_⟩
    cases v <;> simp [iterG, stepG, makeDeadline, hD, hgt]

end RegexVerif.Lemmas.ClockConc
