/-
The joints of the chain `pattern text ↦ compiled program ↦ no interpreter fault` (Props/C10Chain.lean).

* `treeOk` (defined here): the two components of `Writer.treeWf` the interpreter theorems use, `GoNode.ok` and `capsOk`
  (`boundsOk` is used by none).  `emitted_no_fault_of_treeOk` / `emittedQuick_no_fault_of_treeOk` are the forms to apply
  to a given tree, `code_no_fault` the one for any program of `codeFromTree`;
* `treeOk_of_raw`: `treeOk` of the reduced tree (J1: `Lemmas/ReduceCaps*.lean`) from the two conditions of
  Model/ChainHyps.lean on the parser's result, `RawShapeOk` (J2; it holds of every tree the parser returns:
  `Props.C10.parse_shape`) and `PrescanAgrees` (J3, a hypothesis of the chain theorem);
* `chain_hyps_of_wfTree`: both conditions follow from the decidable `Parser.wfTree` (evaluated by the driver on every
  `ok` answer of leg Pr; not proved of every tree the parser returns: `Props.C10.parse_wf_partial` gives the root) and
  two facts it does not record, both defined here: the shape of the capture tables (`TablesOk`) and `M = 0` on Group
  nodes (`groupsZero`; `newRegexNode(NtGroup, …)` never sets `M`).
-/
import RegexVerif.Lemmas.ReduceCapsBridge
import RegexVerif.Lemmas.Compose
import RegexVerif.Lemmas.StackTypingStep
import RegexVerif.Lemmas.StackTypingEmit

namespace RegexVerif.Lemmas.Chain

section
open RegexVerif RegexVerif.Code RegexVerif.VM RegexVerif.Writer RegexVerif.Reduce
open RegexVerif.Lemmas.VM RegexVerif.Lemmas.Compose RegexVerif.Lemmas.StackTyping RegexVerif.Lemmas.StackTypingSound

/-! ### the interpreter side over `ok ∧ capsOk` -/

/-- what the interpreter theorems need of a tree: node shapes and group numbers (`treeWf` without `boundsOk`) -/
def treeOk (ti : TreeInfo) (root : GoNode) : Bool := root.ok && capsOk (mainCfg ti) (capsize ti) root

theorem treeOk_of_treeWf {ti : TreeInfo} {root : GoNode} (h : treeWf ti root = true) : treeOk ti root = true := by
  simp only [treeWf, Bool.and_eq_true] at h
  simp only [treeOk, Bool.and_eq_true]
  exact h.1

/-- no fault for the program of `codeFromTree cfg root`, whatever tables (large enough), `TrackCount` and `Caps` it is
    given -/
theorem code_no_fault (cfg : Cfg) (root : GoNode) (hok : root.ok = true) (p : Prog)
    (hp : Holds p (codeFromTree cfg root).1) (hcaps : capsOk cfg p.capsize root = true)
    (hs : (codeFromTree cfg root).2.strings.length ≤ p.strings.size)
    (hn : (codeFromTree cfg root).2.sets.length ≤ p.nsets)
    (env : Env) (pos : Int) (h0 : 0 ≤ pos) (hl : pos ≤ env.len) (fuel : Nat) :
    ∃ s0, init p pos = .ok s0 ∧ ∀ f, (run p env fuel s0).1 ≠ .fault f := by
  obtain ⟨bs, a, hb, hty⟩ := StackTypingEmit.codeFromTree_typing cfg root hok p hp hcaps
  exact typed_run_no_fault _ (codeFromTree_vm_wf cfg root hok p hp hcaps hs hn) bs hb a hty env pos h0 hl fuel

theorem emitted_no_fault_of_treeOk (ti : TreeInfo) (root : GoNode) (h : treeOk ti root = true)
    (env : Env) (pos : Int) (h0 : 0 ≤ pos) (hn : pos ≤ env.len) (fuel : Nat) :
    ∃ s0, init (emit ti root) pos = .ok s0 ∧ ∀ f, (run (emit ti root) env fuel s0).1 ≠ .fault f := by
  simp only [treeOk, Bool.and_eq_true] at h
  exact code_no_fault (mainCfg ti) root h.1 (emit ti root) rfl h.2 (by simp [emit]) (Nat.le_refl _) env pos h0 hn fuel

theorem emittedQuick_no_fault_of_treeOk (ti : TreeInfo) (root : GoNode) (h : treeOk ti root = true)
    (qp : Prog) (hq : emitQuick ti root = some qp)
    (env : Env) (pos : Int) (h0 : 0 ≤ pos) (hn : pos ≤ env.len) (fuel : Nat) :
    ∃ s0, init qp pos = .ok s0 ∧ ∀ f, (run qp env fuel s0).1 ≠ .fault f := by
  simp only [treeOk, Bool.and_eq_true] at h
  have htb := codeFromTree_tables (quickCfg ti root) (mainCfg ti) root
  rw [emitQuick_eq ti root qp hq]
  refine code_no_fault (quickCfg ti root) root h.1 _ ?_ (h.2 ▸ capsOk_quick _ _ (capsize ti) root)
    (by rw [htb]; simp [emit]) (by rw [htb]; exact Nat.le_refl _) env pos h0 hn fuel
  rfl

/-! ### from the two conditions on the raw tree to `treeOk` -/

theorem mainCfg_rtl (r : Bool) (t : Parser.RawTree) : mainCfg (treeInfo r t) = mainCfg (treeInfo false t) := rfl
theorem capsize_rtl (r : Bool) (t : Parser.RawTree) : capsize (treeInfo r t) = capsize (treeInfo false t) := rfl

/-- J1 and the reducer's shape theorem -/
theorem treeOk_of_raw (orc : Orc) (on rtl : Bool) (t : Parser.RawTree) (h2 : RawShapeOk t = true)
    (h3 : PrescanAgrees t = true) : treeOk (treeInfo rtl t) (reduceTree orc on t) = true := by
  simp only [PrescanAgrees, Bool.and_eq_true] at h3
  simp only [treeOk, Bool.and_eq_true]
  refine ⟨reduceTree_ok orc on t h2, ?_⟩
  rw [mainCfg_rtl, capsize_rtl]
  exact reduceTree_capsOk _ _ orc on t h3.1 h2 h3.2

/-! ### the compiler after a successful parse -/

theorem compileStages_ok (orc : Orc) (on : Bool) (E : Parser.Env) (t : Parser.RawTree)
    (hp : Parser.parse E = .ok t) (hw : RawShapeOk t = true) :
    compileStages orc on E = .ok
      { raw := t, tree := reduceTree orc on t, info := treeInfo E.opts.r t,
        written := { prog := emit (treeInfo E.opts.r t) (reduceTree orc on t),
                     sets := (codeFromTree (mainCfg (treeInfo E.opts.r t)) (reduceTree orc on t)).2.sets,
                     slotInUse := slotsInUse (treeInfo E.opts.r t) (reduceTree orc on t),
                     quick := quickCodes (treeInfo E.opts.r t) (reduceTree orc on t) } } := by
  have hok := reduceTree_ok orc on t hw
  simp only [compileStages, hp, write, hok, if_true]

theorem compilePattern_ok (orc : Orc) (E : Parser.Env) (t : Parser.RawTree)
    (hp : Parser.parse E = .ok t) (hw : RawShapeOk t = true) :
    compilePattern orc E = .ok (emit (treeInfo E.opts.r t) (reduceTree orc true t)) ∧
    compilePatternQuick orc E = .ok (emitQuick (treeInfo E.opts.r t) (reduceTree orc true t)) := by
  simp only [compilePattern, compilePatternQuick, compileStages_ok orc true E t hp hw]
  exact ⟨rfl, rfl⟩

theorem compilePattern_error (orc : Orc) (E : Parser.Env) (c : Parser.ErrCode) (hp : Parser.parse E = .error c) :
    compilePattern orc E = .error (.parse c) ∧ compilePatternQuick orc E = .error (.parse c) := by
  simp only [compilePattern, compilePatternQuick, compileStages, hp]
  exact ⟨rfl, rfl⟩

end

section
open RegexVerif RegexVerif.Writer RegexVerif.Reduce

/-! ## `wfTree` gives the hypotheses -/

/-! ### the writer's slot map has values in `[0, Capsize)` -/

theorem mem_mapSet : ∀ (m : List (Int × Int)) (k v : Int) (p : Int × Int), p ∈ mapSet m k v → p = (k, v) ∨ p ∈ m
  | [], k, v, p, hp => Or.inl (List.mem_singleton.mp hp)
  | (k', v') :: rest, k, v, p, hp => by
    rw [mapSet] at hp
    split at hp
    · exact List.mem_cons.mp hp
    split at hp
    · exact (List.mem_cons.mp hp).imp_right (List.mem_cons_of_mem _)
    · rcases List.mem_cons.mp hp with h | h
      · exact Or.inr (h ▸ List.mem_cons_self ..)
      · exact (mem_mapSet rest k v p h).imp_right (List.mem_cons_of_mem _)

theorem setSlots_vals {B : Int} : ∀ (l : List Int) (m : List (Int × Int)) (i : Nat), (∀ p ∈ m, 0 ≤ p.2 ∧ p.2 < B) →
    (i : Int) + l.length ≤ B → ∀ p ∈ setSlots m l i, 0 ≤ p.2 ∧ p.2 < B
  | [], m, i, hm, _ => by rw [setSlots]; exact hm
  | k :: ks, m, i, hm, hb => by
    rw [setSlots]
    simp only [List.length_cons] at hb
    refine setSlots_vals ks _ (i + 1) (fun p hp => ?_) (by omega)
    rcases mem_mapSet m k i p hp with rfl | h
    · exact ⟨Int.natCast_nonneg i, by dsimp only; omega⟩
    · exact hm p h

theorem mapGet_range {B : Int} (hB : 0 < B) (m : List (Int × Int)) (hm : ∀ p ∈ m, 0 ≤ p.2 ∧ p.2 < B) (k : Int) :
    0 ≤ mapGet m k ∧ mapGet m k < B := by
  unfold mapGet
  split
  · rename_i p hp
    exact hm p (List.mem_of_find?_eq_some hp)
  · exact ⟨Int.le_refl 0, hB⟩

/-- the capture tables as `assignNameSlots` leaves them, as far as the writer's slot map needs: group 0 is registered,
    every key is at most `MaxInt32`; without a `Capnumlist` every key is below `Captop` (dense numbering), with one
    it is not empty and `Captop` differs from its length (so the writer builds the sparse map) -/
def TablesOk (tb : Groups.Tables) : Bool :=
  tb.caps.contains 0 && tb.caps.all (fun k => decide (k ≤ Parser.maxInt32)) &&
  (match tb.capnumlist with
   | none => tb.caps.all (fun k => decide (k < tb.captop))
   | some l => !l.isEmpty && !(tb.captop == l.length))

/-- under `TablesOk` every registered group number maps to a slot: directly below `Captop` without a `Capnumlist`,
    through the writer's map, whose values lie in `[0, length)`, with one -/
theorem slotOf_of_mem (t : Parser.RawTree) (h : TablesOk t.tables = true) (g : Nat) (hg : g ∈ t.tables.caps) :
    slotOf t (g : Int) = true := by
  simp only [TablesOk, Bool.and_eq_true] at h
  obtain ⟨⟨_, _⟩, h3⟩ := h
  have hne : ((g : Int) == -1) = false := beq_false_of_ne (by omega)
  unfold slotOf slotOk mapCapnum mainCfg capsize writerCaps treeInfo
  simp only [hne, Bool.false_eq_true, if_false]
  cases hl : t.tables.capnumlist with
  | none =>
    rw [hl] at h3
    simp only [List.all_eq_true, decide_eq_true_eq] at h3
    have := h3 g hg
    simp only [Option.map_none, Bool.and_eq_true, decide_eq_true_eq]
    omega
  | some l =>
    rw [hl] at h3
    simp only [Bool.and_eq_true, Bool.not_eq_true', List.isEmpty_eq_false_iff, beq_eq_false_iff_ne, ne_eq] at h3
    have hlen : 0 < l.length := List.length_pos_iff.mpr h3.1
    have hneq : (((t.tables.captop : Nat) : Int) == (((l.map (fun (k : Nat) => (k : Int))).length : Nat) : Int)) = false :=
      beq_false_of_ne (by rw [List.length_map]; omega)
    simp only [Option.map_some, hneq, Bool.false_eq_true, if_false, Bool.and_eq_true, decide_eq_true_eq]
    have hvals := setSlots_vals (B := ((l.length : Nat) : Int)) (l.map (fun (k : Nat) => (k : Int)))
      ((Groups.isort t.tables.caps).map (fun (k : Nat) => ((k : Int), (0 : Int)))) 0
      (by
        intro p hp
        rcases List.mem_map.mp hp with ⟨k, _, rfl⟩
        exact ⟨Int.le_refl 0, by omega⟩)
      (by simp)
    have := mapGet_range (B := ((l.length : Nat) : Int)) (by omega) _ hvals (g : Int)
    simp only [List.length_map, Int.toNat_natCast]
    exact this

mutual
/-- every Group node has `M = 0` (`newRegexNode(NtGroup, opt)`) -/
def groupsZero : Parser.RNode → Bool
  | .mk t _ _ _ _ m _ kids => (!(t == .group) || m == 0) && groupsZeroL kids
def groupsZeroL : List Parser.RNode → Bool
  | [] => true
  | k :: ks => groupsZero k && groupsZeroL ks
end

theorem ite_le (c : Prop) [Decidable c] (n : Nat) : (if c then n else 0) ≤ n := by split <;> omega

/-- each option contributes at most the value of its bit, and the nine values sum below `tagBase` -/
theorem toMask_lt (o : Parser.Opts) : o.toMask < tagBase :=
  Nat.lt_of_le_of_lt (Nat.add_le_add (Nat.add_le_add (Nat.add_le_add (Nat.add_le_add (Nat.add_le_add (Nat.add_le_add
    (Nat.add_le_add (Nat.add_le_add (ite_le _ 1) (ite_le _ 2)) (ite_le _ 4)) (ite_le _ 16)) (ite_le _ 32)) (ite_le _ 64))
    (ite_le _ 256)) (ite_le _ 512)) (ite_le _ 1024)) (by decide)

theorem shape_of_nodeOk (caps : List Nat) (t : Parser.NT) (str : List Nat) (set : Option Class.Class) (m n : Int) (nk : Nat)
    (h : Parser.nodeOk caps t str set m n nk = true) :
    (shapeOk t.toNat nk || ((t.toNat == 24 || t.toNat == 25) && nk == 0)) = true ∧
    (t = .capture → shapeOk t.toNat nk = true) := by
  unfold Parser.nodeOk at h
  simp only [Bool.and_eq_true] at h
  have h1 := h.1.1.1.1.1
  clear h
  -- for a given type both tables evaluate; the remaining types have exactly the one count `h1` names
  cases t with
  | concatenate => cases nk <;> exact ⟨rfl, nofun⟩
  | alternate =>
    obtain ⟨k, rfl⟩ : ∃ k, nk = k + 1 := ⟨nk - 1, by have := of_decide_eq_true h1; omega⟩
    exact ⟨rfl, nofun⟩
  | backRefCond =>
    obtain rfl | rfl : nk = 1 ∨ nk = 2 := by have := of_decide_eq_true h1; omega
    all_goals exact ⟨rfl, nofun⟩
  | exprCond =>
    obtain rfl | rfl : nk = 2 ∨ nk = 3 := by have := of_decide_eq_true h1; omega
    all_goals exact ⟨rfl, nofun⟩
  | capture => obtain rfl := eq_of_beq h1; exact ⟨rfl, fun _ => rfl⟩
  | _ => obtain rfl := eq_of_beq h1; exact ⟨rfl, nofun⟩

/-- the local condition of `wfTree` gives `capQ` with any slot test that accepts the registered numbers -/
theorem capQ_of_nodeOk (sl : Int → Bool) (caps : List Nat)
    (hsl : ∀ g ∈ caps, sl (g : Int) = true ∧ g ≤ Parser.maxInt32)
    (t : Parser.NT) (str : List Nat) (set : Option Class.Class) (m n : Int) (nk : Nat)
    (h : Parser.nodeOk caps t str set m n nk = true) (hz : (!(t == .group) || m == 0) = true) :
    capQ sl t.toNat m n = true := by
  have hreg : ∀ (x : Int), (decide (0 ≤ x) && caps.contains x.toNat) = true → sl x = true ∧ 0 ≤ x ∧ x ≤ 2147483647 := by
    intro x hx
    simp only [Bool.and_eq_true, decide_eq_true_eq, List.contains_iff_mem] at hx
    have := hsl _ hx.2
    rw [show ((x.toNat : Nat) : Int) = x by omega] at this
    exact ⟨this.1, hx.1, by have := this.2; unfold Parser.maxInt32 at this; omega⟩
  have hreg' : ∀ (x : Int), (x == -1 || (decide (0 ≤ x) && caps.contains x.toNat)) = true →
      x = -1 ∨ (sl x = true ∧ 0 ≤ x ∧ x ≤ 2147483647) := by
    intro x hx
    rcases Bool.or_eq_true_iff.mp hx with hx | hx
    · exact Or.inl (eq_of_beq hx)
    · exact Or.inr (hreg x hx)
  unfold Parser.nodeOk at h
  simp only [Bool.and_eq_true] at h
  -- once the type is known, the conditions of `nodeOk` and `capQ` on it evaluate
  cases t with
  | ref | backRefCond =>
    obtain ⟨hs, h0, h1⟩ := hreg m h.1.1.2
    show (decide (0 ≤ m) && decide (m ≤ 2147483647) && sl m) = true
    rw [hs, decide_eq_true h0, decide_eq_true h1]
    rfl
  | capture =>
    have hcap : (_ && _ && !(m == -1 && n == -1)) = true := h.1.2
    simp only [Bool.and_eq_true] at hcap
    obtain ⟨⟨hm, hn⟩, hboth⟩ := hcap
    show (decide (-1 ≤ m) && decide (m ≤ 2147483647) && decide (-1 ≤ n) && decide (n ≤ 2147483647) &&
      (if n == -1 then sl m else (m == -1 || sl m) && sl n)) = true
    have hm := hreg' m hm
    have hn := hreg' n hn
    rw [decide_eq_true (show -1 ≤ m by omega), decide_eq_true (show m ≤ 2147483647 by omega),
      decide_eq_true (show -1 ≤ n by omega), decide_eq_true (show n ≤ 2147483647 by omega)]
    rcases hn with rfl | hn
    · rcases hm with rfl | hm
      · exact absurd hboth (by decide)
      · simpa using hm.1
    · have hne : (n == -1) = false := beq_false_of_ne (by omega)
      rcases hm with rfl | hm
      · simpa [hne] using hn.1
      · simpa [hne, hm.1] using hn.1
  | group => exact hz
  | _ => rfl

mutual
theorem raw_of_wfNode (sl : Int → Bool) (caps : List Nat) (hsl : ∀ g ∈ caps, sl (g : Int) = true ∧ g ≤ Parser.maxInt32) :
    ∀ (x : Parser.RNode), Parser.wfNode caps x = true → groupsZero x = true →
      okRaw (ofRaw x) = true ∧ capN sl (ofRaw x) = true
  | .mk t o ch str set m n kids, h, hz => by
    rw [Parser.wfNode] at h
    rw [groupsZero] at hz
    simp only [Bool.and_eq_true] at h hz
    have hk := raws_of_wfKids sl caps hsl kids h.2 hz.2
    have hs := shape_of_nodeOk caps t str set m n kids.length h.1
    have hq := capQ_of_nodeOk sl caps hsl t str set m n kids.length h.1 hz.1
    rw [ofRaw]
    refine ⟨?_, capN_mk_of sl (toMask_lt o) hq hk.2⟩
    rw [okRaw, hk.1, Bool.and_true, ofRaws_eq_map, List.length_map]
    exact hs.1
theorem raws_of_wfKids (sl : Int → Bool) (caps : List Nat) (hsl : ∀ g ∈ caps, sl (g : Int) = true ∧ g ≤ Parser.maxInt32) :
    ∀ (l : List Parser.RNode), Parser.wfKids caps l = true → groupsZeroL l = true →
      okRaws (ofRaws l) = true ∧ capNs sl (ofRaws l) = true
  | [], _, _ => by simp [ofRaws, okRaws, capNs_nil]
  | x :: xs, h, hz => by
    rw [Parser.wfKids] at h
    rw [groupsZeroL] at hz
    simp only [Bool.and_eq_true] at h hz
    have h1 := raw_of_wfNode sl caps hsl x h.1 hz.1
    have h2 := raws_of_wfKids sl caps hsl xs h.2 hz.2
    rw [ofRaws, okRaws, capNs_cons, h1.1, h1.2, h2.1, h2.2]
    exact ⟨rfl, rfl⟩
end

theorem chain_hyps_of_wfTree (t : Parser.RawTree) (hwf : Parser.wfTree t = true) (hz : groupsZero t.root = true)
    (htb : TablesOk t.tables = true) : RawShapeOk t = true ∧ PrescanAgrees t = true := by
  have hsl : ∀ g ∈ t.tables.caps, slotOf t (g : Int) = true ∧ g ≤ Parser.maxInt32 := by
    intro g hg
    refine ⟨slotOf_of_mem t htb g hg, ?_⟩
    simp only [TablesOk, Bool.and_eq_true, List.all_eq_true, decide_eq_true_eq] at htb
    exact htb.1.2 g hg
  simp only [Parser.wfTree, Bool.and_eq_true] at hwf
  obtain ⟨⟨⟨⟨hcap, _⟩, hnode⟩, h0⟩, _⟩ := hwf
  have hr := raw_of_wfNode (slotOf t) t.tables.caps hsl t.root hnode hz
  have h0' : slotOf t 0 = true := by
    have := (hsl 0 (by simpa using h0)).1
    simpa using this
  refine ⟨?_, ?_⟩
  · unfold RawShapeOk okRawTree
    rw [hr.1, Bool.true_and]
    cases hroot : t.root with
    | mk tt o ch str set m n kids =>
      rw [hroot] at hnode hcap
      rw [Parser.wfNode] at hnode
      simp only [Bool.and_eq_true] at hnode
      have htt : tt = .capture := by simpa [Parser.RNode.t] using hcap
      have := (shape_of_nodeOk _ _ _ _ _ _ _ hnode.1).2 htt
      simpa [ofRaw, Node.t, Node.kids, ofRaws_eq_map] using this
  · unfold PrescanAgrees
    rw [h0', hr.2]
    rfl

end

end RegexVerif.Lemmas.Chain
