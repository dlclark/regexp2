/-
`BmPrefix.Scan` and `IsMatch` in the terms of the finder model: an occurrence as `Scan` reads it is
`Finders.occursAt` under the prefix's comparison (`occ_iff_occursAt`); `scan_first` / `scan_last` say what `Scan`
returns in either direction (right to left through the reflection that defines it), `isMatch_eq` that `IsMatch`
over the whole input is `Finders.bmIsMatch`.

Two records stand for "a compiled prefix".  `Finders.Bm` (pattern and case flag, written `⟨pat, ci⟩`) is the
specification side: all the finder model knows of `Code.BmPrefix`, and all the occurrence test `bmIsMatch` needs.
`BoyerMoore.Tables` is the compiled side.  `build pat ci rtl = some t` ties the two (`build_some`); at property
level it comes from `newBmPrefix … = some t` by `newBmPrefix_eq_build`.
-/
import RegexVerif.Lemmas.BoyerMoore
import RegexVerif.Lemmas.FinderSearch

namespace RegexVerif.Lemmas.BoyerMoore
open RegexVerif.BoyerMoore RegexVerif.Finders RegexVerif.Lemmas.Finders RegexVerif.Lemmas.IndexOf

/-! ### occurrences: `Occ` in the finder's terms, and under reversal -/

theorem occ_iff_occursAt (lower : Nat → Nat) (pat : List Nat) (ci : Bool) (text : List Nat) (s : Nat) :
    Occ pat (chAt lower ci text) s ↔ occursAt (Bm.eq lower ⟨pat, ci⟩) pat text s = true := by
  unfold occursAt
  rw [prefixOf_iff]
  unfold Occ chAt
  constructor
  · intro h j hj
    have := h j hj
    have hc : pat[j]? = some (pat[j]'hj) := by simp
    rw [hc] at this
    cases ht : text[s + j]? with
    | none => rw [ht] at this; simp at this
    | some t =>
      rw [ht] at this
      simp only [Option.map_some, Option.some.injEq] at this
      refine ⟨t, pat[j]'hj, by rw [List.getElem?_drop]; exact ht, hc, ?_⟩
      cases ci <;> simp [Bm.eq, eqBmLower, eqExact] at this ⊢ <;> exact this
  · intro h j hj
    obtain ⟨t, c, x1, x2, x3⟩ := h j hj
    rw [List.getElem?_drop] at x1
    rw [x1, x2]
    simp only [Option.map_some, Option.some.injEq]
    cases ci <;> simp [Bm.eq, eqBmLower, eqExact] at x3 ⊢ <;> exact x3

theorem chAt_ne_none (lower : Nat → Nat) (ci : Bool) (text : List Nat) (i : Nat) (h : i < text.length) :
    chAt lower ci text i ≠ none := by
  simp [chAt, h]

theorem chAt_reverse (lower : Nat → Nat) (ci : Bool) (text : List Nat) (i : Nat) (h : i < text.length) :
    chAt lower ci text.reverse i = chAt lower ci text (text.length - 1 - i) := by
  simp [chAt, List.getElem?_reverse h]

theorem occ_reverse (lower : Nat → Nat) (pat : List Nat) (ci : Bool) (text : List Nat) (s : Nat)
    (h : s + pat.length ≤ text.length) :
    Occ pat.reverse (chAt lower ci text.reverse) s ↔ Occ pat (chAt lower ci text) (text.length - s - pat.length) := by
  obtain ⟨q, hq⟩ : ∃ q, q + (s + pat.length) = text.length := ⟨_, Nat.sub_add_cancel h⟩
  rw [show text.length - s - pat.length = q by omega]
  -- index `k` of the pattern is index `k'` of the reversed pattern, `k' + k + 1 = len`
  have key : ∀ k k', k' + k + 1 = pat.length →
      (chAt lower ci text.reverse (s + k') = pat.reverse[k']? ↔ chAt lower ci text (q + k) = pat[k]?) := by
    intro k k' hk
    rw [chAt_reverse _ _ _ _ (by omega), List.getElem?_reverse (by omega),
      show text.length - 1 - (s + k') = q + k by omega, show pat.length - 1 - k' = k by omega]
  unfold Occ
  rw [List.length_reverse]
  exact ⟨fun hocc k hk => (key k (pat.length - 1 - k) (by omega)).mp (hocc _ (by omega)),
    fun hocc k' hk => (key (pat.length - 1 - k') k' (by omega)).mpr (hocc _ (by omega))⟩

/-! ### the compiled prefix -/

theorem build_some (pat : List Nat) (ci rtl : Bool) (t : Tables) (h : build pat ci rtl = some t) :
    pat ≠ [] ∧ (∀ c, c ∈ pat → c ≤ 0xffff) ∧ t.rtl = rtl ∧ t.ci = ci ∧ t.pattern = pat ∧
    t.core = buildLtr (if rtl then pat.reverse else pat) := by
  unfold build at h
  by_cases hc : (pat.isEmpty || pat.any (fun c => decide (0xffff < c))) = true
  · rw [if_pos hc] at h; simp at h
  · rw [if_neg hc] at h
    injection h with h
    subst h
    simp only [Bool.or_eq_true, not_or, Bool.not_eq_true] at hc
    refine ⟨by intro h0; simp [h0] at hc, ?_, rfl, rfl, ?_, rfl⟩
    · intro c hcm
      have := hc.2
      rw [List.any_eq_false] at this
      have := this c hcm
      simpa using this
    · cases rtl <;> simp [Tables.pattern, buildLtr]

/-- the tables `newBmPrefix` returns are the ones `build` makes of the pattern they store (lower-cased when `ci`;
    `newBmPrefix lower pat false rtl` and `build pat false rtl` are equal by `rfl`).  `Props.C03.newBmPrefix_built` is a different statement: what the
    fields of `t` are -/
theorem newBmPrefix_eq_build (lower : Nat → Nat) (pat : List Nat) (ci rtl : Bool) (t : Tables)
    (hb : newBmPrefix lower pat ci rtl = some t) : build t.pattern ci rtl = some t := by
  unfold newBmPrefix at hb
  rw [(build_some _ ci rtl t hb).2.2.2.2.1]; exact hb

/-- **`Scan`, left to right, in the finder's terms**: the first start from `index` on at which the prefix occurs
    and ends within `endlimit`.  `beglimit` only has to lie at or before `index`; it bounds nothing else.
    `Props.C03.bm_scan_sound/complete/none` are this statement and `scan_last` taken apart -/
theorem scan_first (lower : Nat → Nat) (pat : List Nat) (ci : Bool) (t : Tables) (hb : build pat ci false = some t)
    (text : List Nat) (index beglimit endlimit : Nat) (h1 : beglimit ≤ index) (h3 : endlimit ≤ text.length) :
    First (fun i => index ≤ i ∧ i + pat.length ≤ endlimit ∧ bmIsMatch lower ⟨pat, ci⟩ false text i = true)
      (scan lower t text index beglimit endlimit) := by
  obtain ⟨hne, hbmp, hr, hci, _, hcore⟩ := build_some pat ci false t hb
  unfold scan scanWith
  simp only [hr, Bool.false_eq_true, if_false, hci, hcore]
  refine (scanLtr_first pat hne hbmp (chAt lower ci text) index beglimit endlimit
    (fun i hi => chAt_ne_none lower ci text i (by omega)) h1).congr fun i => ?_
  rw [occ_iff_occursAt]; rfl

/-- **`Scan`, right to left**: the last END up to `index` at which the prefix occurs without starting before
    `beglimit` — the left-to-right scan of the reversed data, reflected. -/
theorem scan_last (lower : Nat → Nat) (pat : List Nat) (ci : Bool) (t : Tables) (hb : build pat ci true = some t)
    (text : List Nat) (index beglimit endlimit : Nat) (h1 : beglimit ≤ index) (h2 : index ≤ endlimit)
    (h3 : endlimit ≤ text.length) :
    Last (fun i => i ≤ index ∧ beglimit + pat.length ≤ i ∧ bmIsMatch lower ⟨pat, ci⟩ true text i = true)
      (scan lower t text index beglimit endlimit) := by
  obtain ⟨hne, hbmp, hr, hci, _, hcore⟩ := build_some pat ci true t hb
  unfold scan scanWith
  simp only [hr, if_true, hci, hcore]
  have hn1 : ¬ (text.length < index ∨ text.length < endlimit) := by omega
  simp only [Bool.or_eq_true, decide_eq_true_eq, hn1, if_false]
  -- the reflected window: `x' + x = n`
  have reflect : ∀ x, x ≤ text.length → ∃ x', x' + x = text.length := fun x hx => ⟨_, Nat.sub_add_cancel hx⟩
  obtain ⟨i', hi'⟩ := reflect index (by omega)
  obtain ⟨b', hb'⟩ := reflect beglimit (by omega)
  obtain ⟨e', he'⟩ := reflect endlimit h3
  rw [Nat.sub_eq_of_eq_add hi'.symm, Nat.sub_eq_of_eq_add hb'.symm, Nat.sub_eq_of_eq_add he'.symm]
  have := (scanLtr_first pat.reverse (by simpa using hne) (by intro c hc; exact hbmp c (by simpa using hc))
    (chAt lower ci text.reverse) i' e' b'
    (fun i hi => chAt_ne_none lower ci text.reverse i (by rw [List.length_reverse]; omega)) (by omega)).mirror text.length
    (fun i hi => by have := hi.2.1; omega)
  rw [List.length_reverse] at this
  -- an occurrence of the reversed data at `x'` is `bmIsMatch … true text x` for `x' + x = n`, with room for the prefix
  have hbridge : ∀ x x', x' + x = text.length → pat.length ≤ x →
      (Occ pat.reverse (chAt lower ci text.reverse) x' ↔ occursAt (Bm.eq lower ⟨pat, ci⟩) pat text (x - pat.length) = true) :=
    fun x x' hx hl => by
      rw [occ_reverse _ _ _ _ _ (by omega), show text.length - x' - pat.length = x - pat.length by omega, occ_iff_occursAt]
  refine this.congr fun x => ?_
  simp only [bmIsMatch, if_true, Bool.and_eq_true, decide_eq_true_eq]
  constructor
  · intro ⟨x', hx, _, hfit, hocc⟩
    exact ⟨by omega, by omega, by omega, (hbridge x x' hx (by omega)).mp hocc⟩
  · intro ⟨hx, hb, hl, hocc⟩
    obtain ⟨x', hx'⟩ := reflect x (by omega)
    exact ⟨x', hx', by omega, by omega, (hbridge x x' hx' hl).mpr hocc⟩

/-! ### `matchPattern` / `IsMatch` -/

theorem matchFrom_iff (lower : Nat → Nat) (ci : Bool) (text : List Nat) (index : Nat) : ∀ (ps : List Nat) (i : Nat),
    matchFrom lower ci text index ps i = true ↔ ∀ j : Nat, j < ps.length → chAt lower ci text (index + i + j) = ps[j]? := by
  intro ps
  induction ps with
  | nil => intro i; simp [matchFrom]
  | cons c rest ih =>
    intro i
    simp only [matchFrom, Bool.and_eq_true, beq_iff_eq, ih (i + 1)]
    constructor
    · intro ⟨h1, h2⟩ j hj
      cases j with
      | zero => simpa using h1
      | succ j =>
        have := h2 j (by simp at hj; omega)
        rw [show index + i + (j + 1) = index + (i + 1) + j by omega]
        simpa using this
    · intro h
      refine ⟨by simpa using h 0 (by simp), ?_⟩
      intro j hj
      have := h (j + 1) (by simp; omega)
      rw [show index + i + (j + 1) = index + (i + 1) + j by omega] at this
      simpa using this

/-- **`IsMatch` over the whole input is the finder model's `bmIsMatch`** (the anchored path of
    `findFirstCharDefault` calls `IsMatch(text, pos, 0, len(text))`) -/
theorem isMatch_eq (lower : Nat → Nat) (pat : List Nat) (ci rtl : Bool) (t : Tables) (hb : build pat ci rtl = some t)
    (text : List Nat) (index : Nat) :
    isMatch lower t text index 0 text.length = bmIsMatch lower ⟨pat, ci⟩ rtl text index := by
  obtain ⟨hne, _, hr, hci, hp, _⟩ := build_some pat ci rtl t hb
  have hlen : 0 < pat.length := List.length_pos_iff.mpr hne
  -- an occurrence needs room for the last character of the prefix
  have hnofit : ∀ s, text.length < s + pat.length → occursAt (Bm.eq lower ⟨pat, ci⟩) pat text s = false := by
    intro s hfit
    refine Bool.eq_false_iff.mpr fun ho => ?_
    have := (occ_iff_occursAt lower pat ci text s).mpr ho (pat.length - 1) (by omega)
    rw [chAt, List.getElem?_eq_none (by omega), List.getElem?_eq_getElem (by omega)] at this
    cases this
  have hmp : ∀ s, matchPattern lower t text s = occursAt (Bm.eq lower ⟨pat, ci⟩) pat text s := by
    intro s
    unfold matchPattern
    rw [hp, hci]
    split
    · rename_i hfit; exact (hnofit s hfit).symm
    · refine Bool.eq_iff_iff.mpr ?_
      rw [← occ_iff_occursAt, matchFrom_iff]
      simp only [Nat.add_zero]
      exact Iff.rfl
  unfold isMatch bmIsMatch
  rw [hr, hp]
  cases rtl with
  | false =>
    simp only [Bool.not_false, if_true, Bool.false_eq_true, if_false, Nat.not_lt_zero, decide_false, Bool.false_or]
    split
    · rename_i hfit; exact (hnofit index (of_decide_eq_true hfit)).symm
    · exact hmp index
  | true =>
    simp only [Bool.not_true, Bool.false_eq_true, if_false, if_true, Nat.zero_add]
    by_cases hle : pat.length ≤ index
    · rw [decide_eq_true hle, Bool.true_and]
      split
      · rename_i hend
        rw [Bool.or_eq_true, decide_eq_true_eq, decide_eq_true_eq] at hend
        exact (hnofit _ (by omega)).symm
      · exact hmp _
    · rw [decide_eq_false hle, Bool.false_and, if_pos]
      rw [Bool.or_eq_true, decide_eq_true_eq, decide_eq_true_eq]
      exact Or.inr (Nat.lt_of_not_le hle)

end RegexVerif.Lemmas.BoyerMoore
