/-
Lemmas for C19 about the model `RegexVerif.Model.Escape`: the spellings `escape` has for one rune (`Spelled`,
`escapeRune_spelled`), on which every later proof about `Escape`'s output goes by cases; how hexadecimal digits
are read back; one turn of `Unescape`'s loop.
-/
import RegexVerif.Model.Escape
import RegexVerif.Lemmas.Ite

namespace RegexVerif.Lemmas.Escape
open RegexVerif RegexVerif.Escape

/-! ### the spellings of one rune -/

/-- the letter escapes `escape` writes, as (letter, rune): `\a \f \n \r \t \v` -/
def letterEscapes : List (Nat × Nat) := [(97, 7), (102, 12), (110, 10), (114, 13), (116, 9), (118, 11)]

/-- `Spelled isPrint r out`: `out` is one of the five ways `escape` writes the rune `r`, with the
    condition under which it chooses it -/
inductive Spelled (isPrint : Nat → Bool) (r : Nat) : List Nat → Prop
  | raw : (isPrint r = true ∧ Generated.metaChars.contains r = false) ∨ (isPrint r = false ∧ 0x10000 ≤ r) →
      Spelled isPrint r [r]
  | quoted : isPrint r = true → Generated.metaChars.contains r = true → Spelled isPrint r [bslash, r]
  | letter (c : Nat) : isPrint r = false → (c, r) ∈ letterEscapes → Spelled isPrint r [bslash, c]
  | x : isPrint r = false → r < 0x100 → Spelled isPrint r (bslash :: 120 :: hex2 r)
  | u : isPrint r = false → r < 0x10000 → Spelled isPrint r (bslash :: 117 :: hex4 r)

theorem escapeRune_spelled (isPrint : Nat → Bool) (r : Nat) : Spelled isPrint r (escapeRune isPrint r) := by
  unfold escapeRune
  cases hp : isPrint r
  · have letter : ∀ c k, (c, k) ∈ letterEscapes → r = k → Spelled isPrint r [bslash, c] :=
      fun c k hc hr => .letter c hp (hr ▸ hc)
    rw [if_neg Bool.false_ne_true]
    refine ite_cases (letter 97 7 (by decide)) fun _ => ?_
    refine ite_cases (letter 102 12 (by decide)) fun _ => ?_
    refine ite_cases (letter 110 10 (by decide)) fun _ => ?_
    refine ite_cases (letter 114 13 (by decide)) fun _ => ?_
    refine ite_cases (letter 116 9 (by decide)) fun _ => ?_
    refine ite_cases (letter 118 11 (by decide)) fun _ => ?_
    refine ite_cases (.x hp) fun _ => ?_
    refine ite_cases (.u hp) fun hu => ?_
    exact .raw (.inr ⟨hp, by omega⟩)
  · rw [if_pos rfl]
    cases hm : Generated.metaChars.contains r
    · exact .raw (.inl ⟨hp, hm⟩)
    · exact .quoted hp hm

theorem Spelled.length_pos {isPrint : Nat → Bool} {r : Nat} {out : List Nat} (h : Spelled isPrint r out) :
    1 ≤ out.length := by
  cases h <;> exact Nat.succ_le_succ (Nat.zero_le _)

theorem escapeRune_length_pos (isPrint : Nat → Bool) (r : Nat) : 1 ≤ (escapeRune isPrint r).length :=
  (escapeRune_spelled isPrint r).length_pos

theorem escape_cons (isPrint : Nat → Bool) (r : Nat) (s : List Nat) :
    escape isPrint (r :: s) = escapeRune isPrint r ++ escape isPrint s := by
  simp [escape]

theorem escape_append (isPrint : Nat → Bool) (a b : List Nat) :
    escape isPrint (a ++ b) = escape isPrint a ++ escape isPrint b :=
  List.flatMap_append

theorem length_le_escape (isPrint : Nat → Bool) (s : List Nat) : s.length ≤ (escape isPrint s).length := by
  induction s with
  | nil => exact Nat.zero_le _
  | cons r s ih =>
    have := escapeRune_length_pos isPrint r
    rw [escape_cons, List.length_append, List.length_cons]
    omega

/-! ### what the escape scanner reads back -/

theorem hexDigit_hexChar (d : Nat) (h : d < 16) : hexDigit (hexChar d) = some d := by
  unfold hexDigit hexChar
  by_cases h10 : d < 10
  · have a : (48 ≤ 48 + d ∧ 48 + d ≤ 57) := by omega
    simp [h10, a]
  · have a : ¬ (48 ≤ 87 + d ∧ 87 + d ≤ 57) := by omega
    have b : (97 ≤ 87 + d ∧ 87 + d ≤ 102) := by omega
    simp [h10, a, b]; omega

theorem hexChar_ne_brace (d : Nat) (h : d < 16) : hexChar d ≠ 123 := by
  unfold hexChar; split <;> omega

theorem scanHex_hex2 (r : Nat) (h : r < 256) (rest : List Nat) :
    scanHex 2 0 (hex2 r ++ rest) = some (r, rest) := by
  have h1 : r / 16 < 16 := by omega
  have h2 : r % 16 < 16 := by omega
  simp only [hex2, scanHex, List.cons_append, List.nil_append, hexDigit_hexChar _ h1, hexDigit_hexChar _ h2]
  simp; omega

theorem scanHex_hex4 (r : Nat) (h : r < 65536) (rest : List Nat) :
    scanHex 4 0 (hex4 r ++ rest) = some (r, rest) := by
  have h1 : r / 4096 < 16 := by omega
  have h2 : r / 256 % 16 < 16 := by omega
  have h3 : r / 16 % 16 < 16 := by omega
  have h4 : r % 16 < 16 := by omega
  simp only [hex4, scanHex, List.cons_append, List.nil_append, hexDigit_hexChar _ h1, hexDigit_hexChar _ h2,
    hexDigit_hexChar _ h3, hexDigit_hexChar _ h4]
  simp; omega

/-- a rune outside a list differs from every member of it (members named as `ne k rfl`) -/
theorem ne_of_not_contains {l : List Nat} {c : Nat} (h : l.contains c = false) (x : Nat) (hx : l.contains x = true) :
    c ≠ x :=
  fun e => by rw [e, hx] at h; cases h

/-- a rune the escape scanner returns as itself after a backslash (word-ness aside): not an octal
    digit and none of `x u a b e f n r t v c` -/
def plainAfterBackslash (c : Nat) : Bool :=
  !(decide (48 ≤ c ∧ c ≤ 55)) && !([120, 117, 97, 98, 101, 102, 110, 114, 116, 118, 99].contains c)

/-! ### obligations regenerated from the Go source (`Generated.Escape`) -/

/-- every rune of the `meta` constant of escape.go is read back as itself after a backslash -/
theorem meta_plain : Generated.metaChars.all plainAfterBackslash = true := by decide

/-! ### one turn of `Unescape`'s loop -/

theorem step_lit (isWord : Nat → Bool) (fuel c : Nat) (rest acc : List Nat) (h : c ≠ bslash) :
    unescapeFuel isWord (fuel + 1) true (c :: rest) acc = unescapeFuel isWord fuel true rest (c :: acc) := by
  simp [unescapeFuel, h]

theorem step_esc (isWord : Nat → Bool) (fuel r : Nat) (body rest acc : List Nat)
    (h : scanCharEscape isWord body = some (r, rest)) :
    unescapeFuel isWord (fuel + 2) true (bslash :: body) acc = unescapeFuel isWord fuel true rest (r :: acc) := by
  simp [unescapeFuel, h]

end RegexVerif.Lemmas.Escape
