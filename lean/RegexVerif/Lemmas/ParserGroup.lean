/-
The scanners of group syntax are scanners: the name part of `(?<name>`, `(?'name'` (`scanGroupName`), `(?(`
(`scanCondition`, which may end one rune to the left of its start), `scanGroupOpen`, `scanPythonNamedBackref`.
-/
import RegexVerif.Lemmas.ParserEscape

namespace RegexVerif.Parser

variable {α : Type}
variable (E : Env)

theorem scansF_breakRecognize (start : Nat) : ScansF E start 0 start (breakRecognize E start : M α) := by
  intro s ha hk
  unfold wp breakRecognize
  have : start ≤ s.pos ∧ s.pos ≤ E.pat.length := ⟨ha, by omega⟩
  simp only [this, and_self, if_true]
  exact ⟨ha, by omega, rfl, id⟩

theorem scans_gnSlotOfNumber (n : Nat) : Scans E (gnSlotOfNumber E n) := by
  refine Scans.of_run fun q σ hq => ?_
  unfold gnSlotOfNumber
  run_steps

theorem scansLt_gnFirst (o : Opts) (close : Nat) : ScansLt E (gnFirst E o close) := by
  refine ScansLt.of_run fun q σ hq => ?_
  unfold gnFirst
  run_steps
  · run_call scans_scanDecimal E
    run_call scans_gnSlotOfNumber E _
    run_peek .andM fun _ => .andMM (.rcNe (by omega)) fun _ => .rcNe (by omega)
  · run_call scans_scanCapname E
    run_peek .andM fun _ => .andMM (.rcNe (by omega)) fun _ => .rcNe (by omega)

theorem scans_gnUncap (close : Nat) : Scans E (gnUncap E close) := by
  refine Scans.of_run fun q σ hq => ?_
  unfold gnUncap
  run_steps
  · run_call scans_scanDecimal E
    run_peek .andM fun _ => .rcNe (by omega)
  · run_call scans_scanCapname E
    split <;> run_steps
    run_peek .andM fun _ => .rcNe (by omega)

theorem scans_gnSecond (o : Opts) (close : Nat) (cn : Option Nat) (pr : Bool) : Scans E (gnSecond E o close cn pr) := by
  refine Scans.of_run fun q σ hq => ?_
  unfold gnSecond
  run_steps
  run_peek .andM fun _ => .rcIs (by omega)
  run_call scans_gnUncap E _

theorem scansF_gnClose (start close : Nat) (cn un : Option Nat) : ScansF E start 0 start (gnClose E start close cn un) := by
  refine ScansF.of_run fun q σ ha hq => ?_
  unfold gnClose
  run_steps
  · run_call scans_consumeCaptureSlot E _
  all_goals run_call scansF_breakRecognize E _

theorem scansF_scanGroupName (start close : Nat) : ScansF E start 1 start (scanGroupName E start close) := by
  refine ScansF.of_run fun q σ ha hq => ?_
  unfold scanGroupName
  run_steps
  run_call scansLt_gnFirst E _ _
  run_call scans_gnSecond E _ _ _ _
  run_call scansF_gnClose E _ _ _ _

theorem scans_condEarly (o : Opts) : Scans E (condEarly E o) := by
  refine Scans.of_run fun q σ hq => ?_
  unfold condEarly
  run_steps
  · run_call scans_scanDecimal E
  · run_call scans_scanCapname E
    split <;> run_steps

theorem scansF_condExpr (o : Opts) (parenPos : Nat) (h1 : 1 ≤ parenPos) (h2 : parenPos ≤ E.pat.length) :
    ScansF E 0 0 (parenPos - 1) (condExpr E o parenPos) := by
  refine ScansF.of_run fun q σ ha hq => ?_
  unfold condExpr
  run_steps
  run_peek .andM fun _ => .rcIs (by omega)
  run_peek .andM fun _ => .andMM (.rcNe (by omega)) fun _ => .rcNe (by omega)

theorem scansBack_scanCondition : ScansBack E (scanCondition E) := by
  refine ScansBack.of_run fun q σ h1 hq => ?_
  unfold scanCondition
  run_steps
  run_call scans_condEarly E _
  split <;> run_steps
  run_call scansF_condExpr E _ _ (by omega) (by omega)

theorem scans_groupOpenPlain (o : Opts) : Scans E (groupOpenPlain o) := by
  refine Scans.of_run fun q σ hq => ?_
  unfold groupOpenPlain
  run_steps

theorem scansF_groupOpenDefault (start : Nat) : ScansF E (start + 1) 0 start (groupOpenDefault E start) := by
  refine ScansF.of_run fun q σ ha hq => ?_
  unfold groupOpenDefault
  run_steps
  · run_call scans_scanOptions E
    all_goals run_call scansF_breakRecognize E _
  all_goals run_call scansF_breakRecognize E _

theorem scansF_groupOpenAngle (start : Nat) (o : Opts) (close : Nat) :
    ScansF E start 0 start (groupOpenAngle E start o close) := by
  refine ScansF.of_run fun q σ ha hq => ?_
  unfold groupOpenAngle
  run_steps
  any_goals run_call scansF_breakRecognize E _
  run_call scansF_scanGroupName E _ _

theorem scansF_groupOpenPython (start : Nat) (o : Opts) : ScansF E start 0 start (groupOpenPython E start o) := by
  refine ScansF.of_run fun q σ ha hq => ?_
  unfold groupOpenPython
  run_steps
  any_goals run_call scansF_breakRecognize E _
  run_call scans_scanCapname E
  run_peek .andM fun _ => .rcNe (by omega)
  any_goals run_call scansF_breakRecognize E _
  run_call scans_consumeCaptureSlot E _

theorem scansF_groupOpenSwitch (start : Nat) (o : Opts) (ch : Nat) :
    ScansF E (start + 2) 0 start (groupOpenSwitch E start o ch) := by
  refine ScansF.of_run fun q σ ha hq => ?_
  unfold groupOpenSwitch
  run_steps
  · run_call scansF_groupOpenAngle E _ _ _
  · run_call scansF_groupOpenAngle E _ _ _
  · run_call scansBack_scanCondition E
  · run_call scansF_groupOpenPython E _ _
  · run_call scansF_groupOpenDefault E _

theorem scans_scanGroupOpen : Scans E (scanGroupOpen E) := by
  refine Scans.of_run fun q σ hq => ?_
  unfold scanGroupOpen groupOpenIsPlain
  run_steps
  run_still .rightCharIf (by omega)
  run_still .rightCharIf (by omega)
  · run_call scans_groupOpenPlain E _
  · run_call scansF_breakRecognize E _
  · run_call scansF_groupOpenSwitch E _ _ _

theorem scansK_scanPythonNamedBackref : ScansK E 3 (scanPythonNamedBackref E) := by
  refine ScansK.of_run fun q σ hq => ?_
  unfold scanPythonNamedBackref
  run_steps
  run_call scans_scanCapname E
  split <;> run_steps

end RegexVerif.Parser
