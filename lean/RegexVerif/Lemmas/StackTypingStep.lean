/-
Soundness of the grouping-stack typing, the step: the typing part of the invariant through the whole switch (`tbody_ok`) and
through `advance` / `goTo` / `backtrack` (`tfinish_ok`).  With the frame invariant of Lemmas/VM.lean this is `tstep_ok`:
one iteration keeps `TInv` and raises no fault of any kind, hence no run does (`trun_ok`, `typed_run_no_fault`).
-/
import RegexVerif.Lemmas.StackTypingCases

namespace RegexVerif.Lemmas.StackTypingSound
open RegexVerif RegexVerif.Code RegexVerif.VM RegexVerif.StackTyping RegexVerif.Lemmas.VM
open RegexVerif.Lemmas.StackTypingCap

section body
variable {p : Prog} {bs : List Nat} {env : Env} {a : Assign} {s : VMState} {w : Word} {o : Op}

/-- **every case of the switch** keeps the typing part of the invariant and raises no discipline fault -/
theorem tbody_ok (hty : TypingW p bs a) (c : Ctx p bs env s w o) (hfsh : Shape p bs env.len s o)
    (hsh : TShape p bs env.len a s o) : TBodyOk p bs env.len a s (body p env s) := by
  have hop := c.op_eq
  have hm : modeOf s.oper = match s.oper.back, s.oper.back2 with
      | false, false => some .fwd | true, false => some .back | false, true => some .back2 | true, true => none := rfl
  have hlen : -1 ≤ (-1 : Int) ∧ (-1 : Int) ≤ env.len := ⟨by omega, by have := c.tp0; have := c.tpn; omega⟩
  unfold TShape at hsh
  unfold Shape at hfsh
  cases hb : s.oper.back <;> cases hb2 : s.oper.back2 <;> simp only [hb, hb2] at hsh hfsh hm
  all_goals
    have hsel := body_selects p env hop hm
    generalize body p env s = r at hsel ⊢
  · rcases hsh with ⟨σ, ⟨core, tp, htr, hg, hv, hcap⟩, S, hS, hsub⟩ | ⟨ht, hst, hcr, hpc, hcap⟩ | ⟨ht, hstop⟩
    · have h : FwdH p bs env a s S σ core tp := ⟨hS, hsub, htr, hg, hv, hcap⟩
      have hfl := flow_at hty c hS
      by_cases hn : neutral o = true
      · refine neutral_fwd c h (flow_next hfl (neutral_flow hn _ _)) (neutral_frameTy hn _)
          (body_neutral c hn hsel) ?_
        rintro rfl
        cases hsel
        exact caseRef_nodisc hcap
      cases hsel with
      | stop => exact trivial
      | prune => obtain ⟨_, hflow, _⟩ := hfl; simp [flow] at hflow
      | nothing => exact ⟨_, _, _, h.tr, h.good, h.vals, h.cap⟩
      | lazybranch =>
        exact lazybranch_fwd c h ((flow_target (Or.inr rfl) hfl).2 rfl)
      | goto => exact goto_fwd h (flow_target (Or.inl rfl) hfl).1
      | setmark =>
        exact setmark_fwd c _ .pos (Or.inl ⟨rfl, rfl⟩) ⟨c.tp0, c.tpn⟩ h (flow_next hfl rfl)
      | nullmark =>
        exact setmark_fwd c _ .mark (Or.inr ⟨rfl, rfl⟩) hlen h (flow_next hfl rfl)
      | setcount =>
        exact setcount_fwd c _ .pos (Or.inl ⟨rfl, rfl⟩) ⟨c.tp0, c.tpn⟩ h (flow_next hfl rfl)
      | nullcount =>
        exact setcount_fwd c _ .mark (Or.inr ⟨rfl, rfl⟩) hlen h (flow_next hfl rfl)
      | setjump => exact setjump_fwd c h (flow_next hfl rfl)
      | getmark => exact getmark_fwd c h hfl
      | capturemark => exact capturemark_fwd c h hfl
      | branchmark => exact branchmark_fwd c h hfl
      | lazybranchmark => exact lazybranchmark_fwd c h hfl
      | branchcount => exact branchcount_fwd c h hfl
      | lazybranchcount => exact lazybranchcount_fwd c h hfl
      | backjump => exact backjump_fwd h hfl
      | forejump => exact forejump_fwd c h hfl
      | updatebumpalong =>
        exact updatebumpalong_fwd h (flow_next hfl rfl)
      | _ => exact absurd rfl hn
    · -- the very first iteration: `Lazybranch` at 0 on empty stacks
      have ho : o = .lazybranch := Classical.byContradiction fun hne => codepos_ne_zero c hne hpc
      subst ho
      cases hsel
      have hS : a.get s.codepos = some [] := by rw [hpc]; exact hty.zero
      have hfl := flow_at hty c hS
      have hn := (flow_target (Or.inr rfl) hfl).2 rfl
      rw [hpc] at hn
      exact lazybranch_init ht hst hcr hpc hcap (hn.succ (σ := []) rfl)
    · subst hstop
      cases hsel
      exact trivial
  · obtain ⟨d, core, tp, S, τ, τ', cl', htr, hfd, hS, hft, hg, hv, hcap⟩ := hsh
    have b : BackH p bs env a s o true S d core tp τ τ' cl' := ⟨htr, hfd, hS, hft, hg, hv, hcap⟩
    cases hsel with
    | branchmarkBack2 => exact restore_back (Or.inr ⟨rfl, rfl⟩) b
    | lazybranchmarkBack2 => exact lazybranchmark_back2 b
    | branchcountBack2 => exact branchcount_back2 b
    | lazybranchcountBack2 => exact lazybranchcount_back2 b
    | noBack2 hno => rw [hno] at hfd; cases hfd
  · rcases hsh with ⟨d, core, tp, S, τ, τ', cl', htr, hfd, hS, hft, hg, hv, hcap⟩ | ⟨hpc, tp, ht⟩
    · have b : BackH p bs env a s o false S d core tp τ τ' cl' := ⟨htr, hfd, hS, hft, hg, hv, hcap⟩
      have hfl := flow_at hty c hS
      -- the frame invariant speaks of the same popped frame
      have hpop : Popped p bs env.len s o false d (core ++ [tp]) := by
        obtain ⟨d0, rest0, ht0, hfd0, hpo, hfr⟩ := hfsh
        obtain ⟨rfl, rfl⟩ := List.append_inj (ht0.symm.trans htr) (Option.some.inj (hfd0.symm.trans hfd))
        exact ⟨htr, hfd, hpo, hfr.resolve_right (by simp)⟩
      cases hsel with
      | oneloopBack | notoneloopBack | setloopBack =>
        exact neutral_back c (by simp) b (flow_next hfl rfl) (caseLoopBack_neutral c rfl (by simp) hpop)
      | onelazyBack =>
        exact neutral_back c (by simp) b (flow_next hfl rfl)
          (caseLazyBack_neutral c rfl 0 (by omega) (by simp) hpop)
      | notonelazyBack =>
        exact neutral_back c (by simp) b (flow_next hfl rfl)
          (caseLazyBack_neutral c rfl 1 (by omega) (by simp) hpop)
      | setlazyBack =>
        exact neutral_back c (by simp) b (flow_next hfl rfl)
          (caseLazyBack_neutral c rfl 2 (fun _ => setOperand_of c (by simp)) (by simp) hpop)
      | lazybranchBack => exact lazybranch_back b (flow_target (Or.inr rfl) hfl).1
      | setmarkBack => exact pop1_back (Or.inl rfl) b
      | nullmarkBack => exact pop1_back (Or.inr rfl) b
      | setcountBack => exact pop2_back (Or.inl rfl) b
      | nullcountBack => exact pop2_back (Or.inr (Or.inl rfl)) b
      | setjumpBack => exact pop2_back (Or.inr (Or.inr rfl)) b
      | getmarkBack => exact restore_back (Or.inl ⟨rfl, rfl⟩) b
      | capturemarkBack => exact capturemark_back b
      | forejumpBack => exact forejump_back b
      | branchmarkBack => exact branchmark_back c b hfl
      | lazybranchmarkBack => exact lazybranchmark_back c b hfl
      | branchcountBack => exact branchcount_back c b hfl
      | lazybranchcountBack => exact lazybranchcount_back c b hfl
      | noBack hno => rw [hno] at hfd; cases hfd
    · have ho : o = .lazybranch := Classical.byContradiction fun hne => codepos_ne_zero c hne hpc
      subst ho
      cases hsel with
      | lazybranchBack => exact lazybranch_back_root c hpc ht
      | noBack hno => cases hno

end body

section stepping
variable {p : Prog} {bs : List Nat} {env : Env} {a : Assign}

def TStepOk (p : Prog) (bs : List Nat) (env : Env) (a : Assign) : Outcome → Prop
  | .fault _ => False
  | .stop _ => True
  | .next s' _ => TInv p bs env a s'

theorem fetch_err {pos : Nat} {f : Fault} (h : fetch p pos = .error f) : f.structural = true := by
  unfold fetch at h
  split at h
  · cases h; rfl
  · split at h <;> cases h; rfl

theorem tinv_enter {s' : VMState} {w' : Word} (hinv : Inv p bs env s') (hf : fetch p s'.codepos = .ok w')
    (ho : s'.oper = w')
    (hT : (∃ σ, ChainS p bs env.len a s' σ ∧ Succ a s'.codepos σ) ∨
      (s'.track = [] ∧ ∃ wt, fetch p s'.codepos = .ok wt ∧ Op.ofNat? wt.op = some .stop)) :
    TInv p bs env a s' := by
  obtain ⟨w2, o2, c2, sh2⟩ := hinv
  refine ⟨w2, o2, c2, sh2, ?_⟩
  have hw : w2 = w' := by have := c2.facts.fetch; rw [hf] at this; cases this; rfl
  subst hw
  unfold TShape
  rw [ho, c2.facts.noback, c2.facts.noback2]
  rcases hT with h | ⟨h1, wt, h2, h3⟩
  · exact Or.inl h
  · exact Or.inr (Or.inr ⟨h1, (instr_unique c2.facts h2 h3).2⟩)

/-- `hold` is the frame invariant of the next state; it also says that the fetch succeeds, which the three `error` branches
    use.  Forwards, `TMid` hands over the chain and the accepted type.  `backtrack()` takes the top link off `Good`: its
    `FrameTy` at the current stack and crawl depth, over a chain good for what it leaves, is `BackS` for the resumed
    instruction; the root link leaves the single bottom slot, the second alternative of Back mode -/
theorem tfinish_ok {s : VMState} (s1 : VMState) (e : Exit) (hcp : s1.codepos = s.codepos)
    (hold : StepOk p bs env (finish p (s1, e))) (hT : TMid p bs env.len a s s1 e) :
    TStepOk p bs env a (finish p (s1, e)) := by
  cases e with
  | halt => exact trivial
  | advance i =>
    simp only [finish, doAdvance] at hold ⊢
    cases hf : fetch p (s1.codepos + i + 1) with
    | error f => rw [hf] at hold; simp only [StepOk] at hold; rw [fetch_err hf] at hold; cases hold
    | ok w' =>
      rw [hf] at hold
      obtain ⟨σ, hch, hs⟩ := hT
      exact tinv_enter hold hf rfl (Or.inl ⟨σ, hch, by rw [← hcp] at hs; exact hs⟩)
  | goto t =>
    simp only [finish, doGoto] at hold ⊢
    split
    · next ht => rw [if_pos ht] at hold; cases hold
    · next ht =>
      rw [if_neg ht] at hold
      cases hf : fetch p t.toNat with
      | error f => rw [hf] at hold; simp only [StepOk] at hold; rw [fetch_err hf] at hold; cases hold
      | ok w' =>
        rw [hf] at hold
        refine tinv_enter hold hf rfl ?_
        rcases hT with ⟨σ, hch, hs⟩ | ⟨h1, _, h2⟩
        · exact Or.inl ⟨σ, hch, hs⟩
        · exact Or.inr ⟨h1, h2⟩
  | back =>
    obtain ⟨σ, core, tp, htr, hg, hv, hcap⟩ := hT
    simp only [finish, doBacktrack] at hold ⊢
    generalize hcl : crawlLen s1 = cl at hg
    cases hg with
    | root =>
      rw [htr] at hold ⊢
      simp only [List.cons_append, List.nil_append] at hold ⊢
      have hsp : savedPos 0 = (0, false) := by decide
      simp only [hsp] at hold ⊢
      cases hf : fetch p 0 with
      | error f => rw [hf] at hold; simp only [StepOk] at hold; rw [fetch_err hf] at hold; cases hold
      | ok w' =>
        rw [hf] at hold
        simp only [Bool.false_eq_true, ite_false] at hold ⊢
        obtain ⟨w2, o2, c2, sh2⟩ := hold
        refine ⟨w2, o2, c2, sh2, ?_⟩
        have hw : w2 = w' := by have := c2.facts.fetch; simp only at this; rw [hf] at this; cases this; rfl
        subst hw
        unfold TShape
        simp only [c2.facts.noback2]
        refine Or.inr ⟨?_, tp, rfl⟩
        trivial
    | cons cc o' d rest S τ0 τ' cl0 cl' h1 h2 h3 h4 h5 _hlen h6 =>
      rw [htr] at hold ⊢
      simp only [List.cons_append] at hold ⊢
      obtain ⟨w3, hf3, ho3⟩ := opAt_spec h2
      rw [hf3] at hold ⊢
      simp only at hold ⊢
      obtain ⟨w2, o2, c2, sh2⟩ := hold
      refine ⟨w2, o2, c2, sh2, ?_⟩
      obtain ⟨hw, hoo⟩ := instr_unique c2.facts hf3 ho3
      subst hw hoo
      unfold TShape
      cases hb2 : (savedPos cc).2 with
      | true =>
        simp only [ite_true, c2.facts.noback]
        rw [hb2] at h3 h5
        rw [← hcl] at h5
        exact ⟨d, rest, tp, S, σ, τ', cl', by simp, h3, h4, h5, h6, hv, hcap⟩
      | false =>
        simp only [Bool.false_eq_true, ite_false, c2.facts.noback2]
        rw [hb2] at h3 h5
        rw [← hcl] at h5
        exact Or.inl ⟨d, rest, tp, S, σ, τ', cl', by simp, h3, h4, h5, h6, hv, hcap⟩

/-- **One iteration of the interpreter loop keeps the invariant and raises no fault.** -/
theorem tstep_ok (hty : TypingW p bs a) {s : VMState} (hinv : TInv p bs env a s) :
    TStepOk p bs env a (step p env s) := by
  obtain ⟨w, o, c, hsh, htsh⟩ := hinv
  have hold := step_ok ⟨w, o, c, hsh⟩
  have hb := body_ok c hsh
  have htb := tbody_ok hty c hsh htsh
  cases hbody : body p env s with
  | error f =>
    rw [step_of_body_error _ _ hbody] at hold ⊢
    rw [hbody] at htb
    exact absurd (hold.symm.trans htb) (by decide)
  | ok r =>
    obtain ⟨s1, e⟩ := r
    rw [step_of_body_ok _ _ hbody] at hold ⊢
    rw [hbody] at htb hb
    exact tfinish_ok s1 e hb.1 hold htb

theorem tinit_inv (hwf : WF p bs) (pos : Int) (h0 : 0 ≤ pos) (hn : pos ≤ env.len) :
    ∃ s0, init p pos = .ok s0 ∧ TInv p bs env a s0 ∧ s0.track = [] ∧ s0.stack = [] := by
  obtain ⟨s0, hi, ⟨w, o, c, sh⟩, hcp, htr, hst, hcap, hop⟩ := init_inv (env := env) hwf pos h0 hn
  refine ⟨s0, hi, ⟨w, o, c, sh, ?_⟩, htr, hst⟩
  have hw : w = s0.oper := Except.ok.inj ((hcp ▸ c.facts.fetch).symm.trans hop)
  unfold TShape
  rw [← hw, c.facts.noback, c.facts.noback2]
  exact Or.inr (Or.inl ⟨htr, hst, by rw [hcap], hcp, by rw [hcap]; exact capOk_init _ _⟩)

theorem trun_ok (hty : TypingW p bs a) (fuel : Nat) (s : VMState) (hs : TInv p bs env a s) (f : Fault) :
    (run p env fuel s).1 ≠ .fault f := by
  intro h
  obtain ⟨s1, h1, hf⟩ := run_fault p env
    (fun s s' chk hs h => by have := tstep_ok hty hs; rwa [h] at this) fuel s hs f h
  have := tstep_ok hty h1
  rwa [hf] at this

/-- **a well-formed program with a grouping-stack typing never faults** (`Props.C10.typing_sound`): any text, any start
    position in the text, any number of iterations -/
theorem typed_run_no_fault (p : Prog) (h : p.wf = true) (bs : List Nat) (hb : p.boundaries = some bs)
    (a : StackTyping.Assign) (hty : TypingW p bs a)
    (env : Env) (pos : Int) (h0 : 0 ≤ pos) (hn : pos ≤ env.len) (fuel : Nat) :
    ∃ s0, init p pos = .ok s0 ∧ ∀ f, (run p env fuel s0).1 ≠ .fault f := by
  obtain ⟨bs', hwf⟩ := wf_spec h
  have e : bs' = bs := by have := hwf.bnd; rw [hb] at this; cases this; rfl
  subst e
  obtain ⟨s0, hi, hinv, _⟩ := tinit_inv (env := env) (a := a) hwf pos h0 hn
  exact ⟨s0, hi, trun_ok hty fuel s0 hinv⟩

end stepping

end RegexVerif.Lemmas.StackTypingSound
