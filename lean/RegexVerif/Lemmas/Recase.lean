/-
The re-cased pattern `Spec.recase e ch p` (Model/Recase.lean) has leaf-wise the same character tests as `p`
(`PatTestEq`) when every re-cased *range* keeps its closure under case partners (`RecaseOK`, decidable on the fold
table).  Second half: `Recased e p p'`, the choice-free description of a re-casing, is exactly what `recase`
produces; literals and single class members need no table condition.  `recase_patTestEq` and `recaseOK_members`
quantify the choice function after the pattern, as their inductions need; Props/C20.lean states them with `ch` as an
argument (`recase_patTestEq`, `recaseOK_of_members`).
-/
import RegexVerif.Model.Recase
import RegexVerif.Lemmas.SpecFlip

namespace RegexVerif.Spec

def rangeRunes (p : Nat × Nat) : List Nat := List.range' p.1 (p.2 + 1 - p.1)

/-- the condition on a re-cased range: every rune of `a` is case-equal to a rune of `b` and vice versa, i.e. the two
    ranges have the same closure under case partners -/
def rangeCiEq (e : Env) (a b : Nat × Nat) : Bool :=
  (rangeRunes a).all (fun x => ciRanges e [b] x) && (rangeRunes b).all (fun y => ciRanges e [a] y)

/-- a range that was not changed needs no check (so that `decide` does not enumerate it) -/
def rangeOK (e : Env) (a b : Nat × Nat) : Bool := a == b || rangeCiEq e a b

def rangesOK (e : Env) (ch : Choice) : Nat → List (Nat × Nat) → Bool
  | _, [] => true
  | i, (lo, hi) :: rs =>
    rangeOK e (lo, hi) (recaseRune e (ch [i, 0]) lo, recaseRune e (ch [i, 1]) hi) && rangesOK e ch (i + 1) rs

def clsOK (e : Env) : Choice → Cls → Bool
  | ch, .base _ rs _ => rangesOK e ch 0 rs
  | ch, .diff a b => clsOK e (ch.sub 0) a && clsOK e (ch.sub 1) b

def predOK (e : Env) (ch : Choice) : Pred → Bool
  | .set cls true => clsOK e ch cls
  | _ => true

/-- every range of every ci class of `p` that `ch` re-cases keeps its closure under case partners -/
def recaseOK (e : Env) : Choice → Pat → Bool
  | _, .empty => true
  | _, .nothing => true
  | ch, .chr p => predOK e ch p
  | _, .anchor _ => true
  | ch, .seq a b => recaseOK e (ch.sub 0) a && recaseOK e (ch.sub 1) b
  | ch, .alt a b => recaseOK e (ch.sub 0) a && recaseOK e (ch.sub 1) b
  | ch, .quant _ _ _ body => recaseOK e (ch.sub 0) body
  | ch, .cap _ body => recaseOK e (ch.sub 0) body
  | ch, .look _ _ body => recaseOK e (ch.sub 0) body
  | ch, .atomic body => recaseOK e (ch.sub 0) body
  | _, .ref _ _ => true
  | ch, .refCond _ yes no => recaseOK e (ch.sub 0) yes && recaseOK e (ch.sub 1) no
  | ch, .exprCond c yes no => recaseOK e (ch.sub 0) c && recaseOK e (ch.sub 1) yes && recaseOK e (ch.sub 2) no

def RecaseOK (e : Env) (ch : Choice) (p : Pat) : Prop := recaseOK e ch p = true

instance (e : Env) (ch : Choice) (p : Pat) : Decidable (RecaseOK e ch p) := by unfold RecaseOK; infer_instance

theorem recaseRune_eqCi (e : Env) (b : Bool) (c : Nat) : e.eqCi c (recaseRune e b c) = true := by
  unfold recaseRune
  cases b with
  | false => exact eqCi_refl e c
  | true =>
    simp only [if_true]
    cases h : e.partner c with
    | none => exact eqCi_refl e c
    | some q => exact eqCi_of_partner h

theorem recaseRune_partner {e : Env} {c q : Nat} (h : e.partner c = some q) : recaseRune e true c = q := by
  rw [recaseRune, if_pos rfl, h]

theorem rangeOK_of_ciEq {e : Env} {a b : Nat × Nat} (h : rangeCiEq e a b = true) : rangeOK e a b = true := by
  rw [rangeOK, h, Bool.or_true]

theorem mem_rangeRunes (p : Nat × Nat) (x : Nat) : x ∈ rangeRunes p ↔ p.1 ≤ x ∧ x ≤ p.2 := by
  rw [rangeRunes, List.mem_range'_1]
  omega

theorem rangeCiEq_iff (e : Env) (a b : Nat × Nat) :
    rangeCiEq e a b = true ↔
      (∀ x, a.1 ≤ x → x ≤ a.2 → ∃ y, e.eqCi x y = true ∧ b.1 ≤ y ∧ y ≤ b.2) ∧
      (∀ y, b.1 ≤ y → y ≤ b.2 → ∃ x, e.eqCi y x = true ∧ a.1 ≤ x ∧ x ≤ a.2) := by
  simp only [rangeCiEq, Bool.and_eq_true, List.all_eq_true, mem_rangeRunes, ciRanges_iff, inRanges_single, and_imp]

theorem rangeCiEq_sound {e : Env} (hf : FoldOK e) {a b : Nat × Nat} (h : rangeCiEq e a b = true) (r : Nat) :
    ciRanges e [b] r = ciRanges e [a] r :=
  have h := (rangeCiEq_iff e a b).mp h
  Bool.eq_iff_iff.mpr ⟨ciRanges_single_mono hf h.2 r, ciRanges_single_mono hf h.1 r⟩

theorem rangeCiEq_complete (e : Env) {a b : Nat × Nat} (h : ∀ r, ciRanges e [b] r = ciRanges e [a] r) :
    rangeCiEq e a b = true := by
  refine (rangeCiEq_iff e a b).mpr ⟨fun x h1 h2 => ?_, fun y h1 h2 => ?_⟩
  · have hx := (ciRanges_iff e [a] x).mpr ⟨x, eqCi_refl e x, (inRanges_single a x).mpr ⟨h1, h2⟩⟩
    rw [← h x, ciRanges_iff] at hx
    exact hx.imp fun y hy => ⟨hy.1, (inRanges_single b y).mp hy.2⟩
  · have hy := (ciRanges_iff e [b] y).mpr ⟨y, eqCi_refl e y, (inRanges_single b y).mpr ⟨h1, h2⟩⟩
    rw [h y, ciRanges_iff] at hy
    exact hy.imp fun x hx => ⟨hx.1, (inRanges_single a x).mp hx.2⟩

theorem rangeOK_sound {e : Env} (hf : FoldOK e) {a b : Nat × Nat} (h : rangeOK e a b = true) (r : Nat) :
    ciRanges e [b] r = ciRanges e [a] r := by
  rcases Bool.or_eq_true_iff.mp h with h | h
  · rw [beq_iff_eq.mp h]
  · exact rangeCiEq_sound hf h r

theorem cls_single_mem (e : Env) (neg : Bool) (a : Nat × Nat) (r : Nat) :
    (Cls.base neg [a] []).mem e true r = (ciRanges e [a] r != neg) := by
  unfold ciRanges
  simp only [Cls.mem, inNames, List.any_nil, Bool.or_false, Bool.true_and]
  cases e.partner r <;> rfl

theorem rangeCiEq_single {e : Env} (hf : FoldOK e) {c c' : Nat} (h : e.eqCi c c' = true) :
    rangeCiEq e (c, c) (c', c') = true :=
  (rangeCiEq_iff e _ _).mpr
    ⟨fun _ h1 h2 => Nat.le_antisymm h2 h1 ▸ ⟨c', h, Nat.le_refl _, Nat.le_refl _⟩,
     fun _ h1 h2 => Nat.le_antisymm h2 h1 ▸ ⟨c, eqCi_symm hf h, Nat.le_refl _, Nat.le_refl _⟩⟩

theorem rangeCiEq_symm (e : Env) (a b : Nat × Nat) : rangeCiEq e b a = rangeCiEq e a b :=
  Bool.and_comm _ _

/-- `[A-Z]` ↦ `[a-z]`: both endpoints re-cased together where the partner map is a shift on the range -/
theorem rangeCiEq_shift_up {e : Env} (hf : FoldOK e) {lo hi d : Nat}
    (h : ∀ x, lo ≤ x → x ≤ hi → e.partner x = some (x + d)) :
    rangeCiEq e (lo, hi) (lo + d, hi + d) = true := by
  refine (rangeCiEq_iff e _ _).mpr ⟨fun x h1 h2 => ?_, fun y h1 h2 => ?_⟩
  · exact ⟨x + d, eqCi_of_partner (h x h1 h2), Nat.add_le_add_right h1 d, Nat.add_le_add_right h2 d⟩
  · have hd : d ≤ y := Nat.le_trans (Nat.le_add_left d lo) h1
    have hp := h (y - d) (Nat.le_sub_of_add_le h1) (Nat.sub_le_of_le_add h2)
    rw [Nat.sub_add_cancel hd] at hp
    exact ⟨y - d, eqCi_of_partner (hf.invol _ _ hp), Nat.le_sub_of_add_le h1, Nat.sub_le_of_le_add h2⟩

theorem rangeCiEq_shift_down {e : Env} (hf : FoldOK e) {lo hi d : Nat} (hd : d ≤ lo) (hlh : lo ≤ hi)
    (h : ∀ x, lo ≤ x → x ≤ hi → e.partner x = some (x - d)) :
    rangeCiEq e (lo, hi) (lo - d, hi - d) = true := by
  have hup := rangeCiEq_shift_up hf (lo := lo - d) (hi := hi - d) (d := d) fun x h1 h2 => by
    have hp := h (x + d) (Nat.le_add_of_sub_le h1) (Nat.add_le_of_le_sub (Nat.le_trans hd hlh) h2)
    rw [Nat.add_sub_cancel] at hp
    exact hf.invol _ _ hp
  rwa [rangeCiEq_symm, Nat.sub_add_cancel hd, Nat.sub_add_cancel (Nat.le_trans hd hlh)] at hup

theorem recaseRanges_ciRanges {e : Env} (hf : FoldOK e) (ch : Choice) (rs : List (Nat × Nat)) :
    ∀ (i : Nat), rangesOK e ch i rs = true → ∀ r, ciRanges e (recaseRanges e ch i rs) r = ciRanges e rs r := by
  induction rs with
  | nil => intro i _ r; rfl
  | cons p rs ih =>
    intro i h r
    obtain ⟨lo, hi⟩ := p
    simp only [rangesOK, Bool.and_eq_true] at h
    simp only [recaseRanges]
    rw [ciRanges_cons, ciRanges_cons e (lo, hi), rangeOK_sound hf h.1 r, ih (i + 1) h.2 r]

theorem recaseCls_mem {e : Env} (hf : FoldOK e) (c : Cls) :
    ∀ (ch : Choice), clsOK e ch c = true → ∀ r, (recaseCls e ch c).mem e true r = c.mem e true r := by
  induction c with
  | base neg rs ns =>
    intro ch h r
    exact cls_base_ranges_congr e neg rs _ ns r (recaseRanges_ciRanges hf ch rs 0 h r)
  | diff a b iha ihb =>
    intro ch h r
    have h := Bool.and_eq_true_iff.mp h
    exact cls_diff_congr e true _ _ _ _ r (iha _ h.1 r) (ihb _ h.2 r)

theorem recasePred_test {e : Env} (hf : FoldOK e) (ch : Choice) (p : Pred) (h : predOK e ch p = true) (r : Nat) :
    (recasePred e ch p).test e r = p.test e r := by
  rcases p with ⟨c, _ | _⟩ | ⟨c, _ | _⟩ | ⟨cls, _ | _⟩
  · rfl
  · exact pred_one_flip_pattern hf (recaseRune_eqCi e _ c) r
  · rfl
  · exact pred_notone_flip_pattern hf (recaseRune_eqCi e _ c) r
  · rfl
  · exact recaseCls_mem hf cls ch h r

theorem recase_patTestEq {e : Env} (hf : FoldOK e) (p : Pat) :
    ∀ (ch : Choice), recaseOK e ch p = true → PatTestEq e p (recase e ch p) := by
  induction p with
  | chr p => intro ch h; exact .chr (recasePred_test hf ch p h)
  | _ =>
    intro ch h
    simp only [recaseOK, Bool.and_eq_true] at h
    constructor <;> apply_assumption <;> simp only [h]

theorem recase_allCi (e : Env) (p : Pat) : ∀ (ch : Choice), (recase e ch p).allCi = p.allCi := by
  induction p with
  | chr p => intro ch; rcases p with ⟨c, _ | _⟩ | ⟨c, _ | _⟩ | ⟨cls, _ | _⟩ <;> rfl
  | _ => intro ch; simp only [recase, Pat.allCi, *]

/-! ## `recase` covers every leaf-by-leaf re-casing -/

def RuneRecased (e : Env) (c c' : Nat) : Prop := c' = c ∨ e.partner c = some c'

inductive RangesRecased (e : Env) : List (Nat × Nat) → List (Nat × Nat) → Prop
  | nil : RangesRecased e [] []
  | cons {lo hi lo' hi' : Nat} {rs rs' : List (Nat × Nat)} :
      RuneRecased e lo lo' → RuneRecased e hi hi' → RangesRecased e rs rs' →
      RangesRecased e ((lo, hi) :: rs) ((lo', hi') :: rs')

inductive ClsRecased (e : Env) : Cls → Cls → Prop
  | base (neg : Bool) (ns : List (Nat × Bool)) {rs rs' : List (Nat × Nat)} :
      RangesRecased e rs rs' → ClsRecased e (.base neg rs ns) (.base neg rs' ns)
  | diff {a a' b b' : Cls} : ClsRecased e a a' → ClsRecased e b b' → ClsRecased e (.diff a b) (.diff a' b')

inductive PredRecased (e : Env) : Pred → Pred → Prop
  | one {c c' : Nat} : RuneRecased e c c' → PredRecased e (.one c true) (.one c' true)
  | notone {c c' : Nat} : RuneRecased e c c' → PredRecased e (.notone c true) (.notone c' true)
  | set {cls cls' : Cls} : ClsRecased e cls cls' → PredRecased e (.set cls true) (.set cls' true)
  | same (p : Pred) : PredRecased e p p

/-- `p'` is a re-casing of `p`, stated without a choice function: same shape, and every letter of a case-insensitive
    test (literal, negated literal, each range endpoint) is, each occurrence on its own, the rune or its partner -/
inductive Recased (e : Env) : Pat → Pat → Prop
  | empty : Recased e .empty .empty
  | nothing : Recased e .nothing .nothing
  | chr {p p' : Pred} : PredRecased e p p' → Recased e (.chr p) (.chr p')
  | anchor (a : Anchor) : Recased e (.anchor a) (.anchor a)
  | seq {a a' b b' : Pat} : Recased e a a' → Recased e b b' → Recased e (.seq a b) (.seq a' b')
  | alt {a a' b b' : Pat} : Recased e a a' → Recased e b b' → Recased e (.alt a b) (.alt a' b')
  | quant (lzy : Bool) (lo : Nat) (hi : Option Nat) {b b' : Pat} :
      Recased e b b' → Recased e (.quant lzy lo hi b) (.quant lzy lo hi b')
  | cap (g : Nat) {b b' : Pat} : Recased e b b' → Recased e (.cap g b) (.cap g b')
  | look (behind neg : Bool) {b b' : Pat} : Recased e b b' → Recased e (.look behind neg b) (.look behind neg b')
  | atomic {b b' : Pat} : Recased e b b' → Recased e (.atomic b) (.atomic b')
  | ref (g : Nat) (ci : Bool) : Recased e (.ref g ci) (.ref g ci)
  | refCond (g : Nat) {y y' n n' : Pat} :
      Recased e y y' → Recased e n n' → Recased e (.refCond g y n) (.refCond g y' n')
  | exprCond {c c' y y' n n' : Pat} :
      Recased e c c' → Recased e y y' → Recased e n n' → Recased e (.exprCond c y n) (.exprCond c' y' n')

theorem recaseRune_recased (e : Env) (b : Bool) (c : Nat) : RuneRecased e c (recaseRune e b c) := by
  unfold recaseRune RuneRecased
  cases b with
  | false => exact Or.inl rfl
  | true =>
    simp only [if_true]
    cases h : e.partner c with
    | none => exact Or.inl rfl
    | some q => exact Or.inr rfl

theorem RuneRecased.bit {e : Env} {c c' : Nat} (h : RuneRecased e c c') : ∃ b, c' = recaseRune e b c := by
  rcases h with h | h
  · exact ⟨false, h⟩
  · exact ⟨true, by simp [recaseRune, h]⟩

/-- choice functions glued from the choice functions of the children -/
def Choice.join (f : Nat → Choice) : Choice
  | [] => false
  | i :: path => f i path

theorem Choice.join_sub (f : Nat → Choice) (i : Nat) : (Choice.join f).sub i = f i := rfl

theorem recaseRanges_recased (e : Env) (ch : Choice) (rs : List (Nat × Nat)) :
    ∀ i, RangesRecased e rs (recaseRanges e ch i rs) := by
  induction rs with
  | nil => intro i; exact .nil
  | cons p rs ih =>
    intro i
    obtain ⟨lo, hi⟩ := p
    exact .cons (recaseRune_recased ..) (recaseRune_recased ..) (ih (i + 1))

theorem recaseRanges_congr (e : Env) (ch ch' : Choice) (rs : List (Nat × Nat)) :
    ∀ i, (∀ j k, i ≤ j → ch [j, k] = ch' [j, k]) → recaseRanges e ch i rs = recaseRanges e ch' i rs := by
  induction rs with
  | nil => intro i _; rfl
  | cons p rs ih =>
    intro i h
    obtain ⟨lo, hi⟩ := p
    simp only [recaseRanges]
    rw [h i 0 (Nat.le_refl _), h i 1 (Nat.le_refl _), ih (i + 1) fun j k hj => h j k (Nat.le_of_succ_le hj)]

theorem RangesRecased.choice {e : Env} {rs rs' : List (Nat × Nat)} (h : RangesRecased e rs rs') :
    ∀ i, ∃ ch : Choice, rs' = recaseRanges e ch i rs := by
  induction h with
  | nil => intro i; exact ⟨fun _ => false, rfl⟩
  | @cons lo hi lo' hi' rs rs' hlo hhi _ ih =>
    intro i
    obtain ⟨ch', rfl⟩ := ih (i + 1)
    obtain ⟨b0, rfl⟩ := hlo.bit
    obtain ⟨b1, rfl⟩ := hhi.bit
    refine ⟨fun path => if path = [i, 0] then b0 else if path = [i, 1] then b1 else ch' path, ?_⟩
    have hne : ∀ j k, i + 1 ≤ j → ∀ k', [j, k] ≠ [i, k'] := fun j k hj k' h => by
      cases h; exact Nat.lt_irrefl _ hj
    rw [recaseRanges, if_pos rfl, if_neg (by simp), if_pos rfl]
    exact congrArg _ (recaseRanges_congr e ch' _ rs (i + 1) fun j k hj => by
      simp only [if_neg (hne j k hj 0), if_neg (hne j k hj 1)])

theorem recaseCls_recased (e : Env) (c : Cls) : ∀ ch : Choice, ClsRecased e c (recaseCls e ch c) := by
  induction c with
  | base neg rs ns => intro ch; exact .base neg ns (recaseRanges_recased e ch rs 0)
  | diff a b iha ihb => intro ch; exact .diff (iha _) (ihb _)

theorem ClsRecased.choice {e : Env} {c c' : Cls} (h : ClsRecased e c c') : ∃ ch : Choice, c' = recaseCls e ch c := by
  induction h with
  | base neg ns hr =>
    obtain ⟨ch, rfl⟩ := hr.choice 0
    exact ⟨ch, rfl⟩
  | diff _ _ iha ihb =>
    obtain ⟨cha, rfl⟩ := iha
    obtain ⟨chb, rfl⟩ := ihb
    exact ⟨Choice.join fun i => if i = 0 then cha else chb, rfl⟩

theorem recasePred_recased (e : Env) (ch : Choice) (p : Pred) : PredRecased e p (recasePred e ch p) := by
  rcases p with ⟨c, _ | _⟩ | ⟨c, _ | _⟩ | ⟨cls, _ | _⟩
  · exact .same _
  · exact .one (recaseRune_recased ..)
  · exact .same _
  · exact .notone (recaseRune_recased ..)
  · exact .same _
  · exact .set (recaseCls_recased e cls ch)

def Choice.none : Choice := fun _ => false

theorem Choice.none_sub (i : Nat) : Choice.none.sub i = Choice.none := rfl

theorem recaseRanges_none (e : Env) (rs : List (Nat × Nat)) : ∀ i, recaseRanges e Choice.none i rs = rs := by
  induction rs with
  | nil => intro i; rfl
  | cons p rs ih =>
    intro i
    obtain ⟨lo, hi⟩ := p
    simp only [recaseRanges, ih (i + 1)]
    rfl

theorem recaseCls_none (e : Env) (c : Cls) : recaseCls e Choice.none c = c := by
  induction c with
  | base neg rs ns => simp only [recaseCls, recaseRanges_none]
  | diff a b iha ihb => simp only [recaseCls, Choice.none_sub, iha, ihb]

theorem recasePred_none (e : Env) (p : Pred) : recasePred e Choice.none p = p := by
  rcases p with ⟨c, _ | _⟩ | ⟨c, _ | _⟩ | ⟨cls, _ | _⟩
  case set.true => rw [recasePred, recaseCls_none]
  all_goals rfl

theorem PredRecased.choice {e : Env} {p p' : Pred} (h : PredRecased e p p') : ∃ ch : Choice, p' = recasePred e ch p := by
  cases h with
  | one hc | notone hc =>
    obtain ⟨b, rfl⟩ := hc.bit
    exact ⟨fun _ => b, rfl⟩
  | set hc =>
    obtain ⟨ch, rfl⟩ := hc.choice
    exact ⟨ch, rfl⟩
  | same p => exact ⟨Choice.none, (recasePred_none e p).symm⟩

theorem recase_recased (e : Env) (p : Pat) : ∀ ch : Choice, Recased e p (recase e ch p) := by
  induction p with
  | chr p => intro ch; exact .chr (recasePred_recased e ch p)
  | _ => intro ch; constructor <;> apply_assumption

theorem Recased.choice {e : Env} {p p' : Pat} (h : Recased e p p') : ∃ ch : Choice, p' = recase e ch p := by
  induction h with
  | empty | nothing | anchor _ | ref _ _ => exact ⟨Choice.none, rfl⟩
  | chr hp =>
    obtain ⟨ch, rfl⟩ := hp.choice
    exact ⟨ch, rfl⟩
  | quant _ _ _ _ ih | cap _ _ ih | look _ _ _ ih | atomic _ ih =>
    obtain ⟨ch, rfl⟩ := ih
    exact ⟨Choice.join fun _ => ch, rfl⟩
  | seq _ _ iha ihb | alt _ _ iha ihb | refCond _ _ _ iha ihb =>
    obtain ⟨cha, rfl⟩ := iha
    obtain ⟨chb, rfl⟩ := ihb
    exact ⟨Choice.join fun i => if i = 0 then cha else chb, rfl⟩
  | exprCond _ _ _ ihc ihy ihn =>
    obtain ⟨chc, rfl⟩ := ihc
    obtain ⟨cha, rfl⟩ := ihy
    obtain ⟨chb, rfl⟩ := ihn
    exact ⟨Choice.join fun i => if i = 0 then chc else if i = 1 then cha else chb, rfl⟩

/-! ## literals and single class members need no table condition -/

/-- the two endpoint bits of every range agree: ranges are re-cased as a whole or not at all -/
def Choice.Paired (ch : Choice) : Prop := ∀ (pre : List Nat) (i : Nat), ch (pre ++ [i, 0]) = ch (pre ++ [i, 1])

theorem Choice.Paired.sub {ch : Choice} (h : ch.Paired) (k : Nat) : (ch.sub k).Paired :=
  fun pre i => h (k :: pre) i

/-- every range of every ci class is a single member `(c, c)` -/
def Cls.onlyMembers : Cls → Bool
  | .base _ rs _ => rs.all (fun p => p.1 == p.2)
  | .diff a b => a.onlyMembers && b.onlyMembers

def Pred.onlyMembers : Pred → Bool
  | .set cls true => cls.onlyMembers
  | _ => true

def Pat.onlyMembers : Pat → Bool
  | .empty => true
  | .nothing => true
  | .chr p => p.onlyMembers
  | .anchor _ => true
  | .seq a b => a.onlyMembers && b.onlyMembers
  | .alt a b => a.onlyMembers && b.onlyMembers
  | .quant _ _ _ body => body.onlyMembers
  | .cap _ body => body.onlyMembers
  | .look _ _ body => body.onlyMembers
  | .atomic body => body.onlyMembers
  | .ref _ _ => true
  | .refCond _ yes no => yes.onlyMembers && no.onlyMembers
  | .exprCond c yes no => c.onlyMembers && yes.onlyMembers && no.onlyMembers

theorem rangeOK_member {e : Env} (hf : FoldOK e) (b : Bool) (c : Nat) :
    rangeOK e (c, c) (recaseRune e b c, recaseRune e b c) = true :=
  rangeOK_of_ciEq (rangeCiEq_single hf (recaseRune_eqCi e b c))

theorem rangesOK_members {e : Env} (hf : FoldOK e) {ch : Choice} (hch : ch.Paired) (rs : List (Nat × Nat))
    (h : rs.all (fun p => p.1 == p.2) = true) : ∀ i, rangesOK e ch i rs = true := by
  induction rs with
  | nil => intro i; rfl
  | cons p rs ih =>
    intro i
    obtain ⟨lo, hi⟩ := p
    simp only [List.all_cons, Bool.and_eq_true, beq_iff_eq] at h
    obtain ⟨h1, h2⟩ := h
    subst h1
    have hb : ch [i, 0] = ch [i, 1] := hch [] i
    simp only [rangesOK, hb, rangeOK_member hf, ih h2 (i + 1), Bool.and_self]

theorem clsOK_members {e : Env} (hf : FoldOK e) (c : Cls) :
    ∀ {ch : Choice}, ch.Paired → c.onlyMembers = true → clsOK e ch c = true := by
  induction c with
  | base neg rs ns => intro ch hch h; exact rangesOK_members hf hch rs h 0
  | diff a b iha ihb =>
    intro ch hch h
    simp only [Cls.onlyMembers, Bool.and_eq_true] at h
    simp only [clsOK, iha (hch.sub 0) h.1, ihb (hch.sub 1) h.2, Bool.and_self]

theorem recaseOK_members {e : Env} (hf : FoldOK e) (p : Pat) :
    ∀ {ch : Choice}, ch.Paired → p.onlyMembers = true → recaseOK e ch p = true := by
  induction p with
  | chr p =>
    intro ch hch h
    rcases p with ⟨c, ci⟩ | ⟨c, ci⟩ | ⟨cls, _ | _⟩
    · rfl
    · rfl
    · rfl
    · exact clsOK_members hf cls hch h
  | _ =>
    intro ch hch h
    simp only [Pat.onlyMembers, Bool.and_eq_true] at h
    simp only [recaseOK, Bool.and_eq_true, hch.sub, and_self, *]

end RegexVerif.Spec

namespace RegexVerif.Spec.FlipDemo

/-- `demoPat'` is `demoPat` with every letter re-cased, and its two ranges pass the range check -/
theorem demo_patTestEq (text : List Nat) : PatTestEq (demoEnv text) demoPat demoPat' :=
  (recase_patTestEq (demo_foldOK []) demoPat (fun _ => true) (by decide +kernel)).text text

end RegexVerif.Spec.FlipDemo

/-! ## a concrete instance for the non-vacuity examples: letters a/A b/B c/C x/X -/
namespace RegexVerif.Spec.RecaseDemo

def env (text : List Nat) : Env :=
  { text := text, textstart := 0, named := [], word := [97, 98, 99, 120, 65, 66, 67, 88, 95],
    fold := [(97, 65), (65, 97), (98, 66), (66, 98), (99, 67), (67, 99), (120, 88), (88, 120)] }

theorem foldOK (text : List Nat) : FoldOK (env text) := foldOK_of_check rfl

/-- `(?i)[a-c-[b]]x` -/
def pat : Pat :=
  .seq (.chr (.set (.diff (.base false [(97, 99)] []) (.base false [(98, 98)] [])) true)) (.chr (.one 120 true))

/-- `(?i)[A-C-[B]]X` -/
def patUpper : Pat :=
  .seq (.chr (.set (.diff (.base false [(65, 67)] []) (.base false [(66, 66)] [])) true)) (.chr (.one 88 true))

/-- `(?i)[A-c-[b]]x` : only the lower endpoint of the range re-cased -/
def patMixed : Pat :=
  .seq (.chr (.set (.diff (.base false [(65, 99)] []) (.base false [(98, 98)] [])) true)) (.chr (.one 120 true))

def all : Choice := fun _ => true

/-- only the lower endpoint of range 0 of the left operand of the subtraction in the first element of the
    concatenation (path `[0, 0]`, then `[0, 0]` = range 0, lower endpoint) -/
def loOnly : Choice := fun path => path == [0, 0, 0, 0]

/-- `(?i)[^a-b]+` -/
def negPat : Pat := .quant false 1 none (.chr (.set (.base true [(97, 98)] []) true))
/-- `(?i)[^A-B]+` -/
def negPatUpper : Pat := .quant false 1 none (.chr (.set (.base true [(65, 66)] []) true))

/-- "Ax" -/
def tAx : List Nat := [65, 120]
/-- "bx" -/
def tbx : List Nat := [98, 120]
/-- "_x" -/
def tUx : List Nat := [95, 120]
/-- "xCaB" -/
def tNeg : List Nat := [120, 67, 97, 66]
/-- "XcAb" -/
def tNeg' : List Nat := [88, 99, 65, 98]

end RegexVerif.Spec.RecaseDemo
