/-
The capture pre-scan (`countCaptures`) is total: every turn of its loop consumes at least one rune, never pops an empty
options stack, and keeps `capnames ≠ nil → capnamelist ≠ []` (what `assignNameSlots` indexes).  Its cases are run in the
position calculus under `Guar.names`, the options stack tracked in the state.
-/
import RegexVerif.Lemmas.ParserCharSet

namespace RegexVerif.Parser

variable (E : Env)

theorem wp_assignNameSlots (s : PS) (h : NamesOK s.g) (Q : Groups.Tables → PS → Prop) (R : PS → Prop)
    (hq : ∀ t, Q t s) : wp (assignNameSlots E) Q R s := by
  unfold NamesOK at h
  unfold wp assignNameSlots
  by_cases ho : E.ord = true
  · simp only [ho, if_true]
    exact hq _
  · have hn : ¬(s.g.capnames.isSome = true ∧ s.g.capnamelist.isEmpty = true) := by
      intro ⟨h1, h2⟩
      exact h h1 (by simpa using h2)
    simp only [ho, hn, if_false, Bool.false_eq_true]
    exact hq _

theorem namesOK_initState : NamesOK Groups.initState := by
  unfold NamesOK
  simp [Groups.initState]

/-! ## The cases of `countStep` -/

theorem scansK_countNamed (o : Opts) : ScansK E 2 (countNamed E o) := by
  refine ScansK.of_run fun q σ hq => ?_
  unfold countNamed
  run_steps
  · run_call scans_scanDecimal E
    · run_call scans_noteCaptureName E _
    · run_call scans_noteCaptureSlot E _
  · run_call scans_scanCapname E
    run_call scans_noteCaptureName E _

theorem scansK_countPython : ScansK E 3 (countPython E) := by
  refine ScansK.of_run fun q σ hq => ?_
  unfold countPython
  run_steps
  run_call scans_scanCapname E
  run_call scans_noteCaptureName E _

theorem scans_countPlain : Scans E countPlain := by
  refine Scans.of_run fun q σ hq => ?_
  unfold countPlain
  run_steps
  run_call scans_noteCaptureSlot E _

/-! ## `(?…` and `(` in the pre-scan -/

/-- `(?` followed by inline options, the options pushed -/
theorem run_countOptions (q : Nat) (σ : PS) (hq : q ≤ E.pat.length) (ho : σ.optionsStack ≠ []) :
    Run .names E q (countOptions E >>= pure) q σ (fun _ s' => q ≤ s'.pos) := by
  unfold countOptions
  run_steps
  run_call scans_scanOptions E
  rename_i hf
  run_peek .andM fun _ => .rcIs (by omega)
  · refine Run.names_popKeepOptions (by rw [frame_os hf]; exact ho) ?_
    run_steps
  run_peek .andM fun _ => .rcIs (by omega)

theorem run_countQuestion (o : Opts) (q : Nat) (σ : PS) (hq : q + 1 ≤ E.pat.length) (ho : σ.optionsStack ≠ []) :
    Run .names E q (countQuestion E o >>= pure) q σ (fun _ s' => q ≤ s'.pos) := by
  unfold countQuestion
  run_steps
  run_still .rightCharIf (by omega)
  · run_call scansK_countNamed E o
  run_peek .andM fun _ => .rcIs (by omega)
  · run_call scansK_countPython E
  · run_call run_countOptions E (q + 1) σ (by omega) ho

/-- from just after the first rune of a comment -/
theorem run_countComment {Γ : Guar} (q : Nat) (σ : PS) (hq : q ≤ E.pat.length) (h1 : 1 ≤ q)
    (h : BlankAt E { σ with pos := q - 1 }) :
    Run Γ E q (countComment E >>= pure) q σ (fun _ s' => q ≤ s'.pos) := by
  unfold Run Run.From countComment
  simp only [wp_bind, wp_moveLeft, wp_pure]
  refine ⟨h1, ?_⟩
  apply wp_ignoreErr
  -- at a blank `scanBlank` consumes at least one rune
  refine wp_scanBlank_moves E _ (by dsimp only; omega) _ _ fun p' _ h2 h3 => ?_
  have := h3 h
  dsimp only at this
  have hG : Γ.G σ { σ with pos := p' } := Γ.start σ p'
  exact ⟨⟨⟨hG, h2⟩, by dsimp only; omega⟩, ⟨⟨hG, h2⟩, by dsimp only; omega⟩⟩

/-- `(` (consumed) -/
theorem run_countParen (o : Opts) (q : Nat) (σ : PS) (hq : q ≤ E.pat.length) (h1 : 1 ≤ q)
    (hc : E.pat[q - 1]? = some 40) :
    Run .names E q (countParen E o >>= pure) q σ (fun _ s' => q ≤ s'.pos) := by
  unfold countParen
  run_steps
  refine Peek.run (.andM fun _ => .andMM (.rcIs (by omega)) fun _ => .rcIs (by omega)) (by omega)
    (fun ⟨_, h35, h63⟩ => ?_) ?_
  · -- `(?#`
    have e1 : q - 1 + 1 = q + 0 := by omega
    have e2 : q - 1 + 2 = q + 1 := by omega
    run_call run_countComment E q σ hq h1 (Or.inr ⟨hc, e1 ▸ h63, e2 ▸ h35⟩)
  refine Run.names_pushOptions ?_
  run_steps
  run_peek .andM fun _ => .rcIs (by omega)
  · run_call run_countQuestion E o q _ (by omega) (List.cons_ne_nil _ _)
  · run_call scans_countPlain E

theorem run_countStep (q : Nat) (σ : PS) (hq : q < E.pat.length) :
    Run .names E (q + 1) (countStep E >>= pure) q σ (fun _ s' => q + 1 ≤ s'.pos) := by
  unfold countStep
  run_steps
  · run_call (scans_scanBackslash E true).toF E (q + 1) |>.ignoreErr
  · rename_i c hc _ h35 hx
    run_call run_countComment E (q + 1) σ (by omega) (by omega) (Or.inl ⟨hx, c, hc, Or.inr h35⟩)
  · run_call (scans_scanCharSet E false true).toF E (q + 1) |>.ignoreErr
  · rename_i hne
    refine Run.names_popOptions (by intro h; simp [h] at hne) fun _ => ?_
    run_steps
  · rename_i c hc _ _ _ _ h40
    run_call run_countParen E σ.options (q + 1) σ (by omega) (by omega) (by simpa [h40] using hc)

/-- what a turn of the pre-scan keeps: position at or after the floor, inside the pattern, names -/
structure AdvC (p : Nat) (s s' : PS) : Prop where
  floor : p ≤ s'.pos
  inside : s'.pos ≤ E.pat.length
  names : NamesOK s.g → NamesOK s'.g

theorem wp_countStep (s : PS) (hs : s.pos < E.pat.length) :
    wp (countStep E) (fun _ s' => AdvC E (s.pos + 1) s s') (AdvC E (s.pos + 1) s) s :=
  wp_mono (run_countStep E s.pos s hs).toFrom (fun _ _ h => ⟨h.2, h.1.2, h.1.1⟩)
    (fun _ h => ⟨(h rfl).2.1, (h rfl).2.2, (h rfl).1⟩)

theorem wp_countCaptures (s : PS) (hs : s.pos ≤ E.pat.length) (n : Nat) (hn : E.pat.length - s.pos < n) :
    wp (countCaptures E n) (fun _ s' => s'.pos ≤ E.pat.length) (fun _ => True) s := by
  unfold countCaptures
  simp only [wp_bind, wp_modify]
  refine wp_iter E _ (fun _ s' => s'.pos ≤ E.pat.length ∧ NamesOK s'.g) _ _ ?_ _ _ _ (by dsimp only; omega)
    ⟨hs, namesOK_initState⟩
  intro _ s1 ⟨h1, h2⟩
  simp only [wp_bind, wp_charsRight, wp_ite, wp_pure]
  refine ⟨fun _ => wp_assignNameSlots E s1 h2 _ _ (fun _ => h1), fun h0 => ?_⟩
  refine wp_mono (wp_countStep E s1 (by omega)) ?_ (fun _ _ => trivial)
  intro _ s2 h
  exact ⟨⟨h.inside, h.names h2⟩, by have := h.floor; have := h.inside; omega⟩

end RegexVerif.Parser
