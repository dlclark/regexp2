/-
Capacity of the grouping stack (`runstack`) and of the crawl stack (`runcrawl`), for Props/C13, section 6.

The per-case push table `spushMax` is the regenerated fingerprint `Generated.Opcodes.stackPushSlots` and bounds every case
of `VM.body`; the allocation arithmetic of Model/Capacity.lean, part (c), says what one doubling gives.

The potential argument of the backtracking stack does NOT carry over: the Back / Back2 cases push the grouping stack (they
restore what the forward case popped) and leave by `backtrack()`, which re-checks the storage only when it lands on a
smaller code position; several frames of the same instruction may be resumed in a row without any check.  What bounds the
grouping stack is its typing (Props/C10): forwards its height is that of the type assigned to the current instruction, and a
frame is resumed with a stack at most two slots higher than the type assigned to its instruction (`Good.cons`, premise
`τ.length ≤ S.length + 2`).  Hence `tstep_height`: with types of height ≤ `H` the grouping stack never holds more than
`H + 2` slots (`Props.C13.vm_stack_no_overflow`).
-/
import RegexVerif.Lemmas.StackTypingStep
import RegexVerif.Lemmas.VMCapacity

namespace RegexVerif.Lemmas.StackCapacity
open RegexVerif RegexVerif.Code RegexVerif.VM RegexVerif.StackTyping RegexVerif.Lemmas.VM
open RegexVerif.Lemmas.StackTypingSound RegexVerif.Generated

/-- most grouping-stack slots the case `(o, m)` of the model pushes (`spush` 1, `spush2` 2) -/
def spushMax : Op → Mode → Nat
  | .setmark, .fwd | .nullmark, .fwd | .branchmark, .fwd => 1
  | .setcount, .fwd | .nullcount, .fwd | .setjump, .fwd | .branchcount, .fwd | .lazybranchcount, .fwd => 2
  | .getmark, .back | .capturemark, .back | .lazybranchmark, .back => 1
  | .branchcount, .back | .lazybranchcount, .back => 2
  | .branchmark, .back2 | .lazybranchmark, .back2 => 1
  | .branchcount, .back2 | .lazybranchcount, .back2 => 2
  | _, _ => 0

def _root_.RegexVerif.VM.Mode.flag : Mode → Nat
  | .fwd => 0 | .back => 1 | .back2 => 2

/-- the regenerated table entry of the case label `op | flag` (0 when runner.go has no such case) -/
def genStackPush (op flag : Nat) : Nat :=
  ((Opcodes.stackPushSlots.find? (fun e => e.1 == op && e.2.1 == flag)).map (·.2.2)).getD 0

/-- **the model's per-case bound is the fingerprint regenerated from runner.go**: the `stackPush`/`stackPush2` slots on the
    worst path of the Go `case` -/
theorem spushMax_eq_generated : ∀ (o : Op) (m : Mode), spushMax o m = genStackPush o.toNat m.flag := by
  have h : ∀ o : Op, ∀ m ∈ [Mode.fwd, .back, .back2], spushMax o m = genStackPush o.toNat m.flag :=
    VMCapacity.forall_op (by decide +kernel)
  intro o m
  exact h o m (by cases m <;> simp)

def SLenOk (s : VMState) (W : Nat) : Res → Prop
  | .error _ => True
  | .ok (s1, _) => s1.stack.length ≤ s.stack.length + W

section rules
variable {s : VMState} {W : Nat} {α : Type}

theorem slen_error (f : Fault) : SLenOk s W (.error f) ↔ True := Iff.rfl

theorem slen_ok (s1 : VMState) (e : Exit) : SLenOk s W (.ok (s1, e)) ↔ s1.stack.length ≤ s.stack.length + W :=
  Iff.rfl

theorem slen_pure (x : VMState × Exit) : SLenOk s W (pure x) ↔ SLenOk s W (.ok x) := Iff.rfl

theorem slen_bind (x : M α) (f : α → Res) : SLenOk s W (x >>= f) ↔ ∀ a, x = .ok a → SLenOk s W (f a) := by
  cases x with
  | error e => simp [bind, Except.bind, SLenOk]
  | ok a => simp [bind, Except.bind]

theorem slen_map (x : M α) (f : α → VMState × Exit) :
    SLenOk s W (x.map f) ↔ ∀ a, x = .ok a → SLenOk s W (.ok (f a)) := by
  cases x with
  | error e => simp [Except.map, SLenOk]
  | ok a => simp [Except.map]

theorem slen_assertion (b : Bool) : SLenOk s W (.ok (assertion s b)) ↔ True := by
  cases b <;> simp [assertion, SLenOk]

theorem slen_ite {c : Prop} [Decidable c] (x y : Res) :
    SLenOk s W (if c then x else y) ↔ (c → SLenOk s W x) ∧ (¬ c → SLenOk s W y) := by
  split <;> simp [*]

end rules

/-- a case body is `bind`s and `if`s around states built from `s` by the push primitives: push `SLenOk` through them to
    the lengths of the final stacks -/
macro "slen_tac" : tactic => `(tactic|
  simp only [slen_bind, slen_map, slen_ite, slen_pure, slen_ok, slen_error, slen_assertion, push0, push1, push2, push3,
    pushNeg1, pushNeg2, spush, spush2, textto, List.length_cons, Nat.add_zero, Nat.add_assoc, Nat.le_refl,
    Nat.le_add_right, Nat.add_le_add_iff_left, Nat.reduceAdd, Nat.reduceLeDiff, implies_true, and_true, true_and,
    and_self, *])

section percase
variable {p : Prog} {env : Env} {s : VMState} {sel : Nat} {m : Int} {a b : Bool} {w : Nat → Bool}

theorem caseChar_slen : SLenOk s 0 (caseChar p env sel s) := by
  unfold caseChar; slen_tac
theorem caseRep_slen : SLenOk s 0 (caseRep p env sel s) := by
  unfold caseRep; slen_tac
theorem caseLoop_slen :
    SLenOk s 0 (caseLoop p env sel a s) := by
  unfold caseLoop; slen_tac
theorem caseLoopBack_slen : SLenOk s 0 (caseLoopBack s) := by
  unfold caseLoopBack; split <;> slen_tac
theorem caseLazy_slen : SLenOk s 0 (caseLazy p env s) := by
  unfold caseLazy; slen_tac
theorem caseLazyBack_slen :
    SLenOk s 0 (caseLazyBack p env sel s) := by
  unfold caseLazyBack; split <;> slen_tac
theorem caseMulti_slen : SLenOk s 0 (caseMulti p env s) := by
  unfold caseMulti; slen_tac
  -- left: the `match`es on the string table and on the outcome of `runematch`
  intro i _ _
  split <;> slen_tac
  intro r _
  split <;> slen_tac
theorem caseRef_slen : SLenOk s 0 (caseRef p env s) := by
  unfold caseRef; slen_tac
  -- left: the branch of a matched group, over the outcome `r` of `refmatch`
  intro capnum _ matched _ _ r _
  split <;> slen_tac
theorem caseTestref_slen : SLenOk s 0 (caseTestref p s) := by
  unfold caseTestref; slen_tac

theorem assertion_slen : SLenOk s 0 (.ok (assertion s b)) := (slen_assertion b).2 trivial
theorem caseBol_slen : SLenOk s 0 (caseBol env s) := by
  unfold caseBol; slen_tac
theorem caseEol_slen : SLenOk s 0 (caseEol env s) := by
  unfold caseEol; slen_tac
theorem caseBoundary_slen :
    SLenOk s 0 (caseBoundary env w b s) := by
  unfold caseBoundary; slen_tac
theorem caseEndZ_slen : SLenOk s 0 (caseEndZ env s) := by
  unfold caseEndZ; slen_tac

theorem caseGoto_slen : SLenOk s 0 (caseGoto p s) := by
  unfold caseGoto; slen_tac
theorem caseLazybranchBack_slen : SLenOk s 0 (caseLazybranchBack p s) := by
  unfold caseLazybranchBack; split <;> slen_tac
theorem casePop1Back_slen : SLenOk s 0 (casePop1Back s) := by
  unfold casePop1Back; split <;> slen_tac
theorem casePop2Back_slen : SLenOk s 0 (casePop2Back s) := by
  unfold casePop2Back; split <;> slen_tac

theorem texttoStack_stack {env : Env} {s s' : VMState} {v : Int} (h : texttoStack env s v = .ok s') :
    s'.stack = s.stack := by
  unfold texttoStack at h
  split at h
  · cases h; rfl
  · cases h

theorem restoreMark_stack {s s' : VMState} (h : restoreMark s = .ok s') : s'.stack.length = s.stack.length + 1 := by
  unfold restoreMark at h
  split at h
  · cases h; simp [spush]
  · cases h

theorem uncapture_stack {s s' : VMState} (h : uncapture s = .ok s') : s'.stack = s.stack := by
  have := uncapture_ok s
  rw [h] at this
  exact this.2.2.2.2

theorem uncaptureTo_stack {t : Int} {fuel : Nat} {s s' : VMState} (h : uncaptureTo t fuel s = .ok s') :
    s'.stack = s.stack := by
  have := uncaptureTo_ok t fuel s
  rw [h] at this
  exact this.2.2.2.2

theorem trackto_stack {p : Prog} {s s' : VMState} {n : Int} (h : trackto p s n = .ok s') : s'.stack = s.stack := by
  unfold trackto at h
  split at h
  · split at h
    · cases h
    · cases h; rfl
    · cases h
  · cases h

theorem caseGetmark_slen : SLenOk s 0 (caseGetmark env s) := by
  unfold caseGetmark; split <;> slen_tac
  intro s' h; rw [texttoStack_stack h]; exact Nat.le_succ _

theorem caseRestoreBack_slen : SLenOk s 1 (caseRestoreBack s) := by
  unfold caseRestoreBack; slen_tac
  intro s' h; exact Nat.le_of_eq (restoreMark_stack h)

theorem caseCapturemark_slen : SLenOk s 0 (caseCapturemark p s) := by
  unfold caseCapturemark; slen_tac
  -- left: the `match` on the grouping stack, reached once with and once without the `isMatched` test
  intro c0 _ c1 _
  constructor
  · intro _ unmatched _ _
    split <;> slen_tac
  · intro _ _
    split <;> slen_tac

theorem caseCapturemarkBack_slen : SLenOk s 1 (caseCapturemarkBack p s) := by
  unfold caseCapturemarkBack; slen_tac
  intro c0 _ c1 _ s1 h1 s2 h2
  have l1 := restoreMark_stack h1
  have l2 := uncapture_stack h2
  refine ⟨fun _ s3 h3 => ?_, fun _ => ?_⟩
  · rw [uncapture_stack h3, l2]; omega
  · rw [l2]; omega

theorem caseBranchmark_slen : SLenOk s 1 (caseBranchmark p s) := by
  unfold caseBranchmark; split <;> slen_tac
theorem caseBranchmarkBack_slen : SLenOk s 0 (caseBranchmarkBack s) := by
  unfold caseBranchmarkBack; split <;> slen_tac
theorem caseLazybranchmark_slen : SLenOk s 0 (caseLazybranchmark s) := by
  unfold caseLazybranchmark; split <;> slen_tac
theorem caseLazybranchmarkBack_slen : SLenOk s 1 (caseLazybranchmarkBack p s) := by
  unfold caseLazybranchmarkBack; split <;> slen_tac
theorem caseLazybranchmarkBack2_slen : SLenOk s 1 (caseLazybranchmarkBack2 s) := by
  unfold caseLazybranchmarkBack2; split <;> slen_tac
  -- left: the inner `match` on the grouping stack when the frame asks for a pop
  intro _
  split <;> slen_tac
theorem caseSetcount_slen : SLenOk s 2 (caseSetcount p m s) := by
  unfold caseSetcount; slen_tac
theorem caseBranchcount_slen : SLenOk s 2 (caseBranchcount p s) := by
  unfold caseBranchcount; split <;> slen_tac

theorem caseBranchcountBack_slen : SLenOk s 2 (caseBranchcountBack env s) := by
  unfold caseBranchcountBack; split <;> slen_tac
  intro _ s' h; simp only [texttoStack_stack h]; omega

theorem caseBranchcountBack2_slen : SLenOk s 2 (caseBranchcountBack2 s) := by
  unfold caseBranchcountBack2; split <;> slen_tac
theorem caseLazybranchcount_slen : SLenOk s 2 (caseLazybranchcount p s) := by
  unfold caseLazybranchcount; split <;> slen_tac
theorem caseLazybranchcountBack_slen : SLenOk s 2 (caseLazybranchcountBack p s) := by
  unfold caseLazybranchcountBack; split <;> slen_tac
theorem caseLazybranchcountBack2_slen : SLenOk s 2 (caseLazybranchcountBack2 s) := by
  unfold caseLazybranchcountBack2; split <;> slen_tac
theorem caseSetjump_slen : SLenOk s 2 (caseSetjump s) := by
  unfold caseSetjump; slen_tac

theorem caseBackjump_slen : SLenOk s 0 (caseBackjump p s) := by
  unfold caseBackjump; split <;> slen_tac
  intro s1 h1 s2 h2; simp only [uncaptureTo_stack h2, trackto_stack h1]; omega

theorem caseForejump_slen : SLenOk s 0 (caseForejump p s) := by
  unfold caseForejump; split <;> slen_tac
  intro s1 h1; simp only [trackto_stack h1]; omega

theorem caseForejumpBack_slen : SLenOk s 0 (caseForejumpBack s) := by
  unfold caseForejumpBack; split <;> slen_tac
  intro s2 h2; rw [uncaptureTo_stack h2]; exact Nat.le_refl _

theorem caseUpdateBumpalong_slen : SLenOk s 0 (caseUpdateBumpalong s) := by
  unfold caseUpdateBumpalong; split <;> slen_tac

end percase

/-- **every case of the switch lets the grouping stack grow by at most its table entry** -/
theorem body_slen (p : Prog) (env : Env) (s : VMState) (o : Op) (m : Mode) (hop : Op.ofNat? s.oper.op = some o)
    (hm : modeOf s.oper = some m) : SLenOk s (spushMax o m) (body p env s) := by
  have hsel := body_selects p env hop hm
  generalize body p env s = r at hsel ⊢
  cases hsel with
  | stop | nothing => simp [SLenOk]
  | lazybranch => simp [SLenOk, push1]
  | setmark | nullmark => simp [SLenOk, push0, spush, spushMax]
  | onerep | notonerep | setrep => exact caseRep_slen
  | oneloop | notoneloop | setloop | oneloopatomic | notoneloopatomic | setloopatomic => exact caseLoop_slen
  | onelazy | notonelazy | setlazy => exact caseLazy_slen
  | one | notone | set => exact caseChar_slen
  | multi => exact caseMulti_slen
  | ref => exact caseRef_slen
  | bol => exact caseBol_slen
  | eol => exact caseEol_slen
  | boundary | nonboundary | ecmaboundary | nonecmaboundary => exact caseBoundary_slen
  | beginning | start | end_ => exact assertion_slen
  | endz => exact caseEndZ_slen
  | goto => exact caseGoto_slen
  | testref => exact caseTestref_slen
  | getmark => exact caseGetmark_slen
  | capturemark => exact caseCapturemark_slen
  | branchmark => exact caseBranchmark_slen
  | lazybranchmark => exact caseLazybranchmark_slen
  | setcount | nullcount => exact caseSetcount_slen
  | branchcount => exact caseBranchcount_slen
  | lazybranchcount => exact caseLazybranchcount_slen
  | setjump => exact caseSetjump_slen
  | backjump => exact caseBackjump_slen
  | forejump => exact caseForejump_slen
  | updatebumpalong => exact caseUpdateBumpalong_slen
  | oneloopBack | notoneloopBack | setloopBack => exact caseLoopBack_slen
  | onelazyBack | notonelazyBack | setlazyBack => exact caseLazyBack_slen
  | lazybranchBack => exact caseLazybranchBack_slen
  | branchmarkBack => exact caseBranchmarkBack_slen
  | lazybranchmarkBack => exact caseLazybranchmarkBack_slen
  | nullcountBack | setcountBack | setjumpBack => exact casePop2Back_slen
  | nullmarkBack | setmarkBack => exact casePop1Back_slen
  | branchcountBack => exact caseBranchcountBack_slen
  | lazybranchcountBack => exact caseLazybranchcountBack_slen
  | capturemarkBack => exact caseCapturemarkBack_slen
  | getmarkBack | branchmarkBack2 => exact caseRestoreBack_slen
  | forejumpBack => exact caseForejumpBack_slen
  | lazybranchmarkBack2 => exact caseLazybranchmarkBack2_slen
  | branchcountBack2 => exact caseBranchcountBack2_slen
  | lazybranchcountBack2 => exact caseLazybranchcountBack2_slen
  | prune | noBack _ | noBack2 _ => exact trivial

section arithmetic
open Capacity

theorem stackAlloc0_ge (tc : Nat) : 32 ≤ stackAlloc0 tc ∧ tc * 8 ≤ stackAlloc0 tc := by
  unfold stackAlloc0; simp only; split <;> omega

theorem stackEnsure_ge (tc len used : Nat) : len ≤ stackEnsure tc len used := by
  unfold stackEnsure doubleLen; split <;> omega

/-- **one doubling is enough as soon as the slice is at least `4·tc` long** (and it is: `stackAlloc0 tc ≥ 8·tc`, and
    the length never shrinks): after the `if` of `ensureStorage`, `4·tc` slots are free -/
theorem stackEnsure_spec {tc len used : Nat} (h1 : tc * 4 ≤ len) (h2 : used ≤ len) :
    used + tc * 4 ≤ stackEnsure tc len used := by
  unfold stackEnsure doubleLen; split <;> omega

theorem stackEnsure_idle {tc len used : Nat} (h : used + tc * 4 ≤ len) : stackEnsure tc len used = len := by
  unfold stackEnsure; rw [if_neg (by omega)]

theorem stackEnsurePlus_ge (tc len used plus : Nat) : len ≤ stackEnsurePlus tc len used plus := by
  unfold stackEnsurePlus doubleLen; split <;> omega

/-- `crawl(i)` on a non-empty slice always finds (or makes) a free slot -/
theorem crawlPush_spec {len used : Nat} (h0 : 0 < len) (h : used ≤ len) :
    ∃ len', crawlPush len used = some (len', used + 1) ∧ len ≤ len' ∧ used + 1 ≤ len' ∧ (used < len → len' = len) := by
  unfold crawlPush doubleLen
  by_cases hf : len - used = 0
  · have : used = len := by omega
    subst this
    refine ⟨used * 2, ?_, by omega, by omega, by omega⟩
    simp only [hf, ite_true]
    rw [if_neg (by omega)]
  · refine ⟨len, ?_, by omega, by omega, fun _ => rfl⟩
    simp only [hf, ite_false]

theorem crawlPushN_spec : ∀ (n len used : Nat), 0 < len → used ≤ len →
    ∃ len', crawlPushN n len used = some (len', used + n) ∧ len ≤ len' ∧ used + n ≤ len'
  | 0, len, used, _, h => ⟨len, rfl, Nat.le_refl _, h⟩
  | n + 1, len, used, h0, h => by
    obtain ⟨l1, e1, g1, u1, _⟩ := crawlPush_spec h0 h
    obtain ⟨l2, e2, g2, u2⟩ := crawlPushN_spec n l1 (used + 1) (by omega) u1
    refine ⟨l2, ?_, by omega, by omega⟩
    simp only [crawlPushN, e1]
    rw [e2]
    congr 2
    omega

end arithmetic

/-- every assigned type has height at most `H` -/
def HBound (a : Assign) (H : Nat) : Prop := ∀ q S, a.get q = some S → S.length ≤ H

section height
variable {p : Prog} {bs : List Nat} {env : Env} {a : Assign} {H : Nat}

theorem vals_length {n : Int} : ∀ {st : List Int} {τ : RTy}, Vals n st τ → st.length = τ.length
  | [], [], _ => rfl
  | _ :: _, _ :: _, h => by simp [vals_length h.2]
  | [], _ :: _, h => h.elim
  | _ :: _, [], h => h.elim

theorem good_height {n : Int} {core : List Int} {τ : RTy} {cl : Int} (hH : HBound a H)
    (hg : Good p bs n a core τ cl) : τ.length ≤ H + 2 := by
  cases hg with
  | root => simp
  | cons c o d rest S τ0 τ' cl0 cl' h1 h2 h3 h4 hft hlen hg' => have := hH _ _ h4; omega

theorem chainS_height {n : Int} {s1 : VMState} {σ : RTy} (hH : HBound a H) (h : ChainS p bs n a s1 σ) :
    s1.stack.length ≤ H + 2 := by
  obtain ⟨core, tp, _, hg, hv, _⟩ := h
  rw [vals_length hv]
  exact good_height hH hg

/-- entering an instruction forwards, the stack has the height of the type assigned to it, hence at most `H` slots -/
theorem succ_height {n : Int} {s1 : VMState} {σ : RTy} {q : Nat} (hH : HBound a H) (h : ChainS p bs n a s1 σ)
    (hs : Succ a q σ) : s1.stack.length ≤ H := by
  obtain ⟨core, tp, _, _, hv, _⟩ := h
  obtain ⟨S, hS, hsub⟩ := hs
  rw [vals_length hv, sub_len hsub]
  exact hH _ _ hS

theorem finish_stack {s1 s' : VMState} {e : Exit} {chk : Bool} (h : finish p (s1, e) = .next s' chk) :
    s'.stack = s1.stack := by
  cases e with
  | halt => simp [finish] at h
  | advance i =>
    simp only [finish, doAdvance] at h
    split at h
    · cases h
    · cases h; rfl
  | goto t =>
    simp only [finish, doGoto] at h
    split at h
    · cases h
    · split at h
      · cases h
      · cases h; rfl
  | back =>
    simp only [finish, doBacktrack] at h
    split at h
    · cases h
    · split at h
      · cases h
      · cases h; rfl

/-- **one iteration keeps the grouping stack within `H + 2` slots**, whatever the case does — forward, Back or Back2 -/
theorem tstep_height (hty : TypingW p bs a) (hH : HBound a H) {s s' : VMState} {chk : Bool}
    (hinv : TInv p bs env a s) (hs : s.stack.length ≤ H + 2) (hstep : step p env s = .next s' chk) :
    s'.stack.length ≤ H + 2 := by
  obtain ⟨w, o, c, hsh, htsh⟩ := hinv
  have htb := tbody_ok hty c hsh htsh
  cases hbody : body p env s with
  | error f => rw [step_of_body_error _ _ hbody] at hstep; cases hstep
  | ok r =>
    obtain ⟨s1, e⟩ := r
    rw [step_of_body_ok _ _ hbody] at hstep
    rw [hbody] at htb
    rw [finish_stack hstep]
    cases e with
    | halt => simp [finish] at hstep
    | advance i => obtain ⟨σ, hch, _⟩ := htb; exact chainS_height hH hch
    | back => obtain ⟨σ, hch⟩ := htb; exact chainS_height hH hch
    | goto t =>
      rcases htb with ⟨σ, hch, _⟩ | ⟨_, h1, _⟩
      · exact chainS_height hH hch
      · rw [h1]; exact hs

end height

theorem step_slen {p : Prog} {env : Env} {s s' : VMState} {chk : Bool} {o : Op} {m : Mode} (hop : Op.ofNat? s.oper.op = some o)
    (hm : modeOf s.oper = some m) (h : step p env s = .next s' chk) :
    s'.stack.length ≤ s.stack.length + spushMax o m := by
  have hl := body_slen p env s o m hop hm
  cases hbody : body p env s with
  | error f => rw [step_of_body_error _ _ hbody] at h; cases h
  | ok r =>
    obtain ⟨s1, e⟩ := r
    rw [step_of_body_ok _ _ hbody] at h
    rw [hbody] at hl
    rw [finish_stack h]
    exact hl

/-- the largest height of an assigned type; `StackTyping.maxHeight p` is `maxH (assignOf p)` by definition -/
def maxH (a : Assign) : Nat := a.foldl (fun m t => match t with | some σ => max m σ.length | none => m) 0

theorem foldl_maxH_ge (l : List (Option STy)) : ∀ m : Nat,
    m ≤ l.foldl (fun m t => match t with | some σ => max m σ.length | none => m) m ∧
      ∀ S, some S ∈ l → S.length ≤ l.foldl (fun m t => match t with | some σ => max m σ.length | none => m) m := by
  induction l with
  | nil => intro m; exact ⟨Nat.le_refl _, fun S h => by cases h⟩
  | cons x xs ih =>
    intro m
    cases x with
    | none =>
      obtain ⟨h1, h2⟩ := ih m
      exact ⟨h1, fun S hS => h2 S (by simpa using hS)⟩
    | some σ =>
      obtain ⟨h1, h2⟩ := ih (max m σ.length)
      refine ⟨Nat.le_trans (Nat.le_max_left _ _) h1, fun S hS => ?_⟩
      rcases List.mem_cons.mp hS with e | h'
      · cases e; exact Nat.le_trans (Nat.le_max_right _ _) h1
      · exact h2 S h'

/-- an assignment is a finite table: its types have a largest height -/
theorem hbound_maxH (a : Assign) : HBound a (maxH a) := by
  intro q S h
  unfold Assign.get at h
  cases hq : a[q]? with
  | none => rw [hq] at h; cases h
  | some x =>
    rw [hq] at h
    simp only [Option.getD_some] at h
    subst h
    have hm : some S ∈ a.toList := by
      rw [Array.mem_toList_iff]
      exact Array.mem_of_getElem? hq
    unfold maxH
    rw [← Array.foldl_toList]
    exact (foldl_maxH_ge a.toList 0).2 S hm

end RegexVerif.Lemmas.StackCapacity
