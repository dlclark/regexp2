/-
Compiler correctness: the single-character repeaters —
`Onerep/Notonerep/Setrep` (the fixed part) and `Oneloop/Onelazy/Oneloopatomic` with their Notone / Set variants (the
variable part) — in either direction `d`: with the Rtl bit (`d = true`) `forwardchars` is the text position,
`forwardcharnext` reads the rune before it and `bump` is -1.  Positions are written with `dist`, `adv`
and `runLenD`; the direction is split only in the few facts that tie these to the interpreter's primitives (`adv_cast`, `forwardchars_eq`, `next_spec`).
-/
import RegexVerif.Lemmas.CompileStep
import RegexVerif.Lemmas.CompileLoopSpec

namespace RegexVerif.Compile
open RegexVerif.VM RegexVerif.Code RegexVerif.Writer RegexVerif.Generated.Opcodes RegexVerif RegexVerif.Spec
open RegexVerif.Lemmas.Scan (dist)  -- Lemmas/Dir.lean

theorem loopTypes_lt : ∀ t ∈ charloopTypes ++ setloopTypes, t < 64 := by decide

/-- which predicate family a loop node type belongs to: 0 One, 1 Notone, 2 Set -/
def selOf (t : Nat) : Nat :=
  if t == opOneloop || t == opOnelazy || t == opOneloopatomic then 0
  else if t == opNotoneloop || t == opNotonelazy || t == opNotoneloopatomic then 1 else 2

theorem body_rep {p : Prog} {env : VM.Env} {r sel : Nat}
    (hr : (r = opOnerep ∧ sel = 0) ∨ (r = opNotonerep ∧ sel = 1) ∨ (r = opSetrep ∧ sel = 2)) {s : VMState} {d ci : Bool}
    (hs : s.oper = ⟨r, d, false, false, ci⟩) : VM.body p env s = VM.caseRep p env sel s := by
  unfold VM.body
  rw [hs]
  rcases hr with ⟨rfl, rfl⟩ | ⟨rfl, rfl⟩ | ⟨rfl, rfl⟩ <;> rfl

theorem body_loopType {p : Prog} {env : VM.Env} {t : Nat} (ht : t ∈ charloopTypes ++ setloopTypes) {s : VMState}
    {d back ci : Bool} (hs : s.oper = ⟨t, d, back, false, ci⟩) :
    VM.body p env s =
      if back then
        if isAtomicT t then .error .unknownOp
        else if isLazyT t then VM.caseLazyBack p env (selOf t) s else VM.caseLoopBack s
      else if isLazyT t then VM.caseLazy p env s else VM.caseLoop p env (selOf t) (isAtomicT t) s := by
  unfold VM.body
  rw [hs]
  simp only [charloopTypes, setloopTypes, List.mem_append, List.mem_cons, List.not_mem_nil, or_false] at ht
  rcases ht with (rfl | rfl | rfl | rfl | rfl | rfl) | (rfl | rfl | rfl) <;> cases back <;> rfl

theorem frame_loopType : ∀ t ∈ charloopTypes ++ setloopTypes, isAtomicT t = false →
    (Op.ofNat? t).bind (fun o => VM.frameData o false) = some 2 := by decide

section loops
variable {X : Setup} {TPx : TP} {sets : List (List Nat)} {a : Nat} {T S : List Int} {C : List (Nat × Nat × Nat)} {v : Int}

theorem loop_frame {t : Nat} (ht : t ∈ charloopTypes ++ setloopTypes) (hat : isAtomicT t = false) {d ci : Bool} {x c : Int}
    (hia : InstrAt X.p a (i2 (t ||| bits d ci) x c)) (u v : Int) : Framed X.p [(a : Int), u, v] :=
  frame_pos (hia.fetch_bits rfl (loopTypes_lt t ht)) [u, v] (frame_loopType t ht hat)

/-- `bump()` under direction bit `d` -/
def sg (d : Bool) : Int := if d then -1 else 1

theorem bump_mk (pc : Nat) (w : Word) (tp : Int) (tr st : List Int) (cap : MatchBuilder.Runner) :
    VM.bump ⟨pc, w, tp, tr, st, cap⟩ = sg w.rtl := rfl

theorem adv_cast {d : Bool} {n i k : Nat} (hk : k ≤ dist d n i) : ((adv d i k : Nat) : Int) = (i : Int) + sg d * (k : Int) := by
  cases d <;> simp only [adv, dist, sg, Bool.false_eq_true, if_false, if_true] at hk ⊢ <;> omega

theorem adv_cast_pred {d : Bool} {n i k : Nat} (hk : k + 1 ≤ dist d n i) :
    ((adv d i (k + 1) : Nat) : Int) - sg d = ((adv d i k : Nat) : Int) := by
  cases d <;> simp only [adv, dist, sg, Bool.false_eq_true, if_false, if_true] at hk ⊢ <;> omega

theorem forwardchars_eq (hrel : EnvRel TPx sets X.env X.se) {i : Nat} (hi : i ≤ X.se.n) (pc : Nat) (w : Word)
    (tr st : List Int) (cap : MatchBuilder.Runner) :
    VM.forwardchars X.env ⟨pc, w, (i : Int), tr, st, cap⟩ = (dist w.rtl X.se.n i : Int) := by
  simp only [VM.forwardchars, dist, env_len hrel]
  split <;> omega

/-- `forwardcharnext` reads the rune that decides whether the run of a predicate goes on -/
theorem next_spec (hrel : EnvRel TPx sets X.env X.se) {pred : Nat → Bool} {P : Pred} (hpr : ∀ r, pred r = P.test X.se r)
    (d : Bool) {i : Nat} (hi : i ≤ X.se.n) (h : 0 < dist d X.se.n i) :
    ∃ c, VM.forwardcharnext X.env d (i : Int) = .ok (c, ((adv d i 1 : Nat) : Int)) ∧
      runLenD X.se P d i = if pred c then runLenD X.se P d (adv d i 1) + 1 else 0 := by
  cases d
  · obtain ⟨c, hc, hch⟩ := charAt_lt hrel i (by simp only [dist, Bool.false_eq_true, if_false] at h; omega)
    exact ⟨c, by simp [VM.forwardcharnext, Except.map, adv, hch], by rw [hpr]; exact runLenD_step X.se P false hi h hc⟩
  · have h0 : 0 < i := h
    obtain ⟨c, hc, hch⟩ := charAt_lt hrel (i - 1) (by omega)
    have e : (i : Int) - 1 = ((i - 1 : Nat) : Int) := by omega
    exact ⟨c, by simp [VM.forwardcharnext, Except.map, adv, e, hch], by rw [hpr]; exact runLenD_step X.se P true hi h hc⟩

/-- the `for` loop of the single-character instructions counts the run of the predicate, up to `k` -/
theorem scan_spec (hrel : EnvRel TPx sets X.env X.se) {pred : Nat → Bool} {P : Pred} (hpr : ∀ r, pred r = P.test X.se r)
    (d : Bool) : ∀ (k i : Nat), i ≤ X.se.n → k ≤ dist d X.se.n i →
      VM.scan X.env pred d k (i : Int) = .ok (min k (runLenD X.se P d i)) := by
  intro k
  induction k with
  | zero => intro i _ _; simp [VM.scan]
  | succ k ih =>
    intro i hi hk
    obtain ⟨c, hfn, hrun⟩ := next_spec hrel hpr d hi (by omega)
    unfold VM.scan
    simp only [hfn, hrun]
    by_cases hp : pred c = true
    · rw [if_pos hp, if_pos hp, ih _ (adv_le hi (by omega)) (by rw [dist_adv (by omega)]; omega)]
      simp only [Except.map, Except.ok.injEq]
      omega
    · rw [if_neg hp, if_neg hp]
      simp

/-- `Onerep / Notonerep / Setrep  x lo`: exactly `lo` characters of the predicate -/
theorem rep_delivers (hrel : EnvRel TPx sets X.env X.se) {i : Nat} {s : VMState} (hi : i ≤ X.se.n)
    (he : Entry X a i (T ++ [v]) S C s) {r sel lo : Nat} {d ci : Bool} {x : Int} {P : Pred}
    (hr : (r = opOnerep ∧ sel = 0) ∨ (r = opNotonerep ∧ sel = 1) ∨ (r = opSetrep ∧ sel = 2))
    (hia : InstrAt X.p a (i2 (r ||| bits d ci) x (lo : Int))) (hpred : PredOk X sel x P)
    (hf : ∃ w, VM.fetch X.p (a + 3) = .ok w) :
    Delivers X (a + 3) T S S C (if lo ≤ runLenD X.se P d i then [⟨adv d i lo, C⟩] else []) s := by
  obtain ⟨pred, hcp, hpr⟩ := hpred
  obtain ⟨cap, rfl, hc⟩ := he.eqBits hia rfl (by rcases hr with ⟨rfl, _⟩ | ⟨rfl, _⟩ | ⟨rfl, _⟩ <;> decide)
  have hR := runLenD_le X.se P d hi
  have hcase := body_rep (p := X.p) (env := X.env) hr (s := ⟨a, ⟨r, d, false, false, ci⟩, i, T ++ [v], S, cap⟩) rfl
  simp only [VM.caseRep, bind, Except.bind, hia.operand_at 1 _ rfl, hia.operand_at 0 _ rfl, hcp, forwardchars_eq hrel hi,
    Int.toNat_natCast, pure, Except.pure] at hcase
  by_cases hfit : lo ≤ dist d X.se.n i
  · have hfc : ¬ ((dist d X.se.n i : Nat) : Int) < (lo : Int) := by omega
    simp only [if_neg hfc, scan_spec hrel hpr d lo i hi hfit] at hcase
    by_cases hrun : lo ≤ runLenD X.se P d i
    · rw [if_pos hrun]
      rw [Nat.min_eq_left hrun, if_neg (Nat.lt_irrefl _)] at hcase
      exact deliver_one (k := 2) he hcase (adv_cast hfit).symm hf
    · rw [if_neg hrun]
      rw [if_pos (by omega)] at hcase
      exact deliver_none he hcase
  · rw [if_neg (by omega)]
    rw [if_pos (by omega)] at hcase
    exact deliver_none he hcase

/-- backtracking into the frame `(pos = adv d i j, count = j)` of a greedy loop: the loop gives the characters back one
    at a time -/
theorem loopBack_delivers {i t : Nat} (ht : t ∈ charloopTypes ++ setloopTypes) (hat : isAtomicT t = false)
    (hlz : isLazyT t = false) {d ci : Bool} {x c : Int} (hia : InstrAt X.p a (i2 (t ||| bits d ci) x c))
    (hf : ∃ w, VM.fetch X.p (a + 3) = .ok w) :
    ∀ (j : Nat) (v : Int) (s : VMState), j ≤ dist d X.se.n i →
      FailAt X ((a : Int) :: ((adv d i j : Nat) : Int) :: (j : Int) :: (T ++ [v])) S C s →
      Delivers X (a + 3) T S S C (downFrom d i j C) s := by
  have hw := hia.fetch_bits rfl (loopTypes_lt t ht)
  have hbody : ∀ (tp q k : Int) (tr : List Int) (cap : MatchBuilder.Runner),
      VM.body X.p X.env ⟨a, ⟨t, d, true, false, ci⟩, tp, q :: k :: tr, S, cap⟩ =
        .ok (if k > 0 then VM.push2 ⟨a, ⟨t, d, true, false, ci⟩, q, tr, S, cap⟩ (k - 1) (q - sg d)
          else ⟨a, ⟨t, d, true, false, ci⟩, q, tr, S, cap⟩, .advance 2) := by
    intro tp q k tr cap
    rw [body_loopType ht rfl, hat, hlz]
    simp only [if_true, Bool.false_eq_true, if_false, VM.caseLoopBack]
    split <;> rfl
  intro j
  induction j with
  | zero =>
    intro v s _ hfail
    rw [adv_zero] at hfail
    obtain ⟨tp, cap, chk, hst, hc⟩ := fail_back hfail hw
    rw [downFrom_zero]
    have hb := hbody tp (i : Nat) (0 : Nat) (T ++ [v]) cap
    rw [if_neg (by omega)] at hb
    exact Delivers.of_step hst (Delivers.single (v := v) (leads_of_advance hb hf rfl hc) rfl)
  | succ j ih =>
    intro v s hj hfail
    obtain ⟨tp, cap, chk, hst, hc⟩ := fail_back hfail hw
    rw [downFrom_succ]
    have hb := hbody tp (adv d i (j + 1) : Nat) (j + 1 : Nat) (T ++ [v]) cap
    rw [if_pos (by omega), adv_cast_pred hj, show ((j + 1 : Nat) : Int) - 1 = (j : Int) by omega] at hb
    exact Delivers.of_step hst (Delivers.cons (v := v) [(a : Int), ((adv d i j : Nat) : Int), (j : Int)]
      (loop_frame ht hat hia _ _) (leads_of_advance hb hf rfl hc) fun s'' v' hf'' => ih v' s'' (by omega) hf'')

/-- `Oneloop / Notoneloop / Setloop  x cmax` and the atomic variants: as many characters of the predicate as there
    are, up to `cmax` -/
theorem loop_delivers (hrel : EnvRel TPx sets X.env X.se) {i : Nat} {s : VMState} (hi : i ≤ X.se.n)
    (he : Entry X a i (T ++ [v]) S C s) {t cmax : Nat} {d ci : Bool} {x : Int} {P : Pred}
    (ht : t ∈ charloopTypes ++ setloopTypes) (hlz : isLazyT t = false)
    (hia : InstrAt X.p a (i2 (t ||| bits d ci) x (cmax : Int))) (hpred : PredOk X (selOf t) x P)
    (hf : ∃ w, VM.fetch X.p (a + 3) = .ok w) :
    Delivers X (a + 3) T S S C (kindList d t i (min cmax (runLenD X.se P d i)) C) s := by
  obtain ⟨pred, hcp, hpr⟩ := hpred
  obtain ⟨cap, rfl, hc⟩ := he.eqBits hia rfl (loopTypes_lt t ht)
  have hR := runLenD_le X.se P d hi
  have hcase := body_loopType (p := X.p) (env := X.env) ht (s := ⟨a, ⟨t, d, false, false, ci⟩, i, T ++ [v], S, cap⟩) rfl
  have hce : (if (cmax : Int) > (dist d X.se.n i : Nat) then ((dist d X.se.n i : Nat) : Int) else (cmax : Int)) =
      ((min cmax (dist d X.se.n i) : Nat) : Int) := by split <;> omega
  have hsc := scan_spec hrel hpr d (min cmax (dist d X.se.n i)) i hi (Nat.min_le_right _ _)
  rw [show min (min cmax (dist d X.se.n i)) (runLenD X.se P d i) = min cmax (runLenD X.se P d i) by omega] at hsc
  have hka : min cmax (runLenD X.se P d i) ≤ dist d X.se.n i := by omega
  generalize min cmax (runLenD X.se P d i) = k at hsc hka ⊢
  simp only [Bool.false_eq_true, if_false, hlz, VM.caseLoop, bind, Except.bind, hia.operand_at 1 _ rfl, hia.operand_at 0 _ rfl,
    hcp, forwardchars_eq hrel hi, hce, Int.toNat_natCast, hsc, pure, Except.pure, VM.textto, bump_mk, ← adv_cast hka] at hcase
  unfold kindList
  rw [hlz]
  cases hat : isAtomicT t with
  | true =>
    rw [hat, if_neg (by simp)] at hcase
    exact deliver_one (k := 2) he hcase rfl hf
  | false =>
    rw [hat] at hcase
    simp only [Bool.false_eq_true, if_false]
    cases k with
    | zero =>
      rw [downFrom_zero]
      rw [if_neg (by simp), adv_zero] at hcase
      exact deliver_one (k := 2) he hcase rfl hf
    | succ k =>
      rw [downFrom_succ]
      rw [if_pos (by simp), adv_cast_pred hka, show ((k + 1 : Nat) : Int) - 1 = (k : Int) by omega] at hcase
      exact Delivers.cons (v := v) [(a : Int), ((adv d i k : Nat) : Int), (k : Int)] (loop_frame ht hat hia _ _)
        (leads_of_advance hcase hf rfl hc) fun s'' v' hf'' => loopBack_delivers ht hat hlz hia hf k v' s'' (by omega) hf''

/-- backtracking into the frame `(pos = q, count = j)` of a lazy loop: one more character, if it is there -/
theorem lazyBack_delivers (hrel : EnvRel TPx sets X.env X.se) {t : Nat} (ht : t ∈ charloopTypes ++ setloopTypes)
    (hlz : isLazyT t = true) {d ci : Bool} {x c : Int} {P : Pred} (hia : InstrAt X.p a (i2 (t ||| bits d ci) x c))
    (hpred : PredOk X (selOf t) x P) (hf : ∃ w, VM.fetch X.p (a + 3) = .ok w) :
    ∀ (j q : Nat) (v : Int) (s : VMState), q ≤ X.se.n → j + 1 ≤ dist d X.se.n q →
      FailAt X ((a : Int) :: (q : Int) :: (j : Int) :: (T ++ [v])) S C s →
      Delivers X (a + 3) T S S C (upFrom d q (min (j + 1) (runLenD X.se P d q)) C) s := by
  obtain ⟨pred, hcp, hpr⟩ := hpred
  have hat : isAtomicT t = false := (kinds_excl t ht).resolve_right (by rw [hlz]; decide)
  have hw := hia.fetch_bits rfl (loopTypes_lt t ht)
  -- the iteration after `backtrack()`: the next rune is read and tested
  have hbody : ∀ (tp : Int) (q j : Nat) (tr : List Int) (cap : MatchBuilder.Runner), q ≤ X.se.n → 0 < dist d X.se.n q →
      ∃ c, runLenD X.se P d q = (if pred c then runLenD X.se P d (adv d q 1) + 1 else 0) ∧
        VM.body X.p X.env ⟨a, ⟨t, d, true, false, ci⟩, tp, (q : Int) :: (j : Int) :: tr, S, cap⟩ =
          .ok (if pred c then
              (if (j : Int) > 0 then VM.push2 ⟨a, ⟨t, d, true, false, ci⟩, (adv d q 1 : Nat), tr, S, cap⟩ ((j : Int) - 1)
                  ((adv d q 1 : Nat) : Int)
                else ⟨a, ⟨t, d, true, false, ci⟩, (adv d q 1 : Nat), tr, S, cap⟩, .advance 2)
            else (⟨a, ⟨t, d, true, false, ci⟩, (adv d q 1 : Nat), tr, S, cap⟩, .back)) := by
    intro tp q j tr cap hq hj
    obtain ⟨c, hfn, hrun⟩ := next_spec hrel (P := P) hpr d hq hj
    refine ⟨c, hrun, ?_⟩
    rw [body_loopType ht rfl, hat, hlz]
    simp only [if_true, Bool.false_eq_true, if_false, VM.caseLazyBack, bind, Except.bind, hia.operand_at 0 _ rfl, hcp, hfn,
      pure, Except.pure, bump_mk, adv_cast (show 1 ≤ dist d X.se.n q from hj), Int.natCast_one,
      Int.mul_one]
    -- both sides branch on `pred c`, then on `j > 0`; in every branch they are the same state
    split
    · split <;> rfl
    · rfl
  intro j
  induction j with
  | zero =>
    intro q v s hq hj hfail
    obtain ⟨tp, cap, chk, hst, hc⟩ := fail_back hfail hw
    obtain ⟨c, hrun, hb⟩ := hbody tp q 0 (T ++ [v]) cap hq (by omega)
    refine Delivers.of_step hst ?_
    rw [hrun]
    cases hp : pred c with
    | true =>
      rw [hp, if_pos rfl, if_neg (by omega)] at hb
      rw [if_pos rfl, show min (0 + 1) (runLenD X.se P d (adv d q 1) + 1) = 0 + 1 by omega, upFrom_succ]
      exact Delivers.single (r := ⟨adv d q 1, C⟩) (v := v) (leads_of_advance hb hf rfl hc) rfl
    | false =>
      rw [hp, if_neg Bool.false_ne_true] at hb
      rw [if_neg Bool.false_ne_true]
      exact Delivers.fail (v := v) (Leads.here ⟨_, hb, rfl, rfl, hc⟩)
  | succ j ih =>
    intro q v s hq hj hfail
    obtain ⟨tp, cap, chk, hst, hc⟩ := fail_back hfail hw
    obtain ⟨c, hrun, hb⟩ := hbody tp q (j + 1) (T ++ [v]) cap hq (by omega)
    refine Delivers.of_step hst ?_
    rw [hrun]
    cases hp : pred c with
    | true =>
      rw [hp, if_pos rfl, if_pos (by omega), show ((j + 1 : Nat) : Int) - 1 = (j : Int) by omega] at hb
      rw [if_pos rfl, show min (j + 1 + 1) (runLenD X.se P d (adv d q 1) + 1) = min (j + 1) (runLenD X.se P d (adv d q 1)) + 1
        by omega, upFrom_succ]
      exact Delivers.cons (v := v) [(a : Int), ((adv d q 1 : Nat) : Int), (j : Int)] (loop_frame ht hat hia _ _)
        (leads_of_advance hb hf rfl hc) fun s'' v' hf'' =>
          ih (adv d q 1) v' s'' (adv_le hq (by omega)) (by rw [dist_adv (by omega)]; omega) hf''
    | false =>
      rw [hp, if_neg Bool.false_ne_true] at hb
      rw [if_neg Bool.false_ne_true]
      exact Delivers.fail (v := v) (Leads.here ⟨_, hb, rfl, rfl, hc⟩)

/-- `Onelazy / Notonelazy / Setlazy  x cmax`: first no character, then one more at a time -/
theorem lazy_delivers (hrel : EnvRel TPx sets X.env X.se) {i : Nat} {s : VMState} (hi : i ≤ X.se.n)
    (he : Entry X a i (T ++ [v]) S C s) {t cmax : Nat} {d ci : Bool} {x : Int} {P : Pred}
    (ht : t ∈ charloopTypes ++ setloopTypes) (hlz : isLazyT t = true)
    (hia : InstrAt X.p a (i2 (t ||| bits d ci) x (cmax : Int))) (hpred : PredOk X (selOf t) x P)
    (hf : ∃ w, VM.fetch X.p (a + 3) = .ok w) :
    Delivers X (a + 3) T S S C (kindList d t i (min cmax (runLenD X.se P d i)) C) s := by
  have hat : isAtomicT t = false := (kinds_excl t ht).resolve_right (by rw [hlz]; decide)
  obtain ⟨cap, rfl, hc⟩ := he.eqBits hia rfl (loopTypes_lt t ht)
  have hR := runLenD_le X.se P d hi
  have hcase := body_loopType (p := X.p) (env := X.env) ht (s := ⟨a, ⟨t, d, false, false, ci⟩, i, T ++ [v], S, cap⟩) rfl
  have hce : (if (cmax : Int) > (dist d X.se.n i : Nat) then ((dist d X.se.n i : Nat) : Int) else (cmax : Int)) =
      ((min cmax (dist d X.se.n i) : Nat) : Int) := by split <;> omega
  simp only [Bool.false_eq_true, if_false, hlz, if_true, VM.caseLazy, bind, Except.bind, hia.operand_at 1 _ rfl,
    forwardchars_eq hrel hi, hce, pure, Except.pure] at hcase
  have hca : min cmax (dist d X.se.n i) ≤ dist d X.se.n i := Nat.min_le_right _ _
  unfold kindList
  rw [hat, hlz, show min cmax (runLenD X.se P d i) = min (min cmax (dist d X.se.n i)) (runLenD X.se P d i) by omega]
  simp only [Bool.false_eq_true, if_false, if_true]
  generalize min cmax (dist d X.se.n i) = c at hcase hca ⊢
  cases c with
  | zero =>
    rw [if_neg (by simp)] at hcase
    rw [show upFrom d i (min 0 (runLenD X.se P d i)) C = [] by simp [upFrom]]
    exact deliver_one (k := 2) he hcase rfl hf
  | succ c =>
    rw [if_pos (by omega), show ((c + 1 : Nat) : Int) - 1 = (c : Int) by omega] at hcase
    exact Delivers.cons (v := v) [(a : Int), (i : Int), (c : Int)] (loop_frame ht hat hia _ _)
      (leads_of_advance hcase hf rfl hc) fun s'' v' hf'' => lazyBack_delivers hrel ht hlz hia hpred hf c i v' s'' hi hca hf''

theorem charloop_families : ∀ t ∈ charloopTypes,
    (isOneFamily t = true ∧ selOf t = 0 ∧ isNotoneFamily t = false) ∨
    (isOneFamily t = false ∧ selOf t = 1 ∧ isNotoneFamily t = true) := by decide

theorem setloop_family : ∀ t ∈ setloopTypes, selOf t = 2 := by decide

/-- **a single-character loop node**: `rep x m` (when `m > 0`) followed by `t x (n − m)` (when `n > m`) -/
theorem loopnode_delivers (hrel : EnvRel TPx sets X.env X.se) (hN : X.se.n ≤ 2147483647) {i : Nat} {s : VMState}
    (hwf : St.wf X.se.n ⟨i, C⟩) (he : Entry X a i (T ++ [v]) S C s) {t r : Nat} {d ci : Bool} {x m n : Int} {P : Pred}
    (ht : t ∈ charloopTypes ++ setloopTypes)
    (hr : (r = opOnerep ∧ selOf t = 0) ∨ (r = opNotonerep ∧ selOf t = 1) ∨ (r = opSetrep ∧ selOf t = 2))
    (h0 : 0 ≤ m) (hmn : m ≤ n) (hn : n ≤ maxInt32)
    (hcode : CodeAt X.p a ((if m > 0 then [i2 (r ||| bits d ci) x m] else []) ++
      (if n > m then [i2 (t ||| bits d ci) x (repArg m n)] else [])))
    (hpred : (m > 0 ∨ n > m) → PredOk X (selOf t) x P) :
    Delivers X (a + repLen m n) T S S C (Spec.m X.se (loopPat t m n (.chr P)) d ⟨i, C⟩) s := by
  have hi : i ≤ X.se.n := hwf.1
  rw [m_loopPat_dir X.se ht P d i C h0 hmn hn hN hwf]
  have hR := runLenD_le X.se P d hi
  have hlen1 : codeLen (if m > 0 then [i2 (r ||| bits d ci) x m] else []) = if m > 0 then 3 else 0 := by
    split <;> rfl
  have hmid : Delivers X (a + (if m > 0 then 3 else 0)) T S S C
      (if m.toNat ≤ runLenD X.se P d i then [(⟨adv d i m.toNat, C⟩ : St)] else []) s := by
    have hc1 := hcode.left'
    by_cases hm : m > 0
    · rw [if_pos hm] at hc1 ⊢
      have hia := hc1.instr
      rw [← Int.toNat_of_nonneg h0] at hia
      exact rep_delivers hrel hi he hr hia (hpred (Or.inl hm)) hc1.fetch_end
    · rw [if_neg hm, show m.toNat = 0 by omega, adv_zero]
      exact Delivers.single (Leads.here he) rfl
  refine (Delivers.bind (X := X) (b := a + (if m > 0 then 3 else 0) + (if n > m then 3 else 0)) _ s hmid ?_).cast
    (by unfold repLen; omega) rfl
  intro r' hr' F s' v' _ he'
  obtain ⟨rfl, hlo⟩ : r' = ⟨adv d i m.toNat, C⟩ ∧ m.toNat ≤ runLenD X.se P d i := by
    split at hr'
    · next h => exact ⟨List.mem_singleton.1 hr', h⟩
    · cases hr'
  have hi' : adv d i m.toNat ≤ X.se.n := adv_le hi (by omega)
  have hc2 := hcode.drop _ rfl (congrArg (a + ·) hlen1)
  by_cases hnm : n > m
  · rw [if_pos hnm] at hc2 ⊢
    have hia := hc2.instr
    rw [← show (((repArg m n).toNat : Nat) : Int) = repArg m n by unfold repArg maxInt32 at *; split <;> omega] at hia
    have hfe := hc2.fetch_end
    rw [show varMax m n = (repArg m n).toNat by simp [varMax, hnm]]
    cases hlz : isLazyT t
    · exact loop_delivers hrel hi' he' ht hlz hia (hpred (Or.inr hnm)) hfe
    · exact lazy_delivers hrel hi' he' ht hlz hia (hpred (Or.inr hnm)) hfe
  · rw [if_neg hnm, show varMax m n = 0 by simp [varMax, hnm]]
    simp only [Nat.zero_min, kindList_zero, Nat.add_zero]
    exact Delivers.single (v := v') (Leads.here he') rfl

end loops

end RegexVerif.Compile
