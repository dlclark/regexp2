/-
One step of the two accumulator passes of the reducer, `joinGo` (adjacent strings of a concatenation) and
`mergeGo` (adjacent letters of an alternation), as case principles: the node read is dropped, appended to what
has been emitted, or combined with the last emitted node.
-/
import RegexVerif.Model.RewriteDecisions

namespace RegexVerif.RewriteDecisions
open RegexVerif.Spec

theorem joinGo_cases (rtl : Bool) (out : List RNode) (w : Bool) (nd : RNode) (rest : List RNode) {P : List RNode → Prop}
    (drop : nd = .empty → P (joinGo rtl out w rest))
    (keep : nd ≠ .empty → ∀ w', P (joinGo rtl (out ++ [nd]) w' rest))
    (join : ∀ {last po ps o s}, out.getLast? = some last → strOf last = some (po, ps) → strOf nd = some (o, s) →
      P (joinGo rtl (out.dropLast ++ [.multi po (if rtl then s ++ ps else ps ++ s)]) true rest)) :
    P (joinGo rtl out w (nd :: rest)) := by
  unfold joinGo
  split
  · exact drop rfl
  · rename_i hne
    split
    · exact keep hne _
    · rename_i hs
      split
      · exact keep hne _
      · split
        · rename_i hl
          obtain ⟨last, hl, hls⟩ := Option.bind_eq_some_iff.mp hl
          exact join hl hls hs
        · exact keep hne _

theorem mergeGo_cases (ll : Bool) (out : List RNode) (w c : Bool) (nd : RNode) (rest : List RNode) {P : List RNode → Prop}
    (drop : nd = .nothing → P (mergeGo ll out w c rest))
    (keep : nd ≠ .nothing → ∀ w' c', P (mergeGo ll (out ++ [nd]) w' c' rest))
    (merge : ∀ {po o : Nat} {pp p2 : CP} {S s : Cls} (c' : Bool), nd = .chr o p2 → letterCls p2 = some S →
      out.getLast? = some (.chr po pp) →
      ((letterCls pp).bind fun s0 => if ll || clsDisjoint s0 S then mergeCls s0 S else none) = some s →
      P (mergeGo ll (out.dropLast ++ [.chr (mergedOpts po pp) (.set s)]) true c' rest)) :
    P (mergeGo ll out w c (nd :: rest)) := by
  simp only [mergeGo]
  split
  · exact drop rfl
  · split
    · exact keep nofun _ _
    · split
      · rename_i hl
        split
        · rename_i hb
          exact merge _ rfl (p2 := .one _) rfl hl hb
        · exact keep nofun _ _
      · exact keep nofun _ _
  · split
    · exact keep nofun _ _
    · split
      · rename_i hl
        split
        · rename_i hb
          exact merge _ rfl (p2 := .set _) rfl hl hb
        · exact keep nofun _ _
      · exact keep nofun _ _
  · rename_i hne _ _
    exact keep hne _ _

end RegexVerif.RewriteDecisions
