/-
J2, assembly: one turn of `scanRegex`, the loop, `parseFuel`; the `inv_step…` lemmas carry the invariants of a turn
(`TreeInv` with `NP` or `Rew`: after `(?(` the next turn opens the condition group, `Lemmas/ParserExact.lean`), not
`TreeInv` alone.  Result: the raw tree the parser returns satisfies `shp`, hence `Reduce.okRaw` of its image under
`Reduce.ofRaw`.
-/
import RegexVerif.Lemmas.ParserRoot
import RegexVerif.Lemmas.Reduce
import RegexVerif.Lemmas.ParserTreeInv
import RegexVerif.Lemmas.ParserExact

namespace RegexVerif.Parser
variable {α : Type}
variable (E : Env)

/-- the invariant with the position inside the pattern (what the scanners' specifications ask for) -/
def TreeInvP (s : PS) : Prop := TreeInv s ∧ s.pos ≤ E.pat.length
def TNP (s : PS) : Prop := TN s ∧ s.pos ≤ E.pat.length
/-- the ExprCond under construction has its condition, or the next turn will open it -/
def NR (s : PS) : Prop := NP s ∨ Rew E s

theorem NP_frame {s s' : PS} (h : s'.frame = s.frame) (hn : NP s) : NP s' := by
  unfold NP at *
  rw [frame_group h]
  exact hn

theorem tn_of_scans {m : M α} (h : Scans E m) : H (TNP E) m (fun _ => TN) :=
  H.of_wp (R := fun _ => True) (fun s hp =>
    wp_mono (h s hp.2) (fun _ _ hadv => ⟨TreeInv_frame hadv.frame hp.1.1, NP_frame hadv.frame hp.1.2⟩) (fun _ _ => trivial))

-- as in `Lemmas/ParserTreeInv.lean`: `H` goals are taken apart by the rules only
attribute [local irreducible] H

theorem H_weakenT {m : M α} {Q : α → PS → Prop} (h : H TN m Q) : H (TNP E) m Q :=
  H.conseq h (fun _ hp => hp.1) (fun _ _ hq => hq)

theorem tn_leafUnit_after {r : RNode} (hr : Leaf r) (b : Bool) :
    H TN (do setUnit (some r); stepAfter E b) (fun _ => TN) :=
  ((keeps_setUnit (shp_leaf hr)).bind (fun _ => keeps_stepAfter E b)).tn

/-- `(`: a group is opened; an ExprCond comes with the rewound state -/
theorem inv_stepOpen (b : Bool) : H (TreeInvP E) (stepOpen E b) (fun _ s' => TreeInv s' ∧ NR E s') := by
  unfold stepOpen
  apply H.bind (Q1 := fun _ => TreeInvP E) (m := pushOptions) (H_modify fun _ h => h)
  intro _
  apply H.bind (Q1 := fun r s1 => ((TreeInv s1 ∧ (r = none → NP s1)) ∧ RewPost E r s1) ∧ OptOpen r)
  · refine H_andRet (H_and (H_and ?_ ?_) ?_) (ret_scanGroupOpen E)
    · exact H.of_wp (R := fun _ => True) (fun s hp =>
        wp_mono (scans_scanGroupOpen E s hp.2) (fun _ _ hadv => TreeInv_frame hadv.frame hp.1) (fun _ _ => trivial))
    · unfold H
      intro s r s1 hp hm hnone
      by_cases hnp : NP s
      · have := scans_scanGroupOpen E s hp.2
        unfold wp at this
        rw [hm] at this
        exact NP_frame this.frame hnp
      · have hA := scanGroupOpen_some E
        unfold H at hA
        exact absurd hnone (hA s r s1 (Classical.not_not.mp hnp).1 hm)
    · exact H.conseq (scanGroupOpen_rew E) (fun _ _ => trivial) (fun _ _ h => h)
  intro r
  apply H_pre
  intro hopen
  cases r with
  | none =>
    apply H.bind (Q1 := fun _ => TN) (H.conseq keeps_popKeepOptions.tn (fun s hp => ⟨hp.1.1, hp.1.2 rfl⟩) (fun _ _ h => h))
    intro _
    exact H.pure (fun s hp => ⟨hp.1, Or.inl hp.2⟩)
  | some g =>
    refine H_and (H.conseq (H.bind inv_pushGroup fun _ => H.bind (inv_startGroup (hopen g rfl)) fun _ => H.pure fun _ h => h)
      (fun _ hp => hp.1.1) fun _ _ h => h) ?_
    unfold H
    intro s a s' hp hm
    cases hm
    by_cases hge : g.t = .exprCond
    · exact Or.inr (hp.2 g rfl hge)
    · exact Or.inl fun h => hge h.1

theorem inv_stepClose (b : Bool) : H TN (stepClose E b) (fun _ => TN) := by
  unfold stepClose
  apply H.bind (Q1 := fun _ => TN) keeps_get.tn
  intro s0
  refine H.ite (fun _ => H.throw) (fun _ => ?_)
  apply H.bind inv_addGroup
  intro _
  apply H.bind (Q1 := fun _ => TN) inv_popGroup
  intro _
  apply H.bind (Q1 := fun _ => TN) keeps_popOptions.tn
  intro _
  apply H.bind (Q1 := fun _ => TN) keeps_get.tn
  intro s1
  exact H.ite (fun _ => H.pure (fun _ h => h)) (fun _ => (keeps_stepAfter E b).tn)

/-- what `stepSwitch` is started with: the invariant, and either the ExprCond under construction has its condition or
    the special rune is the `(` that opens it -/
def SwPre (ch : Nat) (s : PS) : Prop := TreeInvP E s ∧ (NP s ∨ (ch = 40 ∧ s.ignoreNextParen = true))

/-- any rune but `(` is read with the condition in place -/
theorem H_sw {ch : Nat} (h : ch ≠ 40) {m : M α} (hm : H (TNP E) m (fun _ => TN)) :
    H (SwPre E ch) m (fun _ s' => TreeInv s' ∧ NR E s') :=
  H.conseq hm (fun _ hp => ⟨⟨hp.1.1, hp.2.resolve_right fun hn => h hn.1⟩, hp.1.2⟩) (fun _ _ hq => ⟨hq.1, Or.inl hq.2⟩)

theorem inv_stepSwitch (o : Opts) (ch : Nat) (isQ wasPrev : Bool) :
    H (SwPre E ch) (stepSwitch E o ch isQ wasPrev) (fun _ s' => TreeInv s' ∧ NR E s') := by
  unfold stepSwitch
  refine H.ite (fun h => ?_) (fun _ => ?_)
  · -- `[`
    apply H_sw E (by omega)
    apply H.bind (tn_of_scans E (scans_scanCharSet E _ _))
    intro cc
    exact tn_leafUnit_after E (leaf_nodeSet E _ _) _
  refine H.ite (fun h40 => ?_) (fun h40 => ?_)
  · -- `(`
    apply H.bind (Q1 := fun b s' => SwPre E ch s' ∧ (b = true → s'.pos + 3 ≤ E.pat.length ∧ s'.ignoreNextParen ≠ true))
    · unfold H
      intro s b s' hp hm
      have := wp_stepIsPythonRef E o s (fun b s' => s' = s ∧ (b = true → s.pos + 3 ≤ E.pat.length)) (fun _ => True)
        (fun b hb => ⟨rfl, hb⟩)
      unfold wp at this
      rw [hm] at this
      obtain ⟨rfl, h3⟩ := this
      refine ⟨hp, fun hb => ⟨h3 hb, ?_⟩⟩
      intro hig
      rw [stepIsPythonRef_ignore E o _ hig] at hm
      simp only [Res.ok.injEq] at hm
      rw [← hm.1] at hb
      cases hb
    · intro b
      refine H.ite (fun hb => ?_) (fun _ => ?_)
      · apply H.bind (Q1 := fun nd s' => TN s' ∧ Leaf nd)
        · refine H_andRet ?_ (ret_scanPythonNamedBackref E)
          refine H.of_wp (R := fun _ => True) (fun s hp => ?_)
          have hb' := hp.2 hb
          have hnp : NP s := hp.1.2.resolve_right fun hn => hb'.2 hn.2
          exact wp_mono (scansK_scanPythonNamedBackref E s hb'.1)
            (fun _ _ hadv => ⟨TreeInv_frame hadv.frame hp.1.1.1, NP_frame hadv.frame hnp⟩) (fun _ _ => trivial)
        · intro nd
          apply H_pre
          intro hnd
          exact H.conseq (tn_leafUnit_after E hnd _) (fun _ h => h) (fun _ _ hq => ⟨hq.1, Or.inl hq.2⟩)
      · exact H.conseq (inv_stepOpen E isQ) (fun _ hp => hp.1.1) (fun _ _ hq => hq)
  refine H.ite (fun h => ?_) (fun _ => ?_)
  · -- `|`
    apply H_sw E (by omega)
    apply H_weakenT
    refine H.bind ?_ (fun _ => H.pure (fun _ h => h))
    exact H_and (H.conseq inv_addAlternate (fun _ h => h.1) (fun _ _ h => h))
      (H.conseq np_addAlternate (fun _ h => h.2) (fun _ _ h => h))
  -- `)`
  refine H.ite (fun h => ?_) (fun _ => ?_)
  · exact H_sw E (by omega) (H_weakenT E (inv_stepClose E isQ))
  refine H.ite (fun h => ?_) (fun _ => ?_)
  · -- backslash
    apply H_sw E (by omega)
    apply H.bind (Q1 := fun nd s' => TN s' ∧ Leaf nd)
    · exact H_andRet (tn_of_scans E (scans_scanBackslash E false)) (ret_scanBackslash E false)
    · intro nd
      apply H_pre
      intro hnd
      exact tn_leafUnit_after E hnd _
  -- `^`, `$`, `.`: a leaf becomes the unit
  refine H.ite (fun h => ?_) (fun _ => ?_)
  · exact H_sw E (by omega) (H_weakenT E (tn_leafUnit_after E (leaf_mkNode (leafType_ite rfl rfl)) _))
  refine H.ite (fun h => ?_) (fun _ => ?_)
  · exact H_sw E (by omega) (H_weakenT E (tn_leafUnit_after E (leaf_mkNode (leafType_ite rfl (leafType_ite rfl rfl))) _))
  refine H.ite (fun h => ?_) (fun _ => ?_)
  · exact H_sw E (by omega) (H_weakenT E (tn_leafUnit_after E (leaf_dotNode E o) _))
  -- a quantifier: one rune back, then `stepAfter`
  refine H.ite (fun h => ?_) (fun _ => ?_)
  · apply H_sw E (by omega)
    apply H_weakenT
    apply H.bind (Q1 := fun _ => TN) keeps_get.tn
    intro s0
    refine H.ite (fun _ => H.throw) (fun _ => ?_)
    exact (keeps_moveLeft.bind (fun _ => keeps_stepAfter E isQ)).tn
  · exact H.throw

theorem inv_scanStep (b : Bool) :
    H (fun s => TreeInvP E s ∧ NR E s) (scanStep E b) (fun _ s' => TreeInv s' ∧ NR E s') := by
  have hnp : H (TNP E) (scanStep E b) (fun _ s' => TreeInv s' ∧ NR E s') := by
    unfold scanStep
    apply H.bind (Q1 := fun run s' => TNP E s' ∧ (run.1 ≤ run.2 ∧ run.2 ≤ E.pat.length))
    · exact H.of_wp (R := fun _ => True) (fun s hp => wp_stepRun E s hp.2 _
        (fun sp ep p' _ h2 h3 h4 _ => ⟨⟨hp.1, h4⟩, h2, by dsimp only; omega⟩))
    · intro run
      apply H_pre
      intro hrun
      apply H.bind (Q1 := fun _ => TNP E)
      · refine H.of_wp (R := fun _ => True) (fun s hp => wp_mono (wp_stepHead E s hp.2) ?_ (fun _ _ => trivial))
        intro r s' hcases
        rcases hcases with ⟨_, hs, _⟩ | ⟨_, hs, _⟩ | ⟨c, hc, _, _, hs⟩
        · rw [hs]; exact hp
        · rw [hs]; exact hp
        · rw [hs]
          have := (List.getElem?_eq_some_iff.mp hc).1
          exact ⟨hp.1, by dsimp only; omega⟩
      · intro hd
        apply H.bind (Q1 := fun _ => TNP E)
        · refine H.conseq (H_and (H_weakenT E (keeps_stepLiteral E run.1 run.2 hd.2 b).tn)
            (H.of_wp (R := fun _ => True) (fun s (hp : TNP E s) =>
              wp_mono (wp_stepLiteral E run.1 run.2 hd.2 b s hrun.2)
                (fun _ s' hk => (show s'.pos ≤ E.pat.length by rw [hk.1.pos]; exact hp.2))
                (fun _ _ => trivial)))) (fun _ hp => hp) (fun _ _ hq => hq)
        · intro wasPrev
          apply H.bind (Q1 := fun _ => TNP E) H_opts
          intro o
          refine H.ite (fun _ => ?_) (fun _ => ?_)
          · exact H.pure (fun _ hp => ⟨hp.1.1, Or.inl hp.1.2⟩)
          refine H.ite (fun _ => ?_) (fun _ => ?_)
          · exact H.pure (fun _ hp => ⟨hp.1.1, Or.inl hp.1.2⟩)
          · exact H.conseq (inv_stepSwitch E o hd.1 hd.2 wasPrev) (fun _ hp => ⟨⟨hp.1.1, hp.2⟩, Or.inl hp.1.2⟩)
              (fun _ _ hq => hq)
  have hopen := inv_stepOpen E false
  unfold H at hnp hopen ⊢
  intro s r s' hp hm
  rcases hp.2 with hn | hrew
  · exact hnp s r s' ⟨⟨hp.1.1, hn⟩, hp.1.2⟩ hm
  · -- the turn after `(?(`: nothing is skipped, the `(` opens the condition group
    have hlt := (List.getElem?_eq_some_iff.mp hrew.2.1).1
    rw [scanStep_rew E b s hrew] at hm
    exact hopen { s with pos := s.pos + 1 } r s' ⟨hp.1.1, by dsimp only; omega⟩ hm

theorem np_of_root {s : PS} (hst : s.stack = []) (hr : RootInv s) : NP s := by
  unfold RootInv at hr
  rw [bottomGroup_nil hst] at hr
  intro h
  rw [hr.1] at h
  cases h.1

theorem shp_scanRegex (n : Nat) :
    H (fun s => s.pos ≤ E.pat.length ∧ s.unit = none ∧ s.optionsStack = [] ∧ s.stack = [])
      (scanRegex E n) (fun r _ => shp r = true) := by
  unfold scanRegex
  apply H.bind H_opts
  intro o
  apply H.bind (Q1 := fun _ s => (TurnInv E s ∧ RootInv s) ∧ TreeInv s ∧ NR E s)
  · unfold startGroup
    apply H_modify
    intro s ⟨h1, h2, h3, h4⟩
    refine ⟨⟨⟨h1, h2, by simp [h3, h4]⟩, ?_⟩, ⟨open3_start _ ⟨rfl, rfl⟩, ?_, ?_⟩, Or.inl ?_⟩
    · unfold RootInv
      rw [bottomGroup_nil (by dsimp only; exact h4)]
      exact ⟨rfl, rfl, rfl⟩
    · exact h2 ▸ unitOK_none
    · exact h4 ▸ fun _ hx => nomatch hx
    · intro h; cases h.1
  intro _
  apply H.bind (Q1 := fun _ s => RootInv s ∧ TreeInv s)
  · apply H_iter
    intro b
    apply H.bind (Q1 := fun cr s => ((TurnInv E s ∧ RootInv s) ∧ TreeInv s ∧ NR E s) ∧ cr = E.pat.length - s.pos)
    · unfold H
      intro s a s' hp hm
      unfold charsRight at hm
      cases hm
      exact ⟨hp, rfl⟩
    · intro cr
      refine H.ite (fun _ => ?_) (fun hcr => ?_)
      · exact H.pure (fun _ hp => ⟨hp.1.1.2, hp.1.2.1⟩)
      · -- the position facts from the totality proof, the tree facts from `inv_scanStep`
        refine H.conseq (H_and (Q1 := fun r s' => match r with | .inl _ => TurnInv E s' ∧ RootInv s' | .inr _ => RootInv s')
          ?_ (H.conseq (inv_scanStep E b) (fun _ hp => ⟨⟨hp.1.2.1, hp.1.1.1.1⟩, hp.1.2.2⟩) (fun _ _ hq => hq)))
          (fun _ hp => hp) ?_
        · refine H.of_wp (R := fun _ => True) (fun s hp => wp_mono
            (wp_and (wp_scanStep E b s (by have := hp.2; omega) hp.1.1.1.2.1 hp.1.1.1.2.2)
              (bottomGroup_scanStep E b s (by have := hp.2; omega) hp.1.1.1.2.2 hp.1.1.2)) ?_ (fun _ _ => trivial))
          intro r s' ⟨hr, hbg⟩
          have hroot : RootInv s' := by unfold RootInv; rw [hbg]; exact hp.1.1.2
          cases r with
          | inl _ => exact ⟨hr.1, hroot⟩
          | inr _ => exact hroot
        · intro r s' ⟨hr1, hr2⟩
          cases r with
          | inl _ => exact ⟨hr1, hr2⟩
          | inr _ => exact ⟨hr1, hr2.1⟩
  intro _
  apply H.bind (Q1 := fun a s' => a = s' ∧ RootInv s' ∧ TreeInv s') H_get
  intro s1
  refine H.ite (fun _ => H.throw) (fun hemp => ?_)
  apply H.bind (Q1 := fun _ => TreeInvW)
  · refine H.conseq inv_addGroup ?_ (fun _ _ h => h)
    intro s hp
    refine ⟨hp.2.2, np_of_root ?_ hp.2.1⟩
    rw [← hp.1]
    cases hh : s1.stack with
    | nil => rfl
    | cons a l => simp [hh] at hemp
  intro _
  apply H.bind (Q1 := fun a s' => a = s' ∧ TreeInvW s') H_get
  intro s2
  split
  · exact H.pure fun s hp => hp.2.1 _ (hp.1 ▸ ‹s2.unit = some _›)
  · exact H.fault

theorem shp_parseFuel (n : Nat) (t : RawTree) (h : parseFuel E n = .ok t) : shp t.root = true := by
  unfold parseFuel at h
  split at h <;> try (simp at h; done)
  rename_i tb s' hcc
  split at h <;> try (simp at h; done)
  rename_i root s'' hsr
  simp only [Outcome.ok.injEq] at h
  subst h
  have h2 := shp_scanRegex E n
  unfold H at h2
  exact h2 (resetState E tb) root s'' ⟨Nat.zero_le _, rfl, rfl, rfl⟩ hsr

/-! ## To `Reduce.okRaw` -/

theorem shapeW_raw {t : NT} {k : Nat} (h : shapeW t k = true) :
    (Reduce.shapeOk t.toNat k || ((t.toNat == 24 || t.toNat == 25) && k == 0)) = true := by
  cases t <;> exact h

mutual
theorem okRaw_of_shp : ∀ (x : RNode), shp x = true → Reduce.okRaw (Reduce.ofRaw x) = true
  | .mk t o ch str set m n kids, h => by
    rw [shp] at h
    simp only [Bool.and_eq_true] at h
    rw [Reduce.ofRaw, Reduce.okRaw, okRaws_of_shps kids h.2, Bool.and_true, Reduce.ofRaws_eq_map, List.length_map]
    exact shapeW_raw h.1
theorem okRaws_of_shps : ∀ (l : List RNode), shps l = true → Reduce.okRaws (Reduce.ofRaws l) = true
  | [], _ => by simp [Reduce.ofRaws, Reduce.okRaws]
  | x :: xs, h => by
    rw [shps] at h
    simp only [Bool.and_eq_true] at h
    rw [Reduce.ofRaws, Reduce.okRaws, okRaw_of_shp x h.1, okRaws_of_shps xs h.2]
    rfl
end

end RegexVerif.Parser
