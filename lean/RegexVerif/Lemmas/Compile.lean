/-
Compiler correctness (the emitted program run by the interpreter gives the answer of `Spec.attempt`), general part.
`Delivers` composes: a fragment's successes are continued by the next fragment (`Delivers.bind`) or followed by what
the frames below deliver (`Delivers.append`); `Runs` says it of a piece of code for every entry state.  Vocabulary:
`Setup`, `EnvRel`, `Reach`, `Leads`, `Entry`, `FailAt`, `Framed`, `Delivers`, `CapRep` in Model/Compile.lean; `Runs` here;
`CodeAt`, `Computes` in CompileCode; `World` in CompileMain; `Agrees` in CompileTop.  The capture arrays that denote a
log (`CapRep`) satisfy the match builder's invariant, so `Capture` / `uncapture` act on the log as
Lemmas/MatchBuilder.lean says they act on the arrays.
-/
import RegexVerif.Model.Compile
import RegexVerif.Lemmas.VM
import RegexVerif.Lemmas.MatchBuilder
import RegexVerif.Lemmas.Spec

namespace RegexVerif.Compile
open RegexVerif.VM RegexVerif.Code RegexVerif.Spec RegexVerif

theorem Reach.trans {p : Prog} {env : VM.Env} {a b c : VMState} (h1 : Reach p env a b) (h2 : Reach p env b c) :
    Reach p env a c := by
  induction h1 with
  | refl _ => exact h2
  | step hs _ ih => exact Reach.step hs (ih h2)

theorem Reach.single {p : Prog} {env : VM.Env} {s s' : VMState} {chk : Bool} (h : VM.step p env s = .next s' chk) :
    Reach p env s s' := Reach.step h (Reach.refl _)

theorem Leads.of_reach {X : Setup} {s s' : VMState} {Q : VMState → Prop} (h : Reach X.p X.env s s')
    (h2 : Leads X s' Q) : Leads X s Q := by
  obtain ⟨t, ht, hq⟩ := h2
  exact ⟨t, h.trans ht, hq⟩

theorem Leads.of_step {X : Setup} {s s' : VMState} {chk : Bool} {Q : VMState → Prop}
    (h : VM.step X.p X.env s = .next s' chk) (h2 : Leads X s' Q) : Leads X s Q :=
  Leads.of_reach (Reach.single h) h2

theorem Leads.here {X : Setup} {s : VMState} {Q : VMState → Prop} (h : Q s) : Leads X s Q := ⟨s, Reach.refl _, h⟩

theorem Leads.mono {X : Setup} {s : VMState} {Q Q' : VMState → Prop} (h : Leads X s Q) (hq : ∀ t, Q t → Q' t) :
    Leads X s Q' := by
  obtain ⟨t, ht, hqt⟩ := h
  exact ⟨t, ht, hq t hqt⟩

theorem Framed.append {p : Prog} {F G : List Int} (hF : Framed p F) (hG : Framed p G) : Framed p (F ++ G) := by
  induction hF with
  | nil => exact hG
  | cons c d rest hsz _ ih =>
    have : c :: (d ++ rest) ++ G = c :: (d ++ (rest ++ G)) := by simp
    rw [this]
    exact Framed.cons c d (rest ++ G) hsz ih

theorem Framed.one {p : Prog} (c : Int) (d : List Int) (h : VM.frameSize p c = some (d.length + 1)) :
    Framed p (c :: d) := by
  have := Framed.cons c d [] h Framed.nil
  simpa using this

theorem cutFrames_framed {p : Prog} {F : List Int} (hF : Framed p F) :
    ∀ (T : List Int) (fuel : Nat), F.length ≤ fuel → VM.cutFrames p fuel F.length (F ++ T) = some T := by
  induction hF with
  | nil => intro T fuel _; cases fuel <;> simp [VM.cutFrames]
  | cons c d rest hsz _ ih =>
    intro T fuel hfuel
    obtain ⟨fuel, rfl⟩ : ∃ f, fuel = f + 1 := ⟨fuel - 1, by simp at hfuel; omega⟩
    rw [show (c :: (d ++ rest)).length = d.length + rest.length + 1 by simp, List.cons_append, List.append_assoc,
      Lemmas.VM.cutFrames_cons hsz, if_pos (by omega), Nat.add_sub_cancel_left]
    exact ih T fuel (by simp at hfuel; omega)

theorem Delivers.of_reach {X : Setup} {b : Nat} {T S S' : List Int} {C0 : List (Nat × Nat × Nat)} {rs : List St}
    {s s' : VMState} (h : Reach X.p X.env s s') (h2 : Delivers X b T S S' C0 rs s') : Delivers X b T S S' C0 rs s := by
  cases rs with
  | nil => exact Leads.of_reach h h2
  | cons r rs =>
    obtain ⟨F, hF, hl, hk⟩ := h2
    exact ⟨F, hF, Leads.of_reach h hl, hk⟩

theorem Delivers.of_step {X : Setup} {b : Nat} {T S S' : List Int} {C0 : List (Nat × Nat × Nat)} {rs : List St}
    {s s' : VMState} {chk : Bool} (h : VM.step X.p X.env s = .next s' chk) (h2 : Delivers X b T S S' C0 rs s') :
    Delivers X b T S S' C0 rs s := Delivers.of_reach (Reach.single h) h2

theorem Delivers.of_leads {X : Setup} {b : Nat} {T S S' : List Int} {C0 : List (Nat × Nat × Nat)} {rs : List St}
    {s : VMState} {Q : VMState → Prop} (h : Leads X s Q) (hk : ∀ s', Q s' → Delivers X b T S S' C0 rs s') :
    Delivers X b T S S' C0 rs s := by
  obtain ⟨s', hr, hq⟩ := h
  exact Delivers.of_reach hr (hk s' hq)

/-- the successes of a fragment entered above extra frames `F`, followed — once it is exhausted — by what the frames
    below deliver -/
theorem Delivers.append {X : Setup} {b : Nat} {T S S' Sm : List Int} {C0 C1 : List (Nat × Nat × Nat)}
    {F : List Int} (hF : Framed X.p F) {ys : List St} :
    ∀ (xs : List St) (s : VMState), Delivers X b (F ++ T) Sm S' C1 xs s →
      (∀ s'' v, FailAt X (F ++ T ++ [v]) Sm C1 s'' → Delivers X b T S S' C0 ys s'') →
      Delivers X b T S S' C0 (xs ++ ys) s := by
  intro xs
  induction xs with
  | nil =>
    intro s h1 h2
    obtain ⟨s', hr, v, hf⟩ := h1
    exact Delivers.of_reach hr (h2 s' v hf)
  | cons r xs ih =>
    intro s h1 h2
    obtain ⟨F2, hF2, hl, hk⟩ := h1
    refine ⟨F2 ++ F, hF2.append hF, ?_, ?_⟩
    · simpa only [List.append_assoc] using hl
    · intro s'' v hf
      exact ih s'' (hk s'' v (by simpa only [List.append_assoc] using hf)) h2

/-- sequencing: every success of the first fragment (ending at `mid`) is continued by the second fragment
    (ending at `b`), entered above the first one's frames -/
theorem Delivers.bind {X : Setup} {mid b : Nat} {T S Sm S' : List Int} {C0 : List (Nat × Nat × Nat)}
    {g : St → List St} :
    ∀ (rs : List St) (s : VMState), Delivers X mid T S Sm C0 rs s →
      (∀ r ∈ rs, ∀ (F : List Int) (s' : VMState) (v : Int), Framed X.p F → Entry X mid r.pos (F ++ T ++ [v]) Sm r.caps s' →
        Delivers X b (F ++ T) Sm S' r.caps (g r) s') →
      Delivers X b T S S' C0 (rs.flatMap g) s := by
  intro rs
  induction rs with
  | nil => intro s h1 _; exact h1
  | cons r rs ih =>
    intro s h1 h2
    obtain ⟨F, hF, ⟨s', hr, v, he⟩, hk⟩ := h1
    rw [List.flatMap_cons]
    refine Delivers.of_reach hr ?_
    refine Delivers.append hF (g r) s' (h2 r (by simp) F s' v hF he) ?_
    intro s'' v' hf
    exact ih s'' (hk s'' v' hf) (fun r' hr' => h2 r' (by simp [hr']))

/-- one success, no frames of the fragment's own -/
theorem Delivers.single {X : Setup} {b : Nat} {T S : List Int} {C0 : List (Nat × Nat × Nat)} {r : St} {s : VMState}
    {v : Int} (h : Leads X s (Entry X b r.pos (T ++ [v]) S C0)) (hc : r.caps = C0) : Delivers X b T S S C0 [r] s := by
  refine ⟨[], Framed.nil, h.mono (fun _ ht => ⟨v, by simpa [hc] using ht⟩), ?_⟩
  intro s'' v' hf
  rw [hc] at hf
  exact Leads.here ⟨v', by simpa using hf⟩

theorem Delivers.cast {X : Setup} {b b' : Nat} {T S S' : List Int} {C0 : List (Nat × Nat × Nat)} {rs rs' : List St}
    {s : VMState} (h : Delivers X b T S S' C0 rs s) (hb : b = b') (hr : rs = rs') : Delivers X b' T S S' C0 rs' s := by
  subst hb; subst hr; exact h

/-- no success (the bottom slot `v` the failure leaves is forgotten) -/
theorem Delivers.fail {X : Setup} {b : Nat} {T S S' : List Int} {C0 : List (Nat × Nat × Nat)} {s : VMState} {v : Int}
    (h : Leads X s (FailAt X (T ++ [v]) S C0)) : Delivers X b T S S' C0 [] s :=
  h.mono (fun _ ht => ⟨v, ht⟩)

/-- a fragment entered above extra frames `F` through which its failure falls -/
theorem Delivers.under {X : Setup} {b : Nat} {T S S' Sm : List Int} {C0 C1 : List (Nat × Nat × Nat)} {F : List Int}
    (hF : Framed X.p F) {xs : List St} {s : VMState} (h : Delivers X b (F ++ T) Sm S' C1 xs s)
    (hk : ∀ s'' v, FailAt X (F ++ T ++ [v]) Sm C1 s'' → Leads X s'' (FailAt X (T ++ [v]) S C0)) :
    Delivers X b T S S' C0 xs s :=
  (Delivers.append hF xs s h fun s'' v hf => Delivers.fail (hk s'' v hf)).cast rfl (List.append_nil _)

theorem Delivers.cons {X : Setup} {b : Nat} {T S S' : List Int} {C0 : List (Nat × Nat × Nat)} {r : St} {rs : List St}
    {s : VMState} {v : Int} (F : List Int) (hF : Framed X.p F) (h : Leads X s (Entry X b r.pos (F ++ T ++ [v]) S' r.caps))
    (hk : ∀ s'' v', FailAt X (F ++ T ++ [v']) S' r.caps s'' → Delivers X b T S S' C0 rs s'') :
    Delivers X b T S S' C0 (r :: rs) s := ⟨F, hF, h.mono (fun _ ht => ⟨v, ht⟩), hk⟩

/-- one success above frames `F` of the fragment's own; a later failure into `F` falls through to `T` -/
theorem Delivers.single_above {X : Setup} {b : Nat} {T S S' : List Int} {C0 : List (Nat × Nat × Nat)} {r : St} {s : VMState} {v : Int}
    (F : List Int) (hF : Framed X.p F) (h : Leads X s (Entry X b r.pos (F ++ T ++ [v]) S' r.caps))
    (hk : ∀ s'' v', FailAt X (F ++ T ++ [v']) S' r.caps s'' → Leads X s'' (FailAt X (T ++ [v']) S C0)) :
    Delivers X b T S S' C0 [r] s :=
  Delivers.cons F hF h fun _ _ hf => Delivers.fail (hk _ _ hf)

theorem Delivers.bind1 {X : Setup} {mid b : Nat} {T S Sm S' : List Int} {C0 : List (Nat × Nat × Nat)} {r : St} {ys : List St}
    {s : VMState} (h : Delivers X mid T S Sm C0 [r] s)
    (hk : ∀ (F : List Int) (s' : VMState) (v : Int), Framed X.p F → Entry X mid r.pos (F ++ T ++ [v]) Sm r.caps s' →
      Delivers X b (F ++ T) Sm S' r.caps ys s') : Delivers X b T S S' C0 ys s :=
  (Delivers.bind (g := fun _ => ys) [r] s h fun _ hr F s' v hF he => by
    rw [List.mem_singleton.1 hr] at he ⊢; exact hk F s' v hF he).cast rfl (by simp)

/-- **the code between `a` and `b` computes `f`**: entered in a well-formed state, above any stacks, it delivers the
    successes `f` lists for that state and leaves the grouping stack as it found it.  The entry stack is `T ++ [v]`,
    `Delivers` speaks of `T`: `v` is the bottom slot (the `Lazybranch` at code position 0), which `Delivers` leaves out -/
def Runs (X : Setup) (a b : Nat) (f : St → List St) : Prop :=
  ∀ (i : Nat) (T S : List Int) (v : Int) (C : List (Nat × Nat × Nat)) (s : VMState), St.wf X.se.n ⟨i, C⟩ →
    Entry X a i (T ++ [v]) S C s → Delivers X b T S S C (f ⟨i, C⟩) s

theorem slotLog_append (sl : Nat → Nat) (C D : List (Nat × Nat × Nat)) (c : Nat) :
    slotLog sl (C ++ D) c = slotLog sl C c ++ slotLog sl D c := by
  simp [slotLog, List.filter_append]

theorem slotLog_length (sl : Nat → Nat) (C : List (Nat × Nat × Nat)) (c : Nat) :
    (slotLog sl C c).length = 2 * (C.filter (fun x => sl x.1 == c)).length := by
  unfold slotLog
  induction C.filter (fun x => sl x.1 == c) with
  | nil => rfl
  | cons x xs ih => simp [List.flatMap_cons, ih]; omega

section caprep
open RegexVerif.MatchBuilder RegexVerif.Lemmas.MatchBuilder
variable {sl : Nat → Nat} {N : Nat} {R : Runner} {C : List (Nat × Nat × Nat)}

/-- the `(index, length)` pairs of slot `c`, oldest first: what `Match.matches[c]` stores flattened -/
def slotPairs (sl : Nat → Nat) (C : List (Nat × Nat × Nat)) (c : Nat) : List (Int × Int) :=
  (C.filter (fun x => sl x.1 == c)).map (fun x => ((x.2.1 : Int), (x.2.2 : Int)))

theorem slotLog_flat (sl : Nat → Nat) (C : List (Nat × Nat × Nat)) (c : Nat) : slotLog sl C c = flat (slotPairs sl C c) := by
  simp [slotLog, slotPairs, flat, List.flatMap_map]

/-- a denoted log is a represented prefix without balancing entries -/
theorem CapRep.rep (h : CapRep sl N R C) {c : Nat} (hc : c < N) :
    ∃ st, Rep (Lemmas.MatchBuilder.live R.m c) st ∧ vals st = (slotPairs sl C c).reverse := by
  obtain ⟨st, h1, h2⟩ := rep_of_pairs (slotPairs sl C c)
    (fun p hp => by obtain ⟨x, _, rfl⟩ := List.mem_map.1 hp; exact ⟨Int.natCast_nonneg _, Int.natCast_nonneg _⟩) [] [] Rep.nil
  exact ⟨st, by simpa [Lemmas.MatchBuilder.live, h.live c hc, slotLog_flat] using h1, by simpa [vals] using h2⟩

/-- **the capture arrays of the simulation satisfy the builder invariant of C08**; `CapRep.room` is the builder's `SlotOK`
    (an array has room for its live pairs and is nil or at least the two cells `addMatch` allocates first) -/
theorem CapRep.inv (h : CapRep sl N R C) : Inv R.m := by
  refine ⟨h.alen.trans h.mlen.symm, fun c hc => ⟨h.room c (h.mlen ▸ hc), (h.rep (h.mlen ▸ hc)).imp fun _ => And.left⟩,
    fun _ c hc x hx => ?_⟩
  rw [Lemmas.MatchBuilder.live, h.live c (h.mlen ▸ hc), slotLog_flat] at hx
  obtain ⟨p, hp, hx⟩ := List.mem_flatMap.1 hx
  obtain ⟨y, _, rfl⟩ := List.mem_map.1 hp
  simp only [List.mem_cons, List.not_mem_nil, or_false] at hx
  rcases hx with rfl | rfl <;> exact Int.natCast_nonneg _

theorem capRep_init (sl : Nat → Nat) (N : Nat) : CapRep sl N { m := MatchBuilder.newMatch N, crawl := [] } [] :=
  ⟨by simp [newMatch], by simp [newMatch], rfl, nofun, fun c _ => cnt_newMatch N c, fun c _ => live_newMatch N c,
    fun c hc => ((newMatch_inv N).slot c (by simpa [newMatch] using hc)).1⟩

/-- `Capture(slot, start, end)` appends the entry to the log -/
theorem capRep_capture (h : CapRep sl N R C) (g : Nat) (hg : sl g < N) (i j : Nat) :
    CapRep sl N (MatchBuilder.capture R (sl g) (i : Int) (j : Int)) (C ++ [(g, min i j, max i j - min i j)]) := by
  have hcap : MatchBuilder.capture R (sl g) (i : Int) (j : Int) =
      { m := addMatch R.m (sl g) ((min i j : Nat) : Int) ((max i j - min i j : Nat) : Int), crawl := sl g :: R.crawl } := by
    unfold MatchBuilder.capture
    by_cases hji : j < i
    · rw [if_pos (by omega : (j : Int) < (i : Int)), Nat.min_eq_right (by omega), Nat.max_eq_left (by omega)]
      simp only; congr 2; omega
    · rw [if_neg (by omega : ¬ (j : Int) < (i : Int)), Nat.min_eq_left (by omega), Nat.max_eq_right (by omega)]
      simp only; congr 2; omega
  have hc : sl g < R.m.matchcount.length := h.mlen ▸ hg
  have A := addMatch_appends R.m h.inv (sl g) hc ((min i j : Nat) : Int) ((max i j - min i j : Nat) : Int)
    (Int.natCast_nonneg _) (Int.natCast_nonneg _)
  rw [hcap]
  have hm := A.len.trans h.mlen
  refine ⟨hm, A.inv.len.trans hm, by simp [h.crawl], ?_, fun c hcN => ?_, fun c hcN => ?_,
    fun c hcN => (A.inv.slot c (hm ▸ hcN)).1⟩
  · intro x hx
    rcases List.mem_append.1 hx with hx | hx
    · exact h.inr x hx
    · rw [List.mem_singleton.1 hx]; exact hg
  · rw [A.cnt_eq, List.filter_append, List.length_append, ← h.cnt c hcN]
    by_cases hcc : c = sl g
    · subst hcc; simp
    · have : ¬ sl g = c := fun e => hcc e.symm
      simp [hcc, this]
  · show live _ c = _
    rw [A.live_eq, slotLog_append, ← h.live c hcN]
    by_cases hcc : c = sl g
    · subst hcc; simp [live, slotLog]
    · have : ¬ sl g = c := fun e => hcc e.symm
      simp [live, hcc, slotLog, this]

/-- `uncapture()` removes the last entry of the log -/
theorem capRep_uncapture {x : Nat × Nat × Nat} (h : CapRep sl N R (C ++ [x])) :
    ∃ rest, R.crawl = sl x.1 :: rest ∧ CapRep sl N (MatchBuilder.uncapture R) C := by
  have hcrawl : R.crawl = sl x.1 :: (C.map (fun x => sl x.1)).reverse := by simp [h.crawl]
  refine ⟨_, hcrawl, ?_⟩
  have hx : sl x.1 < N := h.inr x (by simp)
  have key := live_removeMatch R.m (sl x.1) (h.mlen ▸ hx)
  rw [show MatchBuilder.uncapture R = ⟨removeMatch R.m (sl x.1), (C.map (fun x => sl x.1)).reverse⟩ by
    unfold MatchBuilder.uncapture; rw [hcrawl]]
  have hcnt : ∀ c, c < N → cnt R.m c = (C.filter (fun y => sl y.1 == c)).length + ([x].filter (fun y => sl y.1 == c)).length :=
    fun c hcN => (h.cnt c hcN).trans (by rw [List.filter_append, List.length_append])
  have hlive : ∀ c, c < N → live R.m c = slotLog sl C c ++ slotLog sl [x] c :=
    fun c hcN => (h.live c hcN).trans (slotLog_append sl C [x] c)
  refine ⟨by simp [removeMatch, h.mlen], by simp [removeMatch, h.alen], rfl, fun y hy => h.inr y (by simp [hy]),
    fun c hcN => ?_, fun c hcN => ?_, fun c hcN => ?_⟩
  · rw [(key c).2.1]
    by_cases hcc : c = sl x.1
    · subst hcc; rw [if_pos rfl, hcnt _ hcN]; simp
    · have hne : ¬ sl x.1 = c := fun e => hcc e.symm
      rw [if_neg hcc, hcnt c hcN]; simp [hne]
  · show live _ c = _
    rw [(key c).1]
    by_cases hcc : c = sl x.1
    · subst hcc
      rw [if_pos rfl, hlive _ hcN, hcnt _ hcN]
      simp only [List.filter_cons, beq_self_eq_true, if_true, List.filter_nil, List.length_singleton, Nat.add_sub_cancel,
        ← slotLog_length]
      exact List.take_left' rfl
    · have hne : ¬ sl x.1 = c := fun e => hcc e.symm
      rw [if_neg hcc, hlive c hcN]; simp [slotLog, hne]
  · rw [(key c).2.1, (key c).2.2]
    have := h.room c hcN
    split
    · next hcc => subst hcc; exact ⟨by omega, this.2⟩
    · exact this

end caprep

end RegexVerif.Compile
