/-
Namespace `RegexVerif.Writer`, the model's own (as Lemmas/Code.lean): the lemmas are reached as `Writer.emitNode_size`.

One invariant of the code of a sub-tree where it stands (`FragAt`, `emitNode_fragAt`): its size, what holds of it
wherever it is placed (`FragOk`: Nullmark/Goto pairing, opcode words, growth of the tables, local well-formedness for
them), and that its jumps stay inside it; `emitNode_jumps` and `emitNode_frag` are projections.  Size (`emitNode_size`,
without `ok`), the stripped tree (`strip_emit`) and the tables (`emitNode_tables`) are inductions of their own.  `cs` names
two things: as a `Nat` the size of the capture array (`Capsize`), as a `List GoNode` the children of `emitList` / `emitAlt`.
-/
import RegexVerif.Lemmas.Code

namespace RegexVerif.Writer
open RegexVerif.Generated.Opcodes

/-! ### the capture numbers of the configuration as operands -/

theorem slotOk_iff {cfg : Cfg} {cs : Nat} {g : Int} : slotOk cfg cs g = true ↔ 0 ≤ mapCapnum cfg g ∧ mapCapnum cfg g < cs := by
  simp [slotOk]

theorem mapCapnum_neg_one (cfg : Cfg) : mapCapnum cfg (-1) = -1 := by simp [mapCapnum]

theorem mapCapnum_eq_neg_one {cfg : Cfg} {cs : Nat} {g : Int} (h : slotOk cfg cs g = true) : mapCapnum cfg g ≠ -1 := by
  have := slotOk_iff.1 h; omega

theorem capture_operands {cfg : Cfg} {cs : Nat} {m n : Int}
    (h : (if n == -1 then slotOk cfg cs m else (m == -1 || slotOk cfg cs m) && slotOk cfg cs n) = true) :
    if mapCapnum cfg n = -1 then (0 ≤ mapCapnum cfg m ∧ mapCapnum cfg m < cs)
    else ((mapCapnum cfg m = -1 ∨ (0 ≤ mapCapnum cfg m ∧ mapCapnum cfg m < cs)) ∧ (0 ≤ mapCapnum cfg n ∧ mapCapnum cfg n < cs)) := by
  by_cases hn : n = -1
  · subst hn
    simp only [beq_self_eq_true, if_true] at h
    simp [mapCapnum_neg_one, slotOk_iff.1 h]
  · have hn' : (n == -1) = false := by simpa using hn
    simp only [hn', Bool.false_eq_true, if_false, Bool.and_eq_true, Bool.or_eq_true, beq_iff_eq] at h
    have h2 := slotOk_iff.1 h.2
    have : mapCapnum cfg n ≠ -1 := by omega
    simp only [this, if_false]
    refine ⟨?_, h2⟩
    rcases h.1 with h1 | h1
    · subst h1; left; exact mapCapnum_neg_one cfg
    · right; exact slotOk_iff.1 h1

/-! ### what holds of a fragment wherever it is placed -/

/-- the instructions of `r` are locally well-formed for the tables it returns, which only grow -/
def LocalRes (cs : Nat) (tb : Tables) (r : Code × Tables) : Prop :=
  AllLocal r.2.strings.length r.2.sets.length cs r.1 ∧ tb.strings.length ≤ r.2.strings.length ∧
    tb.sets.length ≤ r.2.sets.length

def leafOps : List Nat :=
  bareTypes ++ charTypes ++ charloopTypes ++ setloopTypes ++ [opSet, opMulti, opRef, opOnerep, opNotonerep, opSetrep]

theorem mem_leaf_bare {t : Nat} (h : bareTypes.contains t = true) : t ∈ leafOps := by
  simp only [List.contains_iff_mem] at h; simp [leafOps, h]
theorem mem_leaf_char {t : Nat} (h : charTypes.contains t = true) : t ∈ leafOps := by
  simp only [List.contains_iff_mem] at h; simp [leafOps, h]
theorem mem_leaf_charloop {t : Nat} (h : charloopTypes.contains t = true) : t ∈ leafOps := by
  simp only [List.contains_iff_mem] at h; simp [leafOps, h]
theorem mem_leaf_setloop {t : Nat} (h : setloopTypes.contains t = true) : t ∈ leafOps := by
  simp only [List.contains_iff_mem] at h; simp [leafOps, h]

/-- the opcode words of the instructions that frame the fragments of interior nodes -/
def frameOps : List Nat :=
  [opSetmark, opNullmark, opNullcount, opSetcount, opGoto, opBranchcount, opBranchcount + 1, opBranchmark,
    opBranchmark + 1, opCapturemark, opSetjump, opGetmark, opForejump, opLazybranch, opBackjump, opTestref, opStop]

/-- an opcode word the writer can emit: a framing opcode, or a leaf's node type with its option bits -/
def EmittedWord (w : Nat) : Prop := w ∈ frameOps ∨ ∃ t ∈ leafOps, ∃ rtl ci, w = t ||| bits rtl ci

/-- what holds of a fragment `r` emitted from the tables `tb`, wherever it is placed; `caps`: the group numbers of the
    node map to capture slots -/
structure FragOk (cs : Nat) (tb : Tables) (caps : Prop) (r : Code × Tables) : Prop where
  pairing : cnt opNullmark r.1 ≤ cnt opGoto r.1
  words : ∀ i ∈ r.1, EmittedWord i.op
  ext : Compile.TabExt tb r.2
  loc : caps → AllLocal r.2.strings.length r.2.sets.length cs r.1

section frag
variable {cs : Nat} {tb : Tables} {caps : Prop}

theorem FragOk.imp {caps' : Prop} {r : Code × Tables} (f : FragOk cs tb caps' r) (h : caps → caps') :
    FragOk cs tb caps r := ⟨f.pairing, f.words, f.ext, fun hc => f.loc (h hc)⟩

theorem FragOk.local {r : Code × Tables} (f : FragOk cs tb caps r) (hc : caps) : LocalRes cs tb r :=
  ⟨f.loc hc, f.ext.le.1, f.ext.le.2⟩

theorem FragOk.seq {r1 r2 : Code × Tables} (f1 : FragOk cs tb caps r1) (f2 : FragOk cs r1.2 caps r2) :
    FragOk cs tb caps (r1.1 ++ r2.1, r2.2) := by
  refine ⟨?_, fun i hi => ?_, f1.ext.trans f2.ext, fun hc => ?_⟩
  · have := f1.pairing
    have := f2.pairing
    simp only [cnt_append]
    omega
  · rcases List.mem_append.1 hi with h | h
    · exact f1.words i h
    · exact f2.words i h
  · exact AllLocal_append.2 ⟨fun i hi => localOk_mono f2.ext.le.1 f2.ext.le.2 (f1.loc hc i hi), f2.loc hc⟩

/-- opcode word and operand count: all of an instruction that the facts about framing instructions depend on -/
def Instr.shape (i : Instr) : Nat × Nat := (i.op, i.args.length)

/-- framing opcodes, every `Nullmark` with a `Goto` -/
def frameCheck (L : List (Nat × Nat)) : Bool :=
  L.all (fun s => frameOps.contains s.1) &&
    decide (Capacity.count opNullmark (L.map (·.1 % (flagMask + 1))) ≤ Capacity.count opGoto (L.map (·.1 % (flagMask + 1))))

/-- the right number of operands, none of them a table index or a capture slot -/
def plainCheck (L : List (Nat × Nat)) : Bool :=
  L.all (fun s => Code.sizeOf? (s.1 % (flagMask + 1)) == some (1 + s.2) && !specialOps.contains (s.1 % (flagMask + 1)))

theorem FragOk.lits (L : Code) (h : frameCheck (L.map Instr.shape) = true)
    (hl : caps → ∀ ns nsets, AllLocal ns nsets cs L) : FragOk cs tb caps (L, tb) := by
  simp only [frameCheck, Bool.and_eq_true, List.all_eq_true, List.contains_iff_mem, decide_eq_true_eq,
    List.map_map] at h
  exact ⟨h.2, fun i hi => .inl (h.1 _ (List.mem_map_of_mem hi)), Compile.TabExt.refl tb, fun hc => hl hc _ _⟩

theorem allLocal_plain (L : Code) (h : plainCheck (L.map Instr.shape) = true) (ns nsets : Nat) :
    AllLocal ns nsets cs L := by
  intro i hi
  have := List.all_eq_true.1 h _ (List.mem_map_of_mem hi)
  simp only [Instr.shape, Bool.and_eq_true, Bool.not_eq_true'] at this
  exact localOk_plain this

theorem FragOk.plain (L : Code) (h : frameCheck (L.map Instr.shape) = true)
    (hp : plainCheck (L.map Instr.shape) = true) : FragOk cs tb caps (L, tb) :=
  .lits L h fun _ => allLocal_plain L hp

theorem leafWord_ok : ∀ t ∈ leafOps, ∀ rtl ci,
    isJump (t ||| bits rtl ci) = false ∧ (t ||| bits rtl ci) % (flagMask + 1) ≠ opNullmark := by decide +kernel

theorem cnt_eq_zero {x : Nat} {c : Code} (h : ∀ i ∈ c, i.opcode ≠ x) : cnt x c = 0 := by
  induction c with
  | nil => rfl
  | cons i r ih => rw [cnt_cons, if_neg (h i (by simp)), ih (fun j hj => h j (by simp [hj]))]

/-- the instructions of a leaf carry its node type with its option bits -/
def LeafCode (c : Code) : Prop := ∀ i ∈ c, ∃ t ∈ leafOps, ∃ rtl ci, i.op = t ||| bits rtl ci

theorem FragOk.leaf {tb' : Tables} {c : Code} (h : LeafCode c)
    (he : Compile.TabExt tb tb')
    (hl : caps → AllLocal tb'.strings.length tb'.sets.length cs c) : FragOk cs tb caps (c, tb') := by
  refine ⟨?_, fun i hi => .inr (h i hi), he, hl⟩
  show cnt opNullmark c ≤ _
  rw [cnt_eq_zero fun i hi => ?_]
  · exact Nat.zero_le _
  · obtain ⟨t, ht, rtl, ci, e⟩ := h i hi
    simpa [Instr.opcode, e] using (leafWord_ok t ht rtl ci).2

theorem leafCode_nil : LeafCode [] := fun _ hi => by cases hi

theorem leafCode_one {i : Instr} {t : Nat} (ht : t ∈ leafOps) {rtl ci : Bool} (hi : i.op = t ||| bits rtl ci) :
    LeafCode [i] := fun j hj => by rw [List.mem_singleton] at hj; exact ⟨t, ht, rtl, ci, hj ▸ hi⟩

theorem forall_mem_opt2 {P : Instr → Prop} {p q : Prop} [Decidable p] [Decidable q] {x y : Instr}
    (hx : P x) (hy : P y) : ∀ i ∈ (if p then [x] else []) ++ (if q then [y] else []), P i := by
  intro i hi
  rcases List.mem_append.1 hi with hi | hi
  · split at hi
    · rw [List.mem_singleton.1 hi]; exact hx
    · cases hi
  · split at hi
    · rw [List.mem_singleton.1 hi]; exact hy
    · cases hi

end frag

theorem LeafCode.jok {c : Code} (h : LeafCode c) (S : List Nat) : JOk S c := by
  intro i hi t ht
  obtain ⟨t', ht', rtl, ci, e⟩ := h i hi
  simp [Instr.targets, e, (leafWord_ok t' ht' rtl ci).1] at ht

/-! ### fragments at an offset

A node's code is its framing instructions interleaved with its children's code.  A framing jump goes to a place the frame
fixes: its end, the start of a child, an instruction of its closing block.  While the frame is put together these are
labels `E` (`JOk E c` for the framing instructions `c`); when it is complete each label is shown to be one of its
instruction boundaries (`FragAt.place`). -/

/-- the fragment `r` of `sz` words at offset `a`: `FragOk`, and every jump goes to one of its instruction boundaries or to a
    label of `E` -/
structure FragAt (cs a : Nat) (tb : Tables) (caps : Prop) (E : List Nat) (sz : Nat) (r : Code × Tables) : Prop where
  ok : FragOk cs tb caps r
  len : codeLen r.1 = sz
  jumps : ∀ i ∈ r.1, ∀ t ∈ i.targets, ∃ k : Nat, (k ∈ starts a r.1 ∨ k ∈ E) ∧ t = (k : Int)

section fragAt
variable {cs a : Nat} {tb : Tables} {caps : Prop} {E : List Nat} {sz : Nat} {r r1 r2 : Code × Tables}

theorem JOk.nil : JOk E [] := fun _ hi => nomatch hi

theorem JOk.cons {i : Instr} {c : Code} (h : JOk E c) (hi : isJump i.op = false := by rfl) : JOk E (i :: c) := by
  intro j hj t ht
  rcases List.mem_cons.1 hj with rfl | hj
  · simp [Instr.targets, hi] at ht
  · exact h j hj t ht

theorem JOk.jmp1 {op : Nat} {k : Nat} {c : Code} (hk : k ∈ E) (h : JOk E c) : JOk E (i1 op (k : Int) :: c) := by
  intro j hj t ht
  rcases List.mem_cons.1 hj with rfl | hj
  · rw [targets_i1] at ht
    split at ht
    · exact ⟨k, hk, List.mem_singleton.1 ht⟩
    · cases ht
  · exact h j hj t ht

theorem JOk.jmp2 {op : Nat} {k : Nat} {x : Int} {c : Code} (hk : k ∈ E) (h : JOk E c) :
    JOk E (i2 op (k : Int) x :: c) := by
  intro j hj t ht
  rcases List.mem_cons.1 hj with rfl | hj
  · rw [targets_i2] at ht
    split at ht
    · exact ⟨k, hk, List.mem_singleton.1 ht⟩
    · cases ht
  · exact h j hj t ht

theorem FragAt.imp {caps' : Prop} (f : FragAt cs a tb caps' E sz r) (h : caps → caps') : FragAt cs a tb caps E sz r :=
  ⟨f.ok.imp h, f.len, f.jumps⟩

theorem FragAt.seq {s1 s2 : Nat} (f1 : FragAt cs a tb caps E s1 r1) (f2 : FragAt cs (a + s1) r1.2 caps E s2 r2) :
    FragAt cs a tb caps E (s1 + s2) (r1.1 ++ r2.1, r2.2) := by
  refine ⟨f1.ok.seq f2.ok, codeLen_seq f1.len f2.len, fun i hi t ht => ?_⟩
  rcases List.mem_append.1 hi with h | h
  · obtain ⟨k, hk, e⟩ := f1.jumps i h t ht
    exact ⟨k, hk.imp_left mem_starts_left, e⟩
  · obtain ⟨k, hk, e⟩ := f2.jumps i h t ht
    exact ⟨k, hk.imp_left fun hk => mem_starts_right hk (by rw [f1.len]), e⟩

/-- a fragment at its place in a frame that has further labels -/
theorem FragAt.sub {b : Nat} {E' : List Nat} (f : FragAt cs b tb caps E' sz r)
    (hE : ∀ e ∈ E', e ∈ E := by exact fun _ h => nomatch h) (hb : b = a := by omega) : FragAt cs a tb caps E sz r :=
  hb ▸ ⟨f.ok, f.len, fun i hi t ht => (f.jumps i hi t ht).imp fun k h => ⟨h.1.imp_right (hE k), h.2⟩⟩

/-- a label is placed: it is an instruction boundary of the fragment -/
theorem FragAt.place {e : Nat} (f : FragAt cs a tb caps (e :: E) sz r) (h : e ∈ starts a r.1) : FragAt cs a tb caps E sz r :=
  ⟨f.ok, f.len, fun i hi t ht => (f.jumps i hi t ht).imp fun _ hk =>
    ⟨hk.1.elim .inl fun hm => (List.mem_cons.1 hm).elim (fun e' => .inl (e' ▸ h)) .inr, hk.2⟩⟩

theorem FragAt.jok (f : FragAt cs a tb caps [] sz r) : JOk (starts a r.1) r.1 := fun i hi t ht =>
  (f.jumps i hi t ht).elim fun k h => ⟨k, h.1.elim id (fun h' => nomatch h'), h.2⟩

theorem FragAt.lit {L : Code} (ok : FragOk cs tb caps (L, tb)) (hp : JOk E L) (hs : codeLen L = sz := by rfl) :
    FragAt cs a tb caps E sz (L, tb) :=
  ⟨ok, hs, fun i hi t ht => (hp i hi t ht).imp fun _ h => ⟨.inr h.1, h.2⟩⟩

theorem FragAt.plain (sz : Nat) (L : Code) (h : frameCheck (L.map Instr.shape) = true)
    (hp : plainCheck (L.map Instr.shape) = true) (hj : JOk E L) (hs : codeLen L = sz := by rfl) :
    FragAt cs a tb caps E sz (L, tb) := .lit (.plain L h hp) hj hs

theorem FragAt.mem_end {k : Nat} (f : FragAt cs a tb caps E sz r) (h : k = a + sz := by omega) : k ∈ starts a r.1 :=
  starts_end' (by rw [f.len]; exact h)

theorem FragAt.mem_right {k : Nat} {y : Code} (f : FragAt cs a tb caps E sz r) (h : k ∈ starts (a + sz) y) :
    k ∈ starts a (r.1 ++ y) := mem_starts_right h (by rw [f.len])

/-- the second instruction of a block, `n` words behind its start -/
theorem starts_second {k b : Nat} {x : Instr} {c : Code} (n : Nat) (hn : n = 1 + x.args.length := by rfl)
    (h : k = b + n := by omega) : k ∈ starts b (x :: c) := by
  subst hn h; exact List.mem_cons_of_mem _ (starts_self _ _)

theorem loopHead_fragAt (m n : Int) (t : Nat) (ht : t ∈ E) :
    FragAt cs a tb caps E (loopHeadLen m n)
      ((if counted m n then (if m == 0 then [i1 opNullcount 0] else [i1 opSetcount (1 - m)])
          else (if m == 0 then [i0 opNullmark] else [i0 opSetmark])) ++
        (if m == 0 then [i1 opGoto (t : Int)] else []), tb) := by
  by_cases hcn : counted m n = true <;> by_cases hm : (m == 0) = true <;>
    simp only [hcn, hm, loopHeadLen, if_true, if_false, Bool.false_eq_true, List.append_nil, List.singleton_append]
  · exact .plain _ _ rfl rfl (.cons (.jmp1 ht .nil))
  · exact .plain _ _ rfl rfl (.cons .nil)
  · exact .plain _ _ rfl rfl (.cons (.jmp1 ht .nil))
  · exact .plain _ _ rfl rfl (.cons .nil)

theorem loopTail_fragAt (lzy : Bool) (m n : Int) (b : Nat) (x : Int) (hb : b ∈ E) :
    FragAt cs a tb caps E (loopTailLen m n)
      (if counted m n then [i2 (opBranchcount + if lzy then 1 else 0) (b : Int) x]
        else [i1 (opBranchmark + if lzy then 1 else 0) (b : Int)], tb) := by
  unfold loopTailLen
  cases lzy <;> split
  · exact .plain _ _ rfl rfl (.jmp2 hb .nil)
  · exact .plain _ _ rfl rfl (.jmp1 hb .nil)
  · exact .plain _ _ rfl rfl (.jmp2 hb .nil)
  · exact .plain _ _ rfl rfl (.jmp1 hb .nil)

theorem testref_fragAt {t : Nat} {g : Int} (hg : caps → 0 ≤ g ∧ g < cs) (ht : t ∈ E) :
    FragAt cs a tb caps E 6 ([i0 opSetjump, i1 opLazybranch (t : Int), i1 opTestref g, i0 opForejump], tb) :=
  .lit (.lits _ rfl fun hc _ _ => AllLocal_cons.2 ⟨rfl, AllLocal_cons.2 ⟨rfl, AllLocal_cons.2 ⟨localOk_testref (hg hc),
    AllLocal_one rfl⟩⟩⟩) (.cons (.jmp1 ht (.cons (.cons .nil))))

end fragAt

mutual
theorem emitNode_size (cfg : Cfg) : ∀ (n : GoNode) (a : Nat) (tb : Tables),
    codeLen (emitNode cfg a tb n).1 = size cfg n
  | .empty, _, _ | .bare _, _, _ | .char _ _ _ _, _, _ | .set _ _ _, _, _ | .multi _ _ _, _, _ | .ref _ _ _, _, _
  | .other _, _, _ => by simp only [emitNode, size]; rfl
  | .charloop t rtl ci ch m n, a, tb | .setloop t rtl ci s m n, a, tb => by
    simp only [emitNode, size]; exact codeLen_opt2 _ _
  | .concat cs, a, tb => by simp only [emitNode, size]; exact emitList_size cfg cs a tb
  | .alt cs, a, tb => by simp only [emitNode, size]; exact emitAlt_size cfg cs a _ tb
  | .loop lzy m n c, a, tb => by
    simp only [emitNode, size]
    refine codeLen_seq (codeLen_seq ?_ (emitNode_size cfg c _ tb)) ?_
    · unfold loopHeadLen; split <;> split <;> rfl
    · unfold loopTailLen; split <;> rfl
  | .capture m n c, a, tb => by
    simp only [emitNode, size]
    split
    · exact codeLen_seq (codeLen_seq rfl (emitNode_size cfg c _ tb)) rfl
    · exact emitNode_size cfg c a tb
  | .group c, a, tb => by simp only [emitNode, size]; exact emitNode_size cfg c a tb
  | .poslook c, a, tb | .neglook c, a, tb | .atomic c, a, tb | .backrefcond1 _ c, a, tb => by
    simp only [emitNode, size]; exact codeLen_seq (codeLen_seq rfl (emitNode_size cfg c _ tb)) rfl
  | .backrefcond2 m y n, a, tb => by
    simp only [emitNode, size]
    exact codeLen_seq (codeLen_seq (codeLen_seq rfl (emitNode_size cfg y _ tb)) rfl) (emitNode_size cfg n _ _)
  | .exprcond2 c y, a, tb => by
    simp only [emitNode, size]
    exact codeLen_seq (codeLen_seq (codeLen_seq (codeLen_seq rfl (emitNode_size cfg c _ tb)) rfl)
      (emitNode_size cfg y _ _)) rfl
  | .exprcond3 c y n, a, tb => by
    simp only [emitNode, size]
    exact codeLen_seq (codeLen_seq (codeLen_seq (codeLen_seq (codeLen_seq rfl (emitNode_size cfg c _ tb)) rfl)
      (emitNode_size cfg y _ _)) rfl) (emitNode_size cfg n _ _)
theorem emitList_size (cfg : Cfg) : ∀ (cs : List GoNode) (a : Nat) (tb : Tables),
    codeLen (emitList cfg a tb cs).1 = sizeList cfg cs
  | [], a, tb => rfl
  | c :: cs, a, tb => by
    simp only [emitList, sizeList]; exact codeLen_seq (emitNode_size cfg c a tb) (emitList_size cfg cs _ _)
theorem emitAlt_size (cfg : Cfg) : ∀ (cs : List GoNode) (a fin : Nat) (tb : Tables),
    codeLen (emitAlt cfg a fin tb cs).1 = sizeAlt cfg cs
  | [], a, fin, tb => rfl
  | c :: cs, a, fin, tb => by
    simp only [emitAlt, sizeAlt]
    split
    · exact emitNode_size cfg c a tb
    · exact codeLen_seq (codeLen_seq (codeLen_seq rfl (emitNode_size cfg c _ tb)) rfl) (emitAlt_size cfg cs _ fin _)
end

/-- the node types that emit no instruction of their own around children -/
def GoNode.leaf : GoNode → Bool
  | .empty | .bare _ | .char _ _ _ _ | .set _ _ _ | .multi _ _ _ | .ref _ _ _ | .charloop _ _ _ _ _ _
  | .setloop _ _ _ _ _ _ => true
  | _ => false

theorem emitNode_leaf (cfg : Cfg) (cs a : Nat) (tb : Tables) : ∀ n : GoNode, n.ok = true → n.leaf = true →
    LeafCode (emitNode cfg a tb n).1 ∧
      Compile.TabExt tb (emitNode cfg a tb n).2 ∧
      (capsOk cfg cs n = true →
        AllLocal (emitNode cfg a tb n).2.strings.length (emitNode cfg a tb n).2.sets.length cs (emitNode cfg a tb n).1)
  | .empty, _, _ => by
    simp only [emitNode]
    exact ⟨leafCode_nil, Compile.TabExt.refl tb, fun _ => AllLocal_nil _ _ _⟩
  | .bare t, h, _ => by
    have ht : t ∈ bareTypes := by simpa [GoNode.ok] using h
    simp only [emitNode]
    exact ⟨leafCode_one (rtl := false) (ci := false) (mem_leaf_bare (by simpa using ht)) (Nat.or_zero t).symm,
      Compile.TabExt.refl tb, fun _ => AllLocal_one (localOk_plain (bare_plain t ht))⟩
  | .char t rtl ci ch, h, _ => by
    have ht : t ∈ charTypes := by simpa [GoNode.ok] using h
    simp only [emitNode]
    exact ⟨leafCode_one (mem_leaf_char (by simpa using ht)) rfl, Compile.TabExt.refl tb,
      fun _ => AllLocal_one (localOk_plain (char_plain t ht rtl ci))⟩
  | .set rtl ci s, _, _ => by
    simp only [emitNode]
    exact ⟨leafCode_one (t := opSet) (by decide) rfl, ⟨(Compile.TabExt.refl tb).1, internKey_grows setKey tb.sets s⟩, fun _ =>
      AllLocal_one (localOk_set (internKey_lt setKey tb.sets s))⟩
  | .multi rtl ci s, _, _ => by
    simp only [emitNode]
    exact ⟨leafCode_one (t := opMulti) (by decide) rfl, ⟨internKey_grows strKey tb.strings s, (Compile.TabExt.refl tb).2⟩, fun _ =>
      AllLocal_one (localOk_multi (internKey_lt strKey tb.strings s))⟩
  | .ref rtl ci m, _, _ => by
    simp only [emitNode]
    exact ⟨leafCode_one (t := opRef) (by decide) rfl, Compile.TabExt.refl tb, fun hc =>
      AllLocal_one (localOk_ref (slotOk_iff.1 hc))⟩
  | .charloop t rtl ci ch m n, h, _ => by
    have ht : t ∈ charloopTypes := by simpa [GoNode.ok] using h
    simp only [emitNode]
    have hrep : ∀ x : Nat, x = opOnerep ∨ x = opNotonerep → x ∈ leafOps ∧ x ∈ charloopTypes ++ [opOnerep, opNotonerep] := by
      rintro x (rfl | rfl) <;> decide
    obtain ⟨h1, h2⟩ := hrep (if isOneFamily t = true then opOnerep else opNotonerep) (by split <;> simp)
    exact ⟨forall_mem_opt2 ⟨_, h1, rtl, ci, rfl⟩ ⟨t, mem_leaf_charloop (by simpa using ht), rtl, ci, rfl⟩, Compile.TabExt.refl tb,
      fun _ => forall_mem_opt2 (localOk_plain (charloop_plain _ h2 rtl ci))
        (localOk_plain (charloop_plain t (List.mem_append_left _ ht) rtl ci))⟩
  | .setloop t rtl ci s m n, h, _ => by
    have ht : t ∈ setloopTypes := by simpa [GoNode.ok] using h
    have hk := internKey_lt setKey tb.sets s
    simp only [emitNode]
    refine ⟨forall_mem_opt2 ⟨opSetrep, by decide, rtl, ci, rfl⟩ ⟨t, mem_leaf_setloop (by simpa using ht), rtl, ci, rfl⟩,
      ?_, fun _ => ?_⟩
    · split
      · exact ⟨(Compile.TabExt.refl tb).1, internKey_grows setKey tb.sets s⟩
      · exact Compile.TabExt.refl tb
    · by_cases hd : (decide (m > 0) || decide (n > m)) = true
      · rw [if_pos hd]
        exact forall_mem_opt2 (localOk_setloop (t := opSetrep) (by decide) hk)
          (localOk_setloop (List.mem_append_left _ ht) hk)
      · have hm : ¬ m > 0 := fun h => hd (by simp [h])
        have hn : ¬ n > m := fun h => hd (by simp [h])
        rw [if_neg hm, if_neg hn]
        exact AllLocal_nil _ _ _
  | .concat _, _, hl | .alt _, _, hl | .loop _ _ _ _, _, hl | .capture _ _ _, _, hl | .group _, _, hl
  | .poslook _, _, hl | .neglook _, _, hl | .atomic _, _, hl | .backrefcond1 _ _, _, hl
  | .backrefcond2 _ _ _, _, hl | .exprcond2 _ _, _, hl | .exprcond3 _ _ _, _, hl | .other _, _, hl => by cases hl

theorem FragAt.leaf {cs a : Nat} {tb : Tables} (cfg : Cfg) (n : GoNode) (h : n.ok = true) (hl : n.leaf = true) :
    FragAt cs a tb (capsOk cfg cs n = true) [] (size cfg n) (emitNode cfg a tb n) :=
  have h3 := emitNode_leaf cfg cs a tb n h hl
  ⟨.leaf h3.1 h3.2.1 h3.2.2, emitNode_size cfg n a tb, fun i hi t ht => (h3.1.jok [] i hi t ht).elim fun _ h => nomatch h.1⟩

mutual
/-- **every fragment of an `ok` tree is well-formed where it stands**: the framing instructions are closed lists checked by
    evaluation, the children come from the induction, and the one or two places the frame's jumps go to are named when it
    is complete -/
theorem emitNode_fragAt (cfg : Cfg) (cs : Nat) : ∀ (n : GoNode) (a : Nat) (tb : Tables), n.ok = true →
    FragAt cs a tb (capsOk cfg cs n = true) [] (size cfg n) (emitNode cfg a tb n)
  | .concat l, a, tb, h => by
    simp only [emitNode, size]
    exact emitList_fragAt cfg cs l a tb (by simp [GoNode.ok] at h; exact h.2)
  | .alt l, a, tb, h => by
    simp only [emitNode, size]
    have f := emitAlt_fragAt cfg cs l a (a + sizeAlt cfg l) tb (by simp [GoNode.ok] at h; exact h.2)
    exact f.place f.mem_end
  | .loop lzy m n c, a, tb, h => by
    simp only [emitNode, size]
    -- the `Goto` of the head goes to the branch behind the body, the branch back to the body
    have f0 : FragAt cs a tb (capsOk cfg cs c = true) [a + loopHeadLen m n + size cfg c, a + loopHeadLen m n] _ _ :=
      loopHead_fragAt m n _ (.head _)
    have f := f0.seq (emitNode_fragAt cfg cs c (a + loopHeadLen m n) tb h).sub
    exact ((f.seq (loopTail_fragAt lzy m n _ _ (.tail _ (.head _)))).place (mem_starts_left f.mem_end)).place
      (mem_starts_left (mem_starts_left f0.mem_end))
  | .capture m n c, a, tb, h => by
    simp only [emitNode, size]
    split
    · refine ((FragAt.plain 1 [i0 opSetmark] rfl rfl (.cons .nil)).seq
        ((emitNode_fragAt cfg cs c (a + 1) tb h).imp band_right).sub).seq
        (.lit (sz := 3) (.lits [i2 opCapturemark _ _] rfl fun hc _ _ => ?_) (.cons .nil))
      exact AllLocal_one (localOk_capturemark (capture_operands (band_left hc)))
    · exact (emitNode_fragAt cfg cs c a tb h).imp band_right
  | .group c, a, tb, h => by simp only [emitNode, size]; exact emitNode_fragAt cfg cs c a tb h
  | .poslook c, a, tb, h => by
    simp only [emitNode, size]
    exact ((FragAt.plain 2 _ rfl rfl (.cons (.cons .nil))).seq (emitNode_fragAt cfg cs c (a + 2) tb h).sub).seq
      (.plain 2 _ rfl rfl (.cons (.cons .nil)))
  | .neglook c, a, tb, h => by
    simp only [emitNode, size]
    -- the `Lazybranch` goes to the `Forejump`, the second instruction behind the body
    have f : FragAt cs a tb (capsOk cfg cs c = true) [a + 3 + size cfg c + 1] _ _ :=
      (FragAt.plain 3 [i0 opSetjump, i1 opLazybranch _] rfl rfl (.cons (.jmp1 (.head _) .nil))).seq
        (emitNode_fragAt cfg cs c (a + 3) tb h).sub
    exact (f.seq (.plain 2 _ rfl rfl (.cons (.cons .nil)))).place (f.mem_right (starts_second 1))
  | .atomic c, a, tb, h => by
    simp only [emitNode, size]
    exact ((FragAt.plain 1 _ rfl rfl (.cons .nil)).seq (emitNode_fragAt cfg cs c (a + 1) tb h).sub).seq
      (.plain 1 _ rfl rfl (.cons .nil))
  | .backrefcond1 m y, a, tb, h => by
    simp only [emitNode, size]
    -- the `Lazybranch` goes to the `Forejump` behind the `Goto`, the `Goto` to the end
    have f : FragAt cs a tb (capsOk cfg cs (.backrefcond1 m y) = true)
        [a + 6 + size cfg y + 2, a + 6 + size cfg y + 3] _ _ :=
      (testref_fragAt (slotOk_iff.1 ∘ band_left) (.head _)).seq ((emitNode_fragAt cfg cs y (a + 6) tb h).imp band_right).sub
    have g := f.seq (.plain 3 [i1 opGoto _, i0 opForejump] rfl rfl (.jmp1 (.tail _ (.head _)) (.cons .nil)))
    exact (g.place (f.mem_right (starts_second 2))).place g.mem_end
  | .backrefcond2 m y n, a, tb, h => by
    simp only [emitNode, size]
    have f : FragAt cs a tb (capsOk cfg cs (.backrefcond2 m y n) = true)
        [a + 6 + size cfg y + 2, a + 6 + size cfg y + 3 + size cfg n] _ _ :=
      (testref_fragAt (slotOk_iff.1 ∘ band_left ∘ band_left) (.head _)).seq
        ((emitNode_fragAt cfg cs y (a + 6) tb (band_left h)).imp (band_right ∘ band_left)).sub
    have g := (f.seq (.plain 3 [i1 opGoto _, i0 opForejump] rfl rfl (.jmp1 (.tail _ (.head _)) (.cons .nil)))).seq
      ((emitNode_fragAt cfg cs n (a + 6 + size cfg y + 3) _ (band_right h)).imp band_right).sub
    exact (g.place (mem_starts_left (f.mem_right (starts_second 2)))).place g.mem_end
  | .exprcond2 c y, a, tb, h => by
    simp only [emitNode, size]
    -- the `Lazybranch` goes to the `Getmark` behind the `Goto`, the `Goto` to the end
    have f : FragAt cs a tb (capsOk cfg cs (.exprcond2 c y) = true)
        [a + 4 + size cfg c + 2 + size cfg y + 2, a + 4 + size cfg c + 2 + size cfg y + 4] _ _ :=
      (((FragAt.plain 4 [i0 opSetjump, i0 opSetmark, i1 opLazybranch _] rfl rfl (.cons (.cons (.jmp1 (.head _) .nil)))).seq
        ((emitNode_fragAt cfg cs c (a + 4) tb (band_left h)).imp band_left).sub).seq
        (.plain 2 [i0 opGetmark, i0 opForejump] rfl rfl (.cons (.cons .nil)))).seq
        ((emitNode_fragAt cfg cs y (a + 4 + size cfg c + 2) _ (band_right h)).imp band_right).sub
    have g := f.seq
      (.plain 4 [i1 opGoto _, i0 opGetmark, i0 opForejump] rfl rfl (.jmp1 (.tail _ (.head _)) (.cons (.cons .nil))))
    exact (g.place (f.mem_right (starts_second 2))).place g.mem_end
  | .exprcond3 c y n, a, tb, h => by
    simp only [emitNode, size]
    have f : FragAt cs a tb (capsOk cfg cs (.exprcond3 c y n) = true)
        [a + 4 + size cfg c + 2 + size cfg y + 2, a + 4 + size cfg c + 2 + size cfg y + 4 + size cfg n] _ _ :=
      (((FragAt.plain 4 [i0 opSetjump, i0 opSetmark, i1 opLazybranch _] rfl rfl (.cons (.cons (.jmp1 (.head _) .nil)))).seq
        ((emitNode_fragAt cfg cs c (a + 4) tb (band_left (band_left h))).imp (band_left ∘ band_left)).sub).seq
        (.plain 2 [i0 opGetmark, i0 opForejump] rfl rfl (.cons (.cons .nil)))).seq
        ((emitNode_fragAt cfg cs y (a + 4 + size cfg c + 2) _ (band_right (band_left h))).imp (band_right ∘ band_left)).sub
    have g := (f.seq
      (.plain 4 [i1 opGoto _, i0 opGetmark, i0 opForejump] rfl rfl (.jmp1 (.tail _ (.head _)) (.cons (.cons .nil))))).seq
      ((emitNode_fragAt cfg cs n (a + 4 + size cfg c + 2 + size cfg y + 4) _ (band_right h)).imp band_right).sub
    exact (g.place (mem_starts_left (f.mem_right (starts_second 2)))).place g.mem_end
  | .other t, a, tb, h => by simp [GoNode.ok] at h
  | .empty, a, tb, h | .bare _, a, tb, h | .char _ _ _ _, a, tb, h | .set _ _ _, a, tb, h | .multi _ _ _, a, tb, h
  | .ref _ _ _, a, tb, h | .charloop _ _ _ _ _ _, a, tb, h | .setloop _ _ _ _ _ _, a, tb, h => .leaf cfg _ h rfl
theorem emitList_fragAt (cfg : Cfg) (cs : Nat) : ∀ (l : List GoNode) (a : Nat) (tb : Tables), okList l = true →
    FragAt cs a tb (capsOkList cfg cs l = true) [] (sizeList cfg l) (emitList cfg a tb l)
  | [], a, tb, _ => .plain 0 [] rfl rfl .nil
  | c :: l, a, tb, h => by
    simp only [emitList, sizeList]
    exact ((emitNode_fragAt cfg cs c a tb (band_left h)).imp band_left).seq
      ((emitList_fragAt cfg cs l (a + size cfg c) _ (band_right h)).imp band_right)
/-- the `Goto`s of an alternation go to the label `fin`, which the caller places -/
theorem emitAlt_fragAt (cfg : Cfg) (cs : Nat) : ∀ (l : List GoNode) (a fin : Nat) (tb : Tables), okList l = true →
    FragAt cs a tb (capsOkList cfg cs l = true) [fin] (sizeAlt cfg l) (emitAlt cfg a fin tb l)
  | [], a, fin, tb, _ => .plain 0 [] rfl rfl .nil
  | c :: l, a, fin, tb, h => by
    simp only [emitAlt, sizeAlt]
    split
    · exact ((emitNode_fragAt cfg cs c a tb (band_left h)).imp band_left).sub
    · -- the `Lazybranch` goes to the next branch
      have f : FragAt cs a tb (capsOkList cfg cs (c :: l) = true) [a + 2 + size cfg c + 2, fin] _ _ :=
        ((FragAt.plain 2 [i1 opLazybranch _] rfl rfl (.jmp1 (.head _) .nil)).seq
          ((emitNode_fragAt cfg cs c (a + 2) tb (band_left h)).imp band_left).sub).seq
          (.plain 2 [i1 opGoto _] rfl rfl (.jmp1 (.tail _ (.head _)) .nil))
      exact (f.seq (((emitAlt_fragAt cfg cs l (a + 2 + size cfg c + 2) fin _ (band_right h)).imp band_right).sub
        fun _ he => .tail _ he)).place (mem_starts_left f.mem_end)
end

/-! ### what the fragments of a tree have, one fact at a time -/

theorem emitNode_jumps (cfg : Cfg) : ∀ (n : GoNode) (a : Nat) (tb : Tables), n.ok = true →
    JOk (starts a (emitNode cfg a tb n).1) (emitNode cfg a tb n).1 :=
  fun n a tb h => (emitNode_fragAt cfg 0 n a tb h).jok

theorem emitList_jumps (cfg : Cfg) : ∀ (cs : List GoNode) (a : Nat) (tb : Tables), okList cs = true →
    JOk (starts a (emitList cfg a tb cs).1) (emitList cfg a tb cs).1 :=
  fun cs a tb h => (emitList_fragAt cfg 0 cs a tb h).jok

theorem emitAlt_jumps (cfg : Cfg) : ∀ (cs : List GoNode) (a fin : Nat) (tb : Tables), okList cs = true →
    fin = a + sizeAlt cfg cs →
    JOk (starts a (emitAlt cfg a fin tb cs).1) (emitAlt cfg a fin tb cs).1 :=
  fun cs a fin tb h hfin => ((emitAlt_fragAt cfg 0 cs a fin tb h).place ((emitAlt_fragAt cfg 0 cs a fin tb h).mem_end hfin)).jok

theorem emitNode_frag (cfg : Cfg) (cs : Nat) : ∀ (n : GoNode) (a : Nat) (tb : Tables), n.ok = true →
    FragOk cs tb (capsOk cfg cs n = true) (emitNode cfg a tb n) :=
  fun n a tb h => (emitNode_fragAt cfg cs n a tb h).ok

theorem emitList_frag (cfg : Cfg) (cs : Nat) : ∀ (l : List GoNode) (a : Nat) (tb : Tables), okList l = true →
    FragOk cs tb (capsOkList cfg cs l = true) (emitList cfg a tb l) :=
  fun l a tb h => (emitList_fragAt cfg cs l a tb h).ok

theorem emitAlt_frag (cfg : Cfg) (cs : Nat) : ∀ (l : List GoNode) (a fin : Nat) (tb : Tables), okList l = true →
    FragOk cs tb (capsOkList cfg cs l = true) (emitAlt cfg a fin tb l) :=
  fun l a fin tb h => (emitAlt_fragAt cfg cs l a fin tb h).ok

theorem emitList_local (cfg : Cfg) (cs : Nat) : ∀ (l : List GoNode) (a : Nat) (tb : Tables), okList l = true →
    capsOkList cfg cs l = true → LocalRes cs tb (emitList cfg a tb l) :=
  fun l a tb h hc => (emitList_frag cfg cs l a tb h).local hc

theorem emitAlt_local (cfg : Cfg) (cs : Nat) : ∀ (l : List GoNode) (a fin : Nat) (tb : Tables), okList l = true →
    capsOkList cfg cs l = true → LocalRes cs tb (emitAlt cfg a fin tb l) :=
  fun l a fin tb h hc => (emitAlt_frag cfg cs l a fin tb h).local hc

theorem emitList_pairing (cfg : Cfg) : ∀ (l : List GoNode) (a : Nat) (tb : Tables), okList l = true →
    cnt opNullmark (emitList cfg a tb l).1 ≤ cnt opGoto (emitList cfg a tb l).1 :=
  fun l a tb h => (emitList_frag cfg 0 l a tb h).pairing

theorem emitAlt_pairing (cfg : Cfg) : ∀ (l : List GoNode) (a fin : Nat) (tb : Tables), okList l = true →
    cnt opNullmark (emitAlt cfg a fin tb l).1 ≤ cnt opGoto (emitAlt cfg a fin tb l).1 :=
  fun l a fin tb h => (emitAlt_frag cfg 0 l a fin tb h).pairing

theorem codeFromTree_fragAt (cfg : Cfg) (cs : Nat) (root : GoNode) (h : root.ok = true) :
    FragAt cs 0 ⟨[], []⟩ (capsOk cfg cs root = true) [] (size cfg root + 3) (codeFromTree cfg root) := by
  have f : FragAt cs 0 ⟨[], []⟩ (capsOk cfg cs root = true) [2 + size cfg root] _ _ :=
    (FragAt.plain 2 [i1 opLazybranch _] rfl rfl (.jmp1 (.head _) .nil)).seq (emitNode_fragAt cfg cs root 2 ⟨[], []⟩ h).sub
  exact (show 2 + size cfg root + 1 = size cfg root + 3 by omega) ▸
    (f.seq (.plain 1 [i0 opStop] rfl rfl (.cons .nil))).place (mem_starts_left f.mem_end)

/-- no jump of the program goes behind the `Stop` -/
theorem codeFromTree_jumps (cfg : Cfg) (root : GoNode) (h : root.ok = true) :
    JOk (istarts 0 (codeFromTree cfg root).1) (codeFromTree cfg root).1 := by
  have f : FragAt 0 0 ⟨[], []⟩ (capsOk cfg 0 root = true) [2 + size cfg root] _ _ :=
    (FragAt.plain 2 [i1 opLazybranch _] rfl rfl (.jmp1 (.head _) .nil)).seq (emitNode_fragAt cfg 0 root 2 ⟨[], []⟩ h).sub
  simp only [codeFromTree]
  rw [istarts_snoc]
  exact JOk_append.2 ⟨(f.place f.mem_end).jok, fun i hi t ht => by rw [List.mem_singleton.1 hi] at ht; cases ht⟩

theorem codeFromTree_frag (cfg : Cfg) (cs : Nat) (root : GoNode) (h : root.ok = true) :
    FragOk cs ⟨[], []⟩ (capsOk cfg cs root = true) (codeFromTree cfg root) := (codeFromTree_fragAt cfg cs root h).ok

theorem codeFromTree_local (cfg : Cfg) (cs : Nat) (root : GoNode) (h : root.ok = true) (hc : capsOk cfg cs root = true) :
    AllLocal (codeFromTree cfg root).2.strings.length (codeFromTree cfg root).2.sets.length cs (codeFromTree cfg root).1 :=
  (codeFromTree_frag cfg cs root h).loc hc

theorem codeFromTree_pairing (cfg : Cfg) (root : GoNode) (h : root.ok = true) :
    cnt opNullmark (codeFromTree cfg root).1 ≤ cnt opGoto (codeFromTree cfg root).1 :=
  (codeFromTree_frag cfg 0 root h).pairing

/-- the two words of the leading `Lazybranch` and the `Stop` -/
theorem codeFromTree_size (cfg : Cfg) (root : GoNode) : codeLen (codeFromTree cfg root).1 = size cfg root + 3 := by
  simp [codeFromTree, codeLen_append, emitNode_size]; omega

/-! what `treeWf` gives these theorems (bool-only configuration: `treeWf_capsQuick`, Lemmas/Compose.lean) -/

theorem treeWf_ok {ti : TreeInfo} {root : GoNode} (h : treeWf ti root = true) : root.ok = true :=
  band_left (band_left h)

theorem treeWf_caps {ti : TreeInfo} {root : GoNode} (h : treeWf ti root = true) :
    capsOk (mainCfg ti) (capsize ti) root = true := band_right (band_left h)

/-! ### the two configurations: the bool-only program -/

theorem mapCapnum_quick (caps : Option (List (Int × Int))) (q : Option (List Bool)) (g : Int) :
    mapCapnum ⟨caps, q⟩ g = mapCapnum ⟨caps, none⟩ g := rfl

theorem emitCapture_main (caps : Option (List (Int × Int))) (m n : Int) : emitCapture ⟨caps, none⟩ m n = true := rfl

theorem stripList_isEmpty (cfg : Cfg) (cs : List GoNode) : (stripList cfg cs).isEmpty = cs.isEmpty := by
  cases cs <;> simp [stripList]

/-- `stripTree` rebuilds every node except a `Capture` the bool-only writer drops, which becomes a `Group`: both have
    the size of the child alone.  The motives of `size.mutual_induct` come in the order `size`, `sizeAlt`, `sizeList`. -/
theorem strip_size (caps : Option (List (Int × Int))) (q : List Bool) :
    (∀ n, size ⟨caps, none⟩ (stripTree ⟨caps, some q⟩ n) = size ⟨caps, some q⟩ n) ∧
    (∀ cs, sizeAlt ⟨caps, none⟩ (stripList ⟨caps, some q⟩ cs) = sizeAlt ⟨caps, some q⟩ cs) ∧
    (∀ cs, sizeList ⟨caps, none⟩ (stripList ⟨caps, some q⟩ cs) = sizeList ⟨caps, some q⟩ cs) := by
  apply size.mutual_induct ⟨caps, some q⟩ <;> intros <;>
    simp only [stripTree, stripList, size, sizeList, sizeAlt, stripList_isEmpty, emitCapture_main, if_true, if_false,
      Bool.false_eq_true, *]

theorem size_strip (caps : Option (List (Int × Int))) (q : List Bool) : ∀ (n : GoNode),
    size ⟨caps, none⟩ (stripTree ⟨caps, some q⟩ n) = size ⟨caps, some q⟩ n := (strip_size caps q).1

theorem sizeList_strip (caps : Option (List (Int × Int))) (q : List Bool) : ∀ (cs : List GoNode),
    sizeList ⟨caps, none⟩ (stripList ⟨caps, some q⟩ cs) = sizeList ⟨caps, some q⟩ cs := (strip_size caps q).2.2

theorem sizeAlt_strip (caps : Option (List (Int × Int))) (q : List Bool) : ∀ (cs : List GoNode),
    sizeAlt ⟨caps, none⟩ (stripList ⟨caps, some q⟩ cs) = sizeAlt ⟨caps, some q⟩ cs := (strip_size caps q).2.1

/-- the bool-only writer emits for a tree what the main writer emits for the stripped tree, at every offset and from
    every table -/
theorem strip_emit (caps : Option (List (Int × Int))) (q : List Bool) :
    (∀ n a tb, emitNode ⟨caps, none⟩ a tb (stripTree ⟨caps, some q⟩ n) = emitNode ⟨caps, some q⟩ a tb n) ∧
    (∀ cs, (∀ a tb, emitList ⟨caps, none⟩ a tb (stripList ⟨caps, some q⟩ cs) = emitList ⟨caps, some q⟩ a tb cs) ∧
      ∀ a fin tb, emitAlt ⟨caps, none⟩ a fin tb (stripList ⟨caps, some q⟩ cs) = emitAlt ⟨caps, some q⟩ a fin tb cs) := by
  apply stripTree.mutual_induct ⟨caps, some q⟩ <;> intros <;>
    simp only [stripTree, stripList, emitNode, emitList, emitAlt, stripList_isEmpty, emitCapture_main, size_strip,
      sizeAlt_strip, mapCapnum_quick caps (some q), if_true, if_false, Bool.false_eq_true, implies_true, and_self, *]

theorem emitNode_strip (caps : Option (List (Int × Int))) (q : List Bool) : ∀ (n : GoNode) (a : Nat) (tb : Tables),
    emitNode ⟨caps, none⟩ a tb (stripTree ⟨caps, some q⟩ n) = emitNode ⟨caps, some q⟩ a tb n := (strip_emit caps q).1

theorem emitList_strip (caps : Option (List (Int × Int))) (q : List Bool) : ∀ (cs : List GoNode) (a : Nat) (tb : Tables),
    emitList ⟨caps, none⟩ a tb (stripList ⟨caps, some q⟩ cs) = emitList ⟨caps, some q⟩ a tb cs :=
  fun cs => ((strip_emit caps q).2 cs).1

theorem emitAlt_strip (caps : Option (List (Int × Int))) (q : List Bool) : ∀ (cs : List GoNode) (a fin : Nat) (tb : Tables),
    emitAlt ⟨caps, none⟩ a fin tb (stripList ⟨caps, some q⟩ cs) = emitAlt ⟨caps, some q⟩ a fin tb cs :=
  fun cs => ((strip_emit caps q).2 cs).2

/-! ### the tables do not depend on the configuration nor on the offset -/

mutual
theorem emitNode_tables (cfg cfg' : Cfg) : ∀ (n : GoNode) (a a' : Nat) (tb : Tables),
    (emitNode cfg a tb n).2 = (emitNode cfg' a' tb n).2
  | .empty | .bare _ | .char _ _ _ _ | .set _ _ _ | .multi _ _ _ | .ref _ _ _ | .charloop _ _ _ _ _ _
  | .setloop _ _ _ _ _ _ | .other _ => fun _ _ _ => rfl
  | .concat cs => emitList_tables cfg cfg' cs
  | .alt cs => fun a a' tb => emitAlt_tables cfg cfg' cs a a' _ _ tb
  | .loop _ _ _ c | .poslook c | .neglook c | .atomic c => fun _ _ tb => emitNode_tables cfg cfg' c _ _ tb
  | .capture m n c => by
    intro a a' tb
    simp only [emitNode]
    split <;> split <;> exact emitNode_tables cfg cfg' c _ _ tb
  | .group c => emitNode_tables cfg cfg' c
  | .backrefcond1 _ y => fun _ _ tb => emitNode_tables cfg cfg' y _ _ tb
  | .backrefcond2 _ y n => by
    intro a a' tb
    simp only [emitNode]
    rw [emitNode_tables cfg cfg' y (a + 6) (a' + 6) tb]
    exact emitNode_tables cfg cfg' n _ _ _
  | .exprcond2 c y => by
    intro a a' tb
    simp only [emitNode]
    rw [emitNode_tables cfg cfg' c (a + 4) (a' + 4) tb]
    exact emitNode_tables cfg cfg' y _ _ _
  | .exprcond3 c y n => by
    intro a a' tb
    simp only [emitNode]
    rw [emitNode_tables cfg cfg' c (a + 4) (a' + 4) tb,
      emitNode_tables cfg cfg' y (a + 4 + size cfg c + 2) (a' + 4 + size cfg' c + 2) _]
    exact emitNode_tables cfg cfg' n _ _ _
theorem emitList_tables (cfg cfg' : Cfg) : ∀ (cs : List GoNode) (a a' : Nat) (tb : Tables),
    (emitList cfg a tb cs).2 = (emitList cfg' a' tb cs).2
  | [] => fun _ _ _ => rfl
  | c :: cs => by
    intro a a' tb
    simp only [emitList]
    rw [emitNode_tables cfg cfg' c a a' tb]
    exact emitList_tables cfg cfg' cs _ _ _
theorem emitAlt_tables (cfg cfg' : Cfg) : ∀ (cs : List GoNode) (a a' fin fin' : Nat) (tb : Tables),
    (emitAlt cfg a fin tb cs).2 = (emitAlt cfg' a' fin' tb cs).2
  | [] => fun _ _ _ _ _ => rfl
  | c :: cs => by
    intro a a' fin fin' tb
    simp only [emitAlt]
    split
    · exact emitNode_tables cfg cfg' c _ _ tb
    · simp only
      rw [emitNode_tables cfg cfg' c (a + 2) (a' + 2) tb]
      exact emitAlt_tables cfg cfg' cs _ _ _ _ _
end

theorem codeFromTree_tables (cfg cfg' : Cfg) (t : GoNode) : (codeFromTree cfg t).2 = (codeFromTree cfg' t).2 := by
  simp only [codeFromTree]; exact emitNode_tables cfg cfg' t 2 2 _

end RegexVerif.Writer
