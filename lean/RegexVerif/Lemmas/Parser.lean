/-
The base of what is proved about the parser model (`Model/Parser.lean`): the calculus `wp` for the monad `M`, the forms
of a scanner's specification (`Scans`, `ScansLt`, `ScansK`, `ScansBack`: instances of `ScansF`, against a floor), and the
leaf scanners, which are not written in the monad.  `scanBlank` has two specifications: `scans_scanBlank` for a scanner
that calls it; `wp_scanBlank_moves` (only the position changes, a blank it stands on is passed) where progress matters
(pre-scan, head of a turn).

Three chains rest on this file.
* Totality (`Props/C10Parser.lean`): `ParserRun → ParserEscape → {ParserGroup, ParserCharSet} → {ParserCount, ParserMain}
  → ParserRoot`.  `wp m Q R s`: from `s`, `m` returns into `Q` or with a Go error into `R`, never a fault; `Run`
  (`ParserRun`) is its position calculus, for a program that moves the position and calls scanners; `wp` with its
  equations for a step that speaks of the stacks or the tree.  Between a state and a later one: `Adv` what a scanner does
  (position not back, inside the pattern, `PS.frame` and names invariant kept); `AdvF p` the same against a floor `p`;
  `AdvC p` the pre-scan's, without the frame; `Fwd` position forward, both stacks and the group kept (pieces of a turn);
  `Keep` position and both stacks unchanged (tree-building operations).  `Guar.scan`, `Guar.names`, `Guar.turn` of `Run`
  are `AdvF`, `AdvC`, `Fwd` without the position.
* Shape (`Props/C10Chain.lean`): `ParserPartial → {ParserTreeInv, ParserExact} → ParserRawShape`.  `H P m Q` (partial
  correctness), `Ret m P` (the returned value, in every state), `Keeps m` (the tree invariant and the group under
  construction are kept); no positions, no fuel; `H.of_wp` imports a `wp` specification.  For a fact about what is built
  that must hold in any state.
* Evaluation (`Props/C19.lean`): `ParserExact → EscapeFull → EscapeSpec`.  Equations `m s = .ok a s'` on a state whose
  remaining text is known (`E.pat.drop s.pos = …`), by unfolding the monad.
-/
import RegexVerif.Model.Parser

namespace RegexVerif.Parser

variable {α β γ : Type}

/-- `m` started in `s` returns normally into `Q`, or with a Go error into `R`; never a fault, never
    out of fuel -/
def wp (m : M α) (Q : α → PS → Prop) (R : PS → Prop) (s : PS) : Prop :=
  match m s with
  | .ok a s' => Q a s'
  | .err _ s' => R s'
  | .fault _ => False
  | .fuel => False

theorem wp_mono {m : M α} {Q Q' : α → PS → Prop} {R R' : PS → Prop} {s : PS}
    (h : wp m Q R s) (hq : ∀ a s', Q a s' → Q' a s') (hr : ∀ s', R s' → R' s') : wp m Q' R' s := by
  unfold wp at *
  split <;> simp_all

/-- `wp` on a result -/
def ResOk {α : Type} (Q : α → PS → Prop) (R : PS → Prop) : Res α → Prop
  | .ok a s => Q a s
  | .err _ s => R s
  | .fault _ => False
  | .fuel => False

theorem wp_eq_resOk {α : Type} (m : M α) (Q : α → PS → Prop) (R : PS → Prop) (s : PS) :
    wp m Q R s = ResOk Q R (m s) := by
  unfold wp ResOk
  cases m s <;> rfl

@[simp] theorem resOk_ok {α : Type} (Q : α → PS → Prop) (R : PS → Prop) (a : α) (s : PS) :
    ResOk Q R (.ok a s) = Q a s := rfl
@[simp] theorem resOk_err {α : Type} (Q : α → PS → Prop) (R : PS → Prop) (c : ErrCode) (s : PS) :
    ResOk Q R (.err c s : Res α) = R s := rfl
@[simp] theorem resOk_fault {α : Type} (Q : α → PS → Prop) (R : PS → Prop) (f : Fault) :
    ResOk Q R (.fault f : Res α) = False := rfl
theorem resOk_ite {α : Type} (Q : α → PS → Prop) (R : PS → Prop) (c : Prop) [Decidable c] (x y : Res α) :
    ResOk Q R (if c then x else y) ↔ (c → ResOk Q R x) ∧ (¬c → ResOk Q R y) := by
  split <;> simp_all

/-- an `ok` result with a decidable property can be found by evaluation -/
theorem Res.exists_ok {x : Res α} {P : α → PS → Prop} [∀ a s, Decidable (P a s)]
    (h : (match x with | .ok a s => decide (P a s) | _ => false) = true) : ∃ a s, x = .ok a s ∧ P a s := by
  cases x with
  | ok a s => exact ⟨a, s, rfl, of_decide_eq_true h⟩
  | _ => exact absurd h Bool.false_ne_true

theorem wp_and {m : M α} {Q1 Q2 : α → PS → Prop} {R1 R2 : PS → Prop} {s : PS}
    (h1 : wp m Q1 R1 s) (h2 : wp m Q2 R2 s) :
    wp m (fun a s' => Q1 a s' ∧ Q2 a s') (fun s' => R1 s' ∧ R2 s') s := by
  unfold wp at *
  cases h : m s <;> rw [h] at h1 h2 <;> simp_all

@[simp] theorem wp_pure (a : α) (Q : α → PS → Prop) (R : PS → Prop) (s : PS) :
    wp (pure a : M α) Q R s ↔ Q a s := Iff.rfl

@[simp] theorem wp_bind (m : M α) (f : α → M β) (Q : β → PS → Prop) (R : PS → Prop) (s : PS) :
    wp (m >>= f) Q R s ↔ wp m (fun a s' => wp (f a) Q R s') R s := by
  show wp (M.bind m f) Q R s ↔ _
  unfold wp M.bind
  cases h : m s <;> simp

@[simp] theorem wp_get (Q : PS → PS → Prop) (R : PS → Prop) (s : PS) : wp get Q R s ↔ Q s s := Iff.rfl
@[simp] theorem wp_modify (f : PS → PS) (Q : Unit → PS → Prop) (R : PS → Prop) (s : PS) :
    wp (modify f) Q R s ↔ Q () (f s) := Iff.rfl
@[simp] theorem wp_throw (c : ErrCode) (Q : α → PS → Prop) (R : PS → Prop) (s : PS) :
    wp (throw c : M α) Q R s ↔ R s := Iff.rfl
@[simp] theorem wp_fault (f : Fault) (Q : α → PS → Prop) (R : PS → Prop) (s : PS) :
    wp (fault f : M α) Q R s ↔ False := Iff.rfl

@[simp] theorem wp_ite (c : Prop) [Decidable c] (a b : M α) (Q : α → PS → Prop) (R : PS → Prop) (s : PS) :
    wp (if c then a else b) Q R s ↔ (c → wp a Q R s) ∧ (¬c → wp b Q R s) := by
  split <;> simp_all

theorem wp_attempt (m : M α) (Q : Except ErrCode α → PS → Prop) (R : PS → Prop) (s : PS)
    (h : wp m (fun a s' => Q (.ok a) s') (fun s' => ∀ c, Q (.error c) s') s) : wp (attempt m) Q R s := by
  unfold wp attempt at *
  cases hm : m s <;> simp_all

theorem wp_ignoreErr (m : M α) (Q : Unit → PS → Prop) (R : PS → Prop) (s : PS)
    (h : wp m (fun _ s' => Q () s') (fun s' => Q () s') s) : wp (ignoreErr m) Q R s := by
  unfold ignoreErr
  rw [wp_bind]
  apply wp_attempt
  exact wp_mono h (fun _ _ h => h) (fun _ h _ => h)

section
variable (E : Env)

@[simp] theorem wp_charsRight (Q : Nat → PS → Prop) (R : PS → Prop) (s : PS) :
    wp (charsRight E) Q R s ↔ Q (E.pat.length - s.pos) s := Iff.rfl
@[simp] theorem wp_textpos (Q : Nat → PS → Prop) (R : PS → Prop) (s : PS) : wp textpos Q R s ↔ Q s.pos s := Iff.rfl
@[simp] theorem wp_textto (p : Nat) (Q : Unit → PS → Prop) (R : PS → Prop) (s : PS) :
    wp (textto p) Q R s ↔ Q () { s with pos := p } := Iff.rfl
@[simp] theorem wp_moveRight (i : Nat) (Q : Unit → PS → Prop) (R : PS → Prop) (s : PS) :
    wp (moveRight i) Q R s ↔ Q () { s with pos := s.pos + i } := Iff.rfl
@[simp] theorem wp_moveLeft (Q : Unit → PS → Prop) (R : PS → Prop) (s : PS) :
    wp moveLeft Q R s ↔ 0 < s.pos ∧ Q () { s with pos := s.pos - 1 } := by
  unfold wp moveLeft
  by_cases h : s.pos = 0 <;> simp [h]; omega
@[simp] theorem wp_rightChar (i : Nat) (Q : Nat → PS → Prop) (R : PS → Prop) (s : PS) :
    wp (rightChar E i) Q R s ↔ s.pos + i < E.pat.length ∧ ∀ c, E.pat[s.pos + i]? = some c → Q c s := by
  unfold wp rightChar
  cases h : E.pat[s.pos + i]? with
  | none => simp; rw [List.getElem?_eq_none_iff] at h; omega
  | some c => simp; have := (List.getElem?_eq_some_iff.mp h).1; omega
@[simp] theorem wp_charAt (i : Nat) (Q : Nat → PS → Prop) (R : PS → Prop) (s : PS) :
    wp (charAt E i) Q R s ↔ i < E.pat.length ∧ ∀ c, E.pat[i]? = some c → Q c s := by
  unfold wp charAt
  cases h : E.pat[i]? with
  | none => simp; rw [List.getElem?_eq_none_iff] at h; omega
  | some c => simp; have := (List.getElem?_eq_some_iff.mp h).1; omega
@[simp] theorem wp_moveRightGetChar (Q : Nat → PS → Prop) (R : PS → Prop) (s : PS) :
    wp (moveRightGetChar E) Q R s ↔ s.pos < E.pat.length ∧ ∀ c, E.pat[s.pos]? = some c → Q c { s with pos := s.pos + 1 } := by
  unfold moveRightGetChar
  simp
@[simp] theorem wp_rest (Q : List Nat → PS → Prop) (R : PS → Prop) (s : PS) :
    wp (rest E) Q R s ↔ Q (E.pat.drop s.pos) s := Iff.rfl
@[simp] theorem wp_opts (Q : Opts → PS → Prop) (R : PS → Prop) (s : PS) : wp opts Q R s ↔ Q s.options s := Iff.rfl
@[simp] theorem wp_setOpts (o : Opts) (Q : Unit → PS → Prop) (R : PS → Prop) (s : PS) :
    wp (setOpts o) Q R s ↔ Q () { s with options := o } := Iff.rfl

/-! ## Capture tables, `pushOptions`: reads and updates that cannot fault (equations by definition) -/

@[simp] theorem wp_isCaptureSlot (i : Nat) (Q : Bool → PS → Prop) (R : PS → Prop) (s : PS) :
    wp (isCaptureSlot i) Q R s ↔ Q (s.g.caps.contains i) s := Iff.rfl
@[simp] theorem wp_captureSlotFromName (n : List Nat) (Q : Option Nat → PS → Prop) (R : PS → Prop) (s : PS) :
    wp (captureSlotFromName n) Q R s ↔ Q (s.g.capnames.bind fun cn => cn.lookup (nameStr n)) s := Iff.rfl
@[simp] theorem wp_hasCapnames (Q : Bool → PS → Prop) (R : PS → Prop) (s : PS) :
    wp hasCapnames Q R s ↔ Q (match s.g.capnames with | some (_ :: _) => true | _ => false) s := Iff.rfl
@[simp] theorem wp_consumeAutocap (Q : Nat → PS → Prop) (R : PS → Prop) (s : PS) :
    wp consumeAutocap Q R s ↔ Q s.g.autocap { s with g := { s.g with autocap := s.g.autocap + 1 } } := Iff.rfl
@[simp] theorem wp_emptyOptionsStack (Q : Bool → PS → Prop) (R : PS → Prop) (s : PS) :
    wp emptyOptionsStack Q R s ↔ Q s.optionsStack.isEmpty s := Iff.rfl
@[simp] theorem wp_pushOptions (Q : Unit → PS → Prop) (R : PS → Prop) (s : PS) :
    wp pushOptions Q R s ↔ Q () { s with optionsStack := s.options :: s.optionsStack } := Iff.rfl

/-! ## Options stack, unit and concatenation (a pop of an empty stack and a nil unit are faults); `isTrueQuantifier` -/

theorem wp_popOptions (Q : Unit → PS → Prop) (R : PS → Prop) (s : PS) :
    wp popOptions Q R s ↔ s.optionsStack ≠ [] ∧
      ∀ o, s.optionsStack.head? = some o → Q () { s with options := o, optionsStack := s.optionsStack.tail } := by
  unfold wp popOptions
  cases h : s.optionsStack <;> simp

theorem wp_popKeepOptions (Q : Unit → PS → Prop) (R : PS → Prop) (s : PS) :
    wp popKeepOptions Q R s ↔ s.optionsStack ≠ [] ∧ Q () { s with optionsStack := s.optionsStack.tail } := by
  unfold wp popKeepOptions
  cases h : s.optionsStack <;> simp

theorem wp_setUnit (u : Option RNode) (Q : Unit → PS → Prop) (R : PS → Prop) (s : PS) :
    wp (setUnit u) Q R s ↔ Q () { s with unit := u } := Iff.rfl

theorem wp_addConcatenate (Q : Unit → PS → Prop) (R : PS → Prop) (s : PS) :
    wp addConcatenate Q R s ↔ s.unit.isSome = true ∧
      ∀ u, s.unit = some u → Q () { s with concatenation := s.concatenation.addChild u, unit := none } := by
  unfold wp addConcatenate
  cases h : s.unit <;> simp

theorem wp_addConcatenate3 (lazy : Bool) (mn mx : Nat) (Q : Unit → PS → Prop) (R : PS → Prop) (s : PS) :
    wp (addConcatenate3 lazy mn mx) Q R s ↔ s.unit.isSome = true ∧
      ∀ u, s.unit = some u →
        Q () { s with concatenation := s.concatenation.addChild (makeQuantifier u lazy mn mx), unit := none } := by
  unfold wp addConcatenate3
  cases h : s.unit <;> simp

/-- `isTrueQuantifier` at position `p` -/
def TQb (p : Nat) : Bool :=
  match E.pat.drop p with
  | [] => false
  | c :: r => EscapeParse.isTrueQuant c r

theorem wp_isTrueQuantifier (Q : Bool → PS → Prop) (R : PS → Prop) (s : PS) :
    wp (isTrueQuantifier E) Q R s ↔ Q (TQb E s.pos) s := by
  unfold wp isTrueQuantifier TQb
  cases E.pat.drop s.pos <;> simp

/-- the loop rule: an invariant and the distance to the end of the pattern as variant -/
theorem wp_iter (f : β → M (Sum β γ)) (Inv : β → PS → Prop) (Q : γ → PS → Prop) (R : PS → Prop)
    (hstep : ∀ b s, Inv b s → wp (f b) (fun r s' => match r with
        | .inl b' => Inv b' s' ∧ E.pat.length - s'.pos < E.pat.length - s.pos
        | .inr c => Q c s') R s) :
    ∀ (n : Nat) (b : β) (s : PS), E.pat.length - s.pos < n → Inv b s → wp (iter f n b) Q R s := by
  intro n
  induction n with
  | zero => intro b s h; omega
  | succ n ih =>
    intro b s hn hinv
    have h := hstep b s hinv
    unfold wp at h ⊢
    unfold iter
    cases hf : f b s with
    | ok r s' =>
      simp only [hf] at h ⊢
      cases r with
      | inl b' => simp only at h; exact ih b' s' (by omega) h.1
      | inr c => simpa using h
    | err c s' => simpa [hf] using h
    | fault x => simp [hf] at h
    | fuel => simp [hf] at h

/-! ## The common specification of the scanners -/

/-- the part of the state the scanners never touch -/
def PS.frame (s : PS) := (s.optionsStack, s.stack, s.unit, s.group, s.alternation, s.concatenation)

theorem frame_os {s s' : PS} (h : s'.frame = s.frame) : s'.optionsStack = s.optionsStack := congrArg (·.1) h
theorem frame_stack {s s' : PS} (h : s'.frame = s.frame) : s'.stack = s.stack := congrArg (·.2.1) h
theorem frame_unit {s s' : PS} (h : s'.frame = s.frame) : s'.unit = s.unit := congrArg (·.2.2.1) h
theorem frame_group {s s' : PS} (h : s'.frame = s.frame) : s'.group = s.group := congrArg (·.2.2.2.1) h
theorem frame_alternation {s s' : PS} (h : s'.frame = s.frame) : s'.alternation = s.alternation :=
  congrArg (·.2.2.2.2.1) h
theorem frame_concatenation {s s' : PS} (h : s'.frame = s.frame) : s'.concatenation = s.concatenation :=
  congrArg (·.2.2.2.2.2) h

/-- `capnames != nil` implies a non-empty `capnamelist` (what `assignNameSlots` indexes) -/
def NamesOK (g : Groups.PState) : Prop := g.capnames.isSome = true → g.capnamelist ≠ []

/-- from `s` to `s'`: the position did not go back and is inside the pattern, only position, options,
    `ignoreNextParen` and the capture tables may differ -/
structure Adv (s s' : PS) : Prop where
  le : s.pos ≤ s'.pos
  inside : s'.pos ≤ E.pat.length
  frame : s'.frame = s.frame
  names : NamesOK s.g → NamesOK s'.g

theorem namesOK_autocap (g : Groups.PState) (a : Nat) : NamesOK { g with autocap := a } ↔ NamesOK g := Iff.rfl

attribute [irreducible] NamesOK

theorem Adv.refl (s : PS) (h : s.pos ≤ E.pat.length) : Adv E s s := ⟨Nat.le_refl _, h, rfl, id⟩

/-- `m` is a scanner: from any position inside the pattern it returns (normally or with an error)
    in an `Adv`-related state; it never faults and never runs out of fuel -/
def Scans (m : M α) : Prop :=
  ∀ s, s.pos ≤ E.pat.length → wp m (fun _ s' => Adv E s s') (Adv E s) s

theorem wp_of_scans {m : M α} (h : Scans E m) {Q : α → PS → Prop} {R : PS → Prop} {s : PS}
    (hs : s.pos ≤ E.pat.length) (hq : ∀ a s', Adv E s s' → Q a s') (hr : ∀ s', Adv E s s' → R s') :
    wp m Q R s := wp_mono (h s hs) hq hr

/-! ### Scanners that may move the position back

They are specified against a *floor* `p` instead of the start: started at or after `a` with `k` runes to the right, they
end at or after `p` (`ScansF a k p`).  The other forms are its instances (`*.toF`); `Scans` is `ScansK 0` and `ScansLt` is
`ScansK 1` by definition.  The `k` runes are a precondition (what is read unguarded), not progress; progress is a floor
above the start (`ScansF a 1 (a + 1)`). -/

/-- like `Adv`, but the position is compared with a floor `p` instead of the position of `s` -/
structure AdvF (p : Nat) (s s' : PS) : Prop where
  floor : p ≤ s'.pos
  inside : s'.pos ≤ E.pat.length
  frame : s'.frame = s.frame
  names : NamesOK s.g → NamesOK s'.g

theorem Adv.toF {s s' : PS} (h : Adv E s s') : AdvF E s.pos s s' := ⟨h.le, h.inside, h.frame, h.names⟩
theorem AdvF.toAdv {s s' : PS} (h : AdvF E s.pos s s') : Adv E s s' := ⟨h.floor, h.inside, h.frame, h.names⟩
theorem AdvF.mono {p p' : Nat} {s s' : PS} (h : AdvF E p s s') (hp : p' ≤ p) : AdvF E p' s s' :=
  ⟨Nat.le_trans hp h.floor, h.inside, h.frame, h.names⟩

/-- started at or after `a` with `k` runes to the right, `m` returns (normally or with an error) at or
    after `p`, inside the pattern, frame untouched; never a fault, never out of fuel -/
def ScansF (a k p : Nat) (m : M α) : Prop :=
  ∀ s, a ≤ s.pos → s.pos + k ≤ E.pat.length → wp m (fun _ s' => AdvF E p s s') (AdvF E p s) s

theorem ScansF.ignoreErr {m : M α} {a k p : Nat} (h : ScansF E a k p m) : ScansF E a k p (ignoreErr m) :=
  fun s ha hk => wp_ignoreErr _ _ _ _ (h s ha hk)

/-- a scanner that needs one rune to its right (to start: it reads it unguarded) -/
def ScansLt (m : M α) : Prop :=
  ∀ s, s.pos < E.pat.length → wp m (fun _ s' => Adv E s s') (Adv E s) s

def ScansK (k : Nat) (m : M α) : Prop :=
  ∀ s, s.pos + k ≤ E.pat.length → wp m (fun _ s' => Adv E s s') (Adv E s) s

def ScansBack (m : M α) : Prop :=
  ∀ s, 1 ≤ s.pos → s.pos ≤ E.pat.length → wp m (fun _ s' => AdvF E (s.pos - 1) s s') (AdvF E (s.pos - 1) s) s

theorem ScansK.toF {m : M α} {k : Nat} (h : ScansK E k m) (p : Nat) : ScansF E p k p m :=
  fun s ha hk => wp_mono (h s hk) (fun _ _ h' => h'.toF.mono E ha) (fun _ h' => h'.toF.mono E ha)

theorem Scans.toF {m : M α} (h : Scans E m) (p : Nat) : ScansF E p 0 p m :=
  ScansK.toF E (fun s hs => h s hs) p

theorem ScansLt.toF {m : M α} (h : ScansLt E m) (p : Nat) : ScansF E p 1 p m :=
  ScansK.toF E (fun s hs => h s hs) p

theorem ScansBack.toF {m : M α} (h : ScansBack E m) {p : Nat} (hp : 1 ≤ p) : ScansF E p 0 (p - 1) m :=
  fun s ha hk => wp_mono (h s (Nat.le_trans hp ha) hk) (fun _ _ h' => h'.mono E (Nat.sub_le_sub_right ha 1))
    (fun _ h' => h'.mono E (Nat.sub_le_sub_right ha 1))

theorem ScansF.toScans {m : M α} (h : ∀ p, ScansF E p 0 p m) : Scans E m := by
  intro s hs
  exact wp_mono (h s.pos s (Nat.le_refl _) (by omega)) (fun _ _ h' => h'.toAdv) (fun _ h' => h'.toAdv)

theorem blankGo_bounds (x : Bool) : ∀ (r : List Nat) (m : BlankMode) (k : Nat),
    k ≤ (blankGo x m r k).1 ∧ (blankGo x m r k).1 ≤ k + r.length := by
  intro r
  induction r with
  | nil => intro m k; cases m <;> simp [blankGo]
  | cons c r ih =>
    intro m k
    have h1 := ih .normal (k + 1)
    have h2 := ih .line (k + 1)
    have h3 := ih .paren (k + 1)
    -- in every mode the scan stops here (nothing more consumed) or goes on in one of the three modes
    cases m <;> simp only [blankGo, List.length_cons]
    · repeat' split
      all_goals first | omega | simp
    · split <;> omega
    · split <;> omega

theorem drop_length_add_pos (s : PS) (h : s.pos ≤ E.pat.length) : (E.pat.drop s.pos).length + s.pos = E.pat.length := by
  simp; omega

theorem blankGo_pos (x : Bool) (c : Nat) (r : List Nat)
    (h : (x = true ∧ (EscapeParse.isSpaceCh c = true ∨ c = 35)) ∨ (c = 40 ∧ r.head? = some 63 ∧ r.tail.head? = some 35)) :
    1 ≤ (blankGo x .normal (c :: r) 0).1 := by
  have h1 := (blankGo_bounds x r .normal 1).1
  have h2 := (blankGo_bounds x r .line 1).1
  have h3 := (blankGo_bounds x r .paren 1).1
  simp only [blankGo]
  split
  · exact h1
  · split
    · exact h2
    · split
      · exact h3
      · rename_i n1 n2 n3
        rcases h with ⟨hx, hc⟩ | hc
        · subst hx
          rcases hc with hc | hc
          · simp [hc] at n1
          · simp [hc] at n2
        · exact absurd hc n3

theorem drop_eq_cons_of_getElem? {l : List Nat} {p c : Nat} (h : l[p]? = some c) : l.drop p = c :: l.drop (p + 1) := by
  obtain ⟨hlt, rfl⟩ := List.getElem?_eq_some_iff.mp h
  exact List.drop_eq_getElem_cons hlt

theorem drop_cons_facts {p c : Nat} {r : List Nat} (h : E.pat.drop p = c :: r) :
    p < E.pat.length ∧ E.pat[p]? = some c ∧ E.pat.drop (p + 1) = r := by
  have hlt : p < E.pat.length := by
    by_cases hp : p < E.pat.length
    · exact hp
    · rw [List.drop_eq_nil_of_le (by omega)] at h; simp at h
  rw [List.drop_eq_getElem_cons hlt] at h
  simp only [List.cons.injEq] at h
  exact ⟨hlt, by rw [List.getElem?_eq_getElem hlt, h.1], h.2⟩

/-- where `scanBlank` consumes at least one rune: white space or `#` under IgnorePatternWhitespace, or `(?#` (index
    form; `NoBlank s.options.x (E.pat.drop s.pos)` of `Lemmas/ParserExact.lean` is its negation in drop form) -/
def BlankAt (s : PS) : Prop :=
  (s.options.x = true ∧ ∃ c, E.pat[s.pos]? = some c ∧ (EscapeParse.isSpaceCh c = true ∨ c = 35)) ∨
  (E.pat[s.pos]? = some 40 ∧ E.pat[s.pos + 1]? = some 63 ∧ E.pat[s.pos + 2]? = some 35)

theorem wp_scanBlank_moves (s : PS) (hs : s.pos ≤ E.pat.length) (Q : Unit → PS → Prop) (R : PS → Prop)
    (h : ∀ p', s.pos ≤ p' → p' ≤ E.pat.length → (BlankAt E s → s.pos + 1 ≤ p') →
      Q () { s with pos := p' } ∧ R { s with pos := p' }) : wp (scanBlank E) Q R s := by
  have hb := blankGo_bounds s.options.x (E.pat.drop s.pos) .normal 0
  have hl := drop_length_add_pos E s hs
  have hp : BlankAt E s → 1 ≤ (blankGo s.options.x .normal (E.pat.drop s.pos) 0).1 := by
    rintro (⟨hx, c, hc, hcc⟩ | ⟨h0, h1, h2⟩)
    · rw [drop_eq_cons_of_getElem? hc]
      exact blankGo_pos _ _ _ (Or.inl ⟨hx, hcc⟩)
    · rw [drop_eq_cons_of_getElem? h0]
      refine blankGo_pos _ _ _ (Or.inr ⟨rfl, ?_, ?_⟩)
      · simpa using h1
      · simpa [Nat.add_assoc] using h2
  have := h (s.pos + (blankGo s.options.x .normal (E.pat.drop s.pos) 0).1) (by omega) (by omega)
    (fun hb => by have := hp hb; omega)
  -- an unterminated comment is the error, anything else the normal result; the new position is the same
  unfold wp scanBlank
  dsimp only
  cases (blankGo s.options.x .normal (E.pat.drop s.pos) 0).2
  · exact this.1
  · exact this.2

theorem scans_scanBlank : Scans E (scanBlank E) := fun s hs =>
  wp_scanBlank_moves E s hs _ _ fun _ h1 h2 _ => ⟨⟨h1, h2, rfl, id⟩, ⟨h1, h2, rfl, id⟩⟩

theorem decGo_bounds : ∀ (r : List Nat) (acc k : Nat), k ≤ (decGo r acc k).2 ∧ (decGo r acc k).2 ≤ k + r.length := by
  intro r
  induction r with
  | nil => intro acc k; simp [decGo]
  | cons c r ih =>
    intro acc k
    simp only [decGo, List.length_cons]
    repeat' split
    all_goals first | (simp; done) | (simp; omega) | (have := ih (acc * 10 + (c - 48)) (k + 1); omega)

theorem optionsGo_bounds : ∀ (r : List Nat) (off : Bool) (o : Opts) (k : Nat),
    k ≤ (optionsGo r off o k).2 ∧ (optionsGo r off o k).2 ≤ k + r.length := by
  intro r
  induction r with
  | nil => intro off o k; simp [optionsGo]
  | cons c r ih =>
    intro off o k
    simp only [optionsGo, List.length_cons]
    repeat' split
    all_goals first | (simp; done) | (have := ih true o (k + 1); omega) | (have := ih false o (k + 1); omega) | skip
    rename_i f _
    have := ih off (f o (!off)) (k + 1); omega

theorem countWhile_le (p : Nat → Bool) : ∀ r : List Nat, countWhile p r ≤ r.length := by
  intro r
  induction r with
  | nil => simp [countWhile]
  | cons c r ih => simp only [countWhile, List.length_cons]; split <;> omega

theorem countWhile_drop_le (f : Nat → Bool) (p : Nat) : countWhile f (E.pat.drop p) ≤ E.pat.length - p := by
  have := countWhile_le f (E.pat.drop p)
  simpa using this

theorem adv_of_pos {s s' : PS} (hs : s.pos ≤ s'.pos) (hl : s'.pos ≤ E.pat.length)
    (hf : s'.frame = s.frame) (hg : s'.g = s.g) : Adv E s s' :=
  ⟨hs, hl, hf, fun h => hg ▸ h⟩

theorem adv_move (s : PS) (o : Opts) {k : Nat} (h : s.pos + k ≤ E.pat.length) :
    Adv E s { s with options := o, pos := s.pos + k } := ⟨Nat.le_add_right _ _, h, rfl, id⟩

theorem scans_scanDecimal : Scans E (scanDecimal E) := by
  intro s hs
  have hl := drop_length_add_pos E s hs
  have hb := decGo_bounds (E.pat.drop s.pos) 0 0
  -- a value is the normal result, an overflow the error; the new position is the same
  unfold wp scanDecimal
  dsimp only
  cases (decGo (E.pat.drop s.pos) 0 0).1 <;> exact adv_move E s s.options (by omega)

/-- a successful `decGo` from count `k` to `k'` has consumed the leading digits of `r`, `k' − k` of them (at least one if
    `r` starts with a digit) -/
theorem decGo_some : ∀ (r : List Nat) (acc k v k' : Nat), decGo r acc k = (some v, k') →
    k ≤ k' ∧ r.drop (k' - k) = EscapeParse.dropDigits r ∧ (∀ d r', r = d :: r' → EscapeParse.isDigitCh d = true → k < k') := by
  intro r
  induction r with
  | nil =>
    intro acc k v k' h
    simp only [decGo, Prod.mk.injEq, Option.some.injEq] at h
    obtain ⟨_, rfl⟩ := h
    exact ⟨Nat.le_refl _, by simp [EscapeParse.dropDigits], fun _ _ h => by simp at h⟩
  | cons c r ih =>
    intro acc k v k' h
    simp only [decGo] at h
    split at h
    · rename_i hd
      split at h
      · simp at h
      · obtain ⟨h1, h2, _⟩ := ih _ _ _ _ h
        refine ⟨by omega, ?_, fun _ _ _ _ => by omega⟩
        have : k' - k = (k' - (k + 1)) + 1 := by omega
        rw [this, List.drop_succ_cons, h2]
        simp [EscapeParse.dropDigits, hd]
    · rename_i hd
      simp only [Prod.mk.injEq, Option.some.injEq] at h
      obtain ⟨_, rfl⟩ := h
      refine ⟨Nat.le_refl _, by simp [EscapeParse.dropDigits, hd], fun d r' he hdd => ?_⟩
      simp only [List.cons.injEq] at he
      rw [he.1] at hd
      exact absurd hdd hd

theorem wp_scanDecimal_moves (s : PS) (Q : Nat → PS → Prop)
    (hq : ∀ v k, decGo (E.pat.drop s.pos) 0 0 = (some v, k) → Q v { s with pos := s.pos + k }) :
    wp (scanDecimal E) Q (fun _ => True) s := by
  rw [wp_eq_resOk]
  unfold scanDecimal
  dsimp only
  cases h : (decGo (E.pat.drop s.pos) 0 0).1 with
  | none => simp
  | some v =>
    simp only [resOk_ok]
    exact hq v _ (by rw [← h])

theorem scans_scanOptions : Scans E (scanOptions E) := fun s hs =>
  adv_move E s _ (by have := optionsGo_bounds (E.pat.drop s.pos) false s.options 0; have := drop_length_add_pos E s hs; omega)

theorem scans_scanWord : Scans E (scanWord E) := fun s hs =>
  adv_move E s s.options (by have := countWhile_le E.orc.isWord (E.pat.drop s.pos); have := drop_length_add_pos E s hs; omega)

/-- a leaf result that consumed at most `n` runes and is not a fault -/
def LR.Bounded : LR α → Nat → Prop
  | .ok _ k, n => k ≤ n
  | .err _ k, n => k ≤ n
  | .fault, _ => False

theorem LR.Bounded.mono {x : LR α} {n m : Nat} (h : x.Bounded n) (hnm : n ≤ m) : x.Bounded m := by
  cases x <;> simp_all [LR.Bounded] <;> omega

theorem wp_liftL (f : List Nat → LR α) (s : PS) (hs : s.pos ≤ E.pat.length)
    (h : (f (E.pat.drop s.pos)).Bounded (E.pat.drop s.pos).length) :
    wp (liftL E f) (fun _ s' => Adv E s s') (Adv E s) s := by
  have hl := drop_length_add_pos E s hs
  unfold wp liftL
  cases hf : f (E.pat.drop s.pos) <;> simp [hf, LR.Bounded] at h ⊢
  all_goals (refine ⟨?_, ?_, rfl, id⟩ <;> simp <;> omega)

theorem hexGo_ok : ∀ (c : Nat) (r : List Nat) (acc k : Nat), c ≤ r.length →
    (hexGo c r acc k).Bounded (k + r.length) := by
  intro c
  induction c with
  | zero => intro r acc k _; simp [hexGo, LR.Bounded]
  | succ c ih =>
    intro r acc k h
    cases r with
    | nil => simp at h
    | cons ch r =>
      simp only [hexGo]
      cases hd : Escape.hexDigit ch with
      | none => simp [LR.Bounded]
      | some d =>
        simp only []
        exact (ih r (acc * 16 + d) (k + 1) (by simp at h; omega)).mono (by simp; omega)

theorem scans_scanHex (c : Nat) : Scans E (scanHex E c) := by
  intro s hs
  apply wp_liftL E _ s hs
  split
  · rename_i h
    exact (hexGo_ok c (E.pat.drop s.pos) 0 0 h).mono (by omega)
  · split <;> simp [LR.Bounded]

theorem hexBraceGo_ok : ∀ (r : List Nat) (acc : Nat) (has : Bool) (k : Nat),
    (hexBraceGo r acc has k).Bounded (k + r.length) := by
  intro r
  induction r with
  | nil => intro acc has k; simp [hexBraceGo, LR.Bounded]
  | cons ch r ih =>
    intro acc has k
    simp only [hexBraceGo]
    split
    · split <;> simp [LR.Bounded]
    · cases hd : Escape.hexDigit ch with
      | none => simp [LR.Bounded]
      | some d =>
        simp only []
        split
        · simp [LR.Bounded]
        · exact (ih (acc * 16 + d) true (k + 1)).mono (by simp; omega)

theorem scans_scanHexUntilBrace : Scans E (scanHexUntilBrace E) := by
  intro s hs
  apply wp_liftL E _ s hs
  exact (hexBraceGo_ok (E.pat.drop s.pos) 0 false 0).mono (by omega)

theorem octGo_bounds (e : Bool) : ∀ (c : Nat) (r : List Nat) (acc k : Nat),
    (octGo e c r acc k).2 ≤ k + r.length := by
  intro c
  induction c with
  | zero => intro r acc k; simp [octGo]
  | succ c ih =>
    intro r acc k
    cases r with
    | nil => simp [octGo]
    | cons ch r =>
      simp only [octGo, List.length_cons]
      repeat' split
      all_goals first | (simp; done) | (simp; omega) | (have := ih r (acc * 8 + (ch - 48)) (k + 1); omega)

theorem scans_scanControl : Scans E (scanControl E) := by
  intro s hs
  apply wp_liftL E _ s hs
  cases h : E.pat.drop s.pos with
  | nil => simp [LR.Bounded]
  | cons c r => simp only []; split <;> split <;> simp [LR.Bounded]

/-- `scanOctal` reads `rightChar(0)` unguarded: it needs a rune to the right -/
theorem scansLt_scanOctal : ScansLt E (scanOctal E) := by
  intro s hs
  unfold scanOctal
  simp only [wp_bind, wp_opts]
  apply wp_liftL E _ s (Nat.le_of_lt hs)
  cases h : E.pat.drop s.pos with
  | nil => have := drop_length_add_pos E s (Nat.le_of_lt hs); simp [h] at this; omega
  | cons c r =>
    simp only [LR.Bounded]
    have := octGo_bounds s.options.e 3 (c :: r) 0 0
    omega

end

end RegexVerif.Parser
