/-
Soundness of the candidate finders (Model/Finders.lean).  A finder's answer is sound when it is a lower bound on
the first successful position (`LtrOpt`, `RtlOpt`; `finderSound_ltr`/`_rtl` take such answers to `FinderSound`); the
first position passing a NECESSARY condition of a match is one (`first_opt`; `fixedLoop_opt` for the loops that skip
from one necessary character to the next), and so every modelled finder is sound from the fact it consumes
(`AnchorFacts`, `BmFact`, `FcFact`, and `OptFacts`: the facts behind `findFirstCharOptimized`, not an `Option`).
The property-level statements stand, with their meaning for the Go code, in `Props/C03.lean`.
-/
import RegexVerif.Model.Finders
import RegexVerif.Lemmas.Scan
import RegexVerif.Lemmas.FinderSearch
import RegexVerif.Lemmas.BoyerMooreScan
import RegexVerif.Lemmas.Ite

namespace RegexVerif.Lemmas.Finders
open RegexVerif.Finders RegexVerif.Scan RegexVerif.Lemmas.Scan RegexVerif.Lemmas.IndexOf

/-! ### corollaries on the search primitives (their lemmas: Lemmas/FinderSearch.lean) -/

theorem findUp_some (P : Nat → Bool) : ∀ (k q r : Nat), findUp P k q = some r →
    q ≤ r ∧ r < q + k ∧ P r = true ∧ ∀ p, q ≤ p → p < r → P p = false :=
  fun k q r h => let ⟨⟨x1, x2, x3⟩, x4⟩ := (findUp_first P k q).1 r h
    ⟨x1, x2, x3, fun p h1 h2 => Bool.eq_false_iff.mpr fun hp => x4 p h2 ⟨h1, Nat.lt_trans h2 x2, hp⟩⟩

theorem findUp_none (P : Nat → Bool) : ∀ (k q : Nat), findUp P k q = none →
    ∀ p, q ≤ p → p < q + k → P p = false :=
  fun k q h p h1 h2 => Bool.eq_false_iff.mpr fun hp => (findUp_first P k q).2 h p ⟨h1, h2, hp⟩

theorem occursAt_fits (eq : Nat → Nat → Bool) (pat text : List Nat) (q : Nat) (h : occursAt eq pat text q = true) :
    q + pat.length ≤ text.length ∨ pat = [] := by
  have := prefixOf_length eq pat _ h
  rw [List.length_drop] at this
  cases pat with
  | nil => exact Or.inr rfl
  | cons c ps => rw [List.length_cons] at this ⊢; omega

theorem occursAt_fits' (eq : Nat → Nat → Bool) (pat text : List Nat) (q : Nat) (hne : pat ≠ [])
    (h : occursAt eq pat text q = true) : q + pat.length ≤ text.length :=
  (occursAt_fits eq pat text q h).resolve_right hne

/-- with the exact comparison, "occurs at `q`" is the form in which C04 delivers the leading prefix:
    the text from `q` on begins with the pattern -/
theorem occursAt_exact (pat text : List Nat) (q : Nat) :
    occursAt eqExact pat text q = true ↔ (text.drop q).take pat.length = pat :=
  prefixOf_exact pat (text.drop q)

theorem getElem?_some_lt (text : List Nat) (i c : Nat) (h : text[i]? = some c) : i < text.length :=
  (List.getElem?_eq_some_iff.mp h).1

theorem memAt_mono {S S' : Nat → Bool} (hS : ∀ r, S r = true → S' r = true) {text : List Nat} {i : Nat}
    (h : memAt S text i = true) : memAt S' text i = true := by
  obtain ⟨t, ht, hm⟩ := memAt_iff.mp h
  rw [memAt, ht]; exact hS t hm

theorem memAt_lt (S : Nat → Bool) (text : List Nat) (i : Nat) (h : memAt S text i = true) : i < text.length :=
  let ⟨t, ht, _⟩ := memAt_iff.mp h
  getElem?_some_lt text i t ht

/-! ### the skipping loop -/

/-- Hoare rule for `searchLoop`: an invariant `Inv` on the search start that every exit turns into
    `Post`.  `bound` is any number no guard-passing search start reaches (`n + 1`). -/
theorem searchLoop_rule (guard : Nat → Bool) (idx : Nat → Option Nat) (step : Nat → Step)
    (Inv : Nat → Prop) (Post : Option Nat → Prop) (bound : Nat)
    (hguard : ∀ s, guard s = true → s < bound)
    (hexit : ∀ s, Inv s → guard s = false → Post none)
    (hnone : ∀ s, Inv s → guard s = true → idx s = none → Post none)
    (hsome : ∀ s i, Inv s → guard s = true → idx s = some i →
      s ≤ i ∧ match step i with
        | .found q => Post (some q)
        | .giveUp => Post none
        | .next => Inv (i + 1)) :
    ∀ (fuel s : Nat), bound ≤ s + fuel → Inv s → Post (searchLoop guard idx step fuel s) := by
  intro fuel
  induction fuel with
  | zero =>
    intro s hb hinv
    refine hexit s hinv (Bool.eq_false_iff.mpr fun hg => ?_)
    have := hguard s hg
    omega
  | succ fuel ih =>
    intro s hb hinv
    rw [searchLoop]
    cases hg : guard s with
    | false => exact hexit s hinv hg
    | true =>
      rw [if_pos rfl]
      cases hi : idx s with
      | none => exact hnone s hinv hg hi
      | some i =>
        obtain ⟨hle, hstep⟩ := hsome s i hinv hg hi
        cases hs : step i with
        | found q => rw [hs] at hstep; simp only [hs]; exact hstep
        | giveUp => rw [hs] at hstep; simp only [hs]; exact hstep
        | next => rw [hs] at hstep; simp only [hs]; exact ih (i + 1) (by omega) hstep

/-! ### the answers `FinderSound` asks for -/

theorem fails_of_not {attempt : Nat → Option (Nat × Nat)} {C : Nat → Prop} {n : Nat}
    (hC : ∀ p, p ≤ n → attempt p ≠ none → C p) (p : Nat) (hp : p ≤ n) (h : ¬ C p) : attempt p = none :=
  Classical.byContradiction fun ha => h (hC p hp ha)

/-- the answer of a left-to-right search from `pos` ("Opt": the `Option` a search returns): a candidate `q` skips
    only failing positions; no candidate means all fail -/
def LtrOpt (attempt : Nat → Option (Nat × Nat)) (n pos : Nat) : Option Nat → Prop
  | some q => pos ≤ q ∧ q ≤ n ∧ ∀ p, pos ≤ p → p < q → attempt p = none
  | none => ∀ p, pos ≤ p → p ≤ n → attempt p = none

/-- the same for a right-to-left search from `pos` -/
def RtlOpt (attempt : Nat → Option (Nat × Nat)) (pos : Nat) : Option Nat → Prop
  | some q => q ≤ pos ∧ ∀ p, q < p → p ≤ pos → attempt p = none
  | none => ∀ p, p ≤ pos → attempt p = none

/-- answers of that kind make a sound finder (`ltrResult`: the searching finders leave the position at the end of
    the scan when they find nothing) -/
theorem finderSound_ltr (n : Nat) (finder : Nat → Bool × Nat) (attempt : Nat → Option (Nat × Nat))
    (h : ∀ pos, pos ≤ n → ∃ o, finder pos = ltrResult n o ∧ LtrOpt attempt n pos o) :
    FinderSound false n finder attempt := by
  intro pos hpos
  obtain ⟨o, ho, h⟩ := h pos hpos
  rw [ho]
  cases o with
  | none => exact ⟨hpos, Nat.le_refl n, nofun, fun _ => h⟩
  | some q => exact ⟨h.1, h.2.1, fun _ => h.2.2, nofun⟩

theorem finderSound_rtl (n : Nat) (finder : Nat → Bool × Nat) (attempt : Nat → Option (Nat × Nat))
    (h : ∀ pos, pos ≤ n → ∃ o, finder pos = rtlResult o ∧ RtlOpt attempt pos o) :
    FinderSound true n finder attempt := by
  intro pos hpos
  obtain ⟨o, ho, h⟩ := h pos hpos
  rw [ho]
  cases o with
  | none => exact ⟨Nat.zero_le pos, nofun, fun _ p _ => h p⟩
  | some q => exact ⟨h.1, fun _ => h.2, nofun⟩

/-- **the one way a search becomes a finder's answer**: the first position from `pos`, below `hi`, that passes a
    necessary condition `C` of a match; positions from `hi` on are known to fail -/
theorem first_opt {C : Nat → Prop} {attempt : Nat → Option (Nat × Nat)} {n pos hi : Nat} {o : Option Nat}
    (ho : First (fun p => pos ≤ p ∧ p < hi ∧ C p) o) (hhi : hi ≤ n + 1)
    (hC : ∀ p, p ≤ n → attempt p ≠ none → C p)
    (hbeyond : ∀ p, hi ≤ p → p ≤ n → attempt p = none) : LtrOpt attempt n pos o := by
  cases o with
  | none =>
    exact fun p h1 h2 =>
      if hp : p < hi then fails_of_not hC p h2 fun hc => ho.2 rfl p ⟨h1, hp, hc⟩ else hbeyond p (Nat.le_of_not_lt hp) h2
  | some q =>
    obtain ⟨⟨h1, h2, _⟩, h4⟩ := ho.1 q rfl
    exact ⟨h1, by omega, fun p hp1 hp2 => fails_of_not hC p (by omega) fun hc => h4 p hp2 ⟨hp1, by omega, hc⟩⟩

/-- the count `k`: `n - pos` covers the positions that have a rune, `n + 1 - pos` also the end of the input.  A test
    that reads a rune may take either (`hbeyond`: the end has no rune); one that can hold at the end needs the second -/
theorem findUp_opt (C : Nat → Bool) (attempt : Nat → Option (Nat × Nat)) (n pos k : Nat)
    (hk : pos + k ≤ n + 1)
    (hC : ∀ p, p ≤ n → attempt p ≠ none → C p = true)
    (hbeyond : ∀ p, pos + k ≤ p → p ≤ n → attempt p = none) :
    LtrOpt attempt n pos (findUp C k pos) :=
  first_opt (findUp_first C k pos) hk hC hbeyond

theorem findDown_opt (C : Nat → Bool) (attempt : Nat → Option (Nat × Nat)) (n pos : Nat) (hpos : pos ≤ n)
    (hC : ∀ p, p ≤ n → attempt p ≠ none → C p = true) :
    RtlOpt attempt pos (findDown C pos) := by
  have ho := findDown_last C pos
  cases o : findDown C pos with
  | none => exact fun p h1 => fails_of_not hC p (by omega) fun hc => ho.2 o p ⟨h1, hc⟩
  | some q =>
    obtain ⟨⟨h1, _⟩, h3⟩ := ho.1 q o
    exact ⟨h1, fun p hp1 hp2 => fails_of_not hC p (by omega) fun hc => h3 p hp1 ⟨hp2, hc⟩⟩

theorem finderNoSearch_sound (rtl : Bool) (n : Nat) (attempt : Nat → Option (Nat × Nat)) :
    FinderSound rtl n finderNoSearch attempt :=
  finderSound_here rtl n attempt

/-! ### the facts the finders consume -/

/-- each anchor bit of `Code.Anchors` that is set holds at the position of every successful attempt
    (C04: `leadingAnchor_sound`, in the terms of `Spec.anchorHolds`) -/
structure AnchorFacts (a : Anchors) (text : List Nat) (textstart : Nat) (attempt : Nat → Option (Nat × Nat)) : Prop where
  beginning : a.beginning = true → ∀ p, p ≤ text.length → attempt p ≠ none → p = 0
  start : a.start = true → ∀ p, p ≤ text.length → attempt p ≠ none → p = textstart
  endZ : a.endZ = true → ∀ p, p ≤ text.length → attempt p ≠ none →
    p = text.length ∨ (p + 1 = text.length ∧ text[p]? = some 10)
  «end» : a.«end» = true → ∀ p, p ≤ text.length → attempt p ≠ none → p = text.length

/-- the Boyer-Moore prefix occurs at every successful attempt position: starting there left-to-right,
    ending there right-to-left (C04: `leadingPrefix_sound_runes`) -/
def BmFact (lower : Nat → Nat) (b : Bm) (rtl : Bool) (text : List Nat) (attempt : Nat → Option (Nat × Nat)) : Prop :=
  ∀ p, p ≤ text.length → attempt p ≠ none → bmIsMatch lower b rtl text p = true

/-- the first character of every match is in the first-character set: `text[p]` left-to-right,
    `text[p-1]` right-to-left -/
def FcFact (mem : Nat → Bool) (rtl : Bool) (text : List Nat) (attempt : Nat → Option (Nat × Nat)) : Prop :=
  ∀ p, p ≤ text.length → attempt p ≠ none →
    if rtl then 1 ≤ p ∧ memAt mem text (p - 1) = true else memAt mem text p = true

/-- `MinRequiredLength` in the form the left-to-right helpers use it -/
theorem minLen_ltr {n L : Nat} {attempt : Nat → Option (Nat × Nat)} (hM : MinLenSound false n L attempt)
    (p : Nat) (hp : p ≤ n) (h : attempt p ≠ none) : p + L ≤ n := by
  cases ha : attempt p with
  | none => exact absurd ha h
  | some m =>
    have : L ≤ n - p := hM p m.1 m.2 hp ha
    omega

theorem fails_short {n L : Nat} {attempt : Nat → Option (Nat × Nat)} (hM : MinLenSound false n L attempt)
    (p : Nat) (hp : p ≤ n) (h : n < p + L) : attempt p = none :=
  fails_of_not (minLen_ltr hM) p hp (Nat.not_le.mpr h)

/-! ### the anchor bits: jump to the only position they allow, then the anchored prefix test -/

theorem finderAnchors_ltr (lower : Nat → Nat) (a : Anchors) (bm : Option Bm) (text : List Nat) (textstart : Nat)
    (attempt : Nat → Option (Nat × Nat))
    (hA : AnchorFacts a text textstart attempt)
    (hB : ∀ b, bm = some b → BmFact lower b false text attempt) :
    FinderSound false text.length (finderAnchors lower a bm false text textstart) attempt := by
  intro pos hpos
  generalize hr : finderAnchors lower a bm false text textstart pos = r
  simp only [Bool.false_eq_true, if_false]
  unfold finderAnchors at hr
  simp only [Bool.not_false, if_true] at hr
  rcases ite_eq_cases hr with ⟨hex, rfl⟩ | ⟨_, hr⟩
  · -- Beginning behind us, or Start behind us
    simp only [Bool.or_eq_true, Bool.and_eq_true, decide_eq_true_eq] at hex
    refine ⟨hpos, Nat.le_refl _, nofun, fun _ p h1 h2 => ?_⟩
    rcases hex with ⟨hb, hp0⟩ | ⟨hs, hps⟩
    · exact fails_of_not (hA.beginning hb) p h2 (by omega)
    · exact fails_of_not (hA.start hs) p h2 (by omega)
  · -- the jump to the only position `q` the anchor allows
    generalize hq : (if a.endZ && decide (pos + 1 < text.length) then text.length - 1
      else if a.«end» && decide (pos < text.length) then text.length else pos) = q at hr
    have hj : pos ≤ q ∧ q ≤ text.length ∧ ∀ p, pos ≤ p → p < q → attempt p = none := by
      rcases ite_eq_cases hq with ⟨hz, rfl⟩ | ⟨_, hq⟩
      · simp only [Bool.and_eq_true, decide_eq_true_eq] at hz
        exact ⟨by omega, by omega, fun p h1 h2 => fails_of_not (hA.endZ hz.1) p (by omega) (by omega)⟩
      · rcases ite_eq_cases hq with ⟨he, rfl⟩ | ⟨_, rfl⟩
        · simp only [Bool.and_eq_true, decide_eq_true_eq] at he
          exact ⟨by omega, Nat.le_refl _, fun p h1 h2 => fails_of_not (hA.«end» he.1) p (by omega) (by omega)⟩
        · exact ⟨Nat.le_refl _, hpos, fun p h1 h2 => by omega⟩
    obtain ⟨h1, h2, h3⟩ := hj
    cases bm with
    | none => subst hr; exact ⟨h1, h2, fun _ => h3, nofun⟩
    | some b =>
      -- `IsMatch` at `q`: a `false` answer vouches for `q` as well
      subst hr
      refine ⟨h1, h2, fun _ => h3, fun hf p hp1 hp2 => ?_⟩
      have hp2 : p ≤ q := hp2
      by_cases hpq : p < q
      · exact h3 p hp1 hpq
      · rw [show p = q by omega]
        exact fails_of_not (hB b rfl) q h2 fun h => absurd (hf.symm.trans h) Bool.false_ne_true

theorem finderAnchors_rtl (lower : Nat → Nat) (a : Anchors) (bm : Option Bm) (text : List Nat) (textstart : Nat)
    (attempt : Nat → Option (Nat × Nat))
    (hA : AnchorFacts a text textstart attempt)
    (hB : ∀ b, bm = some b → BmFact lower b true text attempt) :
    FinderSound true text.length (finderAnchors lower a bm true text textstart) attempt := by
  intro pos hpos
  generalize hr : finderAnchors lower a bm true text textstart pos = r
  simp only [if_true]
  unfold finderAnchors at hr
  simp only [Bool.not_true, Bool.false_eq_true, if_false] at hr
  rcases ite_eq_cases hr with ⟨hex, rfl⟩ | ⟨_, hr⟩
  · -- End / EndZ / Start cannot hold at or below pos
    simp only [Bool.or_eq_true, Bool.and_eq_true, decide_eq_true_eq, bne_iff_ne] at hex
    refine ⟨Nat.zero_le _, nofun, fun _ p _ h2 => ?_⟩
    rcases hex with (⟨he, hp0⟩ | ⟨hz, hzz⟩) | ⟨hs, hps⟩
    · exact fails_of_not (hA.«end» he) p (by omega) (by omega)
    · refine fails_of_not (hA.endZ hz) p (by omega) fun hc => ?_
      rcases hzz with hlt | ⟨heq, hnl⟩
      · omega
      · rcases hc with hc | ⟨hc1, hc2⟩
        · omega
        · rw [show pos = p by omega] at hnl; exact hnl hc2
    · exact fails_of_not (hA.start hs) p (by omega) (by omega)
  · generalize hq : (if a.beginning && decide (0 < pos) then 0 else pos) = q at hr
    have hj : q ≤ pos ∧ ∀ p, q < p → p ≤ pos → attempt p = none := by
      rcases ite_eq_cases hq with ⟨hb, rfl⟩ | ⟨_, rfl⟩
      · simp only [Bool.and_eq_true, decide_eq_true_eq] at hb
        exact ⟨Nat.zero_le _, fun p h1 h2 => fails_of_not (hA.beginning hb.1) p (by omega) (by omega)⟩
      · exact ⟨Nat.le_refl _, fun p h1 h2 => by omega⟩
    obtain ⟨h1, h3⟩ := hj
    cases bm with
    | none => subst hr; exact ⟨h1, fun _ => h3, nofun⟩
    | some b =>
      subst hr
      refine ⟨h1, fun _ => h3, fun hf p hp1 hp2 => ?_⟩
      have hp1 : q ≤ p := hp1
      by_cases hpq : q < p
      · exact h3 p hpq hp2
      · rw [show p = q by omega]
        exact fails_of_not (hB b rfl) q (by omega) fun h => absurd (hf.symm.trans h) Bool.false_ne_true

theorem finderAnchors_sound (lower : Nat → Nat) (a : Anchors) (bm : Option Bm) (rtl : Bool) (text : List Nat)
    (textstart : Nat) (attempt : Nat → Option (Nat × Nat))
    (hA : AnchorFacts a text textstart attempt)
    (hB : ∀ b, bm = some b → BmFact lower b rtl text attempt) :
    FinderSound rtl text.length (finderAnchors lower a bm rtl text textstart) attempt := by
  cases rtl
  · exact finderAnchors_ltr lower a bm text textstart attempt hA hB
  · exact finderAnchors_rtl lower a bm text textstart attempt hA hB

/-! ### the Boyer-Moore scan for the leading prefix -/

/-- `newBmPrefix` accepts the pattern (non-empty, no rune above U+FFFF): the compiled program has a
    `Code.BmPrefix` only then -/
def BmBuilt (b : Bm) (rtl : Bool) : Prop := (BoyerMoore.build b.pat b.ci rtl).isSome = true

theorem finderBmScanSpec_sound (lower : Nat → Nat) (b : Bm) (rtl : Bool) (text : List Nat)
    (attempt : Nat → Option (Nat × Nat)) (hB : BmFact lower b rtl text attempt) :
    FinderSound rtl text.length (finderBmScanSpec lower b rtl text) attempt := by
  cases rtl
  · exact finderSound_ltr _ _ _ fun pos hpos =>
      ⟨_, rfl, findUp_opt _ _ _ _ _ (by omega) hB (fun p h1 h2 => by omega)⟩
  · exact finderSound_rtl _ _ _ fun pos hpos => ⟨_, rfl, findDown_opt _ _ _ _ hpos hB⟩

/-- **the Boyer-Moore scan computes its specification**: with the tables of `newBmPrefix` and the skip loop
    of `Scan`, the finder returns the first position in scan order at which `IsMatch` holds, and gives up
    exactly when there is none -/
theorem finderBmScan_eq_spec (lower : Nat → Nat) (b : Bm) (rtl : Bool) (text : List Nat) (hW : BmBuilt b rtl)
    (pos : Nat) (hpos : pos ≤ text.length) :
    finderBmScan lower b rtl text pos = finderBmScanSpec lower b rtl text pos := by
  obtain ⟨pat, ci⟩ := b
  unfold BmBuilt at hW
  cases hb : BoyerMoore.build pat ci rtl with
  | none => rw [hb] at hW; cases hW
  | some t =>
    obtain ⟨hne, _⟩ := Lemmas.BoyerMoore.build_some pat ci rtl t hb
    unfold finderBmScan finderBmScanSpec
    simp only [hb]
    -- both searches return the first hit of the same test in the same window
    cases rtl with
    | false =>
      simp only [Bool.false_eq_true, if_false]
      refine congrArg _ (First.unique
        (Lemmas.BoyerMoore.scan_first lower pat ci t hb text pos 0 text.length (Nat.zero_le _) (Nat.le_refl _))
        ((findUp_first _ _ pos).congr fun i => and_congr_right fun _ => ⟨fun h => ⟨?_, h.2⟩, fun h => ⟨?_, h.2⟩⟩))
      · exact occursAt_fits' _ pat text i hne h.2
      · have := h.1; omega
    | true =>
      simp only [if_true]
      refine congrArg _ (Last.unique
        (Lemmas.BoyerMoore.scan_last lower pat ci t hb text pos 0 text.length (Nat.zero_le _) hpos (Nat.le_refl _))
        ((findDown_last _ pos).congr fun i => and_congr_right fun _ => ⟨fun h => ⟨?_, h⟩, fun h => h.2⟩))
      simpa using (Bool.and_eq_true_iff.mp h).1

theorem finderBmScan_sound (lower : Nat → Nat) (b : Bm) (rtl : Bool) (text : List Nat)
    (attempt : Nat → Option (Nat × Nat)) (hW : BmBuilt b rtl) (hB : BmFact lower b rtl text attempt) :
    FinderSound rtl text.length (finderBmScan lower b rtl text) attempt := by
  intro pos hpos
  rw [finderBmScan_eq_spec lower b rtl text hW pos hpos]
  exact finderBmScanSpec_sound lower b rtl text attempt hB pos hpos

/-- `finderFc` is the generic finder "first position in scan order whose next rune passes `mem`" -/
theorem finderFc_sound (mem : Nat → Bool) (rtl : Bool) (text : List Nat)
    (attempt : Nat → Option (Nat × Nat)) (hF : FcFact mem rtl text attempt) :
    FinderSound rtl text.length (finderFc mem rtl text) attempt := by
  cases rtl
  · refine finderSound_ltr _ _ _ fun pos hpos => ⟨_, rfl, findUp_opt _ _ _ _ _ (by omega) hF fun p h1 h2 => ?_⟩
    -- the end of the input has no character
    exact fails_of_not hF p h2 fun hm => by have := memAt_lt mem text p hm; omega
  · refine finderSound_rtl _ _ _ fun pos hpos => ⟨_, rfl, findDown_opt _ _ _ _ hpos fun p hp ha => ?_⟩
    have : 1 ≤ p ∧ memAt mem text (p - 1) = true := hF p hp ha
    rw [Bool.and_eq_true, decide_eq_true_eq]
    exact this

/-! ### the helpers behind `findFirstCharOptimized`, one per find mode -/

theorem finderTrailingEnd_sound (n L : Nat) (attempt : Nat → Option (Nat × Nat))
    (hT : ∀ p, p ≤ n → attempt p ≠ none → p + L = n) :
    FinderSound false n (finderTrailingEnd n L) attempt := by
  refine finderSound_ltr _ _ _ fun pos hpos => ?_
  unfold finderTrailingEnd
  split
  · rename_i h
    exact ⟨some _, rfl, h.2, by omega, fun p h1 h2 => fails_of_not hT p (by omega) (by omega)⟩
  · rename_i h
    exact ⟨none, rfl, fun p h1 h2 => fails_of_not hT p h2 fun hc => h (by omega)⟩

theorem finderLeadingString_sound (lower : Nat → Nat) (pat : List Nat) (ignoreCase : Bool) (text : List Nat)
    (minLen : Nat) (attempt : Nat → Option (Nat × Nat))
    (hP : ∀ p, p ≤ text.length → attempt p ≠ none → occursAt (stringEq lower ignoreCase pat) pat text p = true)
    (hM : MinLenSound false text.length minLen attempt) :
    FinderSound false text.length (finderLeadingString lower pat ignoreCase text minLen) attempt := by
  refine finderSound_ltr _ _ _ fun pos hpos => ?_
  unfold finderLeadingString
  simp only
  split
  · exact ⟨some pos, rfl, Nat.le_refl _, hpos, fun p h1 h2 => by omega⟩
  · have hopt := findUp_opt (occursAt (stringEq lower ignoreCase pat) pat text) attempt text.length pos
      (text.length + 1 - pos) (by omega) hP (fun p h1 h2 => by omega)
    cases hf : findUp (occursAt (stringEq lower ignoreCase pat) pat text) (text.length + 1 - pos) pos with
    | none => rw [hf] at hopt; exact ⟨none, rfl, hopt⟩
    | some start =>
      rw [hf] at hopt
      simp only
      split
      · exact ⟨some start, rfl, hopt⟩
      · -- the first occurrence is too close to the end: so is every later position
        rename_i hl
        rw [hasLen, decide_eq_true_eq] at hl
        exact ⟨none, rfl, fun p hp1 hp2 =>
          if hps : p < start then hopt.2.2 p hp1 hps else fails_short hM p hp2 (by omega)⟩

theorem occursAt_head (eq : Nat → Nat → Bool) (c : Nat) (rest text : List Nat) (i : Nat)
    (h : occursAt eq (c :: rest) text i = true) : ∃ t, text[i]? = some t ∧ eq t c = true := by
  obtain ⟨t, c', ht, hc, he⟩ := (prefixOf_iff eq _ _).mp h 0 (Nat.zero_lt_succ _)
  rw [List.getElem?_drop] at ht
  cases hc
  exact ⟨t, ht, he⟩

/-- the facts `findLeadingStringsLeftToRight` consumes: one of the prefixes occurs at every match;
    for the skipping path (case-sensitive, first runes present) additionally that no prefix is empty
    and that `firstRunes` holds the first rune of each (`leadingPrefixFirstRunes`) -/
structure StringsFacts (lower : Nat → Nat) (prefixes : List (List Nat)) (firstRunes : List Nat) (ignoreCase : Bool)
    (text : List Nat) (attempt : Nat → Option (Nat × Nat)) : Prop where
  occurs : ∀ p, p ≤ text.length → attempt p ≠ none →
    ∃ pre, pre ∈ prefixes ∧ occursAt (if ignoreCase then eqLower lower else eqExact) pre text p = true
  nonempty : ignoreCase = false → firstRunes.isEmpty = false → ∀ pre, pre ∈ prefixes → pre ≠ []
  first : ignoreCase = false → firstRunes.isEmpty = false →
    ∀ pre, pre ∈ prefixes → ∀ c rest, pre = c :: rest → c ∈ firstRunes

/-! ### the loops that skip from one necessary character to the next -/

/-- what the loop body decides on a necessary character found at index `i`, in terms of the candidate start
    `i - d` -/
def StepOK (attempt : Nat → Option (Nat × Nat)) (d n i : Nat) : Step → Prop
  | .found q => q = i - d
  | .giveUp => ∀ p, i - d ≤ p → p ≤ n → attempt p = none
  | .next => attempt (i - d) = none

/-- the loop shared by `findFixedDistanceCharLeftToRight`, `…StringLeftToRight`, `…SetsLeftToRight` and the
    skipping path of `findLeadingStringsLeftToRight`: `C i` = "the literal / a character of the primary set / a
    possible first rune is at index `i`", a necessary condition of a match starting at `i - d`.  The loop runs while
    `w ≥ 1` characters remain (`hguard`), a match leaves `w` characters from its index `p + d` on (`hfit`), and the
    search from `s` ends no more than `w` before the end of the input (`hk`): so no match starts `d` before an index
    the loop does not look at -/
theorem fixedLoop_opt (C : Nat → Bool) (guard : Nat → Bool) (kf : Nat → Nat) (step : Nat → Step) (d n pos w : Nat)
    (attempt : Nat → Option (Nat × Nat))
    (hC : ∀ p, p ≤ n → attempt p ≠ none → C (p + d) = true)
    (hguard : ∀ s, guard s = true ↔ s + w ≤ n)
    (hfit : ∀ p, p ≤ n → attempt p ≠ none → p + d + w ≤ n)
    (hk : ∀ s, s + w ≤ n → s + kf s ≤ n + 1 ∧ n + 1 ≤ s + kf s + w)
    (hstep : ∀ i, C i = true → pos + d ≤ i → StepOK attempt d n i (step i)) :
    LtrOpt attempt n pos (searchLoop guard (fun s => findUp C (kf s) s) step (n + 1) (pos + d)) := by
  have hfail : ∀ p, p ≤ n → C (p + d) = false → attempt p = none :=
    fun p hp hc => fails_of_not hC p hp (by rw [hc]; nofun)
  have hout : ∀ s p, p ≤ n → s ≤ p + d → (guard s = false ∨ s + kf s ≤ p + d) → attempt p = none := by
    intro s p hp hs hor
    refine fails_of_not (hfit · · ·) p hp fun hf => ?_
    have hg := (hguard s).mpr (by omega)
    rcases hor with hg' | hk'
    · rw [hg] at hg'; cases hg'
    · have := (hk s ((hguard s).mp hg)).2; omega
  -- invariant: no match starts `d` before an index below the search start
  refine searchLoop_rule _ _ _ (fun s => pos + d ≤ s ∧ ∀ p, pos ≤ p → p + d < s → attempt p = none)
    (LtrOpt attempt n pos) (n + 1) (fun s hg => by have := (hguard s).mp hg; omega) ?_ ?_ ?_ (n + 1) (pos + d) (by omega)
    ⟨Nat.le_refl _, fun p h1 h2 => by omega⟩
  · exact fun s hinv hg p h1 h2 =>
      if hps : p + d < s then hinv.2 p h1 hps else hout s p h2 (by omega) (Or.inl hg)
  · intro s hinv _ hi p h1 h2
    by_cases hps : p + d < s
    · exact hinv.2 p h1 hps
    · by_cases hpk : p + d < s + kf s
      · exact hfail p h2 (findUp_none _ _ _ hi (p + d) (by omega) hpk)
      · exact hout s p h2 (by omega) (Or.inr (by omega))
  · intro s i hinv hg hi
    obtain ⟨h1, h2, h3, h4⟩ := findUp_some _ _ _ _ hi
    have hin := (hk s ((hguard s).mp hg)).1
    have hbefore : ∀ p, pos ≤ p → p < i - d → attempt p = none := fun p hp1 hp2 =>
      if hps : p + d < s then hinv.2 p hp1 hps else hfail p (by omega) (h4 (p + d) (by omega) (by omega))
    have hst := hstep i h3 (by omega)
    refine ⟨h1, ?_⟩
    cases hs : step i with
    | found q =>
      rw [hs] at hst
      rw [show q = i - d from hst]
      exact ⟨by omega, by omega, hbefore⟩
    | giveUp =>
      rw [hs] at hst
      exact fun p hp1 hp2 => if hps : p < i - d then hbefore p hp1 hps else hst p (by omega) hp2
    | next =>
      rw [hs] at hst
      refine ⟨by omega, fun p hp1 hp2 => ?_⟩
      by_cases hps : p < i - d
      · exact hbefore p hp1 hps
      · rw [show p = i - d by omega]; exact hst

theorem finderLeadingStrings_sound (lower : Nat → Nat) (prefixes : List (List Nat)) (firstRunes : List Nat)
    (ignoreCase : Bool) (text : List Nat) (minLen : Nat) (attempt : Nat → Option (Nat × Nat))
    (hP : StringsFacts lower prefixes firstRunes ignoreCase text attempt)
    (hM : MinLenSound false text.length minLen attempt) :
    FinderSound false text.length (finderLeadingStrings lower prefixes firstRunes ignoreCase text minLen) attempt := by
  by_cases hemp : prefixes.isEmpty = true
  · -- no prefixes: no attempt can succeed, and the position stays
    intro pos hpos
    unfold finderLeadingStrings
    rw [if_pos hemp]
    refine ⟨Nat.le_refl _, hpos, nofun, fun _ p _ hp2 => fails_of_not hP.occurs p (by omega) fun ⟨pre, hpre, _⟩ => ?_⟩
    rw [List.isEmpty_iff.mp hemp] at hpre
    cases hpre
  refine finderSound_ltr _ _ _ fun pos hpos => ?_
  unfold finderLeadingStrings
  simp only [hemp, Bool.false_eq_true, if_false]
  split
  · -- position by position
    refine ⟨_, rfl, findUp_opt _ _ _ _ _ (by omega) (fun p hp ha => ?_) (fun p h1 h2 => fails_short hM p h2 (by omega))⟩
    obtain ⟨pre, hpre, hocc⟩ := hP.occurs p hp ha
    exact List.any_eq_true.mpr ⟨pre, hpre, hocc⟩
  · -- skipping between possible first runes
    rename_i hslow
    simp only [Bool.or_eq_true, not_or, Bool.not_eq_true] at hslow
    obtain ⟨hic, hfr⟩ := hslow
    -- at a match a non-empty prefix occurs, and the character there is its first rune
    have hocc : ∀ p, p ≤ text.length → attempt p ≠ none →
        ∃ c rest, (c :: rest) ∈ prefixes ∧ text[p]? = some c ∧ occursAt eqExact (c :: rest) text p = true := by
      intro p hp ha
      obtain ⟨pre, hpre, ho⟩ := hP.occurs p hp ha
      rw [hic] at ho
      cases pre with
      | nil => exact absurd rfl (hP.nonempty hic hfr _ hpre)
      | cons c rest =>
        obtain ⟨t, ht, heq⟩ := occursAt_head eqExact c rest text p ho
        rw [eq_of_beq heq] at ht
        exact ⟨c, rest, hpre, ht, ho⟩
    refine ⟨_, rfl, fixedLoop_opt (memAt (fun c => firstRunes.contains c) text) _
      (fun s => text.length + 1 - max minLen 1 - s) _ 0 _ pos (max minLen 1) attempt ?_ (fun s => decide_eq_true_iff) ?_
      (fun s hs => by omega) ?_⟩
    · intro p hp ha
      obtain ⟨c, rest, hpre, ht, _⟩ := hocc p hp ha
      rw [Nat.add_zero, memAt, ht]
      exact List.contains_iff_mem.mpr (hP.first hic hfr _ hpre c rest rfl)
    · -- a match needs room for `minLen` characters and for a non-empty prefix
      intro p hp ha
      have h1 := minLen_ltr hM p hp ha
      obtain ⟨c, rest, _, _, ho⟩ := hocc p hp ha
      have h2 := occursAt_fits' eqExact (c :: rest) text p (List.cons_ne_nil _ _) ho
      rw [List.length_cons] at h2
      omega
    · intro i hi _
      show StepOK attempt 0 text.length i (if anyPrefixWithFirst prefixes text i = true then .found i else .next)
      split
      · rfl
      · rename_i hc
        refine fails_of_not (C := fun i => anyPrefixWithFirst prefixes text i = true) (fun p hp ha => ?_) i
          (Nat.le_of_lt (memAt_lt _ _ _ hi)) hc
        obtain ⟨c, rest, hpre, ht, ho⟩ := hocc p hp ha
        exact List.any_eq_true.mpr ⟨c :: rest, hpre, by simp only [ht, ho, beq_self_eq_true, Bool.and_self]⟩

/-! ### fixed-distance literal (char / string) -/

theorem fixedStep_ok (attempt : Nat → Option (Nat × Nat)) (d n minLen pos i : Nat)
    (hM : MinLenSound false n minLen attempt) (hi : pos + d ≤ i) :
    StepOK attempt d n i (fixedStep d n minLen pos i) := by
  unfold fixedStep
  simp only
  split
  · rfl
  · rename_i hfound
    rw [Bool.and_eq_true, decide_eq_true_eq, hasLen, decide_eq_true_eq] at hfound
    split
    · rename_i hgive
      have := of_decide_eq_true hgive
      exact fun p hp1 hp2 => fails_short hM p hp2 (by omega)
    · rename_i hgive
      rw [decide_eq_true_eq] at hgive
      exact absurd ⟨by omega, by omega⟩ hfound

theorem finderFixedChar_sound (c d : Nat) (text : List Nat) (minLen : Nat) (attempt : Nat → Option (Nat × Nat))
    (hC : ∀ p, p ≤ text.length → attempt p ≠ none → text[p + d]? = some c)
    (hM : MinLenSound false text.length minLen attempt) :
    FinderSound false text.length (finderFixedChar c d text minLen) attempt := by
  refine finderSound_ltr _ _ _ fun pos hpos => ⟨_, rfl, ?_⟩
  exact fixedLoop_opt (fun i => text[i]? == some c) _ (fun s => text.length - s) _ d _ pos 1 attempt
    (fun p hp ha => by rw [hC p hp ha]; exact beq_self_eq_true _) (fun s => decide_eq_true_iff)
    (fun p hp ha => getElem?_some_lt text _ c (hC p hp ha)) (fun s hs => by omega)
    (fun i _ hi => fixedStep_ok attempt d text.length minLen pos i hM hi)

theorem finderFixedString_sound (lit : List Nat) (d : Nat) (text : List Nat) (minLen : Nat)
    (attempt : Nat → Option (Nat × Nat))
    (hC : ∀ p, p ≤ text.length → attempt p ≠ none → occursAt eqExact lit text (p + d) = true)
    (hM : MinLenSound false text.length minLen attempt) :
    FinderSound false text.length (finderFixedString lit d text minLen) attempt := by
  refine finderSound_ltr _ _ _ fun pos hpos => ?_
  unfold finderFixedString
  simp only
  split
  · exact ⟨some pos, rfl, Nat.le_refl _, hpos, fun p h1 h2 => by omega⟩
  · rename_i hne
    have hne' : lit ≠ [] := fun h => hne (by rw [h]; rfl)
    have := List.length_pos_iff.mpr hne'
    exact ⟨_, rfl, fixedLoop_opt (occursAt eqExact lit text) _ (fun s => text.length + 1 - s) _ d _ pos lit.length attempt
      hC (fun s => decide_eq_true_iff) (fun p hp ha => occursAt_fits' eqExact lit text _ hne' (hC p hp ha))
      (fun s hs => by omega) (fun i _ hi => fixedStep_ok attempt d text.length minLen pos i hM hi)⟩

/-! ### fixed-distance sets (and `LeadingSet_LeftToRight`) -/

theorem finderFixedSets_sound (sets : List FDSet) (text : List Nat) (minLen : Nat) (attempt : Nat → Option (Nat × Nat))
    (hwf : ∃ primary rest, sets = primary :: rest ∧ primary.set.isSome = true)
    (hS : ∀ p, p ≤ text.length → attempt p ≠ none → fixedSetsMatchAt sets text p = true)
    (hM : MinLenSound false text.length minLen attempt) :
    FinderSound false text.length (finderFixedSets sets text minLen) attempt := by
  obtain ⟨primary, rest, rfl, hset⟩ := hwf
  refine finderSound_ltr _ _ _ fun pos hpos => ?_
  unfold finderFixedSets
  have hnone : primary.set.isNone = false := by
    cases h : primary.set with
    | none => rw [h] at hset; cases hset
    | some _ => rfl
  simp only [hnone, Bool.false_eq_true, if_false]
  have hC : ∀ p, p ≤ text.length → attempt p ≠ none → memAt primary.mem text (p + primary.distance) = true :=
    fun p hp ha => (Bool.and_eq_true_iff.mp (hS p hp ha)).1
  refine ⟨_, rfl, fixedLoop_opt (memAt primary.mem text) _ (fun s => text.length - s) _ primary.distance _ pos 1 attempt
    hC (fun s => decide_eq_true_iff) (fun p hp ha => memAt_lt _ _ _ (hC p hp ha)) (fun s hs => by omega) ?_⟩
  intro i _ hi
  show StepOK attempt primary.distance text.length i
    (if decide (text.length < i - primary.distance + minLen) = true then Step.giveUp
     else if (decide (pos ≤ i - primary.distance) && hasLen minLen text.length (i - primary.distance) &&
        fixedSetsMatchAt (primary :: rest) text (i - primary.distance)) = true then Step.found (i - primary.distance)
     else Step.next)
  split
  · rename_i hgive
    have := of_decide_eq_true hgive
    exact fun p hp1 hp2 => fails_short hM p hp2 (by omega)
  · rename_i hgive
    rw [decide_eq_true_eq] at hgive
    split
    · rfl
    · rename_i hfound
      refine fails_of_not hS _ (by omega) fun hmatch => hfound ?_
      rw [hmatch, hasLen, Bool.and_true, Bool.and_eq_true, decide_eq_true_eq, decide_eq_true_eq]
      omega

/-! ### literal after a leading set loop -/

theorem walkBack_spec (S : Nat → Bool) (text : List Nat) (lo : Nat) : ∀ (i : Nat), lo ≤ i →
    lo ≤ walkBack S text lo i ∧ walkBack S text lo i ≤ i ∧
    (∀ j, walkBack S text lo i ≤ j → j < i → memAt S text j = true) ∧
    (walkBack S text lo i = lo ∨ (0 < walkBack S text lo i ∧ memAt S text (walkBack S text lo i - 1) = false)) := by
  intro i
  induction i with
  | zero => intro h; exact ⟨h, Nat.le_refl _, fun j h1 h2 => by omega, Or.inl (Nat.le_zero.mp h).symm⟩
  | succ i ih =>
    intro h
    rw [walkBack]
    split
    · rename_i hc
      rw [Bool.and_eq_true, decide_eq_true_eq] at hc
      obtain ⟨h1, h2, h3, h4⟩ := ih (by omega)
      exact ⟨h1, by omega, fun j hj1 hj2 => if hji : j = i then hji ▸ hc.2 else h3 j hj1 (by omega), h4⟩
    · rename_i hc
      rw [Bool.and_eq_true, decide_eq_true_eq, not_and, Bool.not_eq_true] at hc
      refine ⟨h, Nat.le_refl _, fun j h1 h2 => by omega, ?_⟩
      by_cases hlo : lo < i + 1
      · exact Or.inr ⟨by omega, hc hlo⟩
      · exact Or.inl (by omega)

theorem walkBack_le (S : Nat → Bool) (text : List Nat) (lo i p : Nat) (hlo : lo ≤ p) (hi : lo ≤ i)
    (hrun : ∀ j, p ≤ j → j < i → memAt S text j = true) : walkBack S text lo i ≤ p := by
  obtain ⟨_, w2, _, w4⟩ := walkBack_spec S text lo i hi
  rcases w4 with heq | ⟨hpos, hnot⟩
  · omega
  · by_cases hlt : p < walkBack S text lo i
    · rw [hrun _ (by omega) (by omega)] at hnot; cases hnot
    · omega

theorem litAt_lt (lower : Nat → Nat) (l : LitAfterLoop) (text : List Nat) (k : Nat)
    (h : l.litAt lower text k = true) : k < text.length := by
  unfold LitAfterLoop.litAt at h
  split at h
  · rename_i hs
    have hne : l.str ≠ [] := fun h0 => by rw [h0] at hs; cases hs
    have := occursAt_fits' _ l.str text k hne h
    have := List.length_pos_iff.mpr hne
    omega
  · split at h
    · exact memAt_lt _ _ _ h
    · exact getElem?_some_lt text k _ (eq_of_beq h)

/-- the fact `findLiteralAfterLoopLeftToRight` consumes: from the start of every match, a run of
    loop-set characters leads to an occurrence of the literal -/
def LitAfterLoopFact (lower : Nat → Nat) (l : LitAfterLoop) (S : Nat → Bool) (text : List Nat)
    (attempt : Nat → Option (Nat × Nat)) : Prop :=
  ∀ p, p ≤ text.length → attempt p ≠ none →
    ∃ k, p ≤ k ∧ l.litAt lower text k = true ∧ ∀ j, p ≤ j → j < k → memAt S text j = true

/-- the literal at `k` is a witness of the fact for the successful position `p`, at or after `pos` -/
structure LalWitness (lower : Nat → Nat) (l : LitAfterLoop) (S : Nat → Bool) (text : List Nat)
    (attempt : Nat → Option (Nat × Nat)) (pos p k : Nat) : Prop where
  from_pos : pos ≤ p
  inside : p ≤ text.length
  succeeds : attempt p ≠ none
  le_lit : p ≤ k
  lit : l.litAt lower text k = true
  run : ∀ j, p ≤ j → j < k → memAt S text j = true

theorem finderLiteralAfterLoop_sound (lower : Nat → Nat) (l : LitAfterLoop) (S : Nat → Bool) (text : List Nat)
    (minLen : Nat) (attempt : Nat → Option (Nat × Nat))
    (hset : l.loopSet = some S)
    (hL : LitAfterLoopFact lower l S text attempt)
    (hM : MinLenSound false text.length minLen attempt) :
    FinderSound false text.length (finderLiteralAfterLoop lower l text minLen) attempt := by
  refine finderSound_ltr _ _ _ fun pos hpos => ?_
  unfold finderLiteralAfterLoop
  simp only [hset]
  refine ⟨_, rfl, ?_⟩
  have hw : ∀ p, pos ≤ p → p ≤ text.length → attempt p ≠ none →
      ∃ k, LalWitness lower l S text attempt pos p k ∧ k < text.length := by
    intro p h1 h2 hne
    obtain ⟨k, hk1, hk2, hk3⟩ := hL p h2 hne
    exact ⟨k, ⟨h1, h2, hne, hk1, hk2, hk3⟩, litAt_lt lower l text k hk2⟩
  -- invariant: every witness lies at or after the search start `s`
  refine searchLoop_rule _ _ _ (fun s => pos ≤ s ∧ ∀ p k, LalWitness lower l S text attempt pos p k → s ≤ k)
    (LtrOpt attempt text.length pos) (text.length + 1) ?_ ?_ ?_ ?_ (text.length + 1) pos (by omega)
    ⟨Nat.le_refl _, fun p k h => Nat.le_trans h.from_pos h.le_lit⟩
  · intro s hg
    have := of_decide_eq_true hg
    omega
  · intro s hinv hg p h1 h2
    have := of_decide_eq_false hg
    refine Classical.byContradiction fun hne => ?_
    obtain ⟨k, hk, hkn⟩ := hw p h1 h2 hne
    have := hinv.2 p k hk
    omega
  · intro s hinv hg hi p h1 h2
    refine Classical.byContradiction fun hne => ?_
    obtain ⟨k, hk, hkn⟩ := hw p h1 h2 hne
    have hlit := hk.lit
    rw [findUp_none _ _ _ hi k (hinv.2 p k hk) (by omega)] at hlit
    cases hlit
  · intro s i hinv hg hi
    obtain ⟨h1, h2, h3, h4⟩ := findUp_some _ _ _ _ hi
    have := of_decide_eq_true hg
    obtain ⟨w1, w2, _, _⟩ := walkBack_spec S text pos i (by omega)
    -- a witness is at `i` or later, and its position is no earlier than the candidate
    have hge : ∀ p k, LalWitness lower l S text attempt pos p k → i ≤ k ∧ walkBack S text pos i ≤ p := by
      intro p k hk
      have hsk := hinv.2 p k hk
      obtain ⟨hp1, hp2, hne, hk1, hk2, hk3⟩ := hk
      have hik : i ≤ k := by
        by_cases hlt : k < i
        · rw [h4 k hsk hlt] at hk2; cases hk2
        · omega
      exact ⟨hik, walkBack_le S text pos i p hp1 (by omega) fun j j1 j2 => hk3 j j1 (by omega)⟩
    refine ⟨h1, ?_⟩
    by_cases hl : hasLen minLen text.length (walkBack S text pos i) = true
    · simp only [hl, if_true]
      rw [hasLen, decide_eq_true_eq] at hl
      refine ⟨w1, by omega, fun p hp1 hp2 => Classical.byContradiction fun hne => ?_⟩
      obtain ⟨k, hk, _⟩ := hw p hp1 (by omega) hne
      have := (hge p k hk).2
      omega
    · simp only [hl, Bool.false_eq_true, if_false]
      rw [hasLen, decide_eq_true_eq] at hl
      refine ⟨by omega, fun p k hk => ?_⟩
      obtain ⟨hik, hstart⟩ := hge p k hk
      by_cases hki : k = i
      · -- the candidate lacks the room the match at `p` (at or after it) has
        have := minLen_ltr hM p hk.inside hk.succeeds
        omega
      · omega

/-! ### the required-landmark chain -/

/-- from `lb` on the remaining landmarks occur in order: some alternative of the next landmark matches with
    its core at `c ≥ lb`, and the rest of the chain from the earliest end of that alternative's core -/
def LmChainAt (text : List Nat) : List (List LmAlt) → Nat → Prop
  | [], _ => True
  | alts :: rest, lb => ∃ c alt, lb ≤ c ∧ alt ∈ alts ∧ (lmAltMatch text c alt).isSome = true ∧
      LmChainAt text rest (c + alt.minWidth)

/-- the landmark chain is present from position `p`: a run of leading-loop characters `[p, a)`, then a run
    `[a, c)` of characters that are leading whitespace of some alternative of the first landmark, then an
    alternative of the first landmark with its core at `c` (as `requiredLandmarkAlternativeMatch` tests it),
    then every later landmark in order, each core starting no earlier than the previous core's start plus
    the SHORTEST width of the alternative used -/
def LandmarkAt (S : Nat → Bool) (first : List LmAlt) (rest : List (List LmAlt)) (text : List Nat) (p : Nat) : Prop :=
  ∃ a c alt, p ≤ a ∧ a ≤ c ∧ (∀ j, p ≤ j → j < a → memAt S text j = true) ∧
    (∀ j, a ≤ j → j < c → memAt (lmLeadingWs first) text j = true) ∧
    alt ∈ first ∧ (lmAltMatch text c alt).isSome = true ∧ LmChainAt text rest (c + alt.minWidth)

/-- the fact `findRequiredLandmarkChainLeftToRight` consumes: the chain is present from every successful
    attempt position -/
def LandmarkFact (S : Nat → Bool) (first : List LmAlt) (rest : List (List LmAlt)) (text : List Nat)
    (attempt : Nat → Option (Nat × Nat)) : Prop :=
  ∀ p, p ≤ text.length → attempt p ≠ none → LandmarkAt S first rest text p

theorem runOf_bounds (S : Nat → Bool) (text : List Nat) (start maxRepeat : Nat) : ∀ (fuel e : Nat),
    e ≤ runOf S text start maxRepeat fuel e ∧ runOf S text start maxRepeat fuel e ≤ max e text.length := by
  intro fuel
  induction fuel with
  | zero => intro e; exact ⟨Nat.le_refl _, Nat.le_max_left _ _⟩
  | succ fuel ih =>
    intro e
    rw [runOf]
    split
    · rename_i hc
      rw [Bool.and_eq_true, Bool.and_eq_true, decide_eq_true_eq] at hc
      have := ih (e + 1)
      omega
    · exact ⟨Nat.le_refl _, Nat.le_max_left _ _⟩

/-- giving repetitions back stops at the last admissible end followed by whitespace, at the minimum at the latest -/
theorem giveBack_spec (W : Option (Nat → Bool)) (text : List Nat) (start minRepeat : Nat) : ∀ (e : Nat),
    start + minRepeat ≤ e →
    start + minRepeat ≤ giveBack W text start minRepeat e ∧ giveBack W text start minRepeat e ≤ e ∧
    (∀ z, start + minRepeat ≤ z → z ≤ e → z < text.length → optMemAt W text z = true →
      z ≤ giveBack W text start minRepeat e) ∧
    (giveBack W text start minRepeat e = start + minRepeat ∨
      (giveBack W text start minRepeat e < text.length ∧ optMemAt W text (giveBack W text start minRepeat e) = true)) := by
  intro e
  induction e with
  | zero => intro h; exact ⟨h, Nat.le_refl _, fun z _ z2 _ _ => z2, Or.inl (Nat.le_zero.mp h).symm⟩
  | succ e ih =>
    intro h
    rw [giveBack]
    split
    · rename_i hc
      simp only [Bool.and_eq_true, decide_eq_true_eq, Bool.or_eq_true, Bool.not_eq_true'] at hc
      obtain ⟨h1, h2, h3, h4⟩ := ih (by omega)
      refine ⟨h1, by omega, fun z z1 z2 z3 z4 => ?_, h4⟩
      by_cases hz : z = e + 1
      · rcases hc.2 with hn | hw
        · omega
        · rw [hz, hw] at z4; cases z4
      · exact h3 z z1 (by omega) z3 z4
    · rename_i hc
      simp only [Bool.and_eq_true, decide_eq_true_eq, Bool.or_eq_true, Bool.not_eq_true', not_and, not_or,
        Nat.not_le, Bool.not_eq_false] at hc
      refine ⟨h, Nat.le_refl _, fun z _ z2 _ _ => z2, ?_⟩
      by_cases hm : minRepeat < e + 1 - start
      · exact Or.inr (hc hm)
      · exact Or.inl (by omega)

/-- the core of an alternative is not empty (a literal, or at least `MinRepeat ≥ 1` set characters), so it starts
    inside the input -/
theorem lmCore_lt (text : List Nat) (c : Nat) (alt : LmAlt) (e : Nat) (h : lmCore text c alt = some e) :
    c < text.length := by
  unfold lmCore at h
  simp only at h
  by_cases hl : alt.literal.isEmpty = true
  · simp only [hl, Bool.not_true, Bool.false_eq_true, if_false] at h
    cases hs : alt.set with
    | none => rw [hs] at h; cases h
    | some S =>
      simp only [hs] at h
      generalize (if alt.maxRepeat ≤ 0 then alt.minRepeat else alt.maxRepeat.toNat) = mr at h
      have hb := (runOf_bounds S text c mr (text.length + 1) c).2
      generalize runOf S text c mr (text.length + 1) c = r at h hb
      rcases ite_eq_cases h with ⟨hm, h⟩ | ⟨_, h⟩
      · rcases ite_eq_cases h with ⟨_, h⟩ | ⟨hrun, _⟩
        · cases h
        · omega
      · cases h
  · simp only [hl, Bool.not_false, if_true] at h
    rcases ite_eq_cases h with ⟨_, h⟩ | ⟨hfit, _⟩
    · cases h
    · rw [Bool.or_eq_true, decide_eq_true_eq, not_or, Nat.not_lt] at hfit
      have : alt.literal ≠ [] := fun h0 => hl (by rw [h0]; rfl)
      have := List.length_pos_iff.mpr this
      omega

theorem lmAltMatch_some (text : List Nat) (c : Nat) (alt : LmAlt) (mt : LmMatch)
    (h : lmAltMatch text c alt = some mt) : mt.coreStart = c ∧ c < text.length := by
  unfold lmAltMatch at h
  simp only at h
  split at h
  · cases h
  · split at h
    · cases h
    · rename_i e hc
      split at h <;> cases h
      exact ⟨rfl, lmCore_lt text c alt e hc⟩

theorem lmMinEnd_le (cs : Nat) : ∀ (alts : List LmAlt) (e0 : Nat),
    alts.foldl (fun minEnd other => if cs + other.minWidth < minEnd then cs + other.minWidth else minEnd) e0 ≤ e0 ∧
    ∀ o, o ∈ alts →
      alts.foldl (fun minEnd other => if cs + other.minWidth < minEnd then cs + other.minWidth else minEnd) e0 ≤ cs + o.minWidth := by
  intro alts
  induction alts with
  | nil => intro e0; exact ⟨Nat.le_refl _, fun o ho => absurd ho List.not_mem_nil⟩
  | cons a rest ih =>
    intro e0
    rw [List.foldl_cons]
    by_cases hlt : cs + a.minWidth < e0
    · rw [if_pos hlt]
      obtain ⟨h1, h2⟩ := ih (cs + a.minWidth)
      exact ⟨by omega, fun o ho => (List.mem_cons.mp ho).elim (fun h => h ▸ h1) (h2 o)⟩
    · rw [if_neg hlt]
      obtain ⟨h1, h2⟩ := ih e0
      exact ⟨h1, fun o ho => (List.mem_cons.mp ho).elim (fun h => h ▸ by omega) (h2 o)⟩

def LmAt (text : List Nat) (alts : List LmAlt) (c : Nat) : Prop :=
  ∃ alt, alt ∈ alts ∧ (lmAltMatch text c alt).isSome = true

/-- `findNextRequiredLandmarkRunes`: the first position at or after `i` where an alternative matches, and an
    earliest end that no alternative's core can undercut -/
theorem lmFindNext_first (text : List Nat) (alts : List LmAlt) : ∀ (fuel i : Nat), text.length ≤ i + fuel →
    First (fun c => i ≤ c ∧ LmAt text alts c) ((lmFindNext text alts fuel i).map (·.1.coreStart)) ∧
    ∀ mt minEnd, lmFindNext text alts fuel i = some (mt, minEnd) →
      mt.coreStart < text.length ∧ ∀ o, o ∈ alts → minEnd ≤ mt.coreStart + o.minWidth := by
  -- no alternative matches at or beyond the end of the input
  have hend : ∀ i, text.length ≤ i → ∀ c, ¬ (i ≤ c ∧ LmAt text alts c) := fun i hi c ⟨hc, alt, _, hm⟩ => by
    cases hm' : lmAltMatch text c alt with
    | none => rw [hm'] at hm; cases hm
    | some mt => have := (lmAltMatch_some text c alt mt hm').2; omega
  intro fuel
  induction fuel with
  | zero => intro i h; exact ⟨first_none (hend i h), nofun⟩
  | succ fuel ih =>
    intro i h
    rw [lmFindNext]
    by_cases hin : i < text.length
    · rw [if_pos hin]
      cases hf : alts.findSome? (lmAltMatch text i) with
      | some mt =>
        obtain ⟨alt, halt, hm⟩ := List.exists_of_findSome?_eq_some hf
        obtain ⟨hcs, _⟩ := lmAltMatch_some text i alt mt hm
        refine ⟨?_, fun mt' minEnd hr => ?_⟩
        · show First _ (some mt.coreStart)
          rw [hcs]
          exact First.here (P := LmAt text alts) ⟨alt, halt, by rw [hm]; rfl⟩
        · cases hr
          exact ⟨by rw [hcs]; exact hin, (lmMinEnd_le mt.coreStart alts mt.«end»).2⟩
      | none =>
        obtain ⟨h1, h2⟩ := ih (i + 1) (by omega)
        refine ⟨h1.skip (P := LmAt text alts) (fun j j1 j2 ⟨alt, halt, hm⟩ => ?_) (Nat.le_succ i), h2⟩
        rw [show j = i by omega, List.findSome?_eq_none_iff.mp hf alt halt] at hm
        cases hm
    · rw [if_neg hin]
      exact ⟨first_none (hend i (by omega)), nofun⟩

theorem lmRest_of_chain (text : List Nat) : ∀ (rest : List (List LmAlt)) (lb lb' : Nat),
    LmChainAt text rest lb → lb' ≤ lb → lmRest text rest lb' = true := by
  intro rest
  induction rest with
  | nil => intro lb lb' _ _; rfl
  | cons alts rest ih =>
    intro lb lb' hch hle
    obtain ⟨c, alt, hc1, halt, hm, hrest⟩ := hch
    rw [lmRest]
    obtain ⟨hfirst, hr⟩ := lmFindNext_first text alts (text.length + 1) lb' (by omega)
    have hat : lb' ≤ c ∧ LmAt text alts c := ⟨by omega, alt, halt, hm⟩
    cases hf : lmFindNext text alts (text.length + 1) lb' with
    | none => rw [hf] at hfirst; exact absurd hat (hfirst.2 rfl c)
    | some r =>
      rw [hf] at hfirst
      have hcs : r.1.coreStart ≤ c := Nat.le_of_not_lt fun hlt => (hfirst.1 r.1.coreStart rfl).2 c hlt hat
      have := (hr r.1 r.2 hf).2 alt halt
      exact ih (c + alt.minWidth) r.2 hrest (by omega)

theorem lmLoop_range (S : Nat → Bool) (first : List LmAlt) (rest : List (List LmAlt)) (text : List Nat)
    (minLen pos : Nat) : ∀ (fuel s q : Nat), pos ≤ s →
    lmLoop S first rest text minLen pos fuel s = some q → pos ≤ q ∧ q ≤ text.length := by
  intro fuel
  induction fuel with
  | zero => intro s q _ h; cases h
  | succ fuel ih =>
    intro s q hs h
    rw [lmLoop] at h
    split at h
    · obtain ⟨hfirst, hr⟩ := lmFindNext_first text first (text.length + 1) s (by omega)
      cases hf : lmFindNext text first (text.length + 1) s with
      | none => rw [hf] at h; cases h
      | some r =>
        rw [hf] at h hfirst
        have x1 := (hfirst.1 r.1.coreStart rfl).1.1
        have x2 := (hr r.1 r.2 hf).1
        simp only at h
        split at h
        · obtain ⟨w1, w2, _, _⟩ := walkBack_spec (lmLeadingWs first) text pos r.1.coreStart (by omega)
          obtain ⟨v1, v2, _, _⟩ := walkBack_spec S text pos _ w1
          split at h
          · cases h; exact ⟨v1, by omega⟩
          · exact ih (r.1.coreStart + 1) q (by omega) h
        · cases h
    · cases h

theorem finderLandmarkChain_sound (ch : LmChain) (S : Nat → Bool) (first : List LmAlt) (rest : List (List LmAlt))
    (text : List Nat) (minLen : Nat) (attempt : Nat → Option (Nat × Nat))
    (hS : ch.loopSet = some S) (hL : ch.landmarks = first :: rest)
    (hF : LandmarkFact S first rest text attempt)
    (hM : MinLenSound false text.length minLen attempt) :
    FinderSound false text.length (finderLandmarkChain ch text minLen) attempt := by
  refine finderSound_ltr _ _ _ fun pos hpos => ?_
  unfold finderLandmarkChain
  simp only [hS, hL]
  refine ⟨_, rfl, ?_⟩
  -- only the first iteration decides: later ones run when no position from `pos` on can match
  show LtrOpt attempt text.length pos (lmLoop S first rest text minLen pos (text.length + 1) pos)
  -- `hnone`: what every matching position from `pos` on would imply is false, so none matches
  have hnone : ∀ {P : Prop}, (∀ p, pos ≤ p → p ≤ text.length → attempt p ≠ none → P) → ¬ P →
      ∀ p, pos ≤ p → p ≤ text.length → attempt p = none :=
    fun h hnp p h1 h2 => Classical.byContradiction fun hne => hnp (h p h1 h2 hne)
  rw [lmLoop]
  split
  · rename_i hg
    obtain ⟨hfirst, hr⟩ := lmFindNext_first text first (text.length + 1) pos (by omega)
    cases hf : lmFindNext text first (text.length + 1) pos with
    | none =>
      rw [hf] at hfirst
      refine hnone (P := False) (fun p h1 h2 hne => ?_) id
      obtain ⟨a, c, alt, y1, y2, _, _, y5, y6, _⟩ := hF p h2 hne
      exact hfirst.2 rfl c ⟨by omega, alt, y5, y6⟩
    | some r =>
      rw [hf] at hfirst
      obtain ⟨mt, firstMinEnd⟩ := r
      obtain ⟨x2, x4⟩ := hr mt firstMinEnd hf
      obtain ⟨⟨x1, _⟩, x3⟩ := hfirst.1 mt.coreStart rfl
      simp only
      obtain ⟨w1, w2, _, _⟩ := walkBack_spec (lmLeadingWs first) text pos mt.coreStart (by omega)
      obtain ⟨v1, v2, _, _⟩ := walkBack_spec S text pos _ w1
      -- every matching position at or after `pos` has its first landmark at or after the one found,
      -- so the rest of the chain is found and the candidate is at or before it
      have hreal : ∀ p, pos ≤ p → p ≤ text.length → attempt p ≠ none →
          lmRest text rest firstMinEnd = true ∧
          walkBack S text pos (walkBack (lmLeadingWs first) text pos mt.coreStart) ≤ p := by
        intro p h1 h2 hne
        obtain ⟨a, c, alt, y1, y2, y3, y4, y5, y6, y7⟩ := hF p h2 hne
        have hcs : mt.coreStart ≤ c := Nat.le_of_not_lt fun hlt => x3 c hlt ⟨by omega, alt, y5, y6⟩
        refine ⟨lmRest_of_chain text rest _ _ y7 (by have := x4 alt y5; omega), ?_⟩
        have hc1a := walkBack_le (lmLeadingWs first) text pos mt.coreStart a (by omega) (by omega)
          fun j j1 j2 => y4 j j1 (by omega)
        exact walkBack_le S text pos _ p h1 w1 fun j j1 j2 => y3 j j1 (by omega)
      split
      · split
        · rename_i hlen
          refine ⟨v1, by omega, fun p hp1 hp2 => Classical.byContradiction fun hne => ?_⟩
          have := (hreal p hp1 (by omega) hne).2
          omega
        · rename_i hlen
          rw [hasLen, decide_eq_true_eq] at hlen
          have hno : ∀ p, pos ≤ p → p ≤ text.length → attempt p = none := by
            refine hnone (P := False) (fun p h1 h2 hne => ?_) id
            have := (hreal p h1 h2 hne).2
            have := minLen_ltr hM p h2 hne
            omega
          cases hr : lmLoop S first rest text minLen pos text.length (mt.coreStart + 1) with
          | none => exact hno
          | some q =>
            obtain ⟨q1, q2⟩ := lmLoop_range S first rest text minLen pos _ _ q (by omega) hr
            exact ⟨q1, q2, fun p hp1 hp2 => hno p hp1 (by omega)⟩
      · rename_i hrest
        exact hnone (fun p h1 h2 hne => (hreal p h1 h2 hne).1) hrest
  · rename_i hg
    exact fun p h1 h2 => fails_short hM p h2 (by omega)

/-! ### the dispatch of `findFirstCharDefault` -/

/-- the fact consumed by the helper that `findFirstCharOptimized` selects for the mode (for the
    required-landmark chain: `LandmarkFact`) -/
def OptFacts (lower : Nat → Nat) (o : FindOpts) (text : List Nat) (attempt : Nat → Option (Nat × Nat)) : Prop :=
  match o.mode with
  | .trailingAnchorFixedLengthLtrEnd => ∀ p, p ≤ text.length → attempt p ≠ none → p + o.minLen = text.length
  | .leadingStringLtr =>
    ∀ p, p ≤ text.length → attempt p ≠ none → occursAt (stringEq lower false o.leadingPrefix) o.leadingPrefix text p = true
  | .leadingStringOrdinalIgnoreCaseLtr =>
    ∀ p, p ≤ text.length → attempt p ≠ none → occursAt (stringEq lower true o.leadingPrefix) o.leadingPrefix text p = true
  | .leadingStringsLtr => StringsFacts lower o.prefixes o.firstRunes false text attempt
  | .leadingStringsOrdinalIgnoreCaseLtr => StringsFacts lower o.prefixes o.firstRunes true text attempt
  | .leadingSetLtr | .fixedDistanceSetsLtr =>
    (∃ primary rest, o.sets = primary :: rest ∧ primary.set.isSome = true) ∧
    ∀ p, p ≤ text.length → attempt p ≠ none → fixedSetsMatchAt o.sets text p = true
  | .fixedDistanceCharLtr => ∀ p, p ≤ text.length → attempt p ≠ none → text[p + o.fixedDistance]? = some o.fixedChar
  | .fixedDistanceStringLtr =>
    ∀ p, p ≤ text.length → attempt p ≠ none → occursAt eqExact o.fixedString text (p + o.fixedDistance) = true
  | .literalAfterLoopLtr =>
    ∃ l S, o.literalAfterLoop = some l ∧ l.loopSet = some S ∧ LitAfterLoopFact lower l S text attempt
  | .requiredLandmarkChainLtr =>
    ∃ ch S first rest, o.chain = some ch ∧ ch.loopSet = some S ∧ ch.landmarks = first :: rest ∧
      LandmarkFact S first rest text attempt
  | _ => True

/-- the published facts of the path `findFirstCharDefault` takes are true at every successful attempt -/
structure FactsSound (f : Facts) (text : List Nat) (textstart : Nat) (attempt : Nat → Option (Nat × Nat)) : Prop where
  anchors : f.anchors.any = true → AnchorFacts f.anchors text textstart attempt
  bm : ∀ b, f.bm = some b → BmFact f.lower b f.rtl text attempt
  /-- well-formedness of the compiled program: a `Code.BmPrefix` exists only for a pattern `newBmPrefix` accepts -/
  bmBuilt : f.anchors.any = false → ∀ b, f.bm = some b → BmBuilt b f.rtl
  opt : f.anchors.any = false → f.bm = none → shouldUse f.opts = true →
    f.rtl = false ∧ MinLenSound false text.length f.opts.minLen attempt ∧ OptFacts f.lower f.opts text attempt
  fc : f.anchors.any = false → f.bm = none → shouldUse f.opts = false →
    ∀ mem, f.fc = some mem → FcFact mem f.rtl text attempt

theorem finderOptimized_sound (lower : Nat → Nat) (o : FindOpts) (text : List Nat) (attempt : Nat → Option (Nat × Nat))
    (hsu : shouldUse o = true) (hM : MinLenSound false text.length o.minLen attempt)
    (hO : OptFacts lower o text attempt) :
    ∃ g, (∀ pos, finderOptimized lower o text pos = some (g pos)) ∧ FinderSound false text.length g attempt := by
  unfold OptFacts at hO
  unfold finderOptimized
  cases hm : o.mode with
  | trailingAnchorFixedLengthLtrEnd => rw [hm] at hO; exact ⟨_, fun _ => rfl, finderTrailingEnd_sound _ _ _ hO⟩
  | leadingStringOrdinalIgnoreCaseLtr =>
    rw [hm] at hO; exact ⟨_, fun _ => rfl, finderLeadingString_sound _ _ _ _ _ _ hO hM⟩
  | leadingStringsLtr | leadingStringsOrdinalIgnoreCaseLtr =>
    rw [hm] at hO; exact ⟨_, fun _ => rfl, finderLeadingStrings_sound _ _ _ _ _ _ _ hO hM⟩
  | leadingSetLtr | fixedDistanceSetsLtr =>
    rw [hm] at hO; exact ⟨_, fun _ => rfl, finderFixedSets_sound _ _ _ _ hO.1 hO.2 hM⟩
  | fixedDistanceCharLtr => rw [hm] at hO; exact ⟨_, fun _ => rfl, finderFixedChar_sound _ _ _ _ _ hO hM⟩
  | fixedDistanceStringLtr => rw [hm] at hO; exact ⟨_, fun _ => rfl, finderFixedString_sound _ _ _ _ _ hO hM⟩
  | literalAfterLoopLtr =>
    rw [hm] at hO
    obtain ⟨l, S, hl, hS, hL⟩ := hO
    exact ⟨_, fun _ => by rw [hl], finderLiteralAfterLoop_sound _ _ _ _ _ _ hS hL hM⟩
  | requiredLandmarkChainLtr =>
    rw [hm] at hO
    obtain ⟨ch, S, first, rest, hch, hS, hL, hF⟩ := hO
    exact ⟨_, fun _ => by rw [hch], finderLandmarkChain_sound ch S first rest text _ attempt hS hL hF hM⟩
  | _ => rw [shouldUse, hm] at hsu; cases hsu

theorem finderDefault_sound (f : Facts) (text : List Nat) (textstart : Nat) (attempt : Nat → Option (Nat × Nat))
    (h : FactsSound f text textstart attempt) :
    FinderSound f.rtl text.length (finderDefault f text textstart) attempt := by
  unfold finderDefault
  by_cases ha : f.anchors.any = true
  · simp only [ha, if_true]
    exact finderAnchors_sound _ _ _ _ _ _ _ (h.anchors ha) h.bm
  · rw [Bool.not_eq_true] at ha
    simp only [ha, Bool.false_eq_true, if_false]
    cases hb : f.bm with
    | some b => exact finderBmScan_sound _ _ _ _ _ (h.bmBuilt ha b hb) (h.bm b hb)
    | none =>
      cases hsu : shouldUse f.opts with
      | true =>
        obtain ⟨hrtl, hM, hO⟩ := h.opt ha hb hsu
        obtain ⟨g, hg, hs⟩ := finderOptimized_sound f.lower f.opts text attempt hsu hM hO
        rw [hrtl]
        simp only [if_true, hg]
        exact hs
      | false =>
        simp only [Bool.false_eq_true, if_false]
        cases hfc : f.fc with
        | none => exact finderNoSearch_sound _ _ _
        | some mem => exact finderFc_sound _ _ _ _ (h.fc ha hb hsu mem hfc)

/-! ### `leadingPrefixFirstRunes` is complete -/

/-- the fold of `leadingPrefixFirstRunes` never loses a rune: one in the accumulator, or first rune of a prefix still
    to come, is in the result -/
theorem firstRunes_fold (c : Nat) : ∀ (l : List (List Nat)) (acc : List Nat),
    (c ∈ acc ∨ ∃ rest, (c :: rest) ∈ l) →
    c ∈ l.foldl (fun first p =>
      match p with
      | c :: _ => if first.contains c then first else first ++ [c]
      | [] => first) acc := by
  intro l
  induction l with
  | nil => intro acc h; exact h.elim id fun ⟨_, h⟩ => nomatch h
  | cons p ps ih =>
    intro acc h
    rw [List.foldl_cons]
    refine ih _ ?_
    rcases h with h | ⟨rest, h⟩
    · left
      cases p with
      | nil => exact h
      | cons d _ =>
        simp only
        split
        · exact h
        · exact List.mem_append_left _ h
    · rcases List.mem_cons.mp h with h | h
      · left
        subst h
        simp only
        split
        · rename_i hc; exact List.contains_iff_mem.mp hc
        · exact List.mem_append_right _ (List.mem_singleton.mpr rfl)
      · exact Or.inr ⟨rest, h⟩

theorem leadingPrefixFirstRunes_complete (prefixes : List (List Nat)) :
    ∀ pre, pre ∈ prefixes → ∀ c rest, pre = c :: rest → c ∈ leadingPrefixFirstRunes prefixes := by
  intro pre hpre c rest hc
  subst hc
  exact firstRunes_fold c prefixes [] (Or.inr ⟨rest, hpre⟩)

/-! ### scaffolding for the non-vacuity examples of Props/C03 -/

namespace Demo

/-- a left-to-right attempt table: success exactly at `a` and `b`, with length `len` -/
theorem succ_of {len a b p : Nat}
    (h : (fun p => if p = a ∨ p = b then some (p, len) else none : Nat → Option (Nat × Nat)) p ≠ none) :
    p = a ∨ p = b :=
  Decidable.byContradiction fun hp => h (if_neg hp)

/-- a right-to-left attempt table: success exactly at (ending at) 3 and 5, length 2 -/
theorem succRtl_of {p : Nat}
    (h : (fun p => if p = 3 ∨ p = 5 then some (p - 2, 2) else none : Nat → Option (Nat × Nat)) p ≠ none) :
    p = 3 ∨ p = 5 :=
  Decidable.byContradiction fun hp => h (if_neg hp)

end Demo

end RegexVerif.Lemmas.Finders
