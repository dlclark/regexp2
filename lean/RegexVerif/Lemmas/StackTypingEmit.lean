/-
Every program the writer emits has a grouping-stack typing: an explicit assignment, a structural function of the tree
position (`tyAt`), satisfies `TypingW` for `Writer.emit ti root` and for the bool-only program.  Every node's code maps
`σ` at its start to `σ` at its end, with the shapes of the writer's frames in between (`Setmark … Capturemark`: `pos :: σ`;
loops: `count :: pos :: σ` in the body, `count :: mark :: σ` at the `Goto` and the `Branchcount` of a loop with minimum 0;
lookarounds and conditionals: `cdepth :: tdepth :: σ` between `Setjump` and `Forejump`, …).

`emit_typing` hides the assignment under `∃`.  For the type at a position start from `codeFromTree_typingW`: it names
the boundaries (`istarts 0 code`) and the assignment (`arrOf (progFn cfg root) (codeLen code)`, read by `arrOf_get`;
`progFn` is `tyAt cfg 2 [] root` between the leading `Lazybranch` and the `Stop`; length: `codeFromTree_size`).
-/
import RegexVerif.Lemmas.Compose
import RegexVerif.Lemmas.StackTypingSound

namespace RegexVerif.Lemmas.StackTypingEmit
open RegexVerif.Code RegexVerif.Writer RegexVerif.StackTyping RegexVerif.Generated.Opcodes
open RegexVerif.Lemmas.Compose RegexVerif.Lemmas.StackTypingSound

/-! ### the transfer function with the jump target as a parameter -/

/-- `StackTyping.flow` with the jump operand passed explicitly: the writer side types instruction lists, for which there is
    no `Prog` to read the operand from (`flow_eq_flowA`) -/
def flowA (tgt : Option Nat) (pc : Nat) (o : VM.Op) (σ : STy) : Option (List (Nat × STy)) :=
  let next := pc + o.size
  match o with
  | .stop | .nothing => some []
  | .goto => tgt.map fun t => [(t, σ)]
  | .lazybranch => tgt.map fun t => [(next, σ), (t, σ)]
  | .setmark => some [(next, .pos :: σ)]
  | .nullmark => some [(next, .mark :: σ)]
  | .setcount => some [(next, .count :: .pos :: σ)]
  | .nullcount => some [(next, .count :: .mark :: σ)]
  | .setjump => some [(next, .cdepth :: .tdepth :: σ)]
  | .getmark =>
    match σ with
    | .pos :: r => some [(next, r)]
    | _ => none
  | .capturemark =>
    match σ with
    | .pos :: r => some [(next, r)]
    | _ => none
  | .branchmark | .lazybranchmark =>
    match σ with
    | k :: r => if isMark k then tgt.map fun t => [(next, r), (t, .pos :: r)] else none
    | _ => none
  | .branchcount | .lazybranchcount =>
    match σ with
    | .count :: k :: r => if isMark k then tgt.map fun t => [(next, r), (t, .count :: .pos :: r)] else none
    | _ => none
  | .backjump =>
    match σ with
    | .cdepth :: .tdepth :: _ => some []
    | _ => none
  | .forejump =>
    match σ with
    | .cdepth :: .tdepth :: r => some [(next, r)]
    | _ => none
  | .prune => none
  | _ => some [(next, σ)]

theorem flow_eq_flowA (p : Prog) (pc : Nat) (o : VM.Op) (σ : STy) : flow p pc o σ = flowA (target p pc) pc o σ := by
  cases o <;> rfl

def tgtOf (i : Instr) : Option Nat :=
  match i.args with
  | (.ofNat t) :: _ => some t
  | _ => none

abbrev Fn := Nat → Option STy

/-- `σ` is below the type at `q` -/
def ExitOk (F : Fn) (q : Nat) (σ : STy) : Prop := ∃ τ, F q = some τ ∧ subTy σ τ = true

/-- the instruction `i` at position `q` is consistent with the assignment -/
def InstrTy (F : Fn) (q : Nat) (i : Instr) : Prop :=
  ∀ σ, F q = some σ → ∃ o succs, VM.Op.ofNat? i.opcode = some o ∧ o.size = 1 + i.args.length ∧
    flowA (tgtOf i) q o σ = some succs ∧ ∀ s ∈ succs, ExitOk F s.1 s.2

def CodeTy (F : Fn) : Nat → Code → Prop
  | _, [] => True
  | a, i :: rest => InstrTy F a i ∧ CodeTy F (a + (1 + i.args.length)) rest

theorem CodeTy_append (F : Fn) : ∀ (x y : Code) (a : Nat), CodeTy F a (x ++ y) ↔ CodeTy F a x ∧ CodeTy F (a + codeLen x) y
  | [], y, a => by simp [CodeTy, codeLen]
  | i :: r, y, a => by
    simp only [List.cons_append, CodeTy, CodeTy_append F r y, codeLen, and_assoc]
    rw [show a + (1 + i.args.length) + codeLen r = a + (1 + i.args.length + codeLen r) by omega]

/-! ### the assignment of a sub-tree

`tyAt cfg a σ n q`: the type at the instruction start `q` of the code of `n` placed at `a` and entered with `σ`.  For a
composite node: one test `q = p` per instruction of its own frame, in code order, with the type the frame has built up
there, then one range test per child that hands `q` to the child's `tyAt` with the type pushed around it.  In the `loop`
clause `m == 0 ∧ q + 2 = body` is the `Goto` in front of the body of a loop with minimum 0: it jumps to the `Branch*`
behind the body, and both stand under the `Nullmark`'s `mark` where the body has a `pos`. -/

abbrev cdt (σ : STy) : STy := .cdepth :: .tdepth :: σ

/-- positions of the (at most two) instructions of a single-character loop -/
def repTy (a : Nat) (σ : STy) (m n : Int) (q : Nat) : Option STy :=
  if (m > 0 ∧ q = a) ∨ (n > m ∧ q = a + (if m > 0 then 3 else 0)) then some σ else none

mutual
def tyAt (cfg : Cfg) (a : Nat) (σ : STy) : GoNode → Nat → Option STy
  | .empty, _ => none
  | .bare _, q => if q = a then some σ else none
  | .char _ _ _ _, q => if q = a then some σ else none
  | .set _ _ _, q => if q = a then some σ else none
  | .multi _ _ _, q => if q = a then some σ else none
  | .ref _ _ _, q => if q = a then some σ else none
  | .charloop _ _ _ _ m n, q => repTy a σ m n q
  | .setloop _ _ _ _ m n, q => repTy a σ m n q
  | .concat cs, q => tyList cfg a σ cs q
  | .alt cs, q => tyAlt cfg a σ cs q
  | .loop _ m n c, q =>
    let body := a + loopHeadLen m n
    let after := body + size cfg c
    let k0 : Kind := if m == 0 then .mark else .pos
    if q = a then some σ
    else if m == 0 ∧ q + 2 = body then some (if counted m n then .count :: .mark :: σ else .mark :: σ)
    else if q = after then some (if counted m n then .count :: k0 :: σ else k0 :: σ)
    else if body ≤ q ∧ q < after then tyAt cfg body (if counted m n then .count :: .pos :: σ else .pos :: σ) c q
    else none
  | .capture m n c, q =>
    if emitCapture cfg m n then
      if q = a then some σ
      else if q = a + 1 + size cfg c then some (.pos :: σ)
      else if a + 1 ≤ q ∧ q < a + 1 + size cfg c then tyAt cfg (a + 1) (.pos :: σ) c q
      else none
    else tyAt cfg a σ c q
  | .group c, q => tyAt cfg a σ c q
  | .poslook c, q =>
    let e := a + 2 + size cfg c
    if q = a then some σ
    else if q = a + 1 then some (cdt σ)
    else if q = e then some (.pos :: cdt σ)
    else if q = e + 1 then some (cdt σ)
    else if a + 2 ≤ q ∧ q < e then tyAt cfg (a + 2) (.pos :: cdt σ) c q
    else none
  | .neglook c, q =>
    let e := a + 3 + size cfg c
    if q = a then some σ
    else if q = a + 1 then some (cdt σ)
    else if q = e then some (cdt σ)
    else if q = e + 1 then some (cdt σ)
    else if a + 3 ≤ q ∧ q < e then tyAt cfg (a + 3) (cdt σ) c q
    else none
  | .atomic c, q =>
    let e := a + 1 + size cfg c
    if q = a then some σ
    else if q = e then some (cdt σ)
    else if a + 1 ≤ q ∧ q < e then tyAt cfg (a + 1) (cdt σ) c q
    else none
  | .backrefcond1 _ y, q =>
    let g := a + 6 + size cfg y
    if q = a then some σ
    else if q = a + 1 ∨ q = a + 3 ∨ q = a + 5 then some (cdt σ)
    else if q = g then some σ
    else if q = g + 2 then some (cdt σ)
    else if a + 6 ≤ q ∧ q < g then tyAt cfg (a + 6) σ y q
    else none
  | .backrefcond2 _ y n, q =>
    let g := a + 6 + size cfg y
    if q = a then some σ
    else if q = a + 1 ∨ q = a + 3 ∨ q = a + 5 then some (cdt σ)
    else if q = g then some σ
    else if q = g + 2 then some (cdt σ)
    else if a + 6 ≤ q ∧ q < g then tyAt cfg (a + 6) σ y q
    else if g + 3 ≤ q then tyAt cfg (g + 3) σ n q
    else none
  | .exprcond2 c y, q =>
    let e := a + 4 + size cfg c
    let yp := e + 2
    let g := yp + size cfg y
    if q = a then some σ
    else if q = a + 1 then some (cdt σ)
    else if q = a + 2 then some (.pos :: cdt σ)
    else if q = e then some (.pos :: cdt σ)
    else if q = e + 1 then some (cdt σ)
    else if q = g then some σ
    else if q = g + 2 then some (.pos :: cdt σ)
    else if q = g + 3 then some (cdt σ)
    else if a + 4 ≤ q ∧ q < e then tyAt cfg (a + 4) (.pos :: cdt σ) c q
    else if yp ≤ q ∧ q < g then tyAt cfg yp σ y q
    else none
  | .exprcond3 c y n, q =>
    let e := a + 4 + size cfg c
    let yp := e + 2
    let g := yp + size cfg y
    if q = a then some σ
    else if q = a + 1 then some (cdt σ)
    else if q = a + 2 then some (.pos :: cdt σ)
    else if q = e then some (.pos :: cdt σ)
    else if q = e + 1 then some (cdt σ)
    else if q = g then some σ
    else if q = g + 2 then some (.pos :: cdt σ)
    else if q = g + 3 then some (cdt σ)
    else if a + 4 ≤ q ∧ q < e then tyAt cfg (a + 4) (.pos :: cdt σ) c q
    else if yp ≤ q ∧ q < g then tyAt cfg yp σ y q
    else if g + 4 ≤ q then tyAt cfg (g + 4) σ n q
    else none
  | .other _, _ => none
def tyList (cfg : Cfg) (a : Nat) (σ : STy) : List GoNode → Nat → Option STy
  | [], _ => none
  | c :: cs, q => if q < a + size cfg c then tyAt cfg a σ c q else tyList cfg (a + size cfg c) σ cs q
def tyAlt (cfg : Cfg) (a : Nat) (σ : STy) : List GoNode → Nat → Option STy
  | [], _ => none
  | c :: cs, q =>
    if cs.isEmpty then tyAt cfg a σ c q
    else if q = a then some σ
    else if q = a + 2 + size cfg c then some σ
    else if q < a + 2 + size cfg c then tyAt cfg (a + 2) σ c q
    else tyAlt cfg (a + 2 + size cfg c + 2) σ cs q
end

/-! ### single instructions

`L_x`: the instruction `x`, entered with the right type, is consistent with the assignment (`InstrTy`) when its successors
accept what it leaves (`ExitOk`). -/

section instrs
variable {F : Fn} {q : Nat} {σ : STy}

theorem instrTy_of {i : Instr} {o : VM.Op} {succs : List (Nat × STy)} (hq : F q = some σ)
    (ho : VM.Op.ofNat? i.opcode = some o) (hsz : o.size = 1 + i.args.length)
    (hfl : flowA (tgtOf i) q o σ = some succs) (hs : ∀ s ∈ succs, ExitOk F s.1 s.2) : InstrTy F q i := by
  intro σ' h
  rw [hq] at h; cases h
  exact ⟨o, succs, ho, hsz, hfl, hs⟩

theorem ExitOk.refl {q : Nat} {σ : STy} (h : F q = some σ) : ExitOk F q σ := ⟨σ, h, subTy_refl σ⟩

theorem tgt_i1 (op : Nat) (t : Nat) : tgtOf (i1 op (t : Int)) = some t := rfl
theorem tgt_i2 (op : Nat) (t : Nat) (x : Int) : tgtOf (i2 op (t : Int) x) = some t := rfl

theorem opcode_i0 (op : Nat) : (i0 op).opcode = op % (flagMask + 1) := rfl
theorem opcode_i1 (op : Nat) (x : Int) : (i1 op x).opcode = op % (flagMask + 1) := rfl
theorem opcode_i2 (op : Nat) (x y : Int) : (i2 op x y).opcode = op % (flagMask + 1) := rfl

theorem exits1 {q1 : Nat} {σ1 : STy} (h1 : ExitOk F q1 σ1) : ∀ s ∈ [(q1, σ1)], ExitOk F s.1 s.2 := by
  intro s hs; simp at hs; subst hs; exact h1
theorem exits2 {q1 q2 : Nat} {σ1 σ2 : STy} (h1 : ExitOk F q1 σ1) (h2 : ExitOk F q2 σ2) :
    ∀ s ∈ [(q1, σ1), (q2, σ2)], ExitOk F s.1 s.2 := by
  intro s hs; simp at hs; rcases hs with rfl | rfl <;> assumption
theorem exits0 : ∀ s ∈ ([] : List (Nat × STy)), ExitOk F s.1 s.2 := by intro s hs; cases hs

theorem L_setjump (hq : F q = some σ) (h1 : ExitOk F (q + 1) (cdt σ)) : InstrTy F q (i0 opSetjump) :=
  instrTy_of (o := .setjump) hq (by decide) rfl rfl (exits1 h1)
theorem L_setmark (hq : F q = some σ) (h1 : ExitOk F (q + 1) (.pos :: σ)) : InstrTy F q (i0 opSetmark) :=
  instrTy_of (o := .setmark) hq (by decide) rfl rfl (exits1 h1)
theorem L_nullmark (hq : F q = some σ) (h1 : ExitOk F (q + 1) (.mark :: σ)) : InstrTy F q (i0 opNullmark) :=
  instrTy_of (o := .nullmark) hq (by decide) rfl rfl (exits1 h1)
theorem L_setcount (x : Int) (hq : F q = some σ) (h1 : ExitOk F (q + 2) (.count :: .pos :: σ)) :
    InstrTy F q (i1 opSetcount x) :=
  instrTy_of (o := .setcount) hq (by rw [opcode_i1]; decide) rfl rfl (exits1 h1)
theorem L_nullcount (x : Int) (hq : F q = some σ) (h1 : ExitOk F (q + 2) (.count :: .mark :: σ)) :
    InstrTy F q (i1 opNullcount x) :=
  instrTy_of (o := .nullcount) hq (by rw [opcode_i1]; decide) rfl rfl (exits1 h1)
theorem L_getmark (hq : F q = some (.pos :: σ)) (h1 : ExitOk F (q + 1) σ) : InstrTy F q (i0 opGetmark) :=
  instrTy_of (o := .getmark) hq (by decide) rfl rfl (exits1 h1)
theorem L_capturemark (x y : Int) (hq : F q = some (.pos :: σ)) (h1 : ExitOk F (q + 3) σ) :
    InstrTy F q (i2 opCapturemark x y) :=
  instrTy_of (o := .capturemark) hq (by rw [opcode_i2]; decide) rfl rfl (exits1 h1)
theorem L_forejump (hq : F q = some (cdt σ)) (h1 : ExitOk F (q + 1) σ) : InstrTy F q (i0 opForejump) :=
  instrTy_of (o := .forejump) hq (by decide) rfl rfl (exits1 h1)
theorem L_backjump (hq : F q = some (cdt σ)) : InstrTy F q (i0 opBackjump) :=
  instrTy_of (o := .backjump) hq (by decide) rfl rfl exits0
theorem L_stop (hq : F q = some σ) : InstrTy F q (i0 opStop) :=
  instrTy_of (o := .stop) hq (by decide) rfl rfl exits0
theorem L_goto (t : Nat) (hq : F q = some σ) (h1 : ExitOk F t σ) : InstrTy F q (i1 opGoto (t : Int)) :=
  instrTy_of (o := .goto) hq (by rw [opcode_i1]; decide) rfl (by rw [tgt_i1]; rfl) (exits1 h1)
theorem L_lazybranch (t : Nat) (hq : F q = some σ) (h1 : ExitOk F (q + 2) σ) (h2 : ExitOk F t σ) :
    InstrTy F q (i1 opLazybranch (t : Int)) :=
  instrTy_of (o := .lazybranch) hq (by rw [opcode_i1]; decide) rfl (by rw [tgt_i1]; rfl) (exits2 h1 h2)
theorem L_testref (x : Int) (hq : F q = some σ) (h1 : ExitOk F (q + 2) σ) : InstrTy F q (i1 opTestref x) :=
  instrTy_of (o := .testref) hq (by rw [opcode_i1]; decide) rfl rfl (exits1 h1)
theorem L_branchmark (lzy : Bool) (t : Nat) {k : Kind} (hk : isMark k = true) (hq : F q = some (k :: σ))
    (h1 : ExitOk F (q + 2) σ) (h2 : ExitOk F t (.pos :: σ)) :
    InstrTy F q (i1 (opBranchmark + (if lzy then 1 else 0)) (t : Int)) := by
  cases lzy
  · exact instrTy_of (o := .branchmark) hq (by rw [opcode_i1]; decide) rfl
      (by rw [tgt_i1]; simp [flowA, hk, VM.Op.size]) (exits2 h1 h2)
  · exact instrTy_of (o := .lazybranchmark) hq (by rw [opcode_i1]; decide) rfl
      (by rw [tgt_i1]; simp [flowA, hk, VM.Op.size]) (exits2 h1 h2)
theorem L_branchcount (lzy : Bool) (t : Nat) (x : Int) {k : Kind} (hk : isMark k = true)
    (hq : F q = some (.count :: k :: σ)) (h1 : ExitOk F (q + 3) σ) (h2 : ExitOk F t (.count :: .pos :: σ)) :
    InstrTy F q (i2 (opBranchcount + (if lzy then 1 else 0)) (t : Int) x) := by
  cases lzy
  · exact instrTy_of (o := .branchcount) hq (by rw [opcode_i2]; decide) rfl
      (by rw [tgt_i2]; simp [flowA, hk, VM.Op.size]) (exits2 h1 h2)
  · exact instrTy_of (o := .lazybranchcount) hq (by rw [opcode_i2]; decide) rfl
      (by rw [tgt_i2]; simp [flowA, hk, VM.Op.size]) (exits2 h1 h2)

/-- opcodes whose only continuation is the next instruction with the same type, or none at all (`Nothing`).  Not
    `Lemmas.VM.neutral` (forward cases that leave grouping stack and captures alone): that has `Testref`, which the writer
    emits only inside a frame and which is typed there (`L_testref`), and lacks `Nothing` and `UpdateBumpalong`, which
    `flow` treats like the rest of this list. -/
def straight (o : VM.Op) : Bool :=
  match o with
  | .onerep | .notonerep | .setrep | .oneloop | .notoneloop | .setloop | .onelazy | .notonelazy | .setlazy
  | .one | .notone | .set | .multi | .ref | .bol | .eol | .boundary | .nonboundary | .beginning | .start
  | .endz | .end_ | .nothing | .ecmaboundary | .nonecmaboundary | .oneloopatomic | .notoneloopatomic
  | .setloopatomic | .updatebumpalong => true
  | _ => false

theorem straight_flow {o : VM.Op} (h : straight o = true) (tgt : Option Nat) :
    flowA tgt q o σ = some [(q + o.size, σ)] ∨ flowA tgt q o σ = some [] := by
  cases o <;> first | exact Or.inl rfl | exact Or.inr rfl | cases h

theorem L_straight {i : Instr} {o : VM.Op} (ho : VM.Op.ofNat? i.opcode = some o) (hp : straight o = true)
    (hsz : o.size = 1 + i.args.length) (hq : F q = some σ) (h1 : ExitOk F (q + (1 + i.args.length)) σ) :
    InstrTy F q i := by
  rcases straight_flow (q := q) (σ := σ) hp (tgtOf i) with h | h
  · exact instrTy_of hq ho hsz h (exits1 (by rw [hsz]; exact h1))
  · exact instrTy_of hq ho hsz h exits0

/-- the opcode words of the leaves decode to `straight` opcodes of the right length -/
def leafStraight (t : Nat) (len : Nat) : Bool :=
  match VM.Op.ofNat? (t % (flagMask + 1)) with
  | some o => straight o && o.size == len
  | none => false

theorem bare_leafStraight : ∀ t ∈ bareTypes, leafStraight t 1 = true := by decide +kernel
theorem char_leafStraight : ∀ t ∈ charTypes, ∀ rtl ci, leafStraight (t ||| bits rtl ci) 2 = true := by decide +kernel
theorem charloop_leafStraight : ∀ t ∈ charloopTypes ++ [opOnerep, opNotonerep, opSetrep] ++ setloopTypes, ∀ rtl ci,
    leafStraight (t ||| bits rtl ci) 3 = true := by decide +kernel
theorem setmulti_leafStraight : ∀ t ∈ [opSet, opMulti, opRef], ∀ rtl ci, leafStraight (t ||| bits rtl ci) 2 = true := by
  decide +kernel

theorem L_leaf {op : Nat} {args : List Int} (h : leafStraight op (1 + args.length) = true) (hq : F q = some σ)
    (h1 : ExitOk F (q + (1 + args.length)) σ) : InstrTy F q ⟨op, args⟩ := by
  unfold leafStraight at h
  split at h
  · next o ho =>
    simp only [Bool.and_eq_true, beq_iff_eq] at h
    exact L_straight (i := ⟨op, args⟩) ho h.1 h.2 hq h1
  · cases h

end instrs

/-! ### the first instruction of a sub-tree has the entry type -/

theorem repTy_entry (a : Nat) (σ : STy) (m n : Int) (h : repLen m n > 0) : repTy a σ m n a = some σ := by
  unfold repTy repLen at *
  by_cases h1 : m > 0
  · simp [h1]
  · by_cases h2 : n > m
    · simp [h1, h2]
    · simp [h1, h2] at h

mutual
theorem tyAt_entry (cfg : Cfg) : ∀ (n : GoNode) (a : Nat) (σ : STy), size cfg n > 0 → tyAt cfg a σ n a = some σ
  | .empty, a, σ => by intro h; simp [size] at h
  | .bare t, a, σ => by intro _; simp [tyAt]
  | .char t rtl ci ch, a, σ => by intro _; simp [tyAt]
  | .set rtl ci s, a, σ => by intro _; simp [tyAt]
  | .multi rtl ci s, a, σ => by intro _; simp [tyAt]
  | .ref rtl ci m, a, σ => by intro _; simp [tyAt]
  | .charloop t rtl ci ch m n, a, σ => repTy_entry a σ m n
  | .setloop t rtl ci s m n, a, σ => repTy_entry a σ m n
  | .concat cs, a, σ => tyList_entry cfg cs a σ
  | .alt cs, a, σ => tyAlt_entry cfg cs a σ
  | .loop lzy m n c, a, σ => by intro _; simp [tyAt]
  | .capture m n c, a, σ => by
    intro h
    simp only [tyAt]
    split
    · simp
    · next he => exact tyAt_entry cfg c a σ (by simpa [size, he] using h)
  | .group c, a, σ => tyAt_entry cfg c a σ
  | .poslook c, a, σ => by intro _; simp [tyAt]
  | .neglook c, a, σ => by intro _; simp [tyAt]
  | .atomic c, a, σ => by intro _; simp [tyAt]
  | .backrefcond1 m y, a, σ => by intro _; simp [tyAt]
  | .backrefcond2 m y n, a, σ => by intro _; simp [tyAt]
  | .exprcond2 c y, a, σ => by intro _; simp [tyAt]
  | .exprcond3 c y n, a, σ => by intro _; simp [tyAt]
  | .other t, a, σ => by intro h; simp [size] at h
theorem tyList_entry (cfg : Cfg) : ∀ (cs : List GoNode) (a : Nat) (σ : STy), sizeList cfg cs > 0 →
    tyList cfg a σ cs a = some σ
  | [], a, σ => by intro h; simp [sizeList] at h
  | c :: cs, a, σ => by
    intro h
    simp only [tyList]
    by_cases hc : size cfg c > 0
    · rw [if_pos (by omega)]; exact tyAt_entry cfg c a σ hc
    · have h0 : size cfg c = 0 := by omega
      rw [if_neg (by omega), h0]
      exact tyList_entry cfg cs a σ (by simp [sizeList, h0] at h; exact h)
theorem tyAlt_entry (cfg : Cfg) : ∀ (cs : List GoNode) (a : Nat) (σ : STy), sizeAlt cfg cs > 0 →
    tyAlt cfg a σ cs a = some σ
  | [], a, σ => by intro h; simp [sizeAlt] at h
  | c :: cs, a, σ => by
    intro h
    simp only [tyAlt]
    split
    · next he => exact tyAt_entry cfg c a σ (by simpa [sizeAlt, he] using h)
    · simp
end

/-! ### reading an assignment that follows `tyAt` on a range

Walking the if-chain of `tyAt` once, front to back, gives the value of `F` at every frame instruction and, between them,
what is left of the chain for the children: no position is compared with an earlier one.  The comparisons of positions
(`h1`, `h2`, `hp`, `hd`) are closed by `omega` by default, `0 < ℓ` by `decide`.  The rules match the chain literally:
bring the agreement into that form first by `simp only [Agree, size, tyAt, ← Nat.add_assoc]` (`if_or` where a clause
tests several positions at once); the `loop` clause also needs `counted m n` and `m == 0` decided, `loopHeadLen` /
`loopTailLen` unfolded and `Nat.add_right_cancel_iff` to turn `q + 2 = body` into a test `q = p`. -/

theorem if_or {α : Type} {c d : Prop} [Decidable c] [Decidable d] (x y : α) :
    (if c ∨ d then x else y) = if c then x else if d then x else y := by
  by_cases hc : c <;> by_cases hd : d <;> simp [hc, hd]

/-- `F` is `g` on `[lo, hi)` -/
def Agree (F : Fn) (lo hi : Nat) (g : Fn) : Prop := ∀ q, lo ≤ q → q < hi → F q = g q

section agree
variable {F g f : Fn} {lo hi p l u : Nat} {x : Option STy}

/-- the chain begins with the test for the first position of the range, where an instruction of `ℓ` words stands -/
theorem Agree.head (ℓ : Nat) (h : Agree F lo hi fun q => if q = lo then x else g q) (h2 : lo < hi := by omega)
    (hℓ : 0 < ℓ := by decide) : F lo = x ∧ Agree F (lo + ℓ) hi g :=
  ⟨(h lo (Nat.le_refl _) h2).trans (if_pos rfl), fun q a b => (h q (by omega) b).trans (if_neg (by omega))⟩

/-- the chain begins with the test for a later position `p` of the range: the value there, and the rest of the chain
    below `p` and behind the instruction -/
theorem Agree.at (ℓ : Nat) (h : Agree F lo hi fun q => if q = p then x else g q) (h1 : lo ≤ p := by omega)
    (h2 : p < hi := by omega) (hℓ : 0 < ℓ := by decide) : F p = x ∧ Agree F lo p g ∧ Agree F (p + ℓ) hi g :=
  ⟨(h p h1 h2).trans (if_pos rfl), fun q a b => (h q a (Nat.lt_trans b h2)).trans (if_neg (Nat.ne_of_lt b)),
    fun q a b => (h q (by omega) b).trans (if_neg (by omega))⟩

/-- a test for a position outside the range -/
theorem Agree.skip (h : Agree F lo hi fun q => if q = p then x else g q) (hp : hi ≤ p ∨ p < lo := by omega) :
    Agree F lo hi g :=
  fun q a b => (h q a b).trans (if_neg (by omega))

/-- a range test that holds on the whole range -/
theorem Agree.sub (h : Agree F lo hi fun q => if l ≤ q ∧ q < u then f q else g q) (h1 : l ≤ lo := by omega)
    (h2 : hi ≤ u := by omega) : Agree F lo hi f :=
  fun q a b => (h q a b).trans (if_pos ⟨by omega, by omega⟩)

/-- a range test that fails on the whole range -/
theorem Agree.out (h : Agree F lo hi fun q => if l ≤ q ∧ q < u then f q else g q) (hd : u ≤ lo ∨ hi ≤ l := by omega) :
    Agree F lo hi g :=
  fun q a b => (h q a b).trans (if_neg (by omega))

/-- the range test of a last child -/
theorem Agree.rest (h : Agree F lo hi fun q => if l ≤ q then f q else g q) (h1 : l ≤ lo := by omega) : Agree F lo hi f :=
  fun q a b => (h q a b).trans (if_pos (by omega))

/-- a test for the positions below `u` that fails on the whole range -/
theorem Agree.above (h : Agree F lo hi fun q => if q < u then f q else g q) (h1 : u ≤ lo := by omega) : Agree F lo hi g :=
  fun q a b => (h q a b).trans (if_neg (by omega))

/-- a test that cuts the range in two -/
theorem Agree.cut (h : Agree F lo hi fun q => if q < u then f q else g q) (h1 : lo ≤ u := by omega)
    (h2 : u ≤ hi := by omega) : Agree F lo u f ∧ Agree F u hi g :=
  ⟨fun q a b => (h q a (by omega)).trans (if_pos b), fun q a b => (h q (by omega) b).trans (if_neg (by omega))⟩

end agree

/-! ### the code of every sub-tree is consistent with the assignment -/

section codeTy
variable {F : Fn} {q : Nat} {rest : Code}

theorem CodeTy_cons0 {op : Nat} (h1 : InstrTy F q (i0 op)) (h2 : CodeTy F (q + 1) rest) : CodeTy F q (i0 op :: rest) :=
  ⟨h1, h2⟩
theorem CodeTy_cons1 {op : Nat} {x : Int} (h1 : InstrTy F q (i1 op x)) (h2 : CodeTy F (q + 2) rest) :
    CodeTy F q (i1 op x :: rest) := ⟨h1, h2⟩
theorem CodeTy_one {i : Instr} (h1 : InstrTy F q i) : CodeTy F q [i] := ⟨h1, trivial⟩

theorem CodeTy_node {cfg : Cfg} {tb : Tables} {c : GoNode} (h1 : CodeTy F q (emitNode cfg q tb c).1)
    (h2 : CodeTy F (q + size cfg c) rest) : CodeTy F q ((emitNode cfg q tb c).1 ++ rest) :=
  (CodeTy_append F _ rest q).mpr ⟨h1, by rw [emitNode_size]; exact h2⟩

end codeTy

theorem sub_count_pos_mark (σ : STy) : subTy (.count :: .pos :: σ) (.count :: .mark :: σ) = true := by
  simp [subTy, Kind.sub, subTy_refl]
theorem sub_pos_mark (σ : STy) : subTy (.pos :: σ) (.mark :: σ) = true := by
  simp [subTy, Kind.sub, subTy_refl]

/-- the code `c` at `a` is consistent with `F`, and its entry (its exit, when `c` is empty) accepts the entry type `σ` -/
def FragTyped (F : Fn) (a : Nat) (σ : STy) (c : Code) : Prop := CodeTy F a c ∧ ExitOk F a σ

theorem leaf_ty {F : Fn} {a : Nat} {σ : STy} {op : Nat} {args : List Int} (h : leafStraight op (1 + args.length) = true)
    (hag : Agree F a (a + (1 + args.length)) fun q => if q = a then some σ else none)
    (hex : ExitOk F (a + (1 + args.length)) σ) : FragTyped F a σ [⟨op, args⟩] :=
  have f0 := (Agree.head 1 hag).1
  ⟨CodeTy_one (L_leaf h f0 hex), .refl f0⟩

/-- a single-character loop: a mandatory part `Onerep`/`Notonerep`/`Setrep` when `m > 0` and the loop proper when
    `n > m`, both typed with the entry type -/
theorem rep_ty {F : Fn} {a : Nat} {σ : STy} {m n : Int} {op1 op2 : Nat} {x1 y1 x2 y2 : Int}
    (h1 : leafStraight op1 3 = true) (h2 : leafStraight op2 3 = true)
    (hag : Agree F a (a + repLen m n) (repTy a σ m n)) (hex : ExitOk F (a + repLen m n) σ) :
    FragTyped F a σ ((if m > 0 then [i2 op1 x1 y1] else []) ++ (if n > m then [i2 op2 x2 y2] else [])) := by
  simp only [Agree, repLen, repTy] at hag hex
  by_cases hm : m > 0 <;> by_cases hn : n > m <;>
    simp only [hm, hn, if_true, if_false, true_and, false_and, or_false, false_or, Nat.add_zero, Nat.zero_add,
      List.append_nil, List.nil_append, List.singleton_append, if_or] at hag hex ⊢
  · obtain ⟨f0, hag⟩ := Agree.head 3 hag
    exact ⟨⟨L_leaf h1 f0 (.refl (hag.head 3).1), CodeTy_one (L_leaf h2 (hag.head 3).1 hex)⟩, .refl f0⟩
  · have f0 := (Agree.head 3 hag).1
    exact ⟨CodeTy_one (L_leaf h1 f0 hex), .refl f0⟩
  · have f0 := (Agree.head 3 hag).1
    exact ⟨CodeTy_one (L_leaf h2 f0 hex), .refl f0⟩
  · exact ⟨trivial, hex⟩

mutual
/-- **the typing induction.**  A composite case walks the if-chain of `tyAt` once (`Agree.head`, `.at`), takes the children
    from the induction — entered with the type the frame has pushed, and handing back that their entry accepts it — and
    types the frame instructions one by one (`L_*`), each successor being the next frame instruction, a child's entry or
    the exit. -/
theorem emitNode_typed (cfg : Cfg) : ∀ (n : GoNode) (a : Nat) (tb : Tables) (σ : STy) (F : Fn), n.ok = true →
    Agree F a (a + size cfg n) (tyAt cfg a σ n) → ExitOk F (a + size cfg n) σ → FragTyped F a σ (emitNode cfg a tb n).1
  | .empty, a, tb, σ, F => fun _ _ hex => ⟨trivial, hex⟩
  | .bare t, a, tb, σ, F => fun hok =>
    leaf_ty (args := []) (bare_leafStraight t (by simpa [GoNode.ok] using hok))
  | .char t rtl ci ch, a, tb, σ, F => fun hok =>
    leaf_ty (args := [ch]) (char_leafStraight t (by simpa [GoNode.ok] using hok) rtl ci)
  | .set rtl ci st, a, tb, σ, F => fun hok =>
    leaf_ty (args := [_]) (setmulti_leafStraight opSet (by simp) rtl ci)
  | .multi rtl ci st, a, tb, σ, F => fun hok =>
    leaf_ty (args := [_]) (setmulti_leafStraight opMulti (by simp) rtl ci)
  | .ref rtl ci m, a, tb, σ, F => fun hok =>
    leaf_ty (args := [_]) (setmulti_leafStraight opRef (by simp) rtl ci)
  | .charloop t rtl ci ch m n, a, tb, σ, F => fun hok =>
    have ht : t ∈ charloopTypes := by simpa [GoNode.ok] using hok
    rep_ty (by cases isOneFamily t <;> exact charloop_leafStraight _ (by simp) rtl ci)
      (charloop_leafStraight t (by simp [ht]) rtl ci)
  | .setloop t rtl ci st m n, a, tb, σ, F => fun hok =>
    have ht : t ∈ setloopTypes := by simpa [GoNode.ok] using hok
    rep_ty (charloop_leafStraight opSetrep (by simp) rtl ci) (charloop_leafStraight t (by simp [ht]) rtl ci)
  | .concat cs, a, tb, σ, F => fun hok => emitList_typed cfg cs a tb σ F (Bool.and_eq_true_iff.1 hok).2
  | .alt cs, a, tb, σ, F => fun hok => emitAlt_typed cfg cs a _ tb σ F (Bool.and_eq_true_iff.1 hok).2 rfl
  | .group c, a, tb, σ, F => emitNode_typed cfg c a tb σ F
  | .other t, a, tb, σ, F => by intro hok; simp [GoNode.ok] at hok
  | .capture m n c, a, tb, σ, F => by
    intro hok hag hex
    by_cases he : emitCapture cfg m n = true
    · simp only [Agree, size, tyAt, he, if_true, ← Nat.add_assoc] at hag hex
      obtain ⟨f0, hag⟩ := Agree.head 1 hag
      obtain ⟨f1, hagc, -⟩ := hag.at 3
      obtain ⟨tc, ec⟩ := emitNode_typed cfg c _ tb _ F hok hagc.sub (.refl f1)
      simp only [emitNode, he, if_true, List.cons_append, List.nil_append]
      exact ⟨CodeTy_cons0 (L_setmark f0 ec) <| CodeTy_node tc <| CodeTy_one (L_capturemark _ _ f1 hex), .refl f0⟩
    · simp only [Agree, size, tyAt, he] at hag hex
      simp only [emitNode, he]
      exact emitNode_typed cfg c a tb σ F hok hag hex
  | .poslook c, a, tb, σ, F => by
    intro hok hag hex
    simp only [Agree, size, tyAt, ← Nat.add_assoc] at hag hex
    obtain ⟨f0, hag⟩ := Agree.head 1 hag
    obtain ⟨f1, hag⟩ := hag.head 1
    obtain ⟨f2, hagc, hag⟩ := hag.at 1
    obtain ⟨f3, -⟩ := hag.head 1
    obtain ⟨tc, ec⟩ := emitNode_typed cfg c _ tb _ F hok hagc.skip.sub (.refl f2)
    simp only [emitNode, List.cons_append, List.nil_append]
    exact ⟨CodeTy_cons0 (L_setjump f0 (.refl f1)) <| CodeTy_cons0 (L_setmark f1 ec) <| CodeTy_node tc <|
      CodeTy_cons0 (L_getmark f2 (.refl f3)) <| CodeTy_one (L_forejump f3 hex), .refl f0⟩
  | .neglook c, a, tb, σ, F => by
    intro hok hag hex
    simp only [Agree, size, tyAt, ← Nat.add_assoc] at hag hex
    obtain ⟨f0, hag⟩ := Agree.head 1 hag
    obtain ⟨f1, hag⟩ := hag.head 2
    obtain ⟨f2, hagc, hag⟩ := hag.at 1
    obtain ⟨f3, -⟩ := hag.head 1
    obtain ⟨tc, ec⟩ := emitNode_typed cfg c _ tb _ F hok hagc.skip.sub (.refl f2)
    simp only [emitNode, List.cons_append, List.nil_append]
    exact ⟨CodeTy_cons0 (L_setjump f0 (.refl f1)) <| CodeTy_cons1 (L_lazybranch _ f1 ec (.refl f3)) <|
      CodeTy_node tc <| CodeTy_cons0 (L_backjump f2) <| CodeTy_one (L_forejump f3 hex), .refl f0⟩
  | .atomic c, a, tb, σ, F => by
    intro hok hag hex
    simp only [Agree, size, tyAt, ← Nat.add_assoc] at hag hex
    obtain ⟨f0, hag⟩ := Agree.head 1 hag
    obtain ⟨f2, hagc, -⟩ := hag.at 1
    obtain ⟨tc, ec⟩ := emitNode_typed cfg c _ tb _ F hok hagc.sub (.refl f2)
    simp only [emitNode, List.cons_append, List.nil_append]
    exact ⟨CodeTy_cons0 (L_setjump f0 ec) <| CodeTy_node tc <| CodeTy_one (L_forejump f2 hex), .refl f0⟩
  | .backrefcond1 m y, a, tb, σ, F => by
    intro hok hag hex
    simp only [Agree, size, tyAt, if_or, ← Nat.add_assoc] at hag hex
    obtain ⟨f0, hag⟩ := Agree.head 1 hag
    obtain ⟨f1, hag⟩ := hag.head 2
    obtain ⟨f3, hag⟩ := hag.head 2
    obtain ⟨f5, hag⟩ := hag.head 1
    obtain ⟨g0, hagy, hag⟩ := hag.at 2
    obtain ⟨g2, -⟩ := hag.head 1
    obtain ⟨ty, ey⟩ := emitNode_typed cfg y _ tb _ F hok hagy.skip.sub (.refl g0)
    simp only [emitNode, List.cons_append, List.nil_append]
    exact ⟨CodeTy_cons0 (L_setjump f0 (.refl f1)) <| CodeTy_cons1 (L_lazybranch _ f1 (.refl f3) (.refl g2)) <|
      CodeTy_cons1 (L_testref _ f3 (.refl f5)) <| CodeTy_cons0 (L_forejump f5 ey) <| CodeTy_node ty <|
      CodeTy_cons1 (L_goto _ g0 hex) <| CodeTy_one (L_forejump g2 hex), .refl f0⟩
  | .backrefcond2 m y n, a, tb, σ, F => by
    intro hok hag hex
    simp only [GoNode.ok, Bool.and_eq_true] at hok
    simp only [Agree, size, tyAt, if_or, ← Nat.add_assoc] at hag hex
    obtain ⟨f0, hag⟩ := Agree.head 1 hag
    obtain ⟨f1, hag⟩ := hag.head 2
    obtain ⟨f3, hag⟩ := hag.head 2
    obtain ⟨f5, hag⟩ := hag.head 1
    obtain ⟨g0, hagy, hag⟩ := hag.at 2
    obtain ⟨g2, hagn⟩ := hag.head 1
    obtain ⟨ty, ey⟩ := emitNode_typed cfg y _ tb _ F hok.1 hagy.skip.sub (.refl g0)
    obtain ⟨tn, en⟩ := emitNode_typed cfg n _ (emitNode cfg (a + 6) tb y).2 σ F hok.2 hagn.out.rest hex
    simp only [emitNode, List.cons_append, List.nil_append, List.append_assoc]
    exact ⟨CodeTy_cons0 (L_setjump f0 (.refl f1)) <| CodeTy_cons1 (L_lazybranch _ f1 (.refl f3) (.refl g2)) <|
      CodeTy_cons1 (L_testref _ f3 (.refl f5)) <| CodeTy_cons0 (L_forejump f5 ey) <| CodeTy_node ty <|
      CodeTy_cons1 (L_goto _ g0 hex) <| CodeTy_cons0 (L_forejump g2 en) tn, .refl f0⟩
  | .exprcond2 c y, a, tb, σ, F => by
    intro hok hag hex
    simp only [GoNode.ok, Bool.and_eq_true] at hok
    simp only [Agree, size, tyAt, ← Nat.add_assoc] at hag hex
    obtain ⟨f0, hag⟩ := Agree.head 1 hag
    obtain ⟨f1, hag⟩ := hag.head 1
    obtain ⟨f2, hag⟩ := hag.head 2
    obtain ⟨e0, hagc, hag⟩ := hag.at 1
    obtain ⟨e1, hag⟩ := hag.head 1
    obtain ⟨g0, hagy, hag⟩ := hag.at 2
    obtain ⟨g2, hag⟩ := hag.head 1
    obtain ⟨g3, -⟩ := hag.head 1
    obtain ⟨tc, ec⟩ := emitNode_typed cfg c _ tb _ F hok.1 hagc.skip.skip.skip.skip.sub (.refl e0)
    obtain ⟨ty, ey⟩ := emitNode_typed cfg y _ (emitNode cfg (a + 4) tb c).2 σ F hok.2 hagy.skip.skip.out.sub (.refl g0)
    simp only [emitNode, List.cons_append, List.nil_append, List.append_assoc]
    exact ⟨CodeTy_cons0 (L_setjump f0 (.refl f1)) <| CodeTy_cons0 (L_setmark f1 (.refl f2)) <|
      CodeTy_cons1 (L_lazybranch _ f2 ec (.refl g2)) <| CodeTy_node tc <| CodeTy_cons0 (L_getmark e0 (.refl e1)) <|
      CodeTy_cons0 (L_forejump e1 ey) <| CodeTy_node ty <| CodeTy_cons1 (L_goto _ g0 hex) <|
      CodeTy_cons0 (L_getmark g2 (.refl g3)) <| CodeTy_one (L_forejump g3 hex), .refl f0⟩
  | .exprcond3 c y n, a, tb, σ, F => by
    intro hok hag hex
    simp only [GoNode.ok, Bool.and_eq_true] at hok
    simp only [Agree, size, tyAt, ← Nat.add_assoc] at hag hex
    obtain ⟨f0, hag⟩ := Agree.head 1 hag
    obtain ⟨f1, hag⟩ := hag.head 1
    obtain ⟨f2, hag⟩ := hag.head 2
    obtain ⟨e0, hagc, hag⟩ := hag.at 1
    obtain ⟨e1, hag⟩ := hag.head 1
    obtain ⟨g0, hagy, hag⟩ := hag.at 2
    obtain ⟨g2, hag⟩ := hag.head 1
    obtain ⟨g3, hagn⟩ := hag.head 1
    obtain ⟨tc, ec⟩ := emitNode_typed cfg c _ tb _ F hok.1.1 hagc.skip.skip.skip.skip.sub (.refl e0)
    obtain ⟨ty, ey⟩ := emitNode_typed cfg y _ (emitNode cfg (a + 4) tb c).2 σ F hok.1.2 hagy.skip.skip.out.sub (.refl g0)
    obtain ⟨tn, en⟩ := emitNode_typed cfg n _
      (emitNode cfg (a + 4 + size cfg c + 2) (emitNode cfg (a + 4) tb c).2 y).2 σ F hok.2 hagn.out.out.rest hex
    simp only [emitNode, List.cons_append, List.nil_append, List.append_assoc]
    exact ⟨CodeTy_cons0 (L_setjump f0 (.refl f1)) <| CodeTy_cons0 (L_setmark f1 (.refl f2)) <|
      CodeTy_cons1 (L_lazybranch _ f2 ec (.refl g2)) <| CodeTy_node tc <| CodeTy_cons0 (L_getmark e0 (.refl e1)) <|
      CodeTy_cons0 (L_forejump e1 ey) <| CodeTy_node ty <| CodeTy_cons1 (L_goto _ g0 hex) <|
      CodeTy_cons0 (L_getmark g2 (.refl g3)) <| CodeTy_cons0 (L_forejump g3 en) tn, .refl f0⟩
  | .loop lzy m n c, a, tb, σ, F => by
    intro hok hag hex
    simp only [Agree, size, tyAt, loopHeadLen, loopTailLen] at hag hex
    simp only [emitNode, loopHeadLen]
    cases hcn : counted m n <;> by_cases hm : (m == 0) = true <;>
      simp only [hcn, hm, if_true, if_false, Bool.false_eq_true, true_and, false_and, Nat.add_zero, ← Nat.add_assoc,
        Nat.add_right_cancel_iff, List.cons_append, List.nil_append, List.append_nil] at hag hex ⊢
    · -- uncounted, minimum 0: Nullmark; Goto after; body; Branchmark body
      obtain ⟨f0, hag⟩ := Agree.head 1 hag
      obtain ⟨f1, hag⟩ := hag.head 2
      obtain ⟨t0, hagc, -⟩ := hag.at 2
      obtain ⟨tc, ec⟩ := emitNode_typed cfg c _ tb _ F hok hagc.sub ⟨_, t0, sub_pos_mark σ⟩
      exact ⟨CodeTy_cons0 (L_nullmark f0 (.refl f1)) <| CodeTy_cons1 (L_goto _ f1 (.refl t0)) <| CodeTy_node tc <|
        CodeTy_one (L_branchmark lzy _ (k := .mark) rfl t0 hex ec), .refl f0⟩
    · -- uncounted, minimum ≥ 1: Setmark; body; Branchmark body
      obtain ⟨f0, hag⟩ := Agree.head 1 hag
      obtain ⟨t0, hagc, -⟩ := hag.at 2
      obtain ⟨tc, ec⟩ := emitNode_typed cfg c _ tb _ F hok hagc.sub (.refl t0)
      exact ⟨CodeTy_cons0 (L_setmark f0 ec) <| CodeTy_node tc <|
        CodeTy_one (L_branchmark lzy _ (k := .pos) rfl t0 hex ec), .refl f0⟩
    · -- counted, minimum 0: Nullcount; Goto after; body; Branchcount body
      obtain ⟨f0, hag⟩ := Agree.head 2 hag
      obtain ⟨f1, hag⟩ := hag.head 2
      obtain ⟨t0, hagc, -⟩ := hag.at 3
      obtain ⟨tc, ec⟩ := emitNode_typed cfg c _ tb _ F hok hagc.sub ⟨_, t0, sub_count_pos_mark σ⟩
      exact ⟨CodeTy_cons1 (L_nullcount _ f0 (.refl f1)) <| CodeTy_cons1 (L_goto _ f1 (.refl t0)) <| CodeTy_node tc <|
        CodeTy_one (L_branchcount lzy _ _ (k := .mark) rfl t0 hex ec), .refl f0⟩
    · -- counted, minimum ≥ 1: Setcount; body; Branchcount body
      obtain ⟨f0, hag⟩ := Agree.head 2 hag
      obtain ⟨t0, hagc, -⟩ := hag.at 3
      obtain ⟨tc, ec⟩ := emitNode_typed cfg c _ tb _ F hok hagc.sub (.refl t0)
      exact ⟨CodeTy_cons1 (L_setcount _ f0 ec) <| CodeTy_node tc <|
        CodeTy_one (L_branchcount lzy _ _ (k := .pos) rfl t0 hex ec), .refl f0⟩
theorem emitList_typed (cfg : Cfg) : ∀ (cs : List GoNode) (a : Nat) (tb : Tables) (σ : STy) (F : Fn), okList cs = true →
    Agree F a (a + sizeList cfg cs) (tyList cfg a σ cs) → ExitOk F (a + sizeList cfg cs) σ →
    FragTyped F a σ (emitList cfg a tb cs).1
  | [], a, tb, σ, F => fun _ _ hex => ⟨trivial, hex⟩
  | c :: cs, a, tb, σ, F => by
    intro hok hag hex
    simp only [okList, Bool.and_eq_true] at hok
    simp only [Agree, sizeList, tyList, ← Nat.add_assoc] at hag hex
    obtain ⟨hagc, hagr⟩ := Agree.cut hag
    obtain ⟨tr, er⟩ := emitList_typed cfg cs _ (emitNode cfg a tb c).2 σ F hok.2 hagr hex
    obtain ⟨tc, ec⟩ := emitNode_typed cfg c a tb σ F hok.1 hagc er
    exact ⟨CodeTy_node tc tr, ec⟩
theorem emitAlt_typed (cfg : Cfg) : ∀ (cs : List GoNode) (a fin : Nat) (tb : Tables) (σ : STy) (F : Fn),
    okList cs = true → fin = a + sizeAlt cfg cs →
    Agree F a (a + sizeAlt cfg cs) (tyAlt cfg a σ cs) → ExitOk F (a + sizeAlt cfg cs) σ →
    FragTyped F a σ (emitAlt cfg a fin tb cs).1
  | [], a, fin, tb, σ, F => fun _ _ _ hex => ⟨trivial, hex⟩
  | c :: cs, a, fin, tb, σ, F => by
    intro hok hfin hag hex
    simp only [okList, Bool.and_eq_true] at hok
    by_cases he : cs.isEmpty = true
    · simp only [Agree, he, if_true, sizeAlt, tyAlt] at hag hex
      simp only [emitAlt, he, if_true]
      exact emitNode_typed cfg c a tb σ F hok.1 hag hex
    · simp only [Agree, he, sizeAlt, tyAlt, Bool.false_eq_true, if_false, ← Nat.add_assoc] at hag hex hfin
      obtain ⟨f0, hag⟩ := Agree.head 2 hag
      obtain ⟨f1, hagc, hagr⟩ := hag.at 2
      obtain ⟨tr, er⟩ := emitAlt_typed cfg cs _ fin (emitNode cfg (a + 2) tb c).2 σ F hok.2 hfin hagr.above hex
      obtain ⟨tc, ec⟩ := emitNode_typed cfg c _ tb σ F hok.1 hagc.cut.1 (.refl f1)
      simp only [emitAlt, he, Bool.false_eq_true, if_false, List.cons_append, List.nil_append, List.append_assoc]
      exact ⟨CodeTy_cons1 (L_lazybranch _ f0 ec er) <| CodeTy_node tc <| CodeTy_cons1 (L_goto fin f1 (hfin ▸ hex)) tr,
        .refl f0⟩
end

/-! ### the list and alternation forms with the agreement written out -/

theorem emitList_ty (cfg : Cfg) : ∀ (cs : List GoNode) (a : Nat) (tb : Tables) (σ : STy) (F : Fn), okList cs = true →
    (∀ q, a ≤ q → q < a + sizeList cfg cs → F q = tyList cfg a σ cs q) → ExitOk F (a + sizeList cfg cs) σ →
    CodeTy F a (emitList cfg a tb cs).1 :=
  fun cs a tb σ F hok hag hex => (emitList_typed cfg cs a tb σ F hok hag hex).1

theorem emitAlt_ty (cfg : Cfg) : ∀ (cs : List GoNode) (a fin : Nat) (tb : Tables) (σ : STy) (F : Fn), okList cs = true →
    fin = a + sizeAlt cfg cs →
    (∀ q, a ≤ q → q < a + sizeAlt cfg cs → F q = tyAlt cfg a σ cs q) → ExitOk F (a + sizeAlt cfg cs) σ →
    CodeTy F a (emitAlt cfg a fin tb cs).1 :=
  fun cs a fin tb σ F hok hfin hag hex => (emitAlt_typed cfg cs a fin tb σ F hok hfin hag hex).1

/-- the assignment of the program of `root`: `[]` at the `Lazybranch` at 0 and at the final `Stop`, `tyAt` in between -/
def progFn (cfg : Cfg) (root : GoNode) : Fn := fun q =>
  if q = 0 then some []
  else if q = 2 + size cfg root then some []
  else if 2 ≤ q ∧ q < 2 + size cfg root then tyAt cfg 2 [] root q
  else none

theorem progFn_bound (cfg : Cfg) (root : GoNode) {q : Nat} {τ : STy} (h : progFn cfg root q = some τ) :
    q < size cfg root + 3 := by
  unfold progFn at h
  split at h
  · omega
  · split at h
    · omega
    · split at h
      · omega
      · cases h

theorem codeFromTree_codeTy (cfg : Cfg) (root : GoNode) (hok : root.ok = true) :
    CodeTy (progFn cfg root) 0 (codeFromTree cfg root).1 := by
  have hag : Agree (progFn cfg root) 0 (2 + size cfg root + 1) (progFn cfg root) := fun _ _ _ => rfl
  obtain ⟨f0, hag⟩ := hag.head 2
  obtain ⟨fe, hag, -⟩ := hag.at 1
  obtain ⟨tr, er⟩ := emitNode_typed cfg root 2 ⟨[], []⟩ [] _ hok hag.sub (.refl fe)
  simp only [codeFromTree, List.cons_append, List.nil_append]
  exact CodeTy_cons1 (L_lazybranch _ f0 er (.refl fe)) <| CodeTy_node tr <| CodeTy_one (L_stop fe)

theorem CodeTy_split {F : Fn} : ∀ (pre : Code) (i : Instr) (post : Code) (a : Nat),
    CodeTy F a (pre ++ i :: post) → InstrTy F (a + codeLen pre) i := by
  intro pre i post a h
  have := (CodeTy_append F pre (i :: post) a).mp h
  exact this.2.1

def arrOf (F : Fn) (N : Nat) : Assign := ((List.range N).map F).toArray

theorem arrOf_get (F : Fn) (N q : Nat) (h : q < N) : (arrOf F N).get q = F q := by
  simp [arrOf, Assign.get, h]

/-- opcodes of one word do not read the jump operand -/
theorem flowA_tgt (t1 t2 : Option Nat) (pc : Nat) (o : VM.Op) (σ : STy) (h : o.size = 1) :
    flowA t1 pc o σ = flowA t2 pc o σ := by
  cases o <;> first | rfl | cases h

theorem _root_.RegexVerif.Writer.Holds.target_eq {p : Prog} {pre post : Code} {i : Instr} (hp : Holds p (pre ++ i :: post))
    (x : Int) (xs : List Int) (h : i.args = x :: xs) : target p (codeLen pre) = tgtOf i := by
  have := hp.arg (k := 0) (v := x) (by rw [h]; rfl)
  simp only [Nat.add_zero] at this
  unfold target tgtOf
  rw [this, h]
  cases x <;> rfl

/-- **from the instruction list to the typing of the code array** -/
theorem _root_.RegexVerif.Writer.Holds.typingW {p : Prog} {c : Code} (hh : Holds p c) (F : Fn)
    (hw : AllW c) (hF0 : F 0 = some [])
    (hb : ∀ q τ, F q = some τ → q < codeLen c) (hty : CodeTy F 0 c) :
    TypingW p (istarts 0 c) (arrOf F (codeLen c)) := by
  have hN : 0 < codeLen c := hb 0 [] hF0
  refine ⟨by rw [arrOf_get F _ 0 hN]; exact hF0, ?_⟩
  intro pc hpc σ hσ
  obtain ⟨pre, i, post, e, hp⟩ := mem_istarts_split c 0 pc hpc
  simp only [Nat.zero_add] at hp
  subst hp
  have hlt : codeLen pre < codeLen c := by rw [e, codeLen_append]; simp only [codeLen_cons]; omega
  rw [arrOf_get F _ _ hlt] at hσ
  have hi : i ∈ c := by rw [e]; simp
  have hit := CodeTy_split pre i post 0 (by rw [← e]; exact hty)
  simp only [Nat.zero_add] at hit
  obtain ⟨o, succs, ho, hsz, hfl, hs⟩ := hit σ hσ
  have hop : i.op < 1024 := by
    have := hw i hi
    simp only [opWordOk, Bool.and_eq_true, decide_eq_true_eq] at this
    exact this.1.1.1
  refine ⟨o, succs, ?_, ?_, ?_⟩
  · unfold opAt
    rw [(e ▸ hh : Holds p (pre ++ i :: post)).fetch hop]
    exact ho
  · rw [flow_eq_flowA, ← hfl]
    cases hargs : i.args with
    | nil => exact flowA_tgt _ _ _ _ _ (by rw [hsz, hargs]; rfl)
    | cons x xs => rw [(e ▸ hh : Holds p (pre ++ i :: post)).target_eq x xs hargs]
  · intro x hx
    obtain ⟨τ, h1, h2⟩ := hs x hx
    exact ⟨τ, by rw [arrOf_get F _ _ (hb _ _ h1)]; exact h1, h2⟩

/-- `p` is typed by `progFn cfg root` whatever its tables, `TrackCount` and `Caps`. -/
theorem codeFromTree_typingW (cfg : Cfg) (root : GoNode) (hok : root.ok = true) (p : Prog)
    (hp : Holds p (codeFromTree cfg root).1) (hcaps : capsOk cfg p.capsize root = true) :
    p.boundaries = some (istarts 0 (codeFromTree cfg root).1) ∧
      TypingW p (istarts 0 (codeFromTree cfg root).1) (arrOf (progFn cfg root) (codeLen (codeFromTree cfg root).1)) := by
  have ha : ∀ i ∈ (codeFromTree cfg root).1, i.arityOk = true := fun i hi =>
    Instr.localOk.arity (codeFromTree_local cfg p.capsize root hok hcaps i hi)
  refine ⟨hp.boundaries ha, hp.typingW (progFn cfg root) (codeFromTree_word cfg root hok) (by simp [progFn]) ?_
    (codeFromTree_codeTy cfg root hok)⟩
  intro q τ h
  rw [codeFromTree_size]
  exact progFn_bound cfg root h

theorem codeFromTree_typing (cfg : Cfg) (root : GoNode) (hok : root.ok = true) (p : Prog)
    (hp : Holds p (codeFromTree cfg root).1) (hcaps : capsOk cfg p.capsize root = true) :
    ∃ bs a, p.boundaries = some bs ∧ TypingW p bs a :=
  ⟨_, _, codeFromTree_typingW cfg root hok p hp hcaps⟩

/-- **every emitted program has a grouping-stack typing** (`Props.C10.emit_has_typing`) -/
theorem emit_typing (ti : TreeInfo) (root : GoNode) (h : treeWf ti root = true) :
    ∃ bs a, (emit ti root).boundaries = some bs ∧ TypingW (emit ti root) bs a :=
  codeFromTree_typing (mainCfg ti) root (treeWf_ok h) (emit ti root) rfl (treeWf_caps h)

/-- the same for the bool-only program -/
theorem emitQuick_typing (ti : TreeInfo) (root : GoNode) (h : treeWf ti root = true) (qp : Prog)
    (hq : emitQuick ti root = some qp) : ∃ bs a, qp.boundaries = some bs ∧ TypingW qp bs a := by
  rw [emitQuick_eq ti root qp hq]
  exact codeFromTree_typing (quickCfg ti root) root (treeWf_ok h) _ rfl (treeWf_capsQuick h)

/-! ### the test programs of the examples of Props/C10, evaluated once -/

theorem demo_wf : Lemmas.VM.demo.wf = true := by decide +kernel
theorem demo_typed : typed Lemmas.VM.demo = true := by decide +kernel
theorem emit2_wf : (emit info2 tree2).wf = true := by decide +kernel
theorem emit2_typed : typed (emit info2 tree2) = true := by decide +kernel
theorem demo_maxHeight : maxHeight Lemmas.VM.demo = 2 := by decide +kernel
theorem emit2_maxHeight : maxHeight (emit info2 tree2) = 4 := by decide +kernel

end RegexVerif.Lemmas.StackTypingEmit
