/-
The position calculus of the parser model, for scanners, capture pre-scan and the pieces of a turn of the main scan.

Whether a program of the parser faults depends on the position, and on little else.  So the state is split into the
position `q` and the rest `σ`: `Run Γ E p m q σ Q` says that `m`, run in `σ` moved to `q`, returns inside the pattern in
a state with `Q`, or with a Go error at or after the floor `p`, never a fault, and that the rest of the state changed as
`Γ` allows.  `Γ` (a `Guar`) is a transitive relation that allows at least what a scanner does: `Guar.scan` nothing
more, `Guar.names` (pre-scan) anything that keeps the names invariant, `Guar.turn` (pieces of a turn) anything that keeps
both stacks and the group.  No leaf proves its guarantee: a primitive that moves leaves `σ` alone, the others update it
in place, a call hands on a new `σ` and composes by transitivity.

The rules of the primitives are equivalences (`run_rules`): `run_steps` runs a program up to its calls, `run_call` makes
a call by the callee's specification.  A computation that stays where it is (a guard `charsRight() > k &&
rightChar(k) == c`, a choice between values) is not run but used through what it returns (`Still`, `Peek`), so that what
follows it is run once.  The leaves are linear arithmetic over positions.
-/
import RegexVerif.Lemmas.Parser
import RegexVerif.Lemmas.ParserRunAttr

namespace RegexVerif.Parser

variable {α β γ : Type}

/-- what a family of programs may do to the part of the state that `Run` does not track.  `strict`: a Go error, too,
    leaves such a state, inside the pattern at or after the floor (a caller may go on after it: `attempt`, `ignoreErr`);
    otherwise it ends the parse -/
structure Guar where
  G : PS → PS → Prop
  scans : ∀ {s s' : PS}, s'.frame = s.frame → (NamesOK s.g → NamesOK s'.g) → G s s'
  trans : ∀ {a b c : PS}, G a b → G b c → G a c
  strict : Bool

/-- the scanners: frame untouched, names invariant kept -/
def Guar.scan : Guar where
  G s s' := s'.frame = s.frame ∧ (NamesOK s.g → NamesOK s'.g)
  scans hf hn := ⟨hf, hn⟩
  trans h h' := ⟨h'.1.trans h.1, fun x => h'.2 (h.2 x)⟩
  strict := true

/-- the capture pre-scan: names invariant kept -/
def Guar.names : Guar where
  G s s' := NamesOK s.g → NamesOK s'.g
  scans _ hn := hn
  trans h h' := fun x => h' (h x)
  strict := true

/-- the pieces of a turn of the main scan below the switch: both stacks and the group under construction stay -/
def Guar.turn : Guar where
  G s s' := s'.optionsStack = s.optionsStack ∧ s'.stack = s.stack ∧ s'.group = s.group
  scans hf _ := ⟨frame_os hf, frame_stack hf, frame_group hf⟩
  trans h h' := ⟨h'.1.trans h.1, h'.2.1.trans h.2.1, h'.2.2.trans h.2.2⟩
  strict := false

/-- `Run` from any start state `s`; `σ` is the state that `Γ` compares the final state with -/
abbrev Run.From (Γ : Guar) (E : Env) (p : Nat) (m : M α) (σ s : PS) (Q : α → PS → Prop) : Prop :=
  wp m (fun a s' => (Γ.G σ s' ∧ s'.pos ≤ E.pat.length) ∧ Q a s')
    (fun s' => Γ.strict = true → Γ.G σ s' ∧ p ≤ s'.pos ∧ s'.pos ≤ E.pat.length) s

/-- `m`, run in `σ` moved to `q`, returns inside the pattern in a state with `Q`, or with a Go error (at or after `p`
    inside the pattern, if `Γ` is strict); never a fault; the rest of the state changed as `Γ` allows -/
def Run (Γ : Guar) (E : Env) (p : Nat) (m : M α) (q : Nat) (σ : PS) (Q : α → PS → Prop) : Prop :=
  Run.From Γ E p m σ { σ with pos := q } Q

variable {Γ : Guar} {E : Env} {p q : Nat} {σ : PS} {Q : α → PS → Prop}

theorem Guar.start (Γ : Guar) (σ : PS) (q : Nat) : Γ.G σ { σ with pos := q } := Γ.scans rfl id

theorem Run.step {m : M α} {σ' s : PS} (h0 : Γ.G σ σ') (h : Run.From Γ E p m σ' s Q) : Run.From Γ E p m σ s Q :=
  wp_mono h (fun _ _ x => ⟨⟨Γ.trans h0 x.1.1, x.1.2⟩, x.2⟩) (fun _ x hs => ⟨Γ.trans h0 (x hs).1, (x hs).2⟩)

theorem Run.same {m : M α} {σ' s : PS} (hf : σ'.frame = σ.frame) (hn : NamesOK σ'.g ↔ NamesOK σ.g) :
    Run.From Γ E p m σ' s Q ↔ Run.From Γ E p m σ s Q :=
  ⟨Run.step (Γ.scans hf hn.mpr), Run.step (Γ.scans hf.symm hn.mp)⟩

/-- what `Run` says of `m` itself (the program is followed by `pure`, so that every call in it stands to the left of a
    `>>=`) -/
theorem Run.toFrom {m : M α} (h : Run Γ E p (m >>= Pure.pure) q σ Q) : Run.From Γ E p m σ { σ with pos := q } Q :=
  (wp_bind ..).mp h

theorem Run.mono {m : M α} {Q' : α → PS → Prop} (h : Run Γ E p m q σ Q) (hQ : ∀ a s', Q a s' → Q' a s') :
    Run Γ E p m q σ Q' :=
  wp_mono h (fun _ _ x => ⟨x.1, hQ _ _ x.2⟩) (fun _ x => x)

/-! ## From `Run` to the specifications of the scanners -/

theorem Run.advF {m : M α} {s : PS} (h : Run .scan E p (m >>= Pure.pure) s.pos s (fun _ s' => p ≤ s'.pos)) :
    wp m (fun _ s' => AdvF E p s s') (AdvF E p s) s :=
  wp_mono h.toFrom (fun _ _ h' => ⟨h'.2, h'.1.2, h'.1.1.1, h'.1.1.2⟩)
    (fun _ h' => ⟨(h' rfl).2.1, (h' rfl).2.2, (h' rfl).1.1, (h' rfl).1.2⟩)

theorem ScansF.of_run {m : M α} {a k : Nat}
    (h : ∀ q σ, a ≤ q → q + k ≤ E.pat.length → Run .scan E p (m >>= Pure.pure) q σ (fun _ s' => p ≤ s'.pos)) :
    ScansF E a k p m :=
  fun s ha hk => (h s.pos s ha hk).advF

theorem ScansK.of_run {m : M α} {k : Nat}
    (h : ∀ q σ, q + k ≤ E.pat.length → Run .scan E q (m >>= Pure.pure) q σ (fun _ s' => q ≤ s'.pos)) : ScansK E k m :=
  fun s hs => wp_mono (h s.pos s hs).advF (fun _ _ h' => h'.toAdv) (fun _ h' => h'.toAdv)

/-! `Scans` is `ScansK 0` and `ScansLt` is `ScansK 1` by definition: their entry lemmas and call rules are those of
`ScansK`, under the names by which dot notation and `run_call` find them. -/

theorem Scans.of_run {m : M α}
    (h : ∀ q σ, q ≤ E.pat.length → Run .scan E q (m >>= Pure.pure) q σ (fun _ s' => q ≤ s'.pos)) : Scans E m :=
  ScansK.of_run (k := 0) h

theorem ScansLt.of_run {m : M α}
    (h : ∀ q σ, q < E.pat.length → Run .scan E q (m >>= Pure.pure) q σ (fun _ s' => q ≤ s'.pos)) : ScansLt E m :=
  ScansK.of_run (k := 1) h

theorem ScansBack.of_run {m : M α}
    (h : ∀ q σ, 1 ≤ q → q ≤ E.pat.length → Run .scan E (q - 1) (m >>= Pure.pure) q σ (fun _ s' => q - 1 ≤ s'.pos)) :
    ScansBack E m :=
  fun s h1 hs => (h s.pos s h1 hs).advF

/-! ## The normal form of a program: every `>>=` has a primitive, a call or a guard on its left -/

@[run_rules] theorem M.bind_assoc (m : M α) (g : α → M β) (f : β → M γ) :
    (m >>= g) >>= f = m >>= fun a => g a >>= f := by
  funext s
  show M.bind (M.bind m g) f s = M.bind m (fun a => M.bind (g a) f) s
  unfold M.bind
  cases m s <;> rfl

@[run_rules] theorem M.pure_bind (a : α) (f : α → M β) : Pure.pure a >>= f = f a := rfl
@[run_rules] theorem M.throw_bind (c : ErrCode) (f : α → M β) : Parser.throw c >>= f = Parser.throw c := rfl
@[run_rules] theorem M.fault_bind (x : Fault) (f : α → M β) : Parser.fault x >>= f = Parser.fault x := rfl

/-- what follows a conditional is copied into both branches: not a rule -/
theorem M.ite_bind (c : Prop) [Decidable c] (a b : M α) (f : α → M β) :
    (if c then a else b) >>= f = if c then a >>= f else b >>= f := by
  split <;> rfl

/-- an early exit copies nothing … -/
@[run_rules] theorem M.ite_throw_bind (c : Prop) [Decidable c] (e : ErrCode) (b : M α) (f : α → M β) :
    (if c then Parser.throw e else b) >>= f = if c then Parser.throw e else b >>= f := M.ite_bind ..

/-- … nor does a conditional in last position -/
@[run_rules] theorem M.ite_bind_pure (c : Prop) [Decidable c] (a b : M α) :
    (if c then a else b) >>= Pure.pure = if c then a >>= Pure.pure else b >>= Pure.pure := M.ite_bind ..

attribute [run_rules] decide_eq_true_eq beq_iff_eq bne_iff_ne
  Bool.and_eq_true Bool.or_eq_true Bool.not_eq_true' Bool.not_eq_true Bool.false_eq_true false_and and_false
  true_and and_true if_false if_true ne_eq Nat.add_sub_cancel

@[run_rules] theorem Run.pure {a : α} : Run Γ E p (Pure.pure a) q σ Q ↔ q ≤ E.pat.length ∧ Q a { σ with pos := q } :=
  ⟨fun h => ⟨h.1.2, h.2⟩, fun h => ⟨⟨Γ.start σ q, h.1⟩, h.2⟩⟩

@[run_rules] theorem Run.throw {c : ErrCode} :
    Run Γ E p (Parser.throw c : M α) q σ Q ↔ (Γ.strict = true → p ≤ q ∧ q ≤ E.pat.length) :=
  ⟨fun h hs => (h hs).2, fun h hs => ⟨Γ.start σ q, h hs⟩⟩

@[run_rules] theorem Guar.scan_strict : Guar.scan.strict = true := rfl
@[run_rules] theorem Guar.names_strict : Guar.names.strict = true := rfl
@[run_rules] theorem Guar.turn_strict : Guar.turn.strict = false := rfl
attribute [run_rules] true_implies false_implies implies_true

@[run_rules] theorem Run.fault {x : Fault} : Run Γ E p (Parser.fault x : M α) q σ Q ↔ False := Iff.rfl

@[run_rules] theorem Run.ite {c : Prop} [Decidable c] {a b : M α} :
    Run Γ E p (if c then a else b) q σ Q ↔ (c → Run Γ E p a q σ Q) ∧ (¬c → Run Γ E p b q σ Q) := by
  split <;> simp_all

section
variable {f : β → M α}

@[run_rules] theorem Run.charsRight {f : Nat → M α} :
    Run Γ E p (charsRight E >>= f) q σ Q ↔ Run Γ E p (f (E.pat.length - q)) q σ Q := Iff.rfl

@[run_rules] theorem Run.textpos {f : Nat → M α} : Run Γ E p (textpos >>= f) q σ Q ↔ Run Γ E p (f q) q σ Q := Iff.rfl

@[run_rules] theorem Run.rest {f : List Nat → M α} :
    Run Γ E p (rest E >>= f) q σ Q ↔ Run Γ E p (f (E.pat.drop q)) q σ Q := Iff.rfl

@[run_rules] theorem Run.rightChar {i : Nat} {f : Nat → M α} :
    Run Γ E p (rightChar E i >>= f) q σ Q ↔
      q + i < E.pat.length ∧ ∀ c, E.pat[q + i]? = some c → Run Γ E p (f c) q σ Q := by
  unfold Run Run.From
  rw [wp_bind, wp_rightChar]

@[run_rules] theorem Run.moveRightGetChar {f : Nat → M α} :
    Run Γ E p (moveRightGetChar E >>= f) q σ Q ↔
      q < E.pat.length ∧ ∀ c, E.pat[q]? = some c → Run Γ E p (f c) (q + 1) σ Q := by
  unfold Run Run.From
  rw [wp_bind, wp_moveRightGetChar]

/-- `charsRight() > 0 && moveRightGetChar() == c`: the one guard that moves -/
@[run_rules] theorem Run.andM_getIs {a : Prop} [Decidable a] {c : Nat} {f : Bool → M α} :
    Run Γ E p (andM (decide a) (getIs E c) >>= f) q σ Q ↔
      (a → q < E.pat.length ∧ ∀ x, E.pat[q]? = some x → Run Γ E p (f (x == c)) (q + 1) σ Q) ∧
      (¬a → Run Γ E p (f false) q σ Q) := by
  unfold andM getIs
  by_cases ha : a
  · simp only [ha, decide_true, if_true, M.bind_assoc, Run.moveRightGetChar, M.pure_bind, forall_const, not_true_eq_false,
      false_implies, and_true]
  · simp only [ha, decide_false, Bool.false_eq_true, if_false, M.pure_bind, false_implies, not_false_eq_true, forall_const,
      true_and]

@[run_rules] theorem Run.moveRight {i : Nat} {f : Unit → M α} :
    Run Γ E p (moveRight i >>= f) q σ Q ↔ Run Γ E p (f ()) (q + i) σ Q := Iff.rfl

@[run_rules] theorem Run.moveLeft {f : Unit → M α} :
    Run Γ E p (moveLeft >>= f) q σ Q ↔ 0 < q ∧ Run Γ E p (f ()) (q - 1) σ Q := by
  unfold Run Run.From
  rw [wp_bind, wp_moveLeft]

@[run_rules] theorem Run.textto {p' : Nat} {f : Unit → M α} :
    Run Γ E p (textto p' >>= f) q σ Q ↔ Run Γ E p (f ()) p' σ Q := Iff.rfl

@[run_rules] theorem Run.opts {f : Opts → M α} : Run Γ E p (opts >>= f) q σ Q ↔ Run Γ E p (f σ.options) q σ Q := Iff.rfl

@[run_rules] theorem Run.get {f : PS → M α} :
    Run Γ E p (get >>= f) q σ Q ↔ Run Γ E p (f { σ with pos := q }) q σ Q := Iff.rfl

@[run_rules] theorem Run.setOpts {o : Opts} {f : Unit → M α} :
    Run Γ E p (setOpts o >>= f) q σ Q ↔ Run Γ E p (f ()) q { σ with options := o } Q := by
  unfold Run Run.From
  rw [wp_bind, wp_setOpts]
  exact (Run.same (σ := σ) (σ' := { σ with options := o }) rfl Iff.rfl).symm

/-- the only `modify` of the scanners sets `ignoreNextParen` -/
@[run_rules] theorem Run.modify {b : Bool} {f : Unit → M α} :
    Run Γ E p (Parser.modify (fun s => { s with ignoreNextParen := b }) >>= f) q σ Q ↔
      Run Γ E p (f ()) q { σ with ignoreNextParen := b } Q := by
  unfold Run Run.From
  rw [wp_bind, wp_modify]
  exact (Run.same (σ := σ) (σ' := { σ with ignoreNextParen := b }) rfl Iff.rfl).symm

@[run_rules] theorem Run.consumeAutocap {f : Nat → M α} :
    Run Γ E p (consumeAutocap >>= f) q σ Q ↔
      Run Γ E p (f σ.g.autocap) q { σ with g := { σ.g with autocap := σ.g.autocap + 1 } } Q := by
  unfold Run Run.From
  rw [wp_bind, wp_consumeAutocap]
  exact (Run.same (σ := σ) (σ' := { σ with g := { σ.g with autocap := σ.g.autocap + 1 } }) rfl (namesOK_autocap _ _)).symm

@[run_rules] theorem Run.isCaptureSlot {i : Nat} {f : Bool → M α} :
    Run Γ E p (isCaptureSlot i >>= f) q σ Q ↔ Run Γ E p (f (σ.g.caps.contains i)) q σ Q := Iff.rfl

@[run_rules] theorem Run.captureSlotFromName {n : List Nat} {f : Option Nat → M α} :
    Run Γ E p (captureSlotFromName n >>= f) q σ Q ↔
      Run Γ E p (f (σ.g.capnames.bind fun cn => cn.lookup (nameStr n))) q σ Q := Iff.rfl

@[run_rules] theorem Run.hasCapnames {f : Bool → M α} :
    Run Γ E p (hasCapnames >>= f) q σ Q ↔
      Run Γ E p (f (match σ.g.capnames with | some (_ :: _) => true | _ => false)) q σ Q := Iff.rfl

@[run_rules] theorem Run.emptyOptionsStack {f : Bool → M α} :
    Run Γ E p (emptyOptionsStack >>= f) q σ Q ↔ Run Γ E p (f σ.optionsStack.isEmpty) q σ Q := Iff.rfl

/-- a scanner; what follows it is told that the frame is that of `σ` -/
theorem ScansF.run {m : M β} {a k p' : Nat} (hm : ScansF E a k p' m)
    (hs : a ≤ q ∧ q + k ≤ E.pat.length ∧ p ≤ p')
    (hf : ∀ b q' σ', p' ≤ q' → q' ≤ E.pat.length → σ'.frame = σ.frame → Run Γ E p (f b) q' σ' Q) :
    Run Γ E p (m >>= f) q σ Q := by
  unfold Run Run.From at *
  rw [wp_bind]
  refine wp_mono (hm _ hs.1 hs.2.1) (fun b s' h => ?_)
    (fun s' h _ => ⟨Γ.scans h.frame h.names, Nat.le_trans hs.2.2 h.floor, h.inside⟩)
  exact Run.step (Γ.scans h.frame h.names) (hf b s'.pos s' h.floor h.inside h.frame)

theorem ScansK.run {m : M β} {k : Nat} (hm : ScansK E k m) (hs : q + k ≤ E.pat.length ∧ p ≤ q)
    (hf : ∀ b q' σ', q ≤ q' → q' ≤ E.pat.length → σ'.frame = σ.frame → Run Γ E p (f b) q' σ' Q) :
    Run Γ E p (m >>= f) q σ Q :=
  (hm.toF E q).run ⟨Nat.le_refl _, hs⟩ hf

theorem Scans.run {m : M β} (hm : Scans E m) (hs : q ≤ E.pat.length ∧ p ≤ q)
    (hf : ∀ b q' σ', q ≤ q' → q' ≤ E.pat.length → σ'.frame = σ.frame → Run Γ E p (f b) q' σ' Q) :
    Run Γ E p (m >>= f) q σ Q :=
  ScansK.run (k := 0) hm hs hf

theorem ScansLt.run {m : M β} (hm : ScansLt E m) (hs : q < E.pat.length ∧ p ≤ q)
    (hf : ∀ b q' σ', q ≤ q' → q' ≤ E.pat.length → σ'.frame = σ.frame → Run Γ E p (f b) q' σ' Q) :
    Run Γ E p (m >>= f) q σ Q :=
  ScansK.run (k := 1) hm hs hf

theorem ScansBack.run {m : M β} (hm : ScansBack E m) (hs : 1 ≤ q ∧ q ≤ E.pat.length ∧ p ≤ q - 1)
    (hf : ∀ b q' σ', q - 1 ≤ q' → q' ≤ E.pat.length → σ'.frame = σ.frame → Run Γ E p (f b) q' σ' Q) :
    Run Γ E p (m >>= f) q σ Q :=
  (hm.toF E hs.1).run ⟨Nat.le_refl _, hs.2⟩ hf

theorem Run.run {m : M β} {p' : Nat} {Q' : β → PS → Prop} (hm : Run Γ E p' (m >>= Pure.pure) q σ Q') (hp : p ≤ p')
    (hf : ∀ b σ', Q' b σ' → σ'.pos ≤ E.pat.length → Γ.G σ σ' → Run Γ E p (f b) σ'.pos σ' Q) :
    Run Γ E p (m >>= f) q σ Q := by
  have hm := hm.toFrom
  unfold Run Run.From
  rw [wp_bind]
  refine wp_mono hm (fun b s' h => ?_) (fun _ h hs => ⟨(h hs).1, Nat.le_trans hp (h hs).2.1, (h hs).2.2⟩)
  exact Run.step h.1.1 (hf b s' h.2 h.1.2 h.1.1)

/-! ## Computations that stay where they are -/

/-- `m` stays put at `q`: it leaves the state alone and returns a value with `T`, or a Go error (a guard that looks at the
    runes to the right, a choice between values) -/
def Still (q : Nat) (m : M β) (T : β → Prop) : Prop :=
  ∀ s : PS, s.pos = q → (∃ b, m s = .ok b s ∧ T b) ∨ ∃ e, m s = .err e s

/-- what follows a computation that stays put is run once, for any value with `T` -/
theorem Still.run {m : M β} {T : β → Prop} (hm : Still q m T) (hq : p ≤ q ∧ q ≤ E.pat.length)
    (hf : ∀ b, T b → Run Γ E p (f b) q σ Q) : Run Γ E p (m >>= f) q σ Q := by
  unfold Run Run.From at *
  rw [wp_bind]
  unfold Parser.wp
  rcases hm { σ with pos := q } rfl with ⟨b, hb, hT⟩ | ⟨e, he⟩
  · rw [hb]; exact hf b hT
  · rw [he]; exact fun _ => ⟨Γ.start σ q, hq⟩

end

theorem Still.pure {b : β} {T : β → Prop} (h : T b) : Still q (Pure.pure b : M β) T :=
  fun _ _ => .inl ⟨b, rfl, h⟩
theorem Still.throw {e : ErrCode} {T : β → Prop} : Still q (Parser.throw e : M β) T :=
  fun _ _ => .inr ⟨e, rfl⟩
theorem Still.ite {c : Prop} [Decidable c] {a b : M β} {T : β → Prop} (ha : c → Still q a T) (hb : ¬c → Still q b T) :
    Still q (if c then a else b) T := by
  split
  · exact ha ‹_›
  · exact hb ‹_›
/-- `rightChar(i)` if it is there (the rune itself is then tested as a value) -/
theorem Still.rightCharIf {a : Prop} [Decidable a] {i : Nat} (h : a → q + i < E.pat.length) :
    Still q (if a then Parser.rightChar E i else Pure.pure 0) (fun _ => True) := by
  refine .ite (fun ha s hs => ?_) fun _ => .pure trivial
  subst hs
  unfold Parser.rightChar
  rw [List.getElem?_eq_getElem (h ha)]
  exact .inl ⟨_, rfl, trivial⟩

/-- a guard: it leaves the state alone and returns a boolean, `true` only under `T` -/
def Peek (q : Nat) (g : M Bool) (T : Prop) : Prop :=
  ∀ s : PS, s.pos = q → ∃ b, g s = .ok b s ∧ (b = true → T)

theorem Peek.run {g : M Bool} {T : Prop} {f : Bool → M α} (hg : Peek q g T) (hq : p ≤ q ∧ q ≤ E.pat.length)
    (ht : T → Run Γ E p (f true) q σ Q) (hf : Run Γ E p (f false) q σ Q) : Run Γ E p (g >>= f) q σ Q :=
  Still.run (fun s hs => .inl (hg s hs)) hq fun b hb => by cases b; exact hf; exact ht (hb rfl)

theorem Peek.wp {g : M Bool} {T : Prop} {s : PS} (hg : Peek s.pos g T) {Q : Bool → PS → Prop} {R : PS → Prop}
    (h : ∀ b, (b = true → T) → Q b s) : wp g Q R s := by
  obtain ⟨b, hb, hT⟩ := hg s rfl
  unfold Parser.wp
  rw [hb]
  exact h b hT

theorem Peek.mono {g : M Bool} {T T' : Prop} (h : Peek q g T) (hT : T → T') : Peek q g T' :=
  fun s hs => let ⟨b, hb, ht⟩ := h s hs; ⟨b, hb, fun x => hT (ht x)⟩

theorem Peek.pure_false {T : Prop} : Peek q (Pure.pure false) T := fun _ _ => ⟨false, rfl, fun x => nomatch x⟩

theorem Peek.rc {k : Nat} {t : Nat → Bool} (h : q + k < E.pat.length) :
    Peek q (rightChar E k >>= fun x => Pure.pure (t x)) (∃ x, E.pat[q + k]? = some x ∧ t x = true) := by
  intro s hs
  subst hs
  refine ⟨t E.pat[s.pos + k], ?_, fun hb => ⟨_, List.getElem?_eq_getElem h, hb⟩⟩
  show M.bind (rightChar E k) _ s = _
  unfold M.bind rightChar
  rw [List.getElem?_eq_getElem h]; rfl

theorem Peek.rcIs {k c : Nat} (h : q + k < E.pat.length) : Peek q (Parser.rcIs E k c) (E.pat[q + k]? = some c) :=
  (Peek.rc h).mono fun ⟨_, hx, hb⟩ => by rw [hx, beq_iff_eq.mp hb]

theorem Peek.rcNe {k c : Nat} (h : q + k < E.pat.length) : Peek q (Parser.rcNe E k c) True :=
  (Peek.rc h).mono fun _ => trivial

theorem Peek.andM {a : Prop} [Decidable a] {g : M Bool} {T : Prop} (h : a → Peek q g T) :
    Peek q (Parser.andM (decide a) g) (a ∧ T) := by
  unfold Parser.andM
  by_cases ha : a
  · simpa [ha] using (h ha).mono fun hT => hT
  · simpa [ha] using Peek.pure_false

theorem Peek.andMM {g1 g2 : M Bool} {T1 T2 : Prop} (h1 : Peek q g1 T1) (h2 : T1 → Peek q g2 T2) :
    Peek q (Parser.andMM g1 g2) (T1 ∧ T2) := by
  intro s hs
  obtain ⟨b1, hb1, hT1⟩ := h1 s hs
  have e : Parser.andMM g1 g2 s = (if b1 = true then g2 else Pure.pure false) s := by
    show M.bind g1 _ s = _
    unfold M.bind; rw [hb1]
  rw [e]
  cases b1
  · exact Peek.pure_false s hs
  · exact (h2 (hT1 rfl)).mono (fun hT => ⟨hT1 rfl, hT⟩) s hs

/-- `nextIs` guards itself -/
theorem Peek.nextIs {c : Nat} : Peek q (Parser.nextIs E c) (q < E.pat.length) := by
  intro s hs
  subst hs
  have e : Parser.nextIs E c s = (if E.pat.length - s.pos > 0 then Parser.rcIs E 0 c else Pure.pure false) s := rfl
  rw [e]
  split
  · exact (Peek.rcIs (k := 0) (c := c) (by omega)).mono (fun _ => by omega) s rfl
  · exact Peek.pure_false s rfl

attribute [irreducible] Run

/-- the loop rule of the calculus, for a loop in last position: a turn that goes on has moved forward -/
theorem Run.iter {f : β → M (Sum β γ)} {p q0 : Nat} {Q : γ → PS → Prop}
    (hstep : ∀ b q σ, q0 ≤ q → q ≤ E.pat.length →
      Run Γ E p (f b >>= Pure.pure) q σ (fun r s' => match r with | .inl _ => q < s'.pos | .inr c => Q c s'))
    (n : Nat) (b : β) (q : Nat) (σ : PS) (hn : E.pat.length - q < n) (hq : q0 ≤ q) (hl : q ≤ E.pat.length) :
    Run Γ E p (iter f n b >>= Pure.pure) q σ Q := by
  unfold Run Run.From
  rw [wp_bind]
  refine wp_iter E f (fun _ s' => Γ.G σ s' ∧ q0 ≤ s'.pos ∧ s'.pos ≤ E.pat.length) _ _ ?_ n b _ hn ⟨Γ.start σ q, hq, hl⟩
  intro b s h
  refine wp_mono (Run.step h.1 (hstep b s.pos s h.2.1 h.2.2).toFrom) ?_ (fun _ h' => h')
  intro r s' ⟨h', hr⟩
  cases r with
  | inl b' =>
    dsimp only at hr ⊢
    exact ⟨⟨h'.1, by omega, h'.2⟩, by omega⟩
  | inr c => exact ⟨h', hr⟩

/-! ## Updates that only one guarantee allows

The pre-scan pushes and pops options; the pieces of a turn move the unit into the concatenation.  `Guar.names` and
`Guar.turn` do not look at these fields, which are tracked in `σ` like the options.  The rules hold for one guarantee and
in one direction (a pop of an empty stack and a nil unit are faults), so they are not `run_rules`: applied by name. -/

section
variable {f : Unit → M α}

theorem Run.names_pushOptions
    (h : Run .names E p (f ()) q { σ with optionsStack := σ.options :: σ.optionsStack } Q) :
    Run .names E p (pushOptions >>= f) q σ Q := by
  unfold Run Run.From at *
  rw [wp_bind, wp_pushOptions]
  exact h

theorem Run.names_popKeepOptions (hne : σ.optionsStack ≠ [])
    (h : Run .names E p (f ()) q { σ with optionsStack := σ.optionsStack.tail } Q) :
    Run .names E p (popKeepOptions >>= f) q σ Q := by
  unfold Run Run.From at *
  rw [wp_bind, wp_popKeepOptions]
  exact ⟨hne, h⟩

theorem Run.names_popOptions (hne : σ.optionsStack ≠ [])
    (h : ∀ o, Run .names E p (f ()) q { σ with options := o, optionsStack := σ.optionsStack.tail } Q) :
    Run .names E p (popOptions >>= f) q σ Q := by
  unfold Run Run.From at *
  rw [wp_bind, wp_popOptions]
  exact ⟨hne, fun o _ => h o⟩

theorem Run.turn_addConcatenate (hu : σ.unit.isSome = true)
    (h : ∀ u, σ.unit = some u →
      Run .turn E p (f ()) q { σ with concatenation := σ.concatenation.addChild u, unit := none } Q) :
    Run .turn E p (addConcatenate >>= f) q σ Q := by
  unfold Run Run.From at *
  rw [wp_bind, wp_addConcatenate]
  exact ⟨hu, h⟩

theorem Run.turn_addConcatenate3 {lazy : Bool} {mn mx : Nat} (hu : σ.unit.isSome = true)
    (h : ∀ u, σ.unit = some u →
      Run .turn E p (f ()) q { σ with concatenation := σ.concatenation.addChild (makeQuantifier u lazy mn mx), unit := none } Q) :
    Run .turn E p (addConcatenate3 lazy mn mx >>= f) q σ Q := by
  unfold Run Run.From at *
  rw [wp_bind, wp_addConcatenate3]
  exact ⟨hu, h⟩

end

/-- a call of a program that only moves the position, by a specification that says where it may end (and nothing of
    errors) -/
theorem Run.moves {m : M β} {f : β → M α} {T : β → Nat → Prop} (hst : Γ.strict = false)
    (hm : ∀ Q' : β → PS → Prop, (∀ b p', T b p' → Q' b { σ with pos := p' }) →
      wp m Q' (fun _ => True) { σ with pos := q })
    (hf : ∀ b p', T b p' → Run Γ E p (f b) p' σ Q) : Run Γ E p (m >>= f) q σ Q := by
  unfold Run Run.From at *
  rw [wp_bind]
  exact wp_mono (hm _ hf) (fun _ _ h => h) (fun _ _ hs => by rw [hst] at hs; cases hs)

/-! ## The steps of a proof -/

/-- run the program up to the calls, guards and updates on every path; split the result into its cases, close the
    arithmetic.  The hypotheses of a path come without names (`rename_i` where one is passed on). -/
macro "run_steps" : tactic =>
  `(tactic| (simp -failIfUnchanged only [run_rules]; repeat' (first | intro _ | apply And.intro | omega)))

/-- call a scanner by its specification, go on -/
macro "run_call " c:term : tactic => `(tactic| (refine ($c).run (by omega) ?_; run_steps))

/-- a computation that stays put, by its `Still` fact; go on -/
macro "run_still " c:term : tactic => `(tactic| (refine Still.run $c (by omega) ?_; run_steps))

/-- a guard, by its `Peek` fact; go on in both cases -/
macro "run_peek " c:term : tactic => `(tactic| (refine Peek.run $c (by omega) ?_ ?_ <;> run_steps))

end RegexVerif.Parser
