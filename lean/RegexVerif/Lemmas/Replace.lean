/-
Lemmas about `RegexVerif.Model.Replace` (C09).
* The drivers: the loops of replace.go are one shape, `IsLoop` (a step per match, a finish), so the fold over the
  match sequence (`spec_ltr`, `spec_rtl`) and the comparison of two loops (`IsLoop.mono`, `.congr`) are proved once;
  `frame` is what `replace` and `replaceFunc` do around their loop.  `Split`'s loop counts differently and is folded
  directly (`splitLoop_ltr`, `splitLoop_rtl`).
* The replacement parser: every node `scanDollar` returns satisfies `RefOk` (a reference names a capture slot or a
  special; `ScanOk`, `scanLoop_ok`); `NewReplacerData` keeps its string table and rules well formed (`RulesWF`, through
  the invariant principle `buildData_inv`), and its integer rules decode to the pieces `piecesOf` reads off the
  scanned nodes (`buildData_pieces`).  A scanned reference `Tok.ref n` holds a group NUMBER (or a special, `n < 0`),
  a piece `Piece.group s` a capture SLOT; `refPiece` takes the one to the other through `slotOf env`.  `RefOk`,
  `piecesOf`, `refPiece` are defined here; `Props.C09.parse_denotes` is stated with them.
`Env` is `Replace.Env`, the tables of the regex the scanner consults — not `Spec.Env` (text and oracles).
-/
import RegexVerif.Model.Replace
import RegexVerif.Lemmas.Ite

namespace RegexVerif.Lemmas.Replace
open RegexVerif.Replace

/-! ### slices, valid (ordered, disjoint, in-bounds) match sequences, the specification `specBetween` -/

theorem slice_self (text : List Nat) (a : Nat) : slice text a a = [] := by
  simp [slice]

theorem slice_to_end (text : List Nat) (p : Nat) : slice text p text.length = text.drop p :=
  List.take_of_length_le (by simp)

theorem slice_zero_length (text : List Nat) : slice text 0 text.length = text :=
  slice_to_end text 0

theorem slice_zero (text : List Nat) (b : Nat) : slice text 0 b = text.take b := rfl

theorem slice_append (text : List Nat) (a b c : Nat) (hab : a ≤ b) (hbc : b ≤ c) :
    slice text a b ++ slice text b c = slice text a c := by
  obtain ⟨i, rfl⟩ := Nat.exists_eq_add_of_le hab
  obtain ⟨j, rfl⟩ := Nat.exists_eq_add_of_le hbc
  simp only [slice, Nat.add_sub_cancel_left]
  rw [Nat.add_assoc, Nat.add_sub_cancel_left, List.take_add, List.drop_drop]

theorem sliceLoop_ok (text : List Nat) (a b : Nat) (hb : b ≤ text.length) :
    sliceLoop text a b = some (slice text a b) :=
  if_neg fun h => Nat.not_lt.mpr hb h.2

theorem sliceExpr_ok (text : List Nat) (a b : Nat) (hab : a ≤ b) (hb : b ≤ text.length) :
    sliceExpr text a b = some (slice text a b) :=
  if_pos ⟨hab, hb⟩

theorem validFrom_cons_iff {n pos : Nat} {m : Match} {rest : List Match} :
    validFrom n pos (m :: rest) = true ↔ pos ≤ m.index ∧ validFrom n (m.index + m.len) rest = true := by
  simp only [validFrom, Bool.and_eq_true, decide_eq_true_eq]

theorem validFrom_le (n : Nat) : ∀ (ms : List Match) (pos : Nat), validFrom n pos ms = true → pos ≤ n := by
  intro ms
  induction ms with
  | nil => intro pos h; exact of_decide_eq_true h
  | cons m rest ih =>
    intro pos h
    have hc := validFrom_cons_iff.mp h
    exact Nat.le_trans hc.1 (Nat.le_trans (Nat.le_add_right _ _) (ih _ hc.2))

theorem validFrom_cons {n pos : Nat} {m : Match} {rest : List Match} (h : validFrom n pos (m :: rest) = true) :
    pos ≤ m.index ∧ m.index + m.len ≤ n ∧ validFrom n (m.index + m.len) rest = true :=
  have hc := validFrom_cons_iff.mp h
  ⟨hc.1, validFrom_le n rest _ hc.2, hc.2⟩

theorem validFrom_take (n : Nat) : ∀ (ms : List Match) (pos k : Nat), validFrom n pos ms = true →
    validFrom n pos (ms.take k) = true := by
  intro ms
  induction ms with
  | nil => intro pos k h; rw [List.take_nil]; exact h
  | cons m rest ih =>
    intro pos k h
    cases k with
    | zero => exact decide_eq_true (validFrom_le n _ _ h)
    | succ k =>
      have hc := validFrom_cons_iff.mp h
      exact validFrom_cons_iff.mpr ⟨hc.1, ih _ k hc.2⟩

theorem validFrom_snoc (n k : Nat) (m : Match) : ∀ (xs : List Match) (pos : Nat),
    validFrom k pos xs = true → k ≤ m.index → m.index + m.len ≤ n → validFrom n pos (xs ++ [m]) = true := by
  intro xs
  induction xs with
  | nil => intro pos h hk hn; exact validFrom_cons_iff.mpr ⟨Nat.le_trans (of_decide_eq_true h) hk, decide_eq_true hn⟩
  | cons x xs ih =>
    intro pos h hk hn
    have hc := validFrom_cons_iff.mp h
    exact validFrom_cons_iff.mpr ⟨hc.1, ih _ hc.2 hk hn⟩

theorem validDesc_cons {prior : Nat} {m : Match} {rest : List Match} :
    validDesc prior (m :: rest) = true ↔ m.index + m.len ≤ prior ∧ validDesc m.index rest = true := by
  simp only [validDesc, Bool.and_eq_true, decide_eq_true_eq]

theorem validDesc_take : ∀ (ms : List Match) (prior k : Nat), validDesc prior ms = true →
    validDesc prior (ms.take k) = true := by
  intro ms
  induction ms with
  | nil => intro prior k h; rw [List.take_nil]; exact h
  | cons m rest ih =>
    intro prior k h
    cases k with
    | zero => rfl
    | succ k =>
      have hc := validDesc_cons.mp h
      exact validDesc_cons.mpr ⟨hc.1, ih _ k hc.2⟩

theorem validDesc_reverse : ∀ (ms : List Match) (prior : Nat), validDesc prior ms = true →
    validFrom prior 0 ms.reverse = true := by
  intro ms
  induction ms with
  | nil => intro prior _; exact decide_eq_true (Nat.zero_le _)
  | cons m rest ih =>
    intro prior h
    have hc := validDesc_cons.mp h
    rw [List.reverse_cons]
    exact validFrom_snoc prior m.index m rest.reverse 0 (ih _ hc.2) (Nat.le_refl _) hc.1

theorem takeCount_nil (count : Int) : takeCount count [] = [] := by
  unfold takeCount; split
  · rfl
  · exact List.take_nil

theorem takeCount_zero (ms : List Match) : takeCount 0 ms = [] := by
  rw [takeCount, if_neg (by decide)]; rfl

theorem toNat_pred (count : Int) (h : 0 < count) : count.toNat = (count - 1).toNat + 1 := by
  obtain ⟨k, rfl⟩ := Int.eq_succ_of_zero_lt h
  rw [Int.toNat_natCast_add_one, Int.add_sub_cancel, Int.toNat_natCast]

theorem takeCount_cons (count : Int) (hc : count ≠ 0) (m : Match) (rest : List Match) :
    takeCount count (m :: rest) = m :: takeCount (count - 1) rest := by
  unfold takeCount
  by_cases h : count < 0
  · rw [if_pos h, if_pos (Int.lt_of_le_of_lt (Int.sub_le_self count (by decide)) h)]
  · have hpos : 0 < count := by omega
    have h1 : ¬ count - 1 < 0 := Int.not_lt.mpr (Int.sub_nonneg_of_le hpos)
    rw [if_neg h, if_neg h1, toNat_pred count hpos, List.take_succ_cons]

theorem takeCount_eq_take (count : Int) (ms : List Match) :
    takeCount count ms = ms.take (if count < 0 then ms.length else count.toNat) := by
  unfold takeCount; split
  · exact List.take_length.symm
  · rfl

theorem specBetween_snoc (text : List Nat) (f : Match → List Nat) (m : Match) (hi : Nat) :
    ∀ (xs : List Match) (pos : Nat),
      specBetween text f pos (xs ++ [m]) hi
        = specBetween text f pos xs m.index ++ f m ++ slice text (m.index + m.len) hi := by
  intro xs
  induction xs with
  | nil => intro pos; rfl
  | cons x xs ih => intro pos; simp only [List.cons_append, specBetween, ih, List.append_assoc]

theorem slice_matchText (text : List Nat) (pos hi : Nat) (m : Match) (h1 : pos ≤ m.index) (h2 : m.index + m.len ≤ hi) :
    slice text pos m.index ++ matchText text m ++ slice text (m.index + m.len) hi = slice text pos hi := by
  rw [matchText, slice_append text pos _ _ h1 (Nat.le_add_right _ _),
    slice_append text pos _ hi (Nat.le_trans h1 (Nat.le_add_right _ _)) h2]

theorem specBetween_id (text : List Nat) (hi : Nat) : ∀ (ms : List Match) (pos : Nat),
    validFrom hi pos ms = true → specBetween text (matchText text) pos ms hi = slice text pos hi := by
  intro ms
  induction ms with
  | nil => intro pos _; rfl
  | cons m rest ih =>
    intro pos h
    obtain ⟨h1, h2, h3⟩ := validFrom_cons h
    rw [specBetween, ih _ h3, slice_matchText text pos hi m h1 h2]

theorem spec_eq_interleave (text : List Nat) (f : Match → List Nat) : ∀ (ms : List Match) (pos : Nat),
    specBetween text f pos ms text.length = interleave (gaps text pos ms) (ms.map f) := by
  intro ms
  induction ms with
  | nil => intro pos; simp [specBetween, gaps, interleave, slice_to_end]
  | cons m rest ih => intro pos; simp [specBetween, gaps, interleave, ih]

theorem expand_self (text : List Nat) (m : Match) : expand [Piece.group 0] text m = matchText text m :=
  List.append_nil _


/-! ### the replace loops

The loops of replace.go — rules or evaluator, either direction, here and in `Model/ReplaceStrict.lean` — walk the
match list with a position and an accumulator, and differ in what one iteration appends. -/

/-- `L` walks the match list as the loops of replace.go do: `step` for each match (`none` = panic) and on
    to position `next m`; `fin` behind the last match or when the count is used up -/
structure IsLoop {β ρ : Type} (next : Match → Nat) (step : Match → Nat → β → Option β) (fin : Nat → β → Option ρ)
    (L : List Match → Nat → β → Int → Option ρ) : Prop where
  nil : ∀ p b c, L [] p b c = fin p b
  cons : ∀ m rest p b c, L (m :: rest) p b c =
    match step m p b with
    | none => none
    | some b' => if c - 1 = 0 then fin (next m) b' else L rest (next m) b' (c - 1)

namespace IsLoop
variable {β ρ : Type} {next : Match → Nat} {step step' : Match → Nat → β → Option β} {fin : Nat → β → Option ρ}
  {L L' : List Match → Nat → β → Int → Option ρ}

theorem cons_some (h : IsLoop next step fin L) {m : Match} {p : Nat} {b b' : β} (rest : List Match) (c : Int)
    (hs : step m p b = some b') :
    L (m :: rest) p b c = if c - 1 = 0 then fin (next m) b' else L rest (next m) b' (c - 1) := by
  rw [h.cons, hs]

theorem cons_none (h : IsLoop next step fin L) {m : Match} {p : Nat} {b : β} (rest : List Match) (c : Int)
    (hs : step m p b = none) : L (m :: rest) p b c = none := by
  rw [h.cons, hs]

theorem mono (h : IsLoop next step fin L) (h' : IsLoop next step' fin L') :
    ∀ (ms : List Match) (p : Nat) (b : β) (c : Int) (r : ρ),
      (∀ m ∈ ms, ∀ p b b', step m p b = some b' → step' m p b = some b') → L ms p b c = some r → L' ms p b c = some r := by
  intro ms
  induction ms with
  | nil => intro p b c r _; rw [h.nil, h'.nil]; exact id
  | cons m rest ih =>
    intro p b c r hs
    cases hst : step m p b with
    | none => rw [h.cons_none rest c hst]; nofun
    | some b' =>
      rw [h.cons_some rest c hst, h'.cons_some rest c (hs m List.mem_cons_self p b b' hst)]
      split
      · exact id
      · exact ih _ _ _ _ fun x hx => hs x (List.mem_cons_of_mem _ hx)

theorem congr (h : IsLoop next step fin L) (h' : IsLoop next step' fin L') (ms : List Match) (p : Nat) (b : β) (c : Int)
    (hs : ∀ m ∈ ms, ∀ p b, step m p b = step' m p b) : L ms p b c = L' ms p b c :=
  Option.ext fun r => ⟨h.mono h' ms p b c r fun m hm p b _ e => hs m hm p b ▸ e,
    h'.mono h ms p b c r fun m hm p b _ e => (hs m hm p b).symm ▸ e⟩

end IsLoop

/-- one iteration left to right: the kept text before the match, written by `gap` unless empty, then
    what `ex` gives for the match -/
def stepL (gap : Nat → Nat → Option (List Nat)) (ex : Match → Option (List Nat)) (m : Match) (prevat : Nat)
    (buf : List Nat) : Option (List Nat) :=
  match (if m.index ≠ prevat then gap prevat m.index else some []) with
  | none => none
  | some g => (ex m).map (buf ++ g ++ ·)

/-- one iteration right to left: the kept text behind the match, unless empty, is pushed on the list,
    then the entries `exR` gives for the match -/
def stepR (text : List Nat) (exR : Match → Option (List (List Nat))) (m : Match) (prevat : Nat)
    (al : List (List Nat)) : Option (List (List Nat)) :=
  match (if m.index + m.len ≠ prevat then (sliceExpr text (m.index + m.len) prevat).map (fun g => al ++ [g])
    else some al) with
  | none => none
  | some al => (exR m).map (al ++ ·)

theorem stepL_congr {gap : Nat → Nat → Option (List Nat)} {ex ex' : Match → Option (List Nat)} {m : Match}
    (h : ex m = ex' m) (p : Nat) (buf : List Nat) : stepL gap ex m p buf = stepL gap ex' m p buf := by
  unfold stepL; rw [h]

theorem stepR_congr {text : List Nat} {exR exR' : Match → Option (List (List Nat))} {m : Match}
    (h : exR m = exR' m) (p : Nat) (al : List (List Nat)) : stepR text exR m p al = stepR text exR' m p al := by
  unfold stepR; rw [h]

theorem stepL_mono {gap : Nat → Nat → Option (List Nat)} {ex ex' : Match → Option (List Nat)} {m : Match}
    (h : ∀ x, ex m = some x → ex' m = some x) (p : Nat) (b b' : List Nat) :
    stepL gap ex m p b = some b' → stepL gap ex' m p b = some b' := by
  unfold stepL
  split
  · exact id
  · cases hx : ex m with
    | none => nofun
    | some x => rw [h x hx]; exact id

theorem stepR_mono {text : List Nat} {exR exR' : Match → Option (List (List Nat))} {m : Match}
    (h : ∀ x, exR m = some x → exR' m = some x) (p : Nat) (b b' : List (List Nat)) :
    stepR text exR m p b = some b' → stepR text exR' m p b = some b' := by
  unfold stepR
  split
  · exact id
  · cases hx : exR m with
    | none => nofun
    | some x => rw [h x hx]; exact id

theorem stepL_none {gap : Nat → Nat → Option (List Nat)} {ex : Match → Option (List Nat)} {m : Match}
    (h : ex m = none) (p : Nat) (buf : List Nat) : stepL gap ex m p buf = none := by
  unfold stepL; rw [h]; split <;> rfl

theorem stepR_none {text : List Nat} {exR : Match → Option (List (List Nat))} {m : Match}
    (h : exR m = none) (p : Nat) (al : List (List Nat)) : stepR text exR m p al = none := by
  unfold stepR; rw [h]; split <;> rfl

theorem isLoop_LTR (text : List Nat) (pieces : List Piece) :
    IsLoop (fun m => m.index + m.len) (stepL (sliceLoop text) fun m => some (expand pieces text m)) (finishLTR text)
      (loopLTR text pieces) where
  nil _ _ _ := rfl
  cons m rest p b c := by
    rw [loopLTR, stepL]
    generalize (if m.index ≠ p then _ else _) = g
    cases g <;> rfl

theorem isLoop_FuncLTR (text : List Nat) (ev : Match → List Nat) :
    IsLoop (fun m => m.index + m.len) (stepL (sliceExpr text) fun m => some (ev m)) (finishFuncLTR text)
      (loopFuncLTR text ev) where
  nil _ _ _ := rfl
  cons m rest p b c := by
    rw [loopFuncLTR, stepL]
    generalize (if m.index ≠ p then _ else _) = g
    cases g <;> rfl

theorem isLoop_RTL (text : List Nat) (pieces : List Piece) :
    IsLoop (·.index) (stepR text fun m => some (pieces.reverse.map (pieceText text m))) (finishRTL text)
      (loopRTL text pieces) where
  nil _ _ _ := rfl
  cons m rest p b c := by
    rw [loopRTL, stepR]
    generalize (if m.index + m.len ≠ p then _ else _) = g
    cases g <;> rfl

theorem isLoop_FuncRTL (text : List Nat) (ev : Match → List Nat) :
    IsLoop (·.index) (stepR text fun m => some [ev m]) (finishFuncRTL text) (loopFuncRTL text ev) where
  nil _ _ _ := rfl
  cons m rest p b c := by
    rw [loopFuncRTL, stepR]
    generalize (if m.index + m.len ≠ p then _ else _) = g
    cases g <;> rfl

/-! on an ordered, disjoint, in-bounds sequence every slice of the loops is in range -/

theorem stepL_ok (text : List Nat) (gap : Nat → Nat → Option (List Nat)) (f : Match → List Nat) (m : Match)
    (p : Nat) (buf : List Nat) (hgap : gap p m.index = some (slice text p m.index)) :
    stepL gap (fun m => some (f m)) m p buf = some (buf ++ slice text p m.index ++ f m) := by
  unfold stepL
  by_cases he : m.index = p
  · rw [if_neg (not_not_intro he), ← he, slice_self]; rfl
  · rw [if_pos he, hgap]; rfl

/-- the entries a right-to-left iteration pushes, read in text order: the match's own (`f m` when
    flattened), then the kept text behind it -/
theorem stepR_ok (text : List Nat) (g : Match → List (List Nat)) (f : Match → List Nat)
    (hg : ∀ m, (g m).reverse.flatten = f m) (m : Match) (p : Nat) (al : List (List Nat))
    (hs : m.index + m.len ≤ p) (hp : p ≤ text.length) :
    ∃ al', stepR text (fun m => some (g m)) m p al = some al' ∧
      al'.reverse.flatten = f m ++ slice text (m.index + m.len) p ++ al.reverse.flatten := by
  unfold stepR
  by_cases he : m.index + m.len = p
  · rw [if_neg (not_not_intro he), ← he, slice_self]
    exact ⟨_, rfl, by simp [hg]⟩
  · rw [if_pos he, sliceExpr_ok text _ p hs hp]
    exact ⟨_, rfl, by simp [hg]⟩

theorem expand_eq_flatten_reverse (pieces : List Piece) (text : List Nat) (m : Match) :
    (pieces.reverse.map (pieceText text m)).reverse.flatten = expand pieces text m := by
  simp [expand, List.flatMap_def]

theorem finishLTR_ok (text : List Nat) (prevat : Nat) (buf : List Nat) (h : prevat ≤ text.length) :
    finishLTR text prevat buf = some (buf ++ slice text prevat text.length) := by
  unfold finishLTR
  by_cases hlt : prevat < text.length
  · rw [if_pos hlt, sliceLoop_ok text prevat _ (Nat.le_refl _)]; rfl
  · rw [if_neg hlt, Nat.le_antisymm h (Nat.not_lt.mp hlt), slice_self, List.append_nil]

theorem finishFuncLTR_ok (text : List Nat) (prevat : Nat) (buf : List Nat) (h : prevat ≤ text.length) :
    finishFuncLTR text prevat buf = some (buf ++ slice text prevat text.length) := by
  unfold finishFuncLTR
  by_cases hlt : prevat < text.length
  · rw [if_pos hlt, sliceExpr_ok text prevat _ h (Nat.le_refl _)]; rfl
  · rw [if_neg hlt, Nat.le_antisymm h (Nat.not_lt.mp hlt), slice_self, List.append_nil]

theorem finishRTL_ok (text : List Nat) (prevat : Nat) (al : List (List Nat)) (h : prevat ≤ text.length) :
    finishRTL text prevat al = some (slice text 0 prevat ++ al.reverse.flatten) := by
  unfold finishRTL
  by_cases hp : prevat > 0
  · rw [if_pos hp, sliceLoop_ok text 0 prevat h]; rfl
  · rw [if_neg hp, Nat.eq_zero_of_not_pos hp]; rfl

theorem finishFuncRTL_ok (text : List Nat) (prevat : Nat) (al : List (List Nat)) (h : prevat ≤ text.length) :
    finishFuncRTL text prevat al = some (slice text 0 prevat ++ al.reverse.flatten) := by
  unfold finishFuncRTL
  by_cases hp : prevat > 0
  · rw [if_pos hp, sliceExpr_ok text 0 prevat (Nat.zero_le _) h]; rfl
  · rw [if_neg hp, Nat.eq_zero_of_not_pos hp]; rfl

theorem spec_ltr (text : List Nat) (f : Match → List Nat) {step : Match → Nat → List Nat → Option (List Nat)}
    {fin : Nat → List Nat → Option (List Nat)} {L : List Match → Nat → List Nat → Int → Option (List Nat)}
    (h : IsLoop (fun m => m.index + m.len) step fin L)
    (hstep : ∀ m p buf, p ≤ m.index → m.index ≤ text.length → step m p buf = some (buf ++ slice text p m.index ++ f m))
    (hfin : ∀ p buf, p ≤ text.length → fin p buf = some (buf ++ slice text p text.length)) :
    ∀ (ms : List Match) (p : Nat) (buf : List Nat) (c : Int), c ≠ 0 → validFrom text.length p ms = true →
      L ms p buf c = some (buf ++ specBetween text f p (takeCount c ms) text.length) := by
  intro ms
  induction ms with
  | nil =>
    intro p buf c _ hv
    rw [h.nil, hfin p buf (validFrom_le _ _ _ hv), takeCount_nil]; rfl
  | cons m rest ih =>
    intro p buf c hc hv
    obtain ⟨hp, hstop, hrest⟩ := validFrom_cons hv
    rw [h.cons_some rest c (hstep m p buf hp (Nat.le_trans (Nat.le_add_right _ _) hstop)), takeCount_cons c hc]
    split
    · rename_i h1
      rw [hfin _ _ hstop, h1, takeCount_zero]
      simp only [specBetween, List.append_assoc]
    · rename_i h1
      rw [ih _ _ _ h1 hrest]
      simp only [specBetween, List.append_assoc]

theorem spec_rtl (text : List Nat) (f : Match → List Nat) {step : Match → Nat → List (List Nat) → Option (List (List Nat))}
    {fin : Nat → List (List Nat) → Option (List Nat)} {L : List Match → Nat → List (List Nat) → Int → Option (List Nat)}
    (h : IsLoop (·.index) step fin L)
    (hstep : ∀ m p al, m.index + m.len ≤ p → p ≤ text.length → ∃ al', step m p al = some al' ∧
      al'.reverse.flatten = f m ++ slice text (m.index + m.len) p ++ al.reverse.flatten)
    (hfin : ∀ p al, p ≤ text.length → fin p al = some (slice text 0 p ++ al.reverse.flatten)) :
    ∀ (ms : List Match) (p : Nat) (al : List (List Nat)) (c : Int), c ≠ 0 → validDesc p ms = true → p ≤ text.length →
      L ms p al c = some (specBetween text f 0 (takeCount c ms).reverse p ++ al.reverse.flatten) := by
  intro ms
  induction ms with
  | nil =>
    intro p al c _ _ hp
    rw [h.nil, hfin p al hp, takeCount_nil]; rfl
  | cons m rest ih =>
    intro p al c hc hv hp
    obtain ⟨hstop, hrest⟩ := validDesc_cons.mp hv
    have hidx : m.index ≤ text.length := Nat.le_trans (Nat.le_trans (Nat.le_add_right _ _) hstop) hp
    obtain ⟨al', hs, hflat⟩ := hstep m p al hstop hp
    rw [h.cons_some rest c hs, takeCount_cons c hc, List.reverse_cons, specBetween_snoc]
    split
    · rename_i h1
      rw [hfin _ _ hidx, hflat, h1, takeCount_zero]
      simp only [List.reverse_nil, specBetween, List.append_assoc]
    · rename_i h1
      rw [ih _ _ _ h1 hrest hidx, hflat]
      simp only [List.append_assoc]


/-- `spec_rtl` from the end of the text with nothing collected: the form `replaceRunnerRTL` and the evaluator loop start in -/
theorem spec_rtl_whole (text : List Nat) (f : Match → List Nat) {step : Match → Nat → List (List Nat) → Option (List (List Nat))}
    {fin : Nat → List (List Nat) → Option (List Nat)} {L : List Match → Nat → List (List Nat) → Int → Option (List Nat)}
    (h : IsLoop (·.index) step fin L)
    (hstep : ∀ m p al, m.index + m.len ≤ p → p ≤ text.length → ∃ al', step m p al = some al' ∧
      al'.reverse.flatten = f m ++ slice text (m.index + m.len) p ++ al.reverse.flatten)
    (hfin : ∀ p al, p ≤ text.length → fin p al = some (slice text 0 p ++ al.reverse.flatten))
    (ms : List Match) (c : Int) (hc : c ≠ 0) (hv : validDesc text.length ms = true) :
    L ms text.length [] c = some (spec text (takeCount c ms).reverse f) :=
  (spec_rtl text f h hstep hfin ms text.length [] c hc hv (Nat.le_refl _)).trans
    (by rw [List.reverse_nil, List.flatten_nil, List.append_nil]; rfl)

/-- what `replace` does around its loop, whose result is `o`: a count below -1 is an error, a count of 0
    and an empty match sequence return the input.  `replace`, `replaceFunc`, `replaceWith` and
    `replaceFuncStrict` are `frame` of their loop by unfolding. -/
def frame (text : List Nat) (ms : List Match) (count : Int) (o : Option (List Nat)) : Res (List Nat) :=
  if count < -1 then .err
  else if count = 0 then .ok text
  else match ms with
    | [] => .ok text
    | _ => .ofOption o

/-- `order` is the order in which the processed matches are read (the identity or `reverse`) -/
theorem frame_spec {text : List Nat} {ms : List Match} {count : Int} {o : Option (List Nat)} (f : Match → List Nat)
    (order : List Match → List Match) (horder : order [] = []) (hc : -1 ≤ count)
    (ho : count ≠ 0 → o = some (spec text (order (takeCount count ms)) f)) :
    frame text ms count o = .ok (spec text (order (takeCount count ms)) f) := by
  have hnone : Res.ok text = .ok (spec text (order []) f) := by rw [horder, spec, specBetween, slice_zero_length]
  unfold frame
  rw [if_neg (Int.not_lt.mpr hc)]
  by_cases h0 : count = 0
  · rw [if_pos h0, h0, takeCount_zero]; exact hnone
  · rw [if_neg h0]
    cases ms with
    | nil => rw [takeCount_nil]; exact hnone
    | cons m rest => rw [ho h0]; rfl

theorem frame_mono {text : List Nat} {ms : List Match} {count : Int} {o o' : Option (List Nat)}
    (ho : ∀ r, o = some r → o' = some r) (h : frame text ms count o ≠ .panic) :
    frame text ms count o = frame text ms count o' := by
  cases o with
  | some r => rw [ho r rfl]
  | none =>
    unfold frame at h ⊢
    by_cases h1 : count < -1
    · rw [if_pos h1, if_pos h1]
    by_cases h0 : count = 0
    · rw [if_neg h1, if_neg h1, if_pos h0, if_pos h0]
    cases ms with
    | nil => rfl
    | cons m rest => rw [if_neg h1, if_neg h0] at h; exact absurd rfl h

/-! ### `Split`: its loop folded directly, and the pieces re-joined -/

theorem splitSpec_snoc (text : List Nat) (capf : Match → List (List Nat)) (m : Match) (hi : Nat) :
    ∀ (xs : List Match) (pos : Nat),
      splitSpec text capf pos (xs ++ [m]) hi
        = splitSpec text capf pos xs m.index ++ capf m ++ [slice text (m.index + m.len) hi] := by
  intro xs
  induction xs with
  | nil => intro pos; simp [splitSpec]
  | cons x xs ih => intro pos; simp [splitSpec, ih]

theorem take_toNat_cons (count : Int) (h : count > 0) (m : Match) (rest : List Match) :
    (m :: rest).take count.toNat = m :: rest.take (count - 1).toNat := by
  rw [toNat_pred count h, List.take_succ_cons]

theorem take_toNat_nonpos (count : Int) (h : ¬ count > 0) (ms : List Match) : ms.take count.toNat = [] := by
  rw [Int.toNat_of_nonpos (Int.not_lt.mp h), List.take_zero]

theorem splitLoop_ltr (text : List Nat) : ∀ (ms : List Match) (prior : Nat) (ret : List (List Nat)) (count : Int),
    validFrom text.length prior ms = true →
    splitLoop text false ms prior ret count
      = some (ret ++ splitSpec text (capTexts text) prior (ms.take count.toNat) text.length) := by
  have hfin : ∀ prior ret, prior ≤ text.length →
      splitFinish text false prior ret = some (ret ++ [slice text prior text.length]) := by
    intro prior ret hp
    simp only [splitFinish, Bool.false_eq_true, if_false, sliceExpr_ok text prior _ hp (Nat.le_refl _), Option.map_some]
  intro ms
  induction ms with
  | nil => intro prior ret count hv; rw [List.take_nil]; exact hfin prior ret (validFrom_le _ _ _ hv)
  | cons m rest ih =>
    intro prior ret count hv
    obtain ⟨hp, hstop, hrest⟩ := validFrom_cons hv
    rw [splitLoop]
    by_cases hc : count > 0
    · simp only [hc, if_true, Bool.false_eq_true, if_false,
        sliceExpr_ok text prior m.index hp (Nat.le_trans (Nat.le_add_right _ _) hstop)]
      rw [ih _ _ _ hrest, take_toNat_cons count hc]
      simp only [splitSpec, List.append_assoc, List.cons_append, List.nil_append]
    · rw [if_neg hc, take_toNat_nonpos count hc]
      exact hfin prior ret (validFrom_le _ _ _ hv)

def capTextsRev (text : List Nat) (m : Match) : List (List Nat) := (capTexts text m).reverse

theorem splitLoop_rtl (text : List Nat) : ∀ (ms : List Match) (prior : Nat) (ret : List (List Nat)) (count : Int),
    validDesc prior ms = true → prior ≤ text.length →
    splitLoop text true ms prior ret count
      = some (splitSpec text (capTextsRev text) 0 (ms.take count.toNat).reverse prior ++ ret.reverse) := by
  have hfin : ∀ prior ret, prior ≤ text.length →
      splitFinish text true prior ret = some (slice text 0 prior :: ret.reverse) := by
    intro prior ret hp
    simp only [splitFinish, if_true, sliceExpr_ok text 0 prior (Nat.zero_le _) hp, Option.map_some,
      List.reverse_append, List.reverse_cons, List.reverse_nil, List.nil_append, List.cons_append]
  intro ms
  induction ms with
  | nil => intro prior ret count _ hp; rw [List.take_nil]; exact hfin prior ret hp
  | cons m rest ih =>
    intro prior ret count hv hp
    obtain ⟨hstop, hrest⟩ := validDesc_cons.mp hv
    rw [splitLoop]
    by_cases hc : count > 0
    · simp only [hc, if_true, sliceExpr_ok text (m.index + m.len) prior hstop hp]
      rw [ih _ _ _ hrest (Nat.le_trans (Nat.le_trans (Nat.le_add_right _ _) hstop) hp), take_toNat_cons count hc,
        List.reverse_cons, splitSpec_snoc]
      simp only [capTextsRev, List.reverse_append, List.reverse_cons, List.nil_append, List.append_assoc,
        List.cons_append]
    · rw [if_neg hc, take_toNat_nonpos count hc]
      exact hfin prior ret hp

theorem rejoin_splitSpec (text : List Nat) (capf : Match → List (List Nat)) (skip : Match → Nat) (hi : Nat) :
    ∀ (ms : List Match) (pos : Nat), validFrom hi pos ms = true → (∀ m ∈ ms, (capf m).length = skip m) →
      rejoin text skip ms (splitSpec text capf pos ms hi) = slice text pos hi := by
  intro ms
  induction ms with
  | nil => intro pos _ _; exact List.append_nil _
  | cons m rest ih =>
    intro pos hv hs
    obtain ⟨h1, h2, h3⟩ := validFrom_cons hv
    rw [splitSpec, rejoin, ← hs m List.mem_cons_self, List.drop_left,
      ih _ h3 (fun x hx => hs x (List.mem_cons_of_mem _ hx)), slice_matchText text pos hi m h1 h2]

theorem interleave_splitSpec_nocap (text : List Nat) (capf : Match → List (List Nat)) (hi : Nat) :
    ∀ (ms : List Match) (pos : Nat), validFrom hi pos ms = true → (∀ m ∈ ms, capf m = []) →
      interleave (splitSpec text capf pos ms hi) (ms.map (matchText text)) = slice text pos hi := by
  intro ms
  induction ms with
  | nil => intro pos _ _; exact List.append_nil _
  | cons m rest ih =>
    intro pos hv hs
    obtain ⟨h1, h2, h3⟩ := validFrom_cons hv
    rw [splitSpec, hs m List.mem_cons_self, List.nil_append, List.map_cons, interleave,
      ih _ h3 (fun x hx => hs x (List.mem_cons_of_mem _ hx)), slice_matchText text pos hi m h1 h2]


/-! ### the scanner on text without `$` -/

theorem scanLoop_plain (isWord : Nat → Bool) (env : Env) : ∀ (rep : List Nat), dollar ∉ rep →
    scanLoop isWord env rep 0 = .ok (rep.map Tok.ch) := by
  intro rep
  induction rep with
  | nil => intro _; rfl
  | cons c rest ih =>
    intro h
    have hc : c ≠ dollar := fun e => h (e ▸ List.mem_cons_self)
    rw [scanLoop, if_neg hc, ih fun e => h (List.mem_cons_of_mem _ e)]; rfl

theorem buildData_chars (env : Env) : ∀ (l sb : List Nat) (strings : List (List Nat)) (rules : List Int),
    buildData env (l.map Tok.ch) sb strings rules = buildData env [] (sb ++ l) strings rules := by
  intro l
  induction l with
  | nil => intro sb strings rules; rw [List.append_nil]; rfl
  | cons c rest ih => intro sb strings rules; exact (ih _ _ _).trans (by rw [List.append_assoc]; rfl)

/-! ### the scanner: references are valid, the integer rules denote the scanned pieces -/

/-- a scanned node is fine for `NewReplacerData`: a reference `n ≥ 0` is a group number that is a capture slot, a
    negative one is one of the four specials `-1 … -4` -/
def RefOk (env : Env) : Tok → Prop
  | .ch _ => True
  | .ref n => (0 ≤ n → isCaptureSlot env n.toNat = true) ∧ (n < 0 → -4 ≤ n)

/-- every group name of the regex maps to a capture slot (what `envOk` checks) -/
def NamesOk (env : Env) : Prop := ∀ name num, env.names.lookup name = some num → isCaptureSlot env num = true

theorem mem_of_lookup {α β : Type} [BEq α] [LawfulBEq α] {l : List (α × β)} {a : α} {b : β} (h : l.lookup a = some b) :
    (a, b) ∈ l := by
  obtain ⟨l₁, l₂, rfl, _⟩ := List.lookup_eq_some_iff.mp h
  exact List.mem_append_right _ List.mem_cons_self

theorem envOk_names (env : Env) (h : envOk env = true) : NamesOk env ∧ isCaptureSlot env 0 = true := by
  simp only [envOk, Bool.and_eq_true, List.all_eq_true] at h
  exact ⟨fun name num hl => h.2 _ (mem_of_lookup hl), h.1⟩

theorem ecmaDigits_ok (env : Env) : ∀ (s : List Nat) (newcap pos : Nat) (best : Option (Nat × Nat)) r,
    (∀ b, best = some b → isCaptureSlot env b.1 = true) →
    ecmaDigits env s newcap pos best = some (some r) → isCaptureSlot env r.1 = true := by
  intro s
  induction s with
  | nil => intro newcap pos best r hb h; exact hb r (Option.some.inj h)
  | cons c rest ih =>
    intro newcap pos best r hb h
    rw [ecmaDigits] at h
    by_cases hd : isDigit c = true
    · rw [if_pos hd] at h
      refine ih _ _ _ r (fun b hbb => ?_) (Option.ite_none_left_eq_some.mp h).2
      by_cases hs : isCaptureSlot env (newcap * 10 + (c - 48)) = true
      · rw [if_pos hs] at hbb; cases hbb; exact hs
      · rw [if_neg hs] at hbb; exact hb b hbb
    · rw [if_neg hd] at h; exact hb r (Option.some.inj h)

/-- a result of `scanDollar` whose node, if there is one, is a literal or a valid reference -/
def ScanOk (env : Env) (r : Except ScanErr (Tok × Nat)) : Prop := ∀ tok k, r = .ok (tok, k) → RefOk env tok

namespace ScanOk
variable {env : Env}

theorem error {e : ScanErr} : ScanOk env (.error e) := nofun

theorem ch {c j : Nat} : ScanOk env (.ok (.ch c, j)) := by
  intro tok k h; cases h; trivial

theorem special {n : Int} {j : Nat} (h1 : n < 0 := by decide) (h2 : -4 ≤ n := by decide) :
    ScanOk env (.ok (.ref n, j)) := by
  intro tok k h; cases h; exact ⟨fun h => absurd h1 (Int.not_lt.mpr h), fun _ => h2⟩

theorem slot {c j : Nat} (h : isCaptureSlot env c = true) : ScanOk env (.ok (.ref c, j)) := by
  intro tok k e; cases e; exact ⟨fun _ => h, fun hneg => by omega⟩

end ScanOk

theorem scanDollar_ok (isWord : Nat → Bool) (env : Env) (hn : NamesOk env) (h0 : isCaptureSlot env 0 = true)
    (s : List Nat) : ScanOk env (scanDollar isWord env s) := by
  unfold scanDollar
  cases s with
  | nil => exact .ch
  | cons ch0 tail =>
    dsimp only
    generalize (_ == 123 && _) = angled  -- 123 is `{`: the test for `${…}`
    generalize (if angled = true then _ else _) = body
    cases body with
    | nil => exact .ch
    | cons ch bodyTail =>
      -- a digit: ECMAScript `$n`, else `$n` / `${n}`; not a digit: `${name}`, else the one-rune forms
      refine ite_cases (fun _ => ite_cases (fun _ => ?_) fun _ => ?_) fun _ =>
        ite_cases (fun _ => ite_cases (fun _ => .error) fun _ => ite_cases (fun _ => ?_) fun _ => .ch) fun _ => ?_
      · generalize hE : ecmaDigits _ _ _ _ _ = e
        rcases e with _ | _ | p
        · exact .error
        · exact .ch
        · refine .slot (ecmaDigits_ok env _ _ _ _ p ?_ hE)
          intro b hb
          split at hb
          · cases hb; assumption
          · cases hb
      · generalize scanDecimal _ _ _ = e
        cases e with
        | none => exact .error
        | some p =>
          refine ite_cases (fun _ => ite_cases .slot fun _ => .ch) fun _ => ?_
          split
          · exact ite_cases .slot fun _ => .ch
          · exact .ch
      · split
        · generalize hL : lookupName _ _ = e
          cases e with
          | none => exact .ch
          | some num => exact .slot (hn _ _ hL)
        · exact .ch
      · exact ite_cases (fun _ => .ch) fun _ => ite_cases (fun _ => .slot h0) fun _ => ite_cases (fun _ => .special) fun _ =>
          ite_cases (fun _ => .special) fun _ => ite_cases (fun _ => .special) fun _ => ite_cases (fun _ => .special) fun _ => .ch

theorem scanLoop_ok (isWord : Nat → Bool) (env : Env) (hn : NamesOk env) (h0 : isCaptureSlot env 0 = true) :
    ∀ (s : List Nat) (skip : Nat) (toks : List Tok), scanLoop isWord env s skip = .ok toks → ∀ t ∈ toks, RefOk env t := by
  intro s
  induction s with
  | nil => intro skip toks h; cases skip <;> (cases h; nofun)
  | cons c rest ih =>
    intro skip toks h
    cases skip with
    | succ k => exact ih k toks h
    | zero =>
      rw [scanLoop] at h
      split at h
      · split at h
        · cases h
        · rename_i tok used hd
          split at h
          · cases h
          · rename_i toks' hl
            cases h
            exact List.forall_mem_cons.mpr ⟨scanDollar_ok isWord env hn h0 _ _ _ hd, ih _ _ hl⟩
      · split at h
        · cases h
        · rename_i toks' hl
          cases h
          exact List.forall_mem_cons.mpr ⟨trivial, ih _ _ hl⟩


/-! ### `NewReplacerData`: the integer rules and the string table -/

def RuleOk (env : Env) (r : Int) : Prop :=
  0 ≤ r ∨ (-4 ≤ r ∧ r ≤ -1) ∨ ∃ n, isCaptureSlot env n = true ∧ r = -5 - (slotOf env n : Int)

/-- the rule integer `NewReplacerData` writes for the reference node `n`: `-replaceSpecials - 1 - slot`, the slot
    being `caps[n]` for a group number and `n` itself for a special -/
abbrev refRule (env : Env) (n : Int) : Int := -4 - 1 - (if 0 ≤ n then (slotOf env n.toNat : Int) else n)

/-- an invariant of the string table and the rules that holds when `NewReplacerData` starts and is kept
    when a literal is flushed (`hlit`) and when the rule of a valid reference is appended (`href`) holds
    of what it returns -/
theorem buildData_inv (env : Env) (P : List (List Nat) → List Int → Prop)
    (hlit : ∀ sb strings rules, P strings rules → P (strings ++ [sb]) (rules ++ [(strings.length : Int)]))
    (href : ∀ n strings rules, RefOk env (.ref n) → P strings rules →
      P strings (rules ++ [refRule env n])) :
    ∀ (toks : List Tok) (sb : List Nat) (strings : List (List Nat)) (rules : List Int),
      (∀ t ∈ toks, RefOk env t) → P strings rules →
      P (buildData env toks sb strings rules).strings (buildData env toks sb strings rules).rules := by
  intro toks
  induction toks with
  | nil =>
    intro sb strings rules _ hP
    rw [buildData]
    split
    · exact hlit sb strings rules hP
    · exact hP
  | cons t rest ih =>
    intro sb strings rules ht hP
    obtain ⟨ht0, htr⟩ := List.forall_mem_cons.mp ht
    cases t with
    | ch c => exact ih _ _ _ htr hP
    | ref n =>
      simp only [buildData]
      split
      · exact ih _ _ _ htr (href n _ _ ht0 (hlit sb strings rules hP))
      · exact ih _ _ _ htr (href n _ _ ht0 hP)

theorem forall_mem_concat {α : Type} {Q : α → Prop} {l : List α} {x : α} (hl : ∀ a ∈ l, Q a) (hx : Q x) :
    ∀ a ∈ l ++ [x], Q a := by
  intro a ha
  rcases List.mem_append.mp ha with h | h
  · exact hl a h
  · rw [List.mem_singleton.mp h]; exact hx

theorem buildData_rules (env : Env) : ∀ (toks : List Tok) (sb : List Nat) (strings : List (List Nat)) (rules : List Int),
    (∀ t ∈ toks, RefOk env t) → (∀ r ∈ rules, RuleOk env r) →
    ∀ r ∈ (buildData env toks sb strings rules).rules, RuleOk env r := by
  refine buildData_inv env (fun _ rules => ∀ r ∈ rules, RuleOk env r)
    (fun _ strings _ h => forall_mem_concat h (.inl (Int.natCast_nonneg _))) ?_
  intro n _ _ hn h
  refine forall_mem_concat h ?_
  unfold refRule
  by_cases h0 : 0 ≤ n
  · rw [if_pos h0]; exact .inr (.inr ⟨n.toNat, hn.1 h0, rfl⟩)
  · rw [if_neg h0]; have := hn.2 (Int.not_le.mp h0); exact .inr (.inl (by omega))


/-- the piece a reference node stands for -/
def refPiece (env : Env) (n : Int) : Piece :=
  if 0 ≤ n then .group (slotOf env n.toNat)
  else if n = -1 then .leftPortion else if n = -2 then .rightPortion else if n = -3 then .lastGroup else .wholeString

/-- the pieces a token list stands for (`sb` = pending literal) -/
def piecesOf (env : Env) : List Tok → List Nat → List Piece
  | [], sb => if sb ≠ [] then [.lit sb] else []
  | .ch c :: rest, sb => piecesOf env rest (sb ++ [c])
  | .ref n :: rest, sb => (if sb ≠ [] then [.lit sb] else []) ++ refPiece env n :: piecesOf env rest []

def RulesWF (strings : List (List Nat)) (rules : List Int) : Prop := ∀ r ∈ rules, 0 ≤ r → r.toNat < strings.length

theorem RulesWF.lit {strings : List (List Nat)} {rules : List Int} (h : RulesWF strings rules) (sb : List Nat) :
    RulesWF (strings ++ [sb]) (rules ++ [(strings.length : Int)]) := by
  have hlen : (strings ++ [sb]).length = strings.length + 1 := List.length_append
  refine forall_mem_concat (fun r hr h0 => ?_) fun _ => ?_
  · exact hlen ▸ Nat.lt_succ_of_lt (h r hr h0)
  · exact hlen ▸ Nat.lt_succ_self _

theorem RulesWF.neg {strings : List (List Nat)} {rules : List Int} (h : RulesWF strings rules) {r : Int} (hr : r < 0) :
    RulesWF strings (rules ++ [r]) :=
  forall_mem_concat h fun h0 => absurd hr (Int.not_lt.mpr h0)

theorem refRule_neg (env : Env) (n : Int) (h : RefOk env (.ref n)) :
    refRule env n < 0 := by
  unfold refRule
  by_cases hn : 0 ≤ n
  · rw [if_pos hn]; omega
  · rw [if_neg hn]; have := h.2 (Int.not_le.mp hn); omega

theorem buildData_wf (env : Env) : ∀ (toks : List Tok) (sb : List Nat) (strings : List (List Nat)) (rules : List Int),
    (∀ t ∈ toks, RefOk env t) → RulesWF strings rules →
    RulesWF (buildData env toks sb strings rules).strings (buildData env toks sb strings rules).rules :=
  buildData_inv env RulesWF (fun sb _ _ h => h.lit sb) fun n _ _ hn h => h.neg (refRule_neg env n hn)

theorem decodeRule_append (strings ex : List (List Nat)) (r : Int) (h : 0 ≤ r → r.toNat < strings.length) :
    decodeRule (strings ++ ex) r = decodeRule strings r := by
  unfold decodeRule
  by_cases h0 : 0 ≤ r
  · rw [if_pos h0, if_pos h0, List.getD_eq_getElem?_getD, List.getD_eq_getElem?_getD, List.getElem?_append_left (h h0)]
  · rw [if_neg h0, if_neg h0]

/-- the rule `-5 - s` is group slot `s`: below the specials, so not a string index either -/
theorem decodeRule_group (strings : List (List Nat)) (s : Nat) : decodeRule strings (-5 - (s : Int)) = .group s := by
  rw [decodeRule, if_neg (by omega), if_pos (by omega)]
  exact congrArg Piece.group (by omega)

theorem decodeRule_ref (env : Env) (strings : List (List Nat)) (n : Int) (h : RefOk env (.ref n)) :
    decodeRule strings (refRule env n) = refPiece env n := by
  unfold refPiece refRule
  by_cases hn : 0 ≤ n
  · rw [if_pos hn, if_pos hn]; exact decodeRule_group strings _
  · -- a special `n`: `replacementImpl` computes `-5 - r = n` and tests it against the same constants
    have hlo := h.2 (Int.not_le.mp hn)
    rw [if_neg hn, if_neg hn]
    show decodeRule strings (-5 - n) = _
    rw [decodeRule, if_neg (by omega), if_neg (by omega), Int.sub_sub_self]

theorem decode_lit (strings : List (List Nat)) (rules : List Int) (h : RulesWF strings rules) (sb : List Nat) :
    (rules ++ [(strings.length : Int)]).map (decodeRule (strings ++ [sb])) = rules.map (decodeRule strings) ++ [.lit sb] := by
  rw [List.map_append, List.map_congr_left fun r hr => decodeRule_append strings [sb] r (h r hr)]
  simp [decodeRule]

theorem buildData_pieces (env : Env) : ∀ (toks : List Tok) (sb : List Nat) (strings : List (List Nat)) (rules : List Int),
    (∀ t ∈ toks, RefOk env t) → RulesWF strings rules →
    (buildData env toks sb strings rules).pieces = rules.map (decodeRule strings) ++ piecesOf env toks sb := by
  intro toks
  induction toks with
  | nil =>
    intro sb strings rules _ hwf
    rw [buildData, piecesOf]
    split
    · exact decode_lit strings rules hwf sb
    · exact (List.append_nil _).symm
  | cons t rest ih =>
    intro sb strings rules ht hwf
    obtain ⟨ht0, htr⟩ := List.forall_mem_cons.mp ht
    cases t with
    | ch c => exact ih _ _ _ htr hwf
    | ref n =>
      have hneg := refRule_neg env n ht0
      simp only [buildData, piecesOf]
      split
      · rw [ih _ _ _ htr ((hwf.lit sb).neg hneg), List.map_append, decode_lit strings rules hwf sb, List.map_singleton,
          decodeRule_ref env _ n ht0]
        simp only [List.append_assoc, List.cons_append, List.nil_append]
      · rw [ih _ _ _ htr (hwf.neg hneg), List.map_append, List.map_singleton, decodeRule_ref env _ n ht0]
        simp only [List.append_assoc, List.cons_append, List.nil_append]

end RegexVerif.Lemmas.Replace
