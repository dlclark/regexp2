/-
The clock model (C14): the arithmetic of ticks; the invariant `Inv` of the transition system, with `DlInv` for
every pending deadline; and `Adv c c'` ("the clock has advanced"), under which a deadline keeps its invariant, so
that an event owes the pending deadlines nothing but its `Adv`.
The theorems of Props/C14 are stated over `Reachable`, from which `inv_of_reachable` gives `Inv`; its examples
evaluate `run`, and `reachable_of_run` takes a result of `run` to `Reachable`.  `State.stopped` of the model serves
the driver only (Driver/C14.lean).
`Inv.x`, `DlInv.x`, `Adv.x` are consequences, used as `h.x`; `inv_*`, `adv_*`, `dlinv_new` establish the relation
for one event.
-/
import RegexVerif.Model.Clock
namespace RegexVerif.Lemmas.Clock
open RegexVerif.Clock

theorem ticks_eq (x : Int) : ticks x = x / 1048576 := by
  unfold ticks
  rw [Int.shiftRight_eq_div_pow]
  rfl

theorem deadlineTicks_eq (period d : Int) : deadlineTicks period d = effDur period d / 1048576 := by
  unfold deadlineTicks effDur
  split <;> exact ticks_eq _

/-- with `0 ≤ period ≤ MaxInt64` and `0 ≤ d ≤ MaxInt64` in the context, `omega` reads every bound on `effDur` off this -/
theorem effDur_cases (period d : Int) :
    (d ≤ maxInt64 - period ∧ effDur period d = d + period) ∨ (maxInt64 - period < d ∧ effDur period d = maxInt64) := by
  unfold effDur
  split
  · next h => exact .inr ⟨h, rfl⟩
  · next h => exact .inl ⟨Int.not_lt.mp h, rfl⟩

theorem effDur_of_le {period d : Int} (h : d ≤ maxInt64 - period) : effDur period d = d + period :=
  if_neg (Int.not_lt.mpr h)

theorem deadlineTicks_nonneg {p : Params} (hp : p.Valid) {d : Int} (hd0 : 0 ≤ d) (hd1 : d ≤ maxInt64) :
    0 ≤ deadlineTicks p.period d := by
  have := deadlineTicks_eq p.period d
  have := effDur_cases p.period d
  have := hp.1
  omega

/-- what a pending deadline `e` -- made at real time `t0` for MatchTimeout `d`, `dl` ticks -- can rely on in
    clock state `s`, between any two looks at it: `clockEnd` covers it and an updater runs until it is
    reached (`covered`, `live`); reaching it takes at least the timeout less the staleness of `current`
    (`early`; less nothing if `current` was read afresh: `earlyFresh`) and at most the timeout plus one
    period (`within`).  `dl = current + ⌊effDur / 2^20⌋` with `current = ⌊(lastWrite - startNs) / 2^20⌋`:
    each of the two floor divisions loses at most `2^20 - 1` ns, hence the `2097150 = 2 * (2^20 - 1)`.
    `unstarted`: on a clock never started `current = clockEnd = 0`: a deadline pending there came back lock-free,
    is 0, and `effDur` is under one tick. -/
structure DlInv (p : Params) (s : State) (e : Deadline) : Prop where
  d_nonneg : 0 ≤ e.d
  d_le : e.d ≤ maxInt64
  t0_le : e.t0 ≤ s.now
  covered : e.dl ≤ s.clockEnd
  live : s.running = true ∨ e.dl ≤ s.current
  unstarted : s.started = false → e.dl = 0 ∧ effDur p.period e.d < 1048576
  early : s.started = true → (e.t0 - s.startNs) + effDur p.period e.d - p.period - p.eps - 2097150 ≤ 1048576 * e.dl
  earlyFresh : s.started = true → e.fresh = true → (e.t0 - s.startNs) + effDur p.period e.d - 2097150 ≤ 1048576 * e.dl
  within : s.started = true → e.dl ≤ s.current ∨ 1048576 * e.dl ≤ (e.t0 - s.startNs) + e.d + p.period

/-- the invariant of the clock state machine: `current` is the tick count of `lastWrite`, the real time
    of its last write, which while an updater runs is at most `period + eps` ago; a started clock with no
    updater has passed `clockEnd`; an updater found `current ≤ clockEnd` when it last looked (or has been
    stopped); and every pending deadline satisfies `DlInv`. -/
structure Inv (p : Params) (s : State) : Prop where
  lw_le : s.lastWrite ≤ s.now
  unstarted : s.started = false → s.current = 0 ∧ s.clockEnd = 0 ∧ s.running = false
  cur_eq : s.started = true → s.current = (s.lastWrite - s.startNs) / 1048576 ∧ s.startNs ≤ s.lastWrite
  progress : s.running = true → s.started = true ∧ s.now ≤ s.lastWrite + p.period + p.eps
  stopped : s.started = true → s.running = false → s.clockEnd < s.current
  loopcond : s.running = true → s.current ≤ s.clockEnd ∨ s.clockEnd = 0
  dls : ∀ e ∈ s.pending, DlInv p s e

section
variable {p : Params} {s : State}

theorem step_tick {s' : State} {dt : Int} (hs : step p s (.tick dt) = some s') :
    s' = tick s dt ∧ s.running = true ∧ 0 ≤ dt ∧ s.lastWrite + p.period ≤ s.now + dt ∧
      s.now + dt ≤ s.lastWrite + p.period + p.eps := by
  simp only [step] at hs
  split at hs
  · next hc => exact ⟨(Option.some.inj hs).symm, hc⟩
  · cases hs

theorem step_idle {s' : State} {dt : Int} (hs : step p s (.idle dt) = some s') :
    s' = { s with now := s.now + dt } ∧ 0 ≤ dt ∧
      (s.running = true → s.now + dt ≤ s.lastWrite + p.period + p.eps) := by
  simp only [step] at hs
  split at hs
  · next hc => exact ⟨(Option.some.inj hs).symm, hc⟩
  · cases hs

theorem tick_exits {dt : Int} (hn : s.startNs + 1048576 * (s.clockEnd + 1) ≤ s.now + dt) :
    (tick s dt).running = false := by
  simp only [tick, ticks_eq, decide_eq_false_iff_not]
  omega

theorem inv_init : Inv p State.init := by
  refine ⟨?_, ?_, ?_, ?_, ?_, ?_, ?_⟩ <;> simp [State.init]

theorem slop_ticks_nonneg (hp : p.Valid) : 0 ≤ ticks p.slop := by
  obtain ⟨_, _, _, hs0, _⟩ := hp
  rw [ticks_eq]; omega

theorem Inv.mode (h : Inv p s) :
    (s.started = false ∧ s.running = false ∧ s.current = 0 ∧ s.clockEnd = 0) ∨
    (s.started = true ∧ s.running = false ∧ s.clockEnd < s.current) ∨
    (s.started = true ∧ s.running = true ∧ s.now ≤ s.lastWrite + p.period + p.eps) := by
  cases hst : s.started
  · have hu := h.unstarted hst
    exact .inl ⟨rfl, hu.2.2, hu.1, hu.2.1⟩
  · cases hr : s.running
    · exact .inr (.inl ⟨rfl, rfl, h.stopped hst hr⟩)
    · exact .inr (.inr ⟨rfl, rfl, (h.progress hr).2⟩)

theorem Inv.current_le_now (h : Inv p s) (hs : s.started = true) :
    0 ≤ s.current ∧ s.current ≤ ticks (s.now - s.startNs) := by
  have := h.cur_eq hs
  have := h.lw_le
  rw [ticks_eq]; omega

theorem Inv.fresh_when_running (h : Inv p s) (hr : s.running = true) :
    ∃ w, s.current = ticks (w - s.startNs) ∧ w ≤ s.now ∧ s.now - w ≤ p.period + p.eps := by
  have hpr := h.progress hr
  refine ⟨s.lastWrite, ?_, h.lw_le, by omega⟩
  rw [ticks_eq]; exact (h.cur_eq hpr.1).1

theorem Inv.exit_bound (h : Inv p s) (hr : s.running = true) (hc : s.current ≤ s.clockEnd) :
    s.now < s.startNs + 1048576 * (s.clockEnd + 1) + p.period + p.eps := by
  have hpr := h.progress hr
  have := h.cur_eq hpr.1
  omega

theorem reached_real {dl : Int} (h : Inv p s) (hs : s.started = true)
    (hr : reached s dl = true) : 1048576 * dl ≤ s.now - s.startNs := by
  have := h.cur_eq hs
  have := h.lw_le
  have : dl ≤ s.current := of_decide_eq_true hr
  omega

/-- `Inv.fresh_when_running` in the shape the call invariants use -/
theorem fresh_of_running {t : Int} (h : Inv p s) (hr : s.running = true)
    (ht : t ≤ s.now) : (t - p.period - p.eps - s.startNs) / 1048576 ≤ s.current := by
  obtain ⟨w, hw, _, _⟩ := h.fresh_when_running hr
  rw [hw, ticks_eq]
  omega

theorem extendClock_covers_slop (p : Params) (s : State) (e : Int) : e + ticks p.slop ≤ (extendClock p s e).clockEnd := by
  show _ ≤ if e + ticks p.slop > s.clockEnd then e + ticks p.slop else s.clockEnd
  split <;> omega

theorem extendClock_covers (hp : p.Valid) (s : State) (e : Int) : e ≤ (extendClock p s e).clockEnd :=
  Int.le_trans (Int.le_add_of_nonneg_right (slop_ticks_nonneg hp)) (extendClock_covers_slop p s e)

/-- `c'` is `c` after time has passed, after a wake-up of the updater or after a locked section of
    makeDeadline: nothing a deadline handed out in `c` relies on has been lost. -/
structure Adv (c c' : State) : Prop where
  now_le : c.now ≤ c'.now
  end_le : c.clockEnd ≤ c'.clockEnd
  cur_le : c.current ≤ c'.current
  start_eq : c.started = true → c'.started = true ∧ c'.startNs = c.startNs
  start_ge : c.started = false → c'.started = true → c.now ≤ c'.startNs ∧ c'.running = true
  alive : c.running = true → c'.running = true ∨ c'.clockEnd < c'.current

/-- a tick count that `clockEnd` covered stays reached or waited for: an updater that leaves its loop has
    passed `clockEnd` (`y = x` for a deadline, `y = x + 1` for "`current` has passed `x`") -/
theorem Adv.covered {c c' : State} (ha : Adv c c') {x y : Int} (hx : x ≤ c.clockEnd) (hy : y ≤ x + 1)
    (h : c.running = true ∨ y ≤ c.current) : c'.running = true ∨ y ≤ c'.current := by
  have := ha.end_le
  have := ha.cur_le
  rcases h with hr | hl
  · exact (ha.alive hr).imp_right fun _ => by omega
  · exact .inr (by omega)

theorem adv_idle (c : State) (dt : Int) (h0 : 0 ≤ dt) : Adv c { c with now := c.now + dt } :=
  ⟨Int.le_add_of_nonneg_right h0, Int.le_refl _, Int.le_refl _, fun hs => ⟨hs, rfl⟩,
    fun hs hs' => absurd (hs.symm.trans hs') (by decide), .inl⟩

theorem adv_tick (h : Inv p s) (dt : Int) (hr : s.running = true) (h0 : 0 ≤ dt) : Adv s (tick s dt) := by
  have hst := (h.progress hr).1
  have hc := h.cur_eq hst
  have hl := h.lw_le
  refine ⟨Int.le_add_of_nonneg_right h0, Int.le_refl _, ?_, fun _ => ⟨hst, rfl⟩,
    fun hs => absurd (hs.symm.trans hst) (by decide), fun _ => ?_⟩
  · show s.current ≤ ticks (s.now + dt - s.startNs)
    rw [ticks_eq]; omega
  · by_cases hle : ticks (s.now + dt - s.startNs) ≤ s.clockEnd
    · exact .inl (decide_eq_true hle)
    · exact .inr (Int.not_le.mp hle)

/-- the locked block of makeDeadline followed by `extendClock(e)` -/
theorem adv_lock (h : Inv p s) (e : Int) : Adv s (extendClock p (refresh s) e) := by
  have hl := h.lw_le
  refine ⟨Int.le_refl _, ?_, ?_, fun hs => ⟨rfl, ?_⟩, fun hs _ => ⟨?_, rfl⟩, fun _ => .inl rfl⟩
  · show s.clockEnd ≤ if e + ticks p.slop > s.clockEnd then e + ticks p.slop else s.clockEnd
    split <;> omega
  · show s.current ≤ if (!s.running && s.started) = true then ticks (s.now - s.startNs) else s.current
    split
    · next hc =>
      simp only [Bool.and_eq_true] at hc
      have := h.cur_eq hc.2
      rw [ticks_eq]; omega
    · exact Int.le_refl _
  · show (if s.started = true then s.startNs else s.now) = s.startNs
    rw [if_pos hs]
  · show s.now ≤ if s.started = true then s.startNs else s.now
    rw [if_neg (by simp [hs])]
    exact Int.le_refl _

theorem DlInv.adv {s' : State} {e : Deadline} (hd : DlInv p s e) (hp : p.Valid) (h : Inv p s)
    (ha : Adv s s') : DlInv p s' e := by
  obtain ⟨hp0, _, he0, _, _⟩ := hp
  have hnow := ha.now_le
  have hend := ha.end_le
  have hcur := ha.cur_le
  have ht0 := hd.t0_le
  have hcov := hd.covered
  have hlive := ha.covered hcov (by omega) hd.live
  cases hs : s.started
  · -- the clock had never been started: `e.dl = 0`; if it is started now, `startNs` is not before `e.t0`
    obtain ⟨hdl, heff⟩ := hd.unstarted hs
    have h0 := (h.unstarted hs).1
    refine ⟨hd.d_nonneg, hd.d_le, by omega, by omega, hlive, fun _ => ⟨hdl, heff⟩, fun hs' => ?_, fun hs' _ => ?_,
      fun _ => .inl (by omega)⟩
    · have := (ha.start_ge hs hs').1; omega
    · have := (ha.start_ge hs hs').1; omega
  · obtain ⟨hs', hns⟩ := ha.start_eq hs
    refine ⟨hd.d_nonneg, hd.d_le, by omega, by omega, hlive, fun h' => absurd (h'.symm.trans hs') (by decide),
      fun _ => hns ▸ hd.early hs, fun _ hf => hns ▸ hd.earlyFresh hs hf, fun _ => ?_⟩
    have := hd.within hs
    rw [hns]
    omega

theorem Inv.with_pending (h : Inv p s) (l : List Deadline) (hl : ∀ e ∈ l, DlInv p s e) :
    Inv p { s with pending := l } :=
  ⟨h.lw_le, h.unstarted, h.cur_eq, h.progress, h.stopped, h.loopcond, fun e he =>
    have hd := hl e he
    ⟨hd.d_nonneg, hd.d_le, hd.t0_le, hd.covered, hd.live, hd.unstarted, hd.early, hd.earlyFresh, hd.within⟩⟩

theorem inv_tick {dt : Int} (hp : p.Valid) (h : Inv p s)
    (hr : s.running = true) (h0 : 0 ≤ dt) (h1 : s.lastWrite + p.period ≤ s.now + dt) : Inv p (tick s dt) := by
  have hst := (h.progress hr).1
  have hc := h.cur_eq hst
  refine ⟨Int.le_refl _, fun hs => absurd (hs.symm.trans hst) (by decide), fun _ => ⟨?_, ?_⟩, fun _ => ⟨hst, ?_⟩,
    fun _ hr' => ?_, fun hr' => .inl ?_, fun e he => (h.dls e he).adv hp h (adv_tick h dt hr h0)⟩
  · show ticks (s.now + dt - s.startNs) = (s.now + dt - s.startNs) / 1048576
    exact ticks_eq _
  · show s.startNs ≤ s.now + dt
    have := hp.1; omega
  · show s.now + dt ≤ s.now + dt + p.period + p.eps
    have := hp.1; have := hp.2.2.1; omega
  · exact Int.not_le.mp (of_decide_eq_false hr')
  · exact of_decide_eq_true hr'

theorem inv_stop (h : Inv p s) : Inv p (stop s) := by
  refine ⟨h.lw_le, fun hs => ?_, h.cur_eq, h.progress, fun hs hr => ?_, fun hr => .inr ?_, fun e he => nomatch he⟩
  · have hu := h.unstarted hs
    exact ⟨hu.1, by show (if s.running = true then 0 else s.clockEnd) = 0; rw [if_neg (by simp [hu.2.2])]; exact hu.2.1,
      hu.2.2⟩
  · show (if s.running = true then 0 else s.clockEnd) < s.current
    rw [if_neg (by simp [show s.running = false from hr])]
    exact h.stopped hs hr
  · show (if s.running = true then 0 else s.clockEnd) = 0
    rw [if_pos (show s.running = true from hr)]

theorem inv_lock {e : Int} (hp : p.Valid) (h : Inv p s) (he : (refresh s).current ≤ e) :
    Inv p (extendClock p (refresh s) e) := by
  have hT := slop_ticks_nonneg hp
  have hp0 := hp.1
  have he0 := hp.2.2.1
  have hl := h.lw_le
  refine ⟨?lw_le, nofun, fun _ => ?cur_eq, fun _ => ⟨rfl, ?progress⟩, nofun, fun _ => .inl ?loopcond,
    fun d hd => (h.dls d hd).adv hp h (adv_lock h e)⟩
  case loopcond =>
    show (refresh s).current ≤ if e + ticks p.slop > s.clockEnd then e + ticks p.slop else s.clockEnd
    split <;> omega
  -- the other three speak of `lastWrite` and `startNs` after the section: unchanged under a running
  -- updater, `lastWrite = now` otherwise, and `startNs = now` on the first start
  case lw_le | cur_eq | progress =>
    have hc := h.cur_eq
    rcases h.mode with ⟨hst, hr, h0, _⟩ | ⟨hst, hr, _⟩ | ⟨hst, hr, hpr⟩ <;>
    simp only [extendClock, refresh, hr, hst, Bool.not_true, Bool.not_false, Bool.and_true, Bool.and_false,
      Bool.false_eq_true, ↓reduceIte, ticks_eq, true_and, true_implies, false_implies] at hc ⊢ <;>
    omega

/-- `fresh`: `current` was read from the wall clock just now -/
theorem dlinv_new {d : Int} (hp : p.Valid) (h : Inv p s) (hd0 : 0 ≤ d) (hd1 : d ≤ maxInt64)
    (hcov : s.current + deadlineTicks p.period d ≤ s.clockEnd) (fresh : Bool)
    (hf : fresh = true → s.started = true → s.lastWrite = s.now) :
    DlInv p s { t0 := s.now, d := d, dl := s.current + deadlineTicks p.period d, fresh := fresh } := by
  obtain ⟨hp0, hp1, he0, _, _⟩ := hp
  have hdt := deadlineTicks_eq p.period d
  have heff := effDur_cases p.period d
  have hl := h.lw_le
  have hc := h.cur_eq
  refine ⟨hd0, hd1, Int.le_refl _, hcov, ?live, ?unstarted, ?early, fun hs hfr => ?earlyFresh, ?within⟩ <;>
    dsimp only
  case earlyFresh =>
    -- `current` is the tick count of `now`: only the two roundings are lost
    have := hf hfr hs
    have := hc hs
    omega
  -- by the mode of the clock.  Never started: `current = clockEnd = 0`, so `deadlineTicks d = 0`.  Started with
  -- no updater: impossible, `clockEnd < current ≤ dl`.  Updater running: `lastWrite ≥ now - period - eps`.
  case live | unstarted | early | within =>
    rcases h.mode with ⟨hst, hr, h0, h1⟩ | ⟨hst, hr, _⟩ | ⟨hst, hr, hpr⟩ <;>
    simp only [hr, hst, Bool.false_eq_true, true_implies, false_implies, false_or, true_or, reduceCtorEq] at hc ⊢ <;>
    omega

theorem makeDeadline_lock {d : Int} (h : s.current + deadlineTicks p.period d > s.clockEnd) :
    makeDeadline p s d = (extendClock p (refresh s) ((refresh s).current + deadlineTicks p.period d),
      (refresh s).current + deadlineTicks p.period d) :=
  if_pos h

theorem makeDeadline_free {d : Int} (h : ¬ s.current + deadlineTicks p.period d > s.clockEnd) :
    makeDeadline p s d = (s, s.current + deadlineTicks p.period d) :=
  if_neg h

theorem makeDeadline_pending (p : Params) (s : State) (d : Int) : (makeDeadline p s d).1.pending = s.pending := by
  by_cases h : s.current + deadlineTicks p.period d > s.clockEnd
  · rw [makeDeadline_lock h]; rfl
  · rw [makeDeadline_free h]

/-- on a clock with no updater (never started / exited / stopped) `makeDeadline` takes the locked path, refreshes
    `current` and starts the updater.  It speaks of the clock alone, so it applies to the interleaving model too. -/
theorem makeDeadline_restart {c : State} {d : Int} (hp : p.Valid) (h : Inv p c)
    (hr : c.running = false) (hd0 : 0 ≤ d) (hd1 : d ≤ maxInt64) (hfirst : c.started = true ∨ 1048576 ≤ d + p.period) :
    (makeDeadline p c d).1.running = true ∧ (makeDeadline p c d).1.started = true ∧
    (makeDeadline p c d).1.now = c.now ∧ (makeDeadline p c d).1.lastWrite = c.now ∧
    (makeDeadline p c d).1.current = ticks (c.now - (makeDeadline p c d).1.startNs) ∧
    (makeDeadline p c d).2 = (makeDeadline p c d).1.current + deadlineTicks p.period d ∧
    (makeDeadline p c d).2 + ticks p.slop ≤ (makeDeadline p c d).1.clockEnd := by
  have hdt := deadlineTicks_eq p.period d
  have heff := effDur_cases p.period d
  have hp0 := hp.1
  have hM : (1048576 : Int) ≤ maxInt64 := by decide
  have hgt : c.current + deadlineTicks p.period d > c.clockEnd := by
    cases hst : c.started
    · -- first use: `current = clockEnd = 0`, and the timeout is at least one tick
      have hu := h.unstarted hst
      have h1 : 1048576 ≤ d + p.period := hfirst.resolve_left (by simp [hst])
      omega
    · have := h.stopped hst hr; omega
  rw [makeDeadline_lock hgt]
  refine ⟨rfl, rfl, rfl, ?_, ?_, rfl, extendClock_covers_slop p _ _⟩
  · show (if c.running = true then (refresh c).lastWrite else c.now) = c.now
    rw [if_neg (by simp [hr])]
  · show (if (!c.running && c.started) = true then ticks (c.now - c.startNs) else c.current) =
      ticks (c.now - if c.started = true then c.startNs else c.now)
    cases hst : c.started
    · simp [(h.unstarted hst).1, ticks_eq]
    · simp [hr]

theorem inv_make {d : Int} (hp : p.Valid) (h : Inv p s)
    (hd0 : 0 ≤ d) (hd1 : d ≤ maxInt64) : Inv p (startWatch p s d) := by
  have hD := deadlineTicks_nonneg hp hd0 hd1
  unfold startWatch
  split
  · exact h
  by_cases hgt : s.current + deadlineTicks p.period d > s.clockEnd
  · -- through the mutex: `current` is refreshed if no updater runs, and `extendClock` covers the deadline
    rw [makeDeadline_lock hgt]
    have h' := inv_lock hp h (e := (refresh s).current + deadlineTicks p.period d) (by omega)
    refine h'.with_pending _
      (List.forall_mem_cons.mpr ⟨dlinv_new hp h' hd0 hd1 (extendClock_covers hp _ _) _ fun hf _ => ?_, h'.dls⟩)
    show (if s.running = true then (refresh s).lastWrite else s.now) = s.now
    rw [if_neg (by simpa using hf)]
  · -- lock-free: `clockEnd` covers the deadline, so an updater is running
    rw [makeDeadline_free hgt]
    refine h.with_pending _ (List.forall_mem_cons.mpr ⟨dlinv_new hp h hd0 hd1 (Int.not_lt.mp hgt) _ fun hf hs => ?_, h.dls⟩)
    have := h.stopped hs (by simpa using hf)
    omega

theorem inv_step {s' : State} {ev : Event} (hp : p.Valid) (h : Inv p s)
    (hs : step p s ev = some s') : Inv p s' := by
  cases ev with
  | make d =>
    simp only [step] at hs
    split at hs
    · next hc => cases hs; exact inv_make hp h hc.1 hc.2
    · cases hs
  | tick dt =>
    obtain ⟨rfl, hr, h0, h1, _⟩ := step_tick hs
    exact inv_tick hp h hr h0 h1
  | stop => cases hs; exact inv_stop h
  | idle dt =>
    obtain ⟨rfl, h0, h1⟩ := step_idle hs
    exact ⟨Int.le_trans h.lw_le (Int.le_add_of_nonneg_right h0), h.unstarted, h.cur_eq,
      fun hr => ⟨(h.progress hr).1, h1 hr⟩, h.stopped, h.loopcond, fun e he => (h.dls e he).adv hp h (adv_idle s dt h0)⟩
  | finish i =>
    simp only [step] at hs
    split at hs
    · cases hs; exact h.with_pending _ fun e he => h.dls e (List.mem_of_mem_eraseIdx he)
    · cases hs

theorem inv_of_reachable (hp : p.Valid) (h : Reachable p s) : Inv p s := by
  induction h with
  | init => exact inv_init
  | step e _ hs ih => exact inv_step hp ih hs

end

theorem reachable_of_run (p : Params) (evs : List Event) (s s' : State) (h : Reachable p s)
    (hr : run p s evs = some s') : Reachable p s' := by
  induction evs generalizing s with
  | nil => simp only [run] at hr; cases hr; exact h
  | cons e es ih =>
    simp only [run] at hr
    split at hr
    · cases hr
    · next s1 hs => exact ih s1 (Reachable.step e h hs) hr

/-- for a concrete run `o` the hypothesis is closed: `decide +kernel` evaluates the run once, in the kernel, where
    `⟨_, rfl, by decide⟩` would have the elaborator evaluate it as well, to find the witness -/
theorem exists_some_of_decide {α : Type} {o : Option α} {P : α → Prop} [DecidablePred P]
    (h : o.any (fun s => decide (P s)) = true) : ∃ s, o = some s ∧ P s := by
  cases o with
  | none => cases h
  | some s => exact ⟨s, rfl, of_decide_eq_true h⟩

/-- the same for a run and a component of the state it ends in -/
theorem exists_some₂_of_decide {α β : Type} {o : Option α} {f : α → Option β} {P : α → β → Prop}
    [∀ s g, Decidable (P s g)] (h : o.any (fun s => (f s).any fun g => decide (P s g)) = true) :
    ∃ s g, o = some s ∧ f s = some g ∧ P s g := by
  cases o with
  | none => cases h
  | some s => exact (exists_some_of_decide (o := f s) h).elim fun g hg => ⟨s, g, rfl, hg⟩

end RegexVerif.Lemmas.Clock
