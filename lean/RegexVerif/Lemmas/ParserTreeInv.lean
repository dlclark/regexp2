/-
For J2 (the raw tree the parser returns has the node shapes the reducer assumes: Props/C10Chain.lean).  `shp` is the
reducer's `Reduce.okRaw` on the parser's own node type.  `TreeInv`: the group / alternation / concatenation under
construction, the unit and every frame of the group stack hold well-shaped nodes.  `Keeps m`: `m` keeps `TreeInv` and
the group under construction (`GP m`, its second half, on its own); it composes over `>>=`, so the scanners of one
turn are walked once, down to the primitives (`keeps_run`), without the totality proof.  Closing a group
(`inv_addGroup`) also needs that an ExprCond has received its condition (`NP`), which `Lemmas/ParserExact.lean` and
`Lemmas/ParserRawShape.lean` supply.
-/
import RegexVerif.Lemmas.ParserPartial
import RegexVerif.Model.Reduce

namespace RegexVerif.Parser

variable {α β : Type}

/-! ## The weak shape -/

/-- the child counts of a raw tree (`Reduce.okRaw`) -/
def shapeW (t : NT) (k : Nat) : Bool :=
  Reduce.shapeOk t.toNat k || ((t == .alternate || t == .concatenate) && k == 0)

mutual
def shp : RNode → Bool
  | .mk t _ _ _ _ _ _ kids => shapeW t kids.length && shps kids
def shps : List RNode → Bool
  | [] => true
  | k :: ks => shp k && shps ks
end

theorem shp_iff (x : RNode) : shp x = (shapeW x.t x.kids.length && shps x.kids) := by
  cases x; rw [shp]; rfl

theorem shps_cons (x : RNode) (xs : List RNode) : shps (x :: xs) = (shp x && shps xs) := by rw [shps]
theorem shps_nil : shps [] = true := by rw [shps]

theorem shps_eq_all : ∀ (l : List RNode), shps l = l.all shp
  | [] => by rw [shps]; rfl
  | x :: xs => by rw [shps, List.all_cons, shps_eq_all xs]

theorem shps_reverse {a : List RNode} (ha : shps a = true) : shps a.reverse = true := by
  rw [shps_eq_all, List.all_reverse, ← shps_eq_all, ha]

theorem shps_single {x : RNode} (h : shp x = true) : shps [x] = true := by rw [shps_cons, shps_nil, h]; rfl

theorem leafType_shape {t : NT} (h : isLeafType t = true) : shapeW t 0 = true := by
  cases t <;> first | rfl | cases h

theorem shp_of {x : RNode} (h1 : shapeW x.t x.kids.length = true) (h2 : shps x.kids = true) : shp x = true := by
  rw [shp_iff, h1, h2]; rfl

theorem shp_leaf {r : RNode} (h : Leaf r) : shp r = true :=
  shp_of (by rw [h.1]; exact leafType_shape h.2) (by rw [h.1]; exact shps_nil)

theorem addChild_t (p c : RNode) : (p.addChild c).t = p.t := by cases p; rfl
theorem addChild_kids (p c : RNode) : (p.addChild c).kids = p.kids ++ [c] := by cases p; rfl
theorem addChild_kids_ne_nil (p c : RNode) : (p.addChild c).kids ≠ [] := by rw [addChild_kids]; simp

theorem shps_addChild {p c : RNode} (hp : shps p.kids = true) (hc : shp c = true) : shps (p.addChild c).kids = true := by
  rw [addChild_kids, shps_eq_all, List.all_append, ← shps_eq_all, hp, List.all_cons, hc]
  rfl

theorem kids_of_shp_char {nd : RNode} (h : shp nd = true) (ht : nd.t = .one ∨ nd.t = .notone ∨ nd.t = .set) :
    nd.kids = [] := by
  rw [shp_iff] at h
  have h1 := (Bool.and_eq_true_iff.mp h).1
  cases hk : nd.kids with
  | nil => rfl
  | cons a l =>
    rw [hk] at h1
    rcases ht with ht | ht | ht <;> rw [ht] at h1 <;> cases h1

theorem shp_makeQuantifier {nd : RNode} (h : shp nd = true) (lazy : Bool) (mn mx : Nat) :
    shp (makeQuantifier nd lazy mn mx) = true := by
  unfold makeQuantifier
  split
  · exact shp_leaf ⟨rfl, rfl⟩
  split
  · exact h
  split
  · rename_i hc
    rw [kids_of_shp_char h (.inl hc.2.2)]
    exact shp_leaf ⟨rfl, rfl⟩
  -- a One, Notone or Set becomes the loop over its rune or class, anything else the child of a Loop
  split
  · obtain rfl : _ = [] := kids_of_shp_char h (.inl rfl)
    cases lazy <;> exact shp_leaf ⟨rfl, rfl⟩
  · obtain rfl : _ = [] := kids_of_shp_char h (.inr (.inl rfl))
    cases lazy <;> exact shp_leaf ⟨rfl, rfl⟩
  · obtain rfl : _ = [] := kids_of_shp_char h (.inr (.inr rfl))
    cases lazy <;> exact shp_leaf ⟨rfl, rfl⟩
  · exact shp_of (by cases lazy <;> rfl) (shps_single h)

/-! ## The invariant -/

/-- an open group with its alternation and concatenation under construction -/
structure Open3 (g a c : RNode) : Prop where
  ct : c.t = .concatenate
  ck : shps c.kids = true
  at_ : a.t = .alternate
  ak : shps a.kids = true
  gt : GroupT g.t = true
  gk : shps g.kids = true
  gz : isCond g.t = false → g.kids = []

def FramesOK (st : List Frame) : Prop := ∀ fr ∈ st, Open3 fr.group fr.alternation fr.concatenation
def UnitOK (u : Option RNode) : Prop := ∀ x, u = some x → shp x = true
def TreeInvW (s : PS) : Prop := UnitOK s.unit ∧ FramesOK s.stack
def TreeInv (s : PS) : Prop := Open3 s.group s.alternation s.concatenation ∧ TreeInvW s

theorem TreeInv_frame {s s' : PS} (h : s'.frame = s.frame) (hi : TreeInv s) : TreeInv s' := by
  simp only [PS.frame, Prod.mk.injEq] at h
  obtain ⟨_, h2, h3, h4, h5, h6⟩ := h
  unfold TreeInv TreeInvW at *
  rw [h2, h3, h4, h5, h6]
  exact hi

theorem unitOK_none : UnitOK none := fun _ hx => nomatch hx
theorem unitOK_some {x : RNode} (h : shp x = true) : UnitOK (some x) := fun _ hx => Option.some.inj hx ▸ h

theorem shp_conc {c : RNode} (ht : c.t = .concatenate) (hk : shps c.kids = true) : shp c = true := by
  apply shp_of _ hk
  rw [ht]
  cases c.kids.length <;> rfl

theorem reverseLeft_t (c : RNode) : (reverseLeft c).t = c.t := by
  unfold reverseLeft; split
  · cases c; rfl
  · rfl

theorem reverseLeft_kids {c : RNode} (hk : shps c.kids = true) : shps (reverseLeft c).kids = true := by
  unfold reverseLeft; split
  · cases c; exact shps_reverse hk
  · exact hk

theorem shp_reverseLeft {c : RNode} (ht : c.t = .concatenate) (hk : shps c.kids = true) : shp (reverseLeft c) = true :=
  shp_conc ((reverseLeft_t c).trans ht) (reverseLeft_kids hk)

theorem open3_start {g : RNode} (o : Opts) (h : OpenNode g) : Open3 g (mkNode .alternate o) (mkNode .concatenate o) :=
  ⟨rfl, rfl, rfl, rfl, h.2, by rw [h.1]; rfl, fun _ => h.1⟩

theorem Open3.addConc {g a c : RNode} (h : Open3 g a c) : ∀ (l : List RNode), (∀ x ∈ l, shp x = true) →
    Open3 g a (l.foldl RNode.addChild c)
  | [], _ => h
  | x :: l, hl =>
    Open3.addConc { h with ct := (addChild_t c x).trans h.ct, ck := shps_addChild h.ck (hl x (List.mem_cons_self ..)) }
      l (fun y hy => hl y (List.mem_cons_of_mem _ hy))

/-- the finished concatenation joins the alternation; a new one is begun (for a conditional group: `Open3.addCond`) -/
theorem Open3.addAlt {g a c : RNode} (h : Open3 g a c) (o : Opts) :
    Open3 g (a.addChild (reverseLeft c)) (mkNode .concatenate o) :=
  { h with ct := rfl, ck := rfl, at_ := (addChild_t ..).trans h.at_, ak := shps_addChild h.ak (shp_reverseLeft h.ct h.ck) }

/-- a conditional group takes a child: its condition, or a finished branch -/
theorem Open3.addCond {g a c x : RNode} (h : Open3 g a c) (hc : isCond g.t = true) (hx : shp x = true) :
    Open3 (g.addChild x) a c :=
  { h with gt := by rw [addChild_t]; exact h.gt, gk := shps_addChild h.gk hx,
           gz := by rw [addChild_t, hc]; exact fun h => nomatch h }

/-- "no condition pending": the group under construction is not an ExprCond that still waits for its condition -/
def NP (s : PS) : Prop := ¬(s.group.t = .exprCond ∧ s.group.kids = [])

/-- the tree invariant with no condition pending: what every step of a turn keeps, the one after `(?(` apart -/
def TN (s : PS) : Prop := TreeInv s ∧ NP s

/-! ## The group under construction is left alone by everything but the group operations -/

def GP (m : M α) : Prop := ∀ s a s', m s = .ok a s' → s'.group = s.group

theorem GP.of_frame {m : M α} (h : ∀ s a s', m s = .ok a s' → s'.frame = s.frame) : GP m := by
  intro s a s' hm
  exact frame_group (h s a s' hm)

theorem GP.iff_H {m : M α} : GP m ↔ ∀ g, H (fun s => s.group = g) m (fun _ s' => s'.group = g) :=
  ⟨fun h _ s a s' hg hm => (h s a s' hm).trans hg, fun h s a s' hm => h s.group s a s' rfl hm⟩

theorem np_of_gp {m : M α} (h : GP m) : H NP m (fun _ => NP) := by
  intro s a s' hp hm
  unfold NP at *
  rw [h s a s' hm]
  exact hp

/-! ## What the scanners of one turn keep -/

structure Keeps (m : M α) : Prop where
  inv : H TreeInv m (fun _ => TreeInv)
  grp : ∀ g, H (fun s => s.group = g) m (fun _ s' => s'.group = g)

theorem Keeps.gp {m : M α} (h : Keeps m) : GP m := GP.iff_H.mpr h.grp

theorem Keeps.tn {m : M α} (h : Keeps m) : H TN m (fun _ => TN) :=
  H_and (H.conseq h.inv (fun _ h => h.1) (fun _ _ h => h)) (H.conseq (np_of_gp h.gp) (fun _ h => h.2) (fun _ _ h => h))

theorem Keeps.bind {m : M α} {f : α → M β} (h1 : Keeps m) (h2 : ∀ a, Keeps (f a)) : Keeps (m >>= f) :=
  ⟨H.bind h1.inv fun a => (h2 a).inv, fun g => H.bind (h1.grp g) fun a => (h2 a).grp g⟩
theorem Keeps.pure {a : α} : Keeps (pure a : M α) := ⟨H.pure fun _ h => h, fun _ => H.pure fun _ h => h⟩
theorem Keeps.throw {c : ErrCode} : Keeps (throw c : M α) := ⟨H.throw, fun _ => H.throw⟩
theorem Keeps.fault {f : Fault} : Keeps (fault f : M α) := ⟨H.fault, fun _ => H.fault⟩
theorem Keeps.ite {c : Prop} [Decidable c] {m1 m2 : M α} (h1 : Keeps m1) (h2 : Keeps m2) : Keeps (if c then m1 else m2) :=
  ⟨H.ite (fun _ => h1.inv) (fun _ => h2.inv), fun g => H.ite (fun _ => h1.grp g) (fun _ => h2.grp g)⟩

theorem Keeps.of_frame {m : M α} (h : ∀ s a s', m s = .ok a s' → s'.frame = s.frame) : Keeps m :=
  ⟨fun s a s' hi hm => TreeInv_frame (h s a s' hm) hi, GP.iff_H.mp (GP.of_frame h)⟩

theorem Keeps.modify {f : PS → PS} (h : ∀ s, (f s).frame = s.frame) : Keeps (modify f) :=
  .of_frame (by intro s a s' hm; cases hm; exact h s)

theorem Keeps.of_conc {m : M α}
    (h : ∀ s a s', m s = .ok a s' → (s'.group = s.group ∧ s'.alternation = s.alternation ∧ s'.stack = s.stack) ∧
      (TreeInv s → Open3 s.group s.alternation s'.concatenation ∧ UnitOK s'.unit)) : Keeps m := by
  refine ⟨fun s a s' hi hm => ?_, GP.iff_H.mp fun s a s' hm => (h s a s' hm).1.1⟩
  obtain ⟨⟨h1, h2, h3⟩, h4⟩ := h s a s' hm
  unfold TreeInv TreeInvW
  rw [h1, h2, h3]
  exact ⟨(h4 hi).1, (h4 hi).2, hi.2.2⟩

/-! ## The tree-building operations -/

-- from here on `exact`/`apply` never unfold `H` and the program under it (slow to check)
attribute [local irreducible] H

theorem keeps_setUnit {r : RNode} (h : shp r = true) : Keeps (setUnit (some r)) :=
  .of_conc fun s a s' hm => by cases hm; exact ⟨⟨rfl, rfl, rfl⟩, fun hi => ⟨hi.1, unitOK_some h⟩⟩

theorem keeps_addConcatenate3 (lazy : Bool) (mn mx : Nat) : Keeps (addConcatenate3 lazy mn mx) := by
  refine .of_conc fun s a s' hm => ?_
  unfold addConcatenate3 at hm
  split at hm <;> cases hm
  rename_i u hu
  exact ⟨⟨rfl, rfl, rfl⟩, fun hi => ⟨hi.1.addConc [_] (fun x hx =>
    List.mem_singleton.mp hx ▸ shp_makeQuantifier (hi.2.1 u hu) lazy mn mx), unitOK_none⟩⟩

/-- `addConcatenate` is `addConcatenate3` with the quantifier `{1,1}`, which `makeQuantifier` ignores -/
theorem keeps_addConcatenate : Keeps addConcatenate := keeps_addConcatenate3 false 1 1

variable (E : Env)

theorem keeps_addToConcatenate (pos cch : Nat) : Keeps (addToConcatenate E pos cch) := by
  refine .of_conc fun s a s' hm => ?_
  rw [addToConcatenate_eq] at hm
  split at hm <;> cases hm
  exact ⟨⟨rfl, rfl, rfl⟩, fun hi => ⟨hi.1.addConc _ (fun x hx => shp_leaf (leaf_runKidsG E _ _ x hx)), hi.2.1⟩⟩

theorem inv_addAlternate : H TreeInv addAlternate (fun _ => TreeInv) := by
  unfold addAlternate
  apply H_modify
  intro s hi
  dsimp only
  split
  · exact ⟨{ hi.1.addCond ‹_› (shp_reverseLeft hi.1.ct hi.1.ck) with ct := rfl, ck := rfl }, hi.2⟩
  · exact ⟨hi.1.addAlt _, hi.2⟩

theorem np_addAlternate : H NP addAlternate (fun _ => NP) := by
  unfold addAlternate
  apply H_modify
  intro s hnp
  unfold NP at *
  dsimp only
  split
  · exact fun h => addChild_kids_ne_nil _ _ h.2
  · exact hnp

theorem groupT_shape1 {t : NT} (h : GroupT t = true) (hc : isCond t = false) : shapeW t 1 = true := by
  simp only [GroupT, Bool.or_eq_true, beq_iff_eq] at h
  rcases h with (((((rfl | rfl) | rfl) | rfl) | rfl) | rfl) | rfl <;> first | rfl | cases hc

/-- the child count `addGroup` lets through is one `shapeW` allows: a BackRefCond ends with one or two children, an
    ExprCond that has its condition with two or three -/
theorem cond_shape {t : NT} {k : Nat} (hc : isCond t = true) (hnp : ¬(t = .exprCond ∧ k = 0))
    (hk : ((t == .backRefCond && decide (k + 1 > 2)) || decide (k + 1 > 3)) = false) : shapeW t (k + 1) = true := by
  simp only [isCond, Bool.or_eq_true, beq_iff_eq] at hc
  simp only [Bool.or_eq_false_iff, decide_eq_false_iff_not] at hk
  rcases hc with rfl | rfl
  · obtain rfl | rfl : k = 1 ∨ k = 2 := by have := hk.2; have : k ≠ 0 := fun h => hnp ⟨rfl, h⟩; omega
    all_goals rfl
  · obtain rfl | rfl : k = 0 ∨ k = 1 := by have := hk.1; simp at this; omega
    all_goals rfl

/-- the closed group becomes the unit; an ExprCond must have received its condition (`NP`) -/
theorem inv_addGroup : H TN addGroup (fun _ => TreeInvW) := by
  unfold H
  intro s a s' ⟨hi, hnp⟩ hm
  unfold addGroup at hm
  have hc := shp_reverseLeft hi.1.ct hi.1.ck
  split at hm
  · rename_i hcond
    dsimp only at hm
    split at hm
    · cases hm
    · rename_i hlen
      cases hm
      refine ⟨unitOK_some (shp_of ?_ (shps_addChild hi.1.gk hc)), hi.2.2⟩
      rw [addChild_t, addChild_kids, List.length_append] at hlen ⊢
      exact cond_shape hcond (fun h => hnp ⟨h.1, List.eq_nil_of_length_eq_zero h.2⟩) (Bool.eq_false_iff.mpr hlen)
  · rename_i hcond
    cases hm
    have hcf : isCond s.group.t = false := Bool.eq_false_iff.mpr hcond
    have ha : shp (s.alternation.addChild (reverseLeft s.concatenation)) = true :=
      shp_of (by rw [addChild_t, addChild_kids, hi.1.at_, List.length_append]; rfl) (shps_addChild hi.1.ak hc)
    refine ⟨unitOK_some (shp_of ?_ ?_), hi.2.2⟩
    · rw [addChild_t, addChild_kids, hi.1.gz hcf]
      exact groupT_shape1 hi.1.gt hcf
    · rw [addChild_kids, hi.1.gz hcf]
      exact shps_single ha

/-- the frame on top becomes the group under construction; an ExprCond without children takes the unit as its
    condition -/
theorem inv_popGroup : H TreeInvW popGroup (fun _ => TN) := by
  unfold H
  intro s a s' hi hm
  unfold popGroup at hm
  split at hm
  · cases hm
  rename_i fr st hst
  have hfr := hi.2 fr (hst ▸ List.mem_cons_self ..)
  have hrest : FramesOK st := fun f hf => hi.2 f (hst ▸ List.mem_cons_of_mem _ hf)
  dsimp only at hm
  split at hm
  · rename_i hec
    split at hm
    · cases hm
    · rename_i u hu
      cases hm
      simp only [Bool.and_eq_true, beq_iff_eq] at hec
      exact ⟨⟨hfr.addCond (by rw [hec.1]; rfl) (hi.1 u hu), unitOK_none, hrest⟩,
        fun hnp => addChild_kids_ne_nil _ _ hnp.2⟩
  · rename_i hec
    cases hm
    refine ⟨⟨hfr, ⟨hi.1, hrest⟩⟩, fun hnp => hec ?_⟩
    dsimp only at hnp ⊢
    simp [hnp.1, hnp.2]

theorem inv_pushGroup : H TreeInv pushGroup (fun _ => TreeInv) := by
  unfold pushGroup
  apply H_modify
  intro s hi
  refine ⟨hi.1, ⟨hi.2.1, ?_⟩⟩
  intro fr hfr
  rcases List.mem_cons.mp hfr with h | h
  · rw [h]; exact hi.1
  · exact hi.2.2 fr h

theorem inv_startGroup {g : RNode} (hg : OpenNode g) : H TreeInv (startGroup g) (fun _ => TreeInv) := by
  unfold startGroup
  apply H_modify
  intro s hi
  exact ⟨open3_start _ hg, hi.2⟩

/-! ## The scanners of one turn -/

theorem keeps_scanBlank : Keeps (scanBlank E) := by
  refine .of_frame fun s a s' hm => ?_
  unfold scanBlank at hm
  dsimp only at hm
  split at hm <;> cases hm
  rfl

theorem keeps_isTrueQuantifier : Keeps (isTrueQuantifier E) := by
  refine .of_frame fun s a s' hm => ?_
  unfold isTrueQuantifier at hm
  split at hm <;> cases hm <;> rfl

theorem keeps_scanDecimal : Keeps (scanDecimal E) := by
  refine .of_frame fun s a s' hm => ?_
  unfold scanDecimal at hm
  dsimp only at hm
  split at hm <;> cases hm
  rfl

theorem keeps_charsRight : Keeps (charsRight E) := .of_frame fun s a s' hm => by cases hm; rfl
theorem keeps_textpos : Keeps textpos := .of_frame fun s a s' hm => by cases hm; rfl
theorem keeps_opts : Keeps opts := .of_frame fun s a s' hm => by cases hm; rfl
theorem keeps_get : Keeps get := .of_frame fun s a s' hm => by cases hm; rfl
theorem keeps_textto (p : Nat) : Keeps (textto p) := .modify fun _ => rfl
theorem keeps_moveRight (i : Nat) : Keeps (moveRight i) := .modify fun _ => rfl
theorem keeps_moveLeft : Keeps moveLeft :=
  .of_frame fun s a s' hm => by unfold moveLeft at hm; split at hm <;> cases hm; rfl
theorem keeps_rightChar (i : Nat) : Keeps (rightChar E i) :=
  .of_frame fun s a s' hm => by unfold rightChar at hm; split at hm <;> cases hm; rfl
theorem keeps_charAt (i : Nat) : Keeps (charAt E i) :=
  .of_frame fun s a s' hm => by unfold charAt at hm; split at hm <;> cases hm; rfl

/-- the options stack is no part of the invariant -/
theorem keeps_popOptions : Keeps popOptions := by
  refine .of_conc fun s a s' hm => ?_
  unfold popOptions at hm
  split at hm <;> cases hm
  exact ⟨⟨rfl, rfl, rfl⟩, fun hi => ⟨hi.1, hi.2.1⟩⟩
theorem keeps_popKeepOptions : Keeps popKeepOptions := by
  refine .of_conc fun s a s' hm => ?_
  unfold popKeepOptions at hm
  split at hm <;> cases hm
  exact ⟨⟨rfl, rfl, rfl⟩, fun hi => ⟨hi.1, hi.2.1⟩⟩
theorem inv_pushOptions : H TreeInv pushOptions (fun _ => TreeInv) := by
  unfold pushOptions; apply H_modify; intro s hi; exact hi
theorem gp_pushOptions : GP pushOptions := fun s a s' hm => by cases hm; rfl

/-- symbolic execution of a scanner made of the operations above: binds, conditionals and matches are taken apart, the
    operations closed by their lemmas; nothing is unfolded, so calls of other scanners are left as goals -/
syntax "keeps_run" : tactic
macro_rules
  | `(tactic| keeps_run) => `(tactic| repeat' with_reducible (first
      | (apply Keeps.bind)
      | (apply Keeps.ite)
      | intro _
      | exact Keeps.pure
      | exact Keeps.throw
      | exact Keeps.fault
      | exact keeps_scanBlank _
      | exact keeps_isTrueQuantifier _
      | exact keeps_scanDecimal _
      | exact keeps_charsRight _
      | exact keeps_textpos
      | exact keeps_opts
      | exact keeps_textto _
      | exact keeps_moveRight _
      | exact keeps_rightChar _ _
      | exact keeps_charAt _ _
      | exact keeps_get
      | exact keeps_addConcatenate
      | exact keeps_addConcatenate3 _ _ _
      | exact keeps_addToConcatenate _ _ _
      | split))

theorem keeps_moveRightGetChar : Keeps (moveRightGetChar E) := by
  unfold moveRightGetChar
  keeps_run

theorem keeps_nextIs (c : Nat) : Keeps (nextIs E c) := by
  unfold nextIs
  keeps_run

theorem keeps_quantMax (sp mn : Nat) : Keeps (quantMax E sp mn) := by
  unfold quantMax orM rcIs
  keeps_run
  all_goals exact keeps_nextIs E _

theorem keeps_quantClosed (sp : Nat) : Keeps (quantClosed E sp) := by
  unfold quantClosed
  keeps_run
  all_goals exact keeps_moveRightGetChar E

theorem keeps_quantBrace : Keeps (quantBrace E) := by
  unfold quantBrace
  keeps_run
  all_goals first | exact keeps_quantMax E _ _ | exact keeps_quantClosed E _

theorem keeps_quantBounds (ch : Nat) : Keeps (quantBounds E ch) := by
  unfold quantBounds
  keeps_run
  all_goals exact keeps_quantBrace E

theorem keeps_quantApply (mn mx : Nat) : Keeps (quantApply E mn mx) := by
  unfold quantApply
  keeps_run
  all_goals exact keeps_nextIs E _

theorem keeps_scanQuantifier (ch : Nat) : Keeps (scanQuantifier E ch) := by
  unfold scanQuantifier
  keeps_run
  all_goals first | exact keeps_quantBounds E _ | exact keeps_quantApply E _ _

theorem keeps_stepAfter (b : Bool) : Keeps (stepAfter E b) := by
  unfold stepAfter
  keeps_run
  all_goals first | exact keeps_moveRightGetChar E | exact keeps_scanQuantifier E _

theorem keeps_stepLiteral (sp ep : Nat) (isQ wp0 : Bool) : Keeps (stepLiteral E sp ep isQ wp0) := by
  unfold stepLiteral
  keeps_run
  all_goals exact keeps_setUnit (shp_leaf (leaf_nodeCh E _ rfl _ _))

/-! the two halves of `Keeps` for the scanners of the quantifier -/

theorem inv_moveRightGetChar : H TreeInv (moveRightGetChar E) (fun _ => TreeInv) := (keeps_moveRightGetChar E).inv
theorem inv_nextIs (c : Nat) : H TreeInv (nextIs E c) (fun _ => TreeInv) := (keeps_nextIs E c).inv
theorem inv_quantMax (sp mn : Nat) : H TreeInv (quantMax E sp mn) (fun _ => TreeInv) := (keeps_quantMax E sp mn).inv
theorem inv_quantClosed (sp : Nat) : H TreeInv (quantClosed E sp) (fun _ => TreeInv) := (keeps_quantClosed E sp).inv
theorem inv_quantBrace : H TreeInv (quantBrace E) (fun _ => TreeInv) := (keeps_quantBrace E).inv
theorem inv_quantBounds (ch : Nat) : H TreeInv (quantBounds E ch) (fun _ => TreeInv) := (keeps_quantBounds E ch).inv
theorem inv_quantApply (mn mx : Nat) : H TreeInv (quantApply E mn mx) (fun _ => TreeInv) := (keeps_quantApply E mn mx).inv
theorem inv_scanQuantifier (ch : Nat) : H TreeInv (scanQuantifier E ch) (fun _ => TreeInv) := (keeps_scanQuantifier E ch).inv

theorem gp_moveRightGetChar : GP (moveRightGetChar E) := (keeps_moveRightGetChar E).gp
theorem gp_nextIs (c : Nat) : GP (nextIs E c) := (keeps_nextIs E c).gp
theorem gp_quantMax (sp mn : Nat) : GP (quantMax E sp mn) := (keeps_quantMax E sp mn).gp
theorem gp_quantClosed (sp : Nat) : GP (quantClosed E sp) := (keeps_quantClosed E sp).gp
theorem gp_quantBrace : GP (quantBrace E) := (keeps_quantBrace E).gp
theorem gp_quantBounds (ch : Nat) : GP (quantBounds E ch) := (keeps_quantBounds E ch).gp
theorem gp_quantApply (mn mx : Nat) : GP (quantApply E mn mx) := (keeps_quantApply E mn mx).gp
theorem gp_scanQuantifier (ch : Nat) : GP (scanQuantifier E ch) := (keeps_scanQuantifier E ch).gp

end RegexVerif.Parser
