/-
The capacity argument of C13 over the abstract system of Model/Capacity.lean.  A successful storage check leaves `need`
slots free, a move pushes at most the weight of its code position, and the potential `phi` — the weights still ahead —
is at most `need`; so `used + phi ≤ cap` is kept by every legal move (`step_inv`) and the peak of a move fits
(`peak_le`).  That the potential of a program is at most `4·TrackCount` comes from the per-opcode bound `opBound`: what an
opcode may push is paid for by its being counted in `TrackCount`, with `Nullmark` paid by the `Goto` the writer pairs it
with (`weights_sum_bound`).  Beside it the arithmetic of the real check (`ensure`, `grow`, `clampLimit`) and of the limit.

Entry points.  Along a move list: `start_inv`, `run_inv` (the invariant at the start and along a legal run), `run_cons` /
`run_append` (a run taken apart at its first / last move), `run_l` (the logical state does not depend on the capacities).
Under a limit: `ensOf_le`, `run_cap_le`, `ensure_ok_iff`.  `TrackInv ws s` unfolds to `s.l.used + phi ws s.l.pc ≤ s.cap`.
-/
import RegexVerif.Model.Capacity

namespace RegexVerif.Lemmas.Capacity
open RegexVerif.Capacity RegexVerif.Generated

theorem clampLimit_le (L : Int) (n : Nat) : clampLimit L n ≤ n := by
  unfold clampLimit; split <;> omega

theorem clampLimit_le_limit (L : Int) (n : Nat) (h : 0 ≤ L) : (clampLimit L n : Int) ≤ L := by
  unfold clampLimit; split <;> omega

theorem clampLimit_eq (L : Int) (n : Nat) :
    clampLimit L n = if 0 ≤ L ∧ L < (n : Int) then L.toNat else n := rfl

theorem clampLimit_cases (L : Int) (n : Nat) :
    (¬ (0 ≤ L ∧ L < (n : Int)) ∧ clampLimit L n = n) ∨ (0 ≤ L ∧ L < (n : Int) ∧ (clampLimit L n : Int) = L) := by
  unfold clampLimit; split <;> omega

theorem grow_some {L : Int} {len n : Nat} (h : grow L len = some n) :
    len < n ∧ n ≤ (if len = 0 then 1 else len * 2) ∧ (0 ≤ L → (n : Int) ≤ L) ∧
    (n = (if len = 0 then 1 else len * 2) ∨ (n : Int) = L) := by
  unfold grow at h
  simp only at h
  have hd : (if len * 2 = 0 then 1 else len * 2) = (if len = 0 then 1 else len * 2) := by split <;> split <;> omega
  have hc := clampLimit_cases L (if len * 2 = 0 then 1 else len * 2)
  generalize (if len * 2 = 0 then 1 else len * 2) = d at h hd hc
  split at h
  · cases h
  · cases h; omega

theorem grow_none {L : Int} {len : Nat} : grow L len = none ↔ (0 ≤ L ∧ L ≤ (len : Int)) := by
  unfold grow
  simp only
  have hd : len < (if len * 2 = 0 then 1 else len * 2) := by split <;> omega
  have hc := clampLimit_cases L (if len * 2 = 0 then 1 else len * 2)
  generalize (if len * 2 = 0 then 1 else len * 2) = d at hd hc ⊢
  split <;> simp <;> omega

/-- the loop of `ensureStorage`, `r = (new length, ok)`.  The four conjuncts: the length never shrinks; on success `4·tc`
    slots are free, and the length changed only if they were not; on failure there is a limit that the demand exceeds, and a
    length under it has been raised to it; a length under the limit stays under it -/
theorem ensureFuel_spec (L : Int) (tc used : Nat) :
    ∀ fuel len, used + tc * 4 ≤ fuel + len →
      let r := ensureFuel fuel L tc len used
      len ≤ r.1 ∧
      (r.2 = true → used + tc * 4 ≤ r.1 ∧ (r.1 = len ∨ len < used + tc * 4)) ∧
      (r.2 = false → 0 ≤ L ∧ (r.1 : Int) < (used + tc * 4 : Nat) ∧ ((len : Int) ≤ L → (r.1 : Int) = L)) ∧
      ((0 ≤ L → (len : Int) ≤ L) → (0 ≤ L → (r.1 : Int) ≤ L)) := by
  intro fuel
  induction fuel with
  | zero =>
    intro len h
    simp only [ensureFuel]
    split <;> simp <;> omega
  | succ f ih =>
    intro len h
    simp only [ensureFuel]
    split
    · rename_i hlt
      cases hg : grow L len with
      | none =>
        have := grow_none.mp hg
        simp
        omega
      | some n =>
        have hs := grow_some hg
        have := ih n (by omega)
        simp only at this ⊢
        obtain ⟨h1, h2, h3, h4⟩ := this
        refine ⟨by omega, ?_, ?_, ?_⟩
        · intro hr; have := h2 hr; omega
        · intro hr
          have := h3 hr
          refine ⟨this.1, this.2.1, ?_⟩
          intro hl
          apply this.2.2
          exact hs.2.2.1 this.1
        · intro hl h0
          apply h4 _ h0
          intro h0
          exact hs.2.2.1 h0
    · simp; omega

theorem ensure_spec (L : Int) (tc len used : Nat) :
    let r := ensure L tc len used
    len ≤ r.1 ∧
    (r.2 = true → used + tc * 4 ≤ r.1 ∧ (r.1 = len ∨ len < used + tc * 4)) ∧
    (r.2 = false → 0 ≤ L ∧ (r.1 : Int) < (used + tc * 4 : Nat) ∧ ((len : Int) ≤ L → (r.1 : Int) = L)) ∧
    ((0 ≤ L → (len : Int) ≤ L) → (0 ≤ L → (r.1 : Int) ≤ L)) :=
  ensureFuel_spec L tc used (used + tc * 4) len (by omega)

theorem ensure_ok_iff (L : Int) (tc len used : Nat) (hlen : 0 ≤ L → (len : Int) ≤ L) :
    (ensure L tc len used).2 = true ↔ (L < 0 ∨ ((used + tc * 4 : Nat) : Int) ≤ L) := by
  have h := ensure_spec L tc len used
  simp only at h
  obtain ⟨_, h2, h3, h4⟩ := h
  constructor
  · intro hr
    have := h2 hr
    by_cases h0 : 0 ≤ L
    · right; have := h4 hlen h0; omega
    · left; omega
  · intro hL
    cases hr : (ensure L tc len used).2 with
    | true => rfl
    | false =>
      have := h3 hr
      have := this.2.2
      rcases hL with hL | hL
      · omega
      · have h5 := this (hlen (by omega)); omega

theorem ensOf_spec (L : Int) (tc : Nat) : EnsSpec (tc * 4) (ensOf L tc) := by
  intro cap used c h
  unfold ensOf at h
  have hs := ensure_spec L tc cap used
  simp only at h hs
  split at h
  · rename_i hr
    injection h with h
    subst h
    have := hs.2.1 hr
    omega
  · simp at h

theorem phi_step (ws : List Nat) (pc : Nat) : phi ws pc = weightAt ws pc + phi ws (pc + 1) := by
  unfold phi weightAt
  induction ws generalizing pc with
  | nil => simp
  | cons w ws ih =>
    cases pc with
    | zero => simp
    | succ n => simpa using ih n

theorem phi_add (ws : List Nat) (a d : Nat) : phi ws (a + d) ≤ phi ws a := by
  induction d with
  | zero => exact Nat.le_refl _
  | succ d ih => have := phi_step ws (a + d); rw [← Nat.add_assoc]; omega

theorem phi_anti (ws : List Nat) {a b : Nat} (h : a ≤ b) : phi ws b ≤ phi ws a := by
  have := phi_add ws a (b - a)
  rwa [Nat.add_sub_cancel' h] at this

theorem phi_forward (ws : List Nat) {a b : Nat} (h : a < b) : weightAt ws a + phi ws b ≤ phi ws a := by
  have h1 := phi_step ws a
  have h2 : phi ws b ≤ phi ws (a + 1) := phi_anti ws h
  omega

theorem phi_zero (ws : List Nat) : phi ws 0 = ws.sum := by simp [phi]

/-- the weights as they come out of the regenerated fingerprints, evaluated once (opcodes 3–8, 23–34, 36 push) -/
theorem weightTable_eq : weightTable =
    [0, 0, 0, 3, 3, 3, 3, 3, 3, 0, 0, 0, 0, 0, 0, 0, 0, 0, 0, 0, 0, 0, 0, 2, 3, 3, 1, 1, 3, 4, 1, 1, 2, 2, 1, 0, 2,
      0, 0, 0, 0, 0, 0, 0, 0, 0, 0] := by decide +kernel

theorem weight_out {op : Nat} (h : Opcodes.numOpcodes ≤ op) : weight op = 0 := by
  unfold weight
  have : weightTable.length = Opcodes.numOpcodes := by simp [weightTable]
  rw [List.getElem?_eq_none (by omega)]
  rfl

theorem backtracks_out {op : Nat} (h : Opcodes.numOpcodes ≤ op) : backtracks op = false := by
  unfold backtracks
  have : Opcodes.opcodeBacktracks.length = Opcodes.numOpcodes := by decide
  rw [List.getElem?_eq_none (by omega)]
  rfl

/-- per opcode: what it may push is paid for by its being counted, with Nullmark paid by a Goto -/
def opBound (op : Nat) : Bool :=
  decide (weight op + (if op = Opcodes.opGoto then 4 else 0) ≤
    (if backtracks op then 4 else 0) + (if op = Opcodes.opNullmark then 1 else 0))

/-- the table fact itself is discharged in Props/C13 (`op_bound_table`, by `decide` over the regenerated
    tables) so that a change of the Go source shows up as a broken property obligation -/
def OpBoundTable : Prop := ∀ op, op < Opcodes.numOpcodes → opBound op = true

theorem opBound_all (hT : OpBoundTable) (op : Nat) :
    weight op + (if op = Opcodes.opGoto then 4 else 0) ≤
    (if backtracks op then 4 else 0) + (if op = Opcodes.opNullmark then 1 else 0) := by
  by_cases h : op < Opcodes.numOpcodes
  · have := hT op h
    unfold opBound at this
    exact of_decide_eq_true this
  · have h' : Opcodes.numOpcodes ≤ op := Nat.le_of_not_lt h
    rw [weight_out h', backtracks_out h']
    have h1 : op ≠ Opcodes.opGoto := by
      have : Opcodes.opGoto < Opcodes.numOpcodes := by decide
      omega
    simp [h1]

theorem weights_sum_bound (hT : OpBoundTable) (prog : List Nat) :
    (weights prog).sum + 4 * count Opcodes.opGoto prog ≤ 4 * trackCount prog + count Opcodes.opNullmark prog := by
  induction prog with
  | nil => simp [weights, count, trackCount]
  | cons op rest ih =>
    have hb := opBound_all hT op
    have e1 : (if backtracks op = true then 4 else 0) = 4 * (if backtracks op = true then 1 else 0) := by
      split <;> rfl
    have e2 : (if op = Opcodes.opGoto then 4 else 0) = 4 * (if op = Opcodes.opGoto then 1 else 0) := by
      split <;> rfl
    simp only [weights, count, trackCount, List.map_cons, List.sum_cons] at ih ⊢
    omega

theorem step_l {ens : Nat → Nat → Option Nat} {s s' : St} {m : Move} (h : step ens s m = some s') :
    s'.l = lstep s.l m := by
  unfold step at h
  simp only at h
  split at h
  · cases he : ens s.cap (lstep s.l m).used with
    | none => simp [he] at h
    | some c => simp [he] at h; subst h; rfl
  · injection h with h; subst h; rfl

theorem step_inv {ws : List Nat} {need : Nat} {ens : Nat → Nat → Option Nat}
    (hens : EnsSpec need ens) (hneed : phi ws 0 ≤ need)
    {s s' : St} {m : Move} (hinv : TrackInv ws s) (hl : legal ws s.l m) (h : step ens s m = some s') :
    TrackInv ws s' := by
  unfold TrackInv at hinv ⊢
  unfold step at h
  simp only at h
  split at h
  · -- through a check: free ≥ need ≥ Φ(0) ≥ Φ(t)
    cases he : ens s.cap (lstep s.l m).used with
    | none => simp [he] at h
    | some c =>
      simp [he] at h
      subst h
      have := (hens _ _ _ he).2
      have := phi_anti ws (Nat.zero_le (lstep s.l m).pc)
      simp only
      omega
  · rename_i hc
    injection h with h
    subst h
    cases m with
    | go k p t =>
      simp [checks] at hc
      simp only [legal] at hl
      have := phi_forward ws hc
      simp only [lstep]
      omega
    | pop q t =>
      simp [checks] at hc
      have := phi_anti ws hc
      simp only [lstep]
      omega

theorem peak_le {ws : List Nat} {s : St} {m : Move} (hinv : TrackInv ws s) (hl : legal ws s.l m) :
    peak s.l m ≤ s.cap := by
  unfold TrackInv at hinv
  unfold peak
  cases m with
  | go k p t =>
    simp only [legal] at hl
    have := phi_step ws s.l.pc
    simp only [lstep]
    omega
  | pop q t => simp only [lstep]; omega

theorem run_cons {ens : Nat → Nat → Option Nat} {s s' : St} {m : Move} {ms : List Move} :
    run ens s (m :: ms) = some s' ↔ ∃ s1, step ens s m = some s1 ∧ run ens s1 ms = some s' := by
  simp only [run]
  cases step ens s m <;> simp

theorem run_inv {ws : List Nat} {need : Nat} {ens : Nat → Nat → Option Nat}
    (hens : EnsSpec need ens) (hneed : phi ws 0 ≤ need) :
    ∀ (ms : List Move) (s s' : St), TrackInv ws s → LegalRun ws s.l ms → run ens s ms = some s' → TrackInv ws s' := by
  intro ms
  induction ms with
  | nil => intro s s' hinv _ h; cases h; exact hinv
  | cons m ms ih =>
    intro s s' hinv hl h
    obtain ⟨s1, hs, h⟩ := run_cons.mp h
    exact ih s1 s' (step_inv hens hneed hinv hl.1 hs) (by rw [step_l hs]; exact hl.2) h

theorem run_l {ens : Nat → Nat → Option Nat} :
    ∀ (ms : List Move) (s s' : St), run ens s ms = some s' → s'.l = lrun s.l ms := by
  intro ms
  induction ms with
  | nil => intro s s' h; cases h; rfl
  | cons m ms ih =>
    intro s s' h
    obtain ⟨s1, hs, h⟩ := run_cons.mp h
    rw [ih s1 s' h, step_l hs]
    rfl

theorem run_append {ens : Nat → Nat → Option Nat} :
    ∀ (ms : List Move) (m : Move) (s s' : St), run ens s (ms ++ [m]) = some s' →
      ∃ s1, run ens s ms = some s1 ∧ step ens s1 m = some s' := by
  intro ms
  induction ms with
  | nil =>
    intro m s s' h
    obtain ⟨s1, hs, h⟩ := run_cons.mp h
    cases h
    exact ⟨s, rfl, hs⟩
  | cons m0 ms ih =>
    intro m s s' h
    obtain ⟨s1, hs, h⟩ := run_cons.mp h
    obtain ⟨s2, h2, h3⟩ := ih m s1 s' h
    exact ⟨s2, run_cons.mpr ⟨s1, hs, h2⟩, h3⟩

theorem legalRun_append {ws : List Nat} :
    ∀ (ms : List Move) (m : Move) (l : LSt), LegalRun ws l (ms ++ [m]) →
      LegalRun ws l ms ∧ legal ws (lrun l ms) m := by
  intro ms
  induction ms with
  | nil => intro m l h; simp [LegalRun] at h; exact ⟨trivial, h⟩
  | cons m0 ms ih =>
    intro m l h
    simp only [List.cons_append, LegalRun] at h
    have := ih m _ h.2
    exact ⟨⟨h.1, this.1⟩, this.2⟩

theorem ensOf_unlimited (L : Int) (hL : L < 0) (tc len used : Nat) : ∃ c, ensOf L tc len used = some c := by
  unfold ensOf
  have := (ensure_ok_iff L tc len used (by omega)).mpr (Or.inl hL)
  simp [this]

theorem run_total {ens : Nat → Nat → Option Nat} (htot : ∀ cap used, ∃ c, ens cap used = some c) :
    ∀ (ms : List Move) (s : St), ∃ s', run ens s ms = some s' := by
  intro ms
  induction ms with
  | nil => intro s; exact ⟨s, rfl⟩
  | cons m ms ih =>
    intro s
    have : ∃ s1, step ens s m = some s1 := by
      unfold step
      simp only
      split
      · obtain ⟨c, hc⟩ := htot s.cap (lstep s.l m).used
        refine ⟨⟨lstep s.l m, c⟩, ?_⟩
        simp [hc]
      · exact ⟨_, rfl⟩
    obtain ⟨s1, h1⟩ := this
    obtain ⟨s', h'⟩ := ih s1
    exact ⟨s', run_cons.mpr ⟨s1, h1, h'⟩⟩

theorem alloc0_le (L : Int) (tc : Nat) (h : 0 ≤ L) : (alloc0 L tc : Int) ≤ L := by
  unfold alloc0; exact clampLimit_le_limit L _ h

theorem ensOf_le {L : Int} {tc len used c : Nat} (h0 : 0 ≤ L) (hlen : (len : Int) ≤ L)
    (h : ensOf L tc len used = some c) : (c : Int) ≤ L := by
  unfold ensOf at h
  have hs := (ensure_spec L tc len used).2.2.2 (fun _ => hlen) h0
  simp only at h
  split at h
  · injection h with h; subst h; exact hs
  · simp at h

theorem step_cap_le {L : Int} {tc : Nat} (h0 : 0 ≤ L) {s s' : St} {m : Move} (hc : (s.cap : Int) ≤ L)
    (h : step (ensOf L tc) s m = some s') : (s'.cap : Int) ≤ L := by
  unfold step at h
  simp only at h
  split at h
  · cases he : ensOf L tc s.cap (lstep s.l m).used with
    | none => simp [he] at h
    | some c => simp [he] at h; subst h; exact ensOf_le h0 hc he
  · injection h with h; subst h; exact hc

theorem run_cap_le {L : Int} {tc : Nat} (h0 : 0 ≤ L) :
    ∀ (ms : List Move) (s s' : St), (s.cap : Int) ≤ L → run (ensOf L tc) s ms = some s' → (s'.cap : Int) ≤ L := by
  intro ms
  induction ms with
  | nil => intro s s' hc h; cases h; exact hc
  | cons m ms ih =>
    intro s s' hc h
    obtain ⟨s1, hs, h⟩ := run_cons.mp h
    exact ih s1 s' (step_cap_le h0 hc hs) h

theorem start_inv {ws : List Nat} {need : Nat} {ens : Nat → Nat → Option Nat}
    (hens : EnsSpec need ens) (hneed : phi ws 0 ≤ need) {cap0 : Nat} {s0 : St}
    (h : start ens cap0 = some s0) : TrackInv ws s0 ∧ s0.l = ⟨0, 0⟩ := by
  unfold start at h
  cases he : ens cap0 0 with
  | none => simp [he] at h
  | some c =>
    simp [he] at h
    subst h
    have := (hens _ _ _ he).2
    refine ⟨?_, rfl⟩
    unfold TrackInv
    simp only
    omega

end RegexVerif.Lemmas.Capacity
