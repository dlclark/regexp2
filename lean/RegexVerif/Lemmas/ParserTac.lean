/-
A syntax-directed symbolic-execution tactic for `wp` goals of the parser model: `wp_run`.  No proof of the
development calls it: scanners, pre-scan and the pieces of a turn are proved in the position calculus of
`ParserRun.lean`, the rest of the main loop from the `wp` equations.

`wp_step` looks at the head of the program in a goal `wp m Q R s`: if `m` is a call of a scanner `f`
that has a specification lemma (`scans_f`, `scansF_f` or `wp_f`, stating `Scans`, `ScansLt`, `ScansK`,
`ScansF` or `ScansBack`), the matching call rule of `ParserCall.lean` is applied; if `m` is a local function `next` the
hypothesis `hnext : ∀ …, ScansF E a k p (next …)` is used; otherwise the `wp` equations are rewritten.
Nothing is unfolded by unification.
-/
import Lean
import RegexVerif.Lemmas.ParserCall

namespace RegexVerif.Parser

set_option hygiene false in
macro "wp_rule3 " r:ident c:term : tactic =>
  `(tactic| refine $r E (by apply $c <;> first | assumption | apply hsub | apply hnext | adv) (by adv) ?_ ?_)
set_option hygiene false in
macro "wp_rule4 " r:ident c:term : tactic =>
  `(tactic| refine $r E (by apply $c <;> first | assumption | apply hsub | apply hnext | adv) (by adv) (by adv) ?_ ?_)

open Lean Elab Tactic Meta in
/-- one step of symbolic execution on a goal `wp m Q R s` (see the file header) -/
elab "wp_step" : tactic => withMainContext do
  let goal ← getMainGoal
  let t ← instantiateMVars (← goal.getType)
  let t' := t.headBeta
  if t' != t then
    let g' ← goal.change t'
    replaceMainGoal [g']
    return
  unless t.isAppOfArity ``RegexVerif.Parser.wp 5 do throwError "wp_step: not a wp goal"
  let m := t.getAppArgs[1]!
  match m.getAppFn with
  | .const n _ =>
    if n == ``RegexVerif.Parser.ignoreErr then
      evalTactic (← `(tactic| apply wp_ignoreErr))
      return
    let pre := n.getPrefix
    let base := n.getString!
    let mut found : Option (Name × Name × Bool) := none
    for c in [Name.str pre ("scans_" ++ base), Name.str pre ("scansF_" ++ base), Name.str pre ("wp_" ++ base)] do
      if found.isNone then
        if let some ci := (← getEnv).find? c then
          match ci.type.getForallBody.getAppFn.constName? with
          | some ``RegexVerif.Parser.Scans => found := some (c, ``RegexVerif.Parser.wp_call, false)
          | some ``RegexVerif.Parser.ScansLt => found := some (c, ``RegexVerif.Parser.wp_call_lt, false)
          | some ``RegexVerif.Parser.ScansK => found := some (c, ``RegexVerif.Parser.wp_call_k, false)
          | some ``RegexVerif.Parser.ScansF => found := some (c, ``RegexVerif.Parser.wp_callF, true)
          | some ``RegexVerif.Parser.ScansBack => found := some (c, ``RegexVerif.Parser.wp_call_back, true)
          | _ => pure ()
    match found with
    | some (c, r, false) => evalTactic (← `(tactic| wp_rule3 $(mkIdent r) $(mkIdent c)))
    | some (c, r, true) => evalTactic (← `(tactic| wp_rule4 $(mkIdent r) $(mkIdent c)))
    | none => evalTactic (← `(tactic| wp_simp3))
  | .fvar id =>
    let nm ← id.getUserName
    let h := mkIdent (Name.mkSimple ("h" ++ nm.toString))
    evalTactic (← `(tactic| wp_rule4 wp_callF $h))
  | _ => evalTactic (← `(tactic| wp_simp3))

/-- close an `Adv` / `AdvF` goal or an arithmetic side goal from the facts in the context -/
syntax "advf2" : tactic
macro_rules
  | `(tactic| advf2) => `(tactic| first
      | trivial
      | omega
      | (refine ⟨?_, ?_, ?_, ?_⟩ <;> first
          | omega
          | (dsimp only at *; omega)
          | (simp only [PS.frame, Prod.mk.injEq, *, and_self]; done)
          | (intro hN; solve_by_elim)
          | ((try dsimp only [PS.frame] at *); simp_all; done)
          | (intro hN; (try dsimp only at *); simp_all; done))
      | (dsimp only at *; omega)
      | (refine ⟨?_, ?_, ?_, ?_, ?_⟩ <;> first
          | omega
          | (dsimp only at *; omega)
          | (simp only [*]; done)
          | ((try dsimp only at *); simp_all; done))
      | (refine ⟨?_, ?_, ?_⟩ <;> first
          | omega
          | (dsimp only at *; omega)
          | (intro hN; solve_by_elim)
          | (intro hN; (try dsimp only at *); simp_all; done))
      | adv)

/-- symbolic execution of a scanner body: split conjunctions, introduce (and reduce) hypotheses, step,
    split matches, close the leaves -/
syntax "wp_run" : tactic
macro_rules
  | `(tactic| wp_run) => `(tactic| repeat' (first
      | with_reducible apply And.intro
      | (intro h; try simp only [PS.frame, Prod.mk.injEq, decide_eq_true_eq, decide_eq_false_iff_not, beq_iff_eq, bne_iff_ne, Nat.add_zero] at h)
      | wp_step
      | split
      | advf2))

end RegexVerif.Parser
