/-
Compiler correctness, the instructions: single iterations of the interpreter at an instruction of the emitted program —
what `step` does in forward mode (`Entry`) and after `backtrack()` popped a frame of that instruction.  The
frame-pushing instructions get `Delivers` lemmas from an `Entry` state (`setmark_delivers`), the leaves and `Capture`
rules on code (`Computes.char` is the model of a leaf rule), which `Computes.seq` composes.

In front of a known instruction the state is a constructor term up to the capture arrays (`Entry.eq`), and so is the
state `backtrack()` leaves after a failure (`fail_back`, `fail_back2`); which case of the switch runs and what it does to
such a term is then found by evaluation.  States and instruction words are written positionally: `VMState` is
⟨codepos, oper, textpos, track, stack, cap⟩, `Word` is ⟨op, rtl, back, back2, ci⟩.
-/
import RegexVerif.Lemmas.CompileCode
import RegexVerif.Lemmas.CompileSpec

namespace RegexVerif.Compile
open RegexVerif.VM RegexVerif.Code RegexVerif.Writer RegexVerif.Generated.Opcodes RegexVerif RegexVerif.Lemmas.VM

theorem step_adv {p : Prog} {env : VM.Env} {s s1 : VMState} {k : Nat} {w : Word}
    (hb : VM.body p env s = .ok (s1, .advance k)) (hf : VM.fetch p (s1.codepos + k + 1) = .ok w) :
    VM.step p env s = .next { s1 with codepos := s1.codepos + k + 1, oper := w } false := by
  rw [step_of_body_ok p env hb]; simp [doAdvance, hf]

theorem step_goto {p : Prog} {env : VM.Env} {s s1 : VMState} {t : Nat} {w : Word}
    (hb : VM.body p env s = .ok (s1, .goto (t : Int))) (hf : VM.fetch p t = .ok w) :
    VM.step p env s = .next { s1 with codepos := t, oper := w } (decide (t ≤ s1.codepos)) := by
  rw [step_of_body_ok p env hb]
  have : ¬ ((t : Int) < 0) := by omega
  simp [doGoto, this, hf]

theorem step_back {p : Prog} {env : VM.Env} {s s1 : VMState} {a : Nat} {rest : List Int} {w : Word}
    (hb : VM.body p env s = .ok (s1, .back)) (ht : s1.track = (a : Int) :: rest) (hf : VM.fetch p a = .ok w) :
    VM.step p env s = .next { s1 with track := rest, codepos := a, oper := { w with back := true } }
      (decide (a < s1.codepos)) := by
  rw [step_of_body_ok p env hb]
  simp [doBacktrack, ht, savedPos_pos, hf]

theorem step_back2 {p : Prog} {env : VM.Env} {s s1 : VMState} {a : Nat} {rest : List Int} {w : Word}
    (hb : VM.body p env s = .ok (s1, .back)) (ht : s1.track = (-(a : Int)) :: rest) (ha : a ≠ 0)
    (hf : VM.fetch p a = .ok w) :
    VM.step p env s = .next { s1 with track := rest, codepos := a, oper := { w with back2 := true } }
      (decide (a < s1.codepos)) := by
  rw [step_of_body_ok p env hb]
  simp [doBacktrack, ht, savedPos_neg a ha, hf]

section entry
variable {X : Setup} {a i : Nat} {T S : List Int} {C : List (Nat × Nat × Nat)} {s : VMState}

theorem Entry.eq {ins : Instr} {t : Nat} (he : Entry X a i T S C s) (hia : InstrAt X.p a ins) (ht : ins.op = t) :
    ∃ cap, s = ⟨a, decode t, i, T, S, cap⟩ ∧ CapRep X.sl X.p.capsize cap C := by
  obtain ⟨pc, w, tp, tr, st, cap⟩ := s
  obtain ⟨rfl, hop, rfl, rfl, rfl, hc⟩ := he
  subst ht
  cases hia.fetch.symm.trans hop
  exact ⟨cap, rfl, hc⟩

theorem InstrAt.fetch_bits {p : Prog} {ins : Instr} {t : Nat} {d ci : Bool} (hia : InstrAt p a ins)
    (hop : ins.op = t ||| bits d ci) (ht : t < 64) : VM.fetch p a = .ok ⟨t, d, false, false, ci⟩ := by
  rw [hia.fetch, hop, (decode_bits t ht d ci).2]

theorem Entry.eqBits {ins : Instr} {t : Nat} {d ci : Bool} (he : Entry X a i T S C s) (hia : InstrAt X.p a ins)
    (hop : ins.op = t ||| bits d ci) (ht : t < 64) :
    ∃ cap, s = ⟨a, ⟨t, d, false, false, ci⟩, i, T, S, cap⟩ ∧ CapRep X.sl X.p.capsize cap C := by
  obtain ⟨cap, rfl, hc⟩ := he.eq hia hop
  exact ⟨cap, by rw [(decode_bits t ht d ci).2], hc⟩

theorem leads_of_advance {s1 : VMState} {k j : Nat} (hb : VM.body X.p X.env s = .ok (s1, .advance k))
    (hf : ∃ w, VM.fetch X.p (s1.codepos + k + 1) = .ok w) (htp : s1.textpos = (j : Int))
    (hc : CapRep X.sl X.p.capsize s1.cap C) : Leads X s (Entry X (s1.codepos + k + 1) j s1.track s1.stack C) := by
  obtain ⟨w, hw⟩ := hf
  exact Leads.of_step (step_adv hb hw) (Leads.here ⟨rfl, hw, htp, rfl, rfl, hc⟩)

theorem leads_of_goto {s1 : VMState} {t j : Nat} (hb : VM.body X.p X.env s = .ok (s1, .goto (t : Int)))
    (hf : ∃ w, VM.fetch X.p t = .ok w) (htp : s1.textpos = (j : Int))
    (hc : CapRep X.sl X.p.capsize s1.cap C) : Leads X s (Entry X t j s1.track s1.stack C) := by
  obtain ⟨w, hw⟩ := hf
  exact Leads.of_step (step_goto hb hw) (Leads.here ⟨rfl, hw, htp, rfl, rfl, hc⟩)

end entry

section fail
variable {X : Setup} {a : Nat} {rest S : List Int} {C : List (Nat × Nat × Nat)} {s : VMState} {w : Word}

/-- a failure above a frame of the instruction at `a`: `backtrack()` pops the saved code position and the case
    `op | Back` is about to run with the frame's data slots on top of the backtracking stack (the text position is stale) -/
theorem fail_back (hf : FailAt X ((a : Int) :: rest) S C s) (hw : VM.fetch X.p a = .ok w) :
    ∃ tp cap chk, VM.step X.p X.env s = .next ⟨a, { w with back := true }, tp, rest, S, cap⟩ chk ∧
      CapRep X.sl X.p.capsize cap C := by
  obtain ⟨s1, hb, ht, rfl, hc⟩ := hf
  exact ⟨_, _, _, step_back hb ht hw, hc⟩

theorem fail_back2 (hf : FailAt X ((-(a : Int)) :: rest) S C s) (ha : a ≠ 0) (hw : VM.fetch X.p a = .ok w) :
    ∃ tp cap chk, VM.step X.p X.env s = .next ⟨a, { w with back2 := true }, tp, rest, S, cap⟩ chk ∧
      CapRep X.sl X.p.capsize cap C := by
  obtain ⟨s1, hb, ht, rfl, hc⟩ := hf
  exact ⟨_, _, _, step_back2 hb ht ha hw, hc⟩

/-- a `Back` case that fails on, whatever text position and captures it finds: the failure passes through the frame -/
theorem fail_through {T' S' : List Int} (hf : FailAt X ((a : Int) :: rest) S C s) (hw : VM.fetch X.p a = .ok w)
    (hb : ∀ tp cap, VM.body X.p X.env ⟨a, { w with back := true }, tp, rest, S, cap⟩ =
      .ok (⟨a, { w with back := true }, tp, T', S', cap⟩, .back)) : Leads X s (FailAt X T' S' C) := by
  obtain ⟨tp, cap, chk, hst, hc⟩ := fail_back hf hw
  exact Leads.of_step hst (Leads.here ⟨_, hb tp cap, rfl, rfl, hc⟩)

theorem fail_through2 {T' S' : List Int} (hf : FailAt X ((-(a : Int)) :: rest) S C s) (ha : a ≠ 0) (hw : VM.fetch X.p a = .ok w)
    (hb : ∀ tp cap, VM.body X.p X.env ⟨a, { w with back2 := true }, tp, rest, S, cap⟩ =
      .ok (⟨a, { w with back2 := true }, tp, T', S', cap⟩, .back)) : Leads X s (FailAt X T' S' C) := by
  obtain ⟨tp, cap, chk, hst, hc⟩ := fail_back2 hf ha hw
  exact Leads.of_step hst (Leads.here ⟨_, hb tp cap, rfl, rfl, hc⟩)

end fail

/-- a case that only moves the text position and goes on: one success, no frames -/
theorem deliver_one {X : Setup} {a i j k : Nat} {T S : List Int} {v tp : Int} {C : List (Nat × Nat × Nat)} {s : VMState}
    (he : Entry X a i (T ++ [v]) S C s) (hb : VM.body X.p X.env s = .ok ({ s with textpos := tp }, .advance k))
    (htp : tp = (j : Int)) (hf : ∃ w, VM.fetch X.p (a + k + 1) = .ok w) :
    Delivers X (a + k + 1) T S S C [⟨j, C⟩] s := by
  have := leads_of_advance hb (he.pc ▸ hf) htp he.cap
  rw [show ({ s with textpos := tp } : VMState).codepos = a from he.pc, show ({ s with textpos := tp } : VMState).track = _ from he.tr,
    show ({ s with textpos := tp } : VMState).stack = _ from he.st] at this
  exact Delivers.single (v := v) this rfl

theorem deliver_none {X : Setup} {a i b : Nat} {T S S' : List Int} {v tp : Int} {C : List (Nat × Nat × Nat)} {s : VMState}
    (he : Entry X a i (T ++ [v]) S C s) (hb : VM.body X.p X.env s = .ok ({ s with textpos := tp }, .back)) :
    Delivers X b T S S' C [] s :=
  Delivers.fail (v := v) (Leads.here ⟨_, hb, he.tr, he.st, he.cap⟩)

section text
variable {TPx : TP} {sets : List (List Nat)} {env : VM.Env} {se : Spec.Env}

theorem env_len (h : EnvRel TPx sets env se) : env.len = (se.n : Int) := by
  simp [VM.Env.len, h.text, Spec.Env.n]

theorem charAt_eq (h : EnvRel TPx sets env se) {j c : Nat} (hc : se.text[j]? = some c) : VM.charAt env (j : Int) = .ok c := by
  simp [VM.charAt, h.text, hc]

theorem charAt_lt (h : EnvRel TPx sets env se) (j : Nat) (hj : j < se.n) :
    ∃ c, se.text[j]? = some c ∧ VM.charAt env (j : Int) = .ok c :=
  ⟨_, List.getElem?_eq_getElem hj, charAt_eq h (List.getElem?_eq_getElem hj)⟩

/-- the rune before position `i` as the zero-width tests read it -/
theorem peek_before {β : Type} (h : EnvRel TPx sets env se) {i : Nat} (hi : i ≤ se.n) (f : Nat → β) (b : β) :
    (if (i : Int) > 0 then (VM.charAt env ((i : Int) - 1)).map f else .ok b) =
      .ok (((if i = 0 then none else se.text[i - 1]?).map f).getD b) := by
  cases i with
  | zero => rfl
  | succ j =>
    obtain ⟨c, hc, hch⟩ := charAt_lt h j (by omega)
    simp [hch, hc, Except.map]

theorem peek_after {β : Type} (h : EnvRel TPx sets env se) (i : Nat) (f : Nat → β) (b : β) :
    (if (i : Int) < (se.n : Int) then (VM.charAt env (i : Int)).map f else .ok b) = .ok ((se.text[i]?.map f).getD b) := by
  by_cases hlt : i < se.n
  · obtain ⟨c, hc, hch⟩ := charAt_lt h i hlt
    simp [Int.ofNat_lt.2 hlt, hch, hc, Except.map]
  · have hn : se.text[i]? = none := List.getElem?_eq_none (Nat.le_of_not_lt hlt)
    simp [hlt, hn]

end text

section anchors
variable {X : Setup} {TPx : TP} {sets : List (List Nat)} {a i : Nat} {T S : List Int} {C : List (Nat × Nat × Nat)}
  {s : VMState} {v : Int} {d : Bool}

theorem anchor_delivers {k : Spec.Anchor} (he : Entry X a i (T ++ [v]) S C s)
    (hb : VM.body X.p X.env s = .ok (VM.assertion s (Spec.anchorHolds X.se k i)))
    (hf : ∃ w, VM.fetch X.p (a + 1) = .ok w) :
    Delivers X (a + 1) T S S C (Spec.m X.se (.anchor k) d ⟨i, C⟩) s := by
  simp only [Spec.m]
  generalize Spec.anchorHolds X.se k i = ok at hb
  cases ok with
  | true => exact deliver_one (k := 0) he hb he.tp hf
  | false => exact deliver_none he hb

theorem caseBol_eq (hrel : EnvRel TPx sets X.env X.se) (hi : i ≤ X.se.n) (htp : s.textpos = (i : Int)) :
    VM.caseBol X.env s = .ok (VM.assertion s (Spec.anchorHolds X.se .bol i)) := by
  simp only [caseBol, htp, peek_before hrel hi, Spec.anchorHolds]
  cases i with
  | zero => rfl
  | succ j =>
    obtain ⟨c, hc, -⟩ := charAt_lt hrel j (by omega)
    simp [hc, VM.assertion]

theorem caseEol_eq (hrel : EnvRel TPx sets X.env X.se) (hi : i ≤ X.se.n) (htp : s.textpos = (i : Int)) :
    VM.caseEol X.env s = .ok (VM.assertion s (Spec.anchorHolds X.se .eol i)) := by
  have : (X.env.len - (i : Int) > 0) = ((i : Int) < (X.se.n : Int)) := by rw [env_len hrel]; simp
  simp only [caseEol, htp, this, peek_after hrel i, Spec.anchorHolds]
  by_cases hlt : i < X.se.n
  · obtain ⟨c, hc, -⟩ := charAt_lt hrel i hlt
    simp [hc, VM.assertion, Nat.ne_of_lt hlt]
  · obtain rfl : i = X.se.n := Nat.le_antisymm hi (Nat.le_of_not_lt hlt)
    simp [Spec.Env.n, VM.assertion]

theorem caseEndZ_eq (hrel : EnvRel TPx sets X.env X.se) (hi : i ≤ X.se.n) (htp : s.textpos = (i : Int)) :
    VM.caseEndZ X.env s = .ok (VM.assertion s (Spec.anchorHolds X.se (if TPx.strict then .end else .endz) i)) := by
  simp only [caseEndZ, htp, env_len hrel, hrel.strict]
  by_cases h1 : i + 1 < X.se.n
  · have hgt : ((X.se.n : Nat) : Int) - (i : Int) > 1 := by omega
    have e1 : (i == X.se.n) = false := by simp; omega
    have e2 : (i + 1 == X.se.n) = false := by simp; omega
    cases TPx.strict <;> simp [hgt, Spec.anchorHolds, e1, e2, VM.assertion]
  · have hgt : ¬ ((X.se.n : Nat) : Int) - (i : Int) > 1 := by omega
    by_cases h2 : i + 1 = X.se.n
    · obtain ⟨c, hc, hch⟩ := charAt_lt hrel i (by omega)
      have e1 : (i == X.se.n) = false := by simp; omega
      have e2 : (i + 1 == X.se.n) = true := by simp; omega
      have e3 : ((X.se.n : Nat) : Int) - (i : Int) = 1 := by omega
      cases TPx.strict <;> simp [Spec.anchorHolds, e1, e2, e3, hch, hc, Except.map, VM.assertion]
    · have e0 : i = X.se.n := by omega
      subst e0
      cases TPx.strict <;> simp [Spec.anchorHolds, VM.assertion]

theorem caseBoundary_eq (hrel : EnvRel TPx sets X.env X.se) (hi : i ≤ X.se.n) (htp : s.textpos = (i : Int)) (want : Bool) :
    VM.caseBoundary X.env X.env.wordChar want s =
      .ok (VM.assertion s (Spec.anchorHolds X.se (if want then .boundary else .nonboundary) i)) := by
  simp only [caseBoundary, VM.isBoundary, htp, env_len hrel, peek_before hrel hi, peek_after hrel i, funext hrel.word]
  cases want
  · simp only [Except.map, Bool.false_eq_true, if_false, Spec.anchorHolds]
    congr 2
    rw [Bool.eq_iff_iff]; simp
  · simp [Except.map, Spec.anchorHolds]

/-- `UpdateBumpalong` raises the bottom slot of the backtracking stack to the text position: one success, nothing else
    changes (`Delivers` is up to the bottom slot) -/
theorem updatebumpalong_delivers (he : Entry X a i (T ++ [v]) S C s) (hia : InstrAt X.p a (i0 opUpdateBumpalong))
    (hf : ∃ w, VM.fetch X.p (a + 1) = .ok w) : Delivers X (a + 1) T S S C [⟨i, C⟩] s := by
  obtain ⟨cap, rfl, hc⟩ := he.eq (t := opUpdateBumpalong) hia rfl
  have hbody : VM.body X.p X.env ⟨a, decode opUpdateBumpalong, i, T ++ [v], S, cap⟩ =
      .ok (⟨a, decode opUpdateBumpalong, i, T ++ [if v < (i : Int) then (i : Int) else v], S, cap⟩, .advance 0) := by
    show VM.caseUpdateBumpalong _ = _
    simp only [caseUpdateBumpalong, List.getLast?_concat, List.dropLast_concat]
    split <;> rfl
  exact Delivers.single (leads_of_advance hbody hf rfl hc) rfl

/-- every node type of the constructor `bare` that has a pattern: the anchors, `Nothing`, `UpdateBumpalong` -/
theorem Computes.bare {X : Setup} {TPx : TP} {sets : List (List Nat)} {a : Nat} {d : Bool}
    (hrel : EnvRel TPx sets X.env X.se) {t : Nat} {pat : Spec.Pat} (hp : bareToPat TPx t = some pat) :
    Computes X a [i0 t] (Spec.m X.se pat d) := by
  intro hcode i T S v C s hwf he
  have hi : i ≤ X.se.n := hwf.1
  have hia := hcode.instr
  have hf : ∃ w, VM.fetch X.p (a + 1) = .ok w := hcode.fetch_end
  show Delivers X (a + 1) T S S C _ s
  revert hia
  apply bareToPat_cases hp <;> intro hia
  case bump => exact updatebumpalong_delivers he hia hf
  all_goals obtain ⟨cap, rfl, hc⟩ := he.eq hia rfl
  · exact deliver_none he rfl
  · exact anchor_delivers he (caseBol_eq hrel hi rfl) hf
  · exact anchor_delivers he (caseEol_eq hrel hi rfl) hf
  · exact anchor_delivers he (caseBoundary_eq hrel hi rfl true) hf
  · exact anchor_delivers he (caseBoundary_eq hrel hi rfl false) hf
  · have : decide (¬ (i : Int) > 0) = Spec.anchorHolds X.se .beginning i := by
      rw [Bool.eq_iff_iff]; simp [Spec.anchorHolds]
    exact anchor_delivers he (this ▸ rfl) hf
  · have : decide ((i : Int) = X.env.textstart) = Spec.anchorHolds X.se .start i := by
      rw [Bool.eq_iff_iff]; simp [Spec.anchorHolds, hrel.start]; omega
    exact anchor_delivers he (this ▸ rfl) hf
  · exact anchor_delivers he (caseEndZ_eq hrel hi rfl) hf
  · have : decide (¬ X.env.len - (i : Int) > 0) = Spec.anchorHolds X.se .end i := by
      rw [Bool.eq_iff_iff]; simp [Spec.anchorHolds, env_len hrel]; omega
    exact anchor_delivers he (this ▸ rfl) hf

end anchors

/-- the character test the interpreter builds from operand `x` of a One (`sel` = 0) / Notone (1) / Set (2) family
    instruction is the specification's predicate `P` -/
def PredOk (X : Setup) (sel : Nat) (x : Int) (P : Spec.Pred) : Prop :=
  ∃ pred, VM.charPred X.p X.env sel x = .ok pred ∧ ∀ r, pred r = P.test X.se r

/-- the family (the `sel` of `PredOk`) of a single-character leaf's node type -/
def leafSel (t : Nat) : Nat := if t = opOne then 0 else if t = opNotone then 1 else 2

theorem isCh_toNat {ch : Int} (h : 0 ≤ ch) (r : Nat) : VM.isCh ch r = (ch.toNat == r) := by
  rw [Bool.eq_iff_iff]; simp [VM.isCh]; omega

theorem predOk_one (X : Setup) (ch : Int) (h : 0 ≤ ch) : PredOk X 0 ch (.one ch.toNat false) :=
  ⟨_, rfl, isCh_toNat h⟩

theorem predOk_notone (X : Setup) (ch : Int) (h : 0 ≤ ch) : PredOk X 1 ch (.notone ch.toNat false) :=
  ⟨_, rfl, fun r => congrArg (!·) (isCh_toNat h r)⟩

theorem predOk_set {X : Setup} {TPx : TP} {sets : List (List Nat)} (hrel : EnvRel TPx sets X.env X.se)
    (hn : X.p.nsets = sets.length) {k : Nat} {pl : List Nat} {cls : Spec.Cls} (hk : sets[k]? = some pl)
    (hc : TPx.rd pl = some cls) : PredOk X 2 (k : Int) (.set cls false) := by
  have hk' : k < X.p.nsets := hn ▸ (List.getElem?_eq_some_iff.1 hk).1
  exact ⟨X.env.setMem k, by simp [VM.charPred, VM.setPred, hk'], hrel.sets k pl cls hk hc⟩

/-- reading one character in direction `d`: `forwardchars` / `forwardcharnext` against `Spec.stepChar` -/
theorem stepChar_vm {TPx : TP} {sets : List (List Nat)} {env : VM.Env} {se : Spec.Env} (hrel : EnvRel TPx sets env se)
    {i : Nat} (hi : i ≤ se.n) (d : Bool) :
    match Spec.stepChar se d i with
    | some (c, j) => ¬ (if d then (i : Int) else env.len - i) < 1 ∧ VM.forwardcharnext env d i = .ok (c, (j : Int))
    | none => (if d then (i : Int) else env.len - i) < 1 := by
  cases d with
  | true =>
    cases i with
    | zero => simp [Spec.stepChar]
    | succ j =>
      obtain ⟨c, hc, hch⟩ := charAt_lt hrel j (by omega)
      have e : ((j + 1 : Nat) : Int) - 1 = (j : Int) := by omega
      simp only [Spec.stepChar, if_true, Nat.succ_ne_zero, if_false, Nat.add_sub_cancel, hc, Option.map_some,
        VM.forwardcharnext, e, hch, Except.map]
      exact ⟨by omega, trivial⟩
  | false =>
    simp only [Spec.stepChar, Bool.false_eq_true, if_false, env_len hrel, VM.forwardcharnext]
    by_cases hlt : i < se.n
    · obtain ⟨c, hc, hch⟩ := charAt_lt hrel i hlt
      simp only [hc, Option.map_some, hch, Except.map]
      exact ⟨by omega, rfl⟩
    · rw [List.getElem?_eq_none (Nat.le_of_not_lt hlt)]
      show _ < _
      omega

section chars
variable {X : Setup} {TPx : TP} {sets : List (List Nat)} {a i : Nat} {T S : List Int} {C : List (Nat × Nat × Nat)}
  {s : VMState} {v : Int}

/-- `One` / `Notone` / `Set` with operand `x` in direction `d`, the model of a leaf rule: the proof reads `InstrAt` and
    the following fetch off `CodeAt` and then works on the entry state -/
theorem Computes.char {X : Setup} {TPx : TP} {sets : List (List Nat)} {a : Nat} (hrel : EnvRel TPx sets X.env X.se)
    {t : Nat} {x : Int} {P : Spec.Pred} {d ci : Bool} (ht : t ∈ [opOne, opNotone, opSet])
    (hpred : PredOk X (leafSel t) x P) :
    Computes X a [i1 (t ||| bits d ci) x] (Spec.m X.se (.chr P) d) := by
  intro hcode i T S v C s hwf he
  have hi : i ≤ X.se.n := hwf.1
  have hia := hcode.instr
  have hf : ∃ w, VM.fetch X.p (a + 2) = .ok w := hcode.fetch_end
  show Delivers X (a + 2) T S S C _ s
  obtain ⟨pred, hcp, hpr⟩ := hpred
  have ht : t = opOne ∨ t = opNotone ∨ t = opSet := by simpa using ht
  obtain ⟨cap, hs, -⟩ := he.eqBits hia rfl (by rcases ht with rfl | rfl | rfl <;> decide)
  have hbody : VM.body X.p X.env s = VM.caseChar X.p X.env (leafSel t) s := by
    rw [hs]; rcases ht with rfl | rfl | rfl <;> rfl
  obtain rfl : s.oper.rtl = d := by rw [hs]
  have hsc := stepChar_vm hrel hi s.oper.rtl
  rw [← he.tp] at hsc
  simp only [Spec.m, ← hpr]
  generalize Spec.stepChar X.se s.oper.rtl i = o at hsc ⊢
  cases o with
  | none => exact deliver_none he (by rw [hbody, VM.caseChar, VM.forwardchars, if_pos hsc])
  | some cj =>
    obtain ⟨c, j⟩ := cj
    have hb : VM.body X.p X.env s = .ok (VM.textto s j, if pred c then .advance 1 else .back) := by
      rw [hbody]
      simp only [VM.caseChar, VM.forwardchars, if_neg hsc.1, bind, Except.bind, hia.operand he.pc 0 x rfl, hcp, hsc.2]
      cases pred c <;> rfl
    show Delivers _ _ _ _ _ _ (if pred c = true then _ else _) _
    cases hpc : pred c with
    | true => rw [hpc] at hb; exact deliver_one (k := 1) he hb rfl hf
    | false => rw [hpc] at hb; exact deliver_none he hb

theorem take_succ_eq_iff {α : Type} (l1 l2 : List α) (k : Nat) (x y : α) (h1 : l1[k]? = some x) (h2 : l2[k]? = some y) :
    l1.take (k + 1) = l2.take (k + 1) ↔ l1.take k = l2.take k ∧ x = y := by
  rw [List.take_add_one, List.take_add_one, h1, h2]
  simp only [Option.toList_some]
  have hl1 : (l1.take k).length = k := by
    have := (List.getElem?_eq_some_iff.1 h1).1; simp [List.length_take]; omega
  have hl2 : (l2.take k).length = k := by
    have := (List.getElem?_eq_some_iff.1 h2).1; simp [List.length_take]; omega
  constructor
  · intro h
    have := List.append_inj h (by rw [hl1, hl2])
    exact ⟨this.1, by simpa using this.2⟩
  · rintro ⟨h, rfl⟩; rw [h]

/-- the comparison loop of `runematch` / `refmatch`, case-sensitive: the left operand reads the list `l` (position
    `a0 + j` holds `l[j]`); its first `k` entries are compared with the `k` runes of the text from `t` on.  The two
    running indices `ak`, `tk` of the Go loop are given by equations, so that the induction can rewrite them -/
theorem cmpBack_text (hrel : EnvRel TPx sets X.env X.se) {l : List Nat} {get : Int → VM.M Nat} {a0 t : Nat}
    (hget : ∀ j x, l[j]? = some x → get ((a0 + j : Nat) : Int) = .ok x) :
    ∀ k, k ≤ l.length → t + k ≤ X.se.n → ∀ ak tk : Int, ak = ((a0 + k : Nat) : Int) → tk = ((t + k : Nat) : Int) →
      VM.cmpBack X.env false get k ak tk = .ok (decide (l.take k = (X.se.text.drop t).take k)) := by
  intro k
  induction k with
  | zero => intro _ _ _ _ _ _; simp [VM.cmpBack]
  | succ k ih =>
    intro hk hn ak tk hak htk
    obtain ⟨c, hc, hch⟩ := charAt_lt hrel (t + k) (by omega)
    have hx : l[k]? = some l[k] := List.getElem?_eq_getElem (by omega)
    have hc' : (X.se.text.drop t)[k]? = some c := by rw [List.getElem?_drop]; exact hc
    have hd : decide (l.take (k + 1) = (X.se.text.drop t).take (k + 1)) =
        decide (l.take k = (X.se.text.drop t).take k ∧ l[k] = c) :=
      decide_eq_decide.2 (take_succ_eq_iff _ _ k _ c hx hc')
    unfold VM.cmpBack
    rw [show ak - 1 = ((a0 + k : Nat) : Int) by omega, show tk - 1 = ((t + k : Nat) : Int) by omega, hget k _ hx, hch, hd]
    simp only [Bool.false_eq_true, if_false]
    by_cases heq : l[k] = c
    · rw [if_pos heq, ih (by omega) (by omega) _ _ rfl rfl]; simp [heq]
    · rw [if_neg heq]; simp [heq]

theorem runematch_eq (hrel : EnvRel TPx sets X.env X.se) (hi : i ≤ X.se.n) (str : List Nat) {d : Bool}
    (hrtl : s.oper.rtl = d) (hci : s.oper.ci = false) (htp : s.textpos = (i : Int)) :
    VM.runematch X.env s str = .ok ((litEnd X.se str d i).map Int.ofNat) := by
  have hcmp := fun t h => cmpBack_text hrel (l := str) (a0 := 0) (t := t)
    (get := fun j => .ok (str.getD j.toNat 0)) (fun j x hx => by simp [List.getD_eq_getElem?_getD, hx])
    str.length (Nat.le_refl _) h
  simp only [List.take_length, @eq_comm _ str] at hcmp
  unfold VM.runematch litEnd
  simp only [VM.forwardchars, hrtl, hci, htp, env_len hrel]
  cases d with
  | true =>
    simp only [if_true]
    by_cases hlen : str.length ≤ i
    · rw [if_neg (by omega), hcmp (i - str.length) (by omega) _ _ (by omega) (by omega)]
      by_cases heq : (X.se.text.drop (i - str.length)).take str.length = str
      · simp [heq, hlen]; omega
      · simp [heq]
    · rw [if_pos (by omega), if_neg (fun h => hlen h.1)]; rfl
  | false =>
    simp only [Bool.false_eq_true, if_false]
    by_cases hlen : i + str.length ≤ X.se.n
    · rw [if_neg (by omega), hcmp i hlen _ _ (by omega) (by omega)]
      by_cases heq : (X.se.text.drop i).take str.length = str <;> simp [heq]
    · have hne : ¬ (X.se.text.drop i).take str.length = str := by
        intro h
        have := congrArg List.length h
        simp [List.length_take] at this
        unfold Spec.Env.n at hlen hi
        omega
      rw [if_pos (by omega), if_neg hne]; rfl

theorem Computes.multi {X : Setup} {TPx : TP} {sets : List (List Nat)} {a : Nat} (hrel : EnvRel TPx sets X.env X.se)
    {k : Nat} {str : List Nat} {d : Bool} (hstr : X.p.strings[k]? = some str) :
    Computes X a [i1 (opMulti ||| bits d false) (k : Int)]
      (Spec.m X.se (nestSeq (str.map (fun r => .chr (.one r false)))) d) := by
  intro hcode i T S v C s hwf he
  have hi : i ≤ X.se.n := hwf.1
  have hia := hcode.instr
  have hf : ∃ w, VM.fetch X.p (a + 2) = .ok w := hcode.fetch_end
  show Delivers X (a + 2) T S S C _ s
  obtain ⟨cap, hs, -⟩ := he.eqBits hia rfl (by decide : opMulti < 64)
  have hrm := runematch_eq hrel hi str (s := s) (d := d) (by rw [hs]) (by rw [hs]) he.tp
  have hbody : VM.body X.p X.env s = match litEnd X.se str d i with
      | some j => .ok (VM.textto s j, .advance 1)
      | none => .ok (s, .back) := by
    have : VM.body X.p X.env s = VM.caseMulti X.p X.env s := by rw [hs]; rfl
    have hk0 : (0 : Int) ≤ (k : Int) := by omega
    simp only [this, caseMulti, bind, Except.bind, hia.operand he.pc 0 (k : Int) rfl, hk0, if_true, Int.toNat_natCast,
      hstr, hrm]
    cases litEnd X.se str d i <;> rfl
  rw [m_multi_dir]
  cases hl : litEnd X.se str d i with
  | none => rw [hl] at hbody; exact deliver_none he hbody
  | some j => rw [hl] at hbody; exact deliver_one (k := 1) he hbody rfl hf

end chars

/-- the frame an instruction pushes for its `Back` case: the code position above `d.length` data slots -/
theorem frame_pos {X : Setup} {a : Nat} {w : Word} (hw : VM.fetch X.p a = .ok w) (d : List Int)
    (hfd : (Op.ofNat? w.op).bind (VM.frameData · false) = some d.length) : Framed X.p ((a : Int) :: d) := by
  refine Framed.one _ d ?_
  simp [VM.frameSize, savedPos_pos, hw, hfd]

theorem frame_neg {X : Setup} {a : Nat} {w : Word} (hw : VM.fetch X.p a = .ok w) (ha : a ≠ 0) (d : List Int)
    (hfd : (Op.ofNat? w.op).bind (VM.frameData · true) = some d.length) : Framed X.p ((-(a : Int)) :: d) := by
  refine Framed.one _ d ?_
  simp [VM.frameSize, savedPos_neg a ha, hw, hfd]

section control
variable {X : Setup} {a i : Nat} {T S : List Int} {C : List (Nat × Nat × Nat)} {s : VMState}

theorem goto_leads (he : Entry X a i T S C s) {t : Nat} (hia : InstrAt X.p a (i1 opGoto (t : Int)))
    (hf : ∃ w, VM.fetch X.p t = .ok w) : Leads X s (Entry X t i T S C) := by
  obtain ⟨cap, rfl, hc⟩ := he.eq (t := opGoto) hia rfl
  refine leads_of_goto (s1 := ⟨a, decode opGoto, i, T, S, cap⟩) ?_ hf rfl hc
  show (VM.operand X.p _ 0).map _ = _
  rw [hia.operand_at 0 _ rfl]; rfl

theorem Delivers.goto {X : Setup} {mid fin : Nat} {T S S' : List Int} {C0 : List (Nat × Nat × Nat)} {rs : List Spec.St}
    {s : VMState} (h : Delivers X mid T S S' C0 rs s) (hgo : InstrAt X.p mid (i1 opGoto (fin : Int)))
    (hf : ∃ w, VM.fetch X.p fin = .ok w) : Delivers X fin T S S' C0 rs s := by
  have := Delivers.bind (X := X) (b := fin) (S' := S') (g := fun r => [r]) rs s h ?_
  · rwa [List.flatMap_singleton'] at this
  · intro r _ F s' v' _ he'
    exact Delivers.single (v := v') (goto_leads he' hgo hf) rfl

theorem lazybranch_leads (he : Entry X a i T S C s) {t : Int} (hia : InstrAt X.p a (i1 opLazybranch t))
    (hf : ∃ w, VM.fetch X.p (a + 2) = .ok w) :
    Leads X s (Entry X (a + 2) i ((a : Int) :: (i : Int) :: T) S C) := by
  obtain ⟨cap, rfl, hc⟩ := he.eq (t := opLazybranch) hia rfl
  exact leads_of_advance (k := 1) (s1 := ⟨a, _, i, (a : Int) :: (i : Int) :: T, S, cap⟩) rfl hf rfl hc

theorem lazybranch_frame {t : Int} (hia : InstrAt X.p a (i1 opLazybranch t)) (v : Int) :
    Framed X.p [(a : Int), v] := frame_pos (w := decode opLazybranch) hia.fetch [v] rfl

/-- `Lazybranch|Back` on a frame whose data slot is any integer (the bottom frame after `UpdateBumpalong` may hold one that
    is not a text position): the interpreter stands in front of the target with that integer as text position -/
theorem lazybranch_back_raw {z : Int} (hfail : FailAt X ((a : Int) :: z :: T) S C s) {t : Nat}
    (hia : InstrAt X.p a (i1 opLazybranch (t : Int))) (hf : ∃ w, VM.fetch X.p t = .ok w) :
    Leads X s (fun s' => s'.codepos = t ∧ VM.fetch X.p t = .ok s'.oper ∧ s'.textpos = z ∧ s'.track = T ∧ s'.stack = S ∧
      CapRep X.sl X.p.capsize s'.cap C) := by
  obtain ⟨w, hw⟩ := hf
  obtain ⟨tp, cap, chk, hst, hc⟩ := fail_back (w := decode opLazybranch) hfail hia.fetch
  refine Leads.of_step hst (Leads.of_step (step_goto (s1 := ⟨a, { decode opLazybranch with back := true }, z, T, S, cap⟩) ?_ hw)
    (Leads.here ⟨rfl, hw, rfl, rfl, rfl, hc⟩))
  show (VM.operand X.p _ 0).map _ = _
  rw [hia.operand_at 0 _ rfl]; rfl

theorem lazybranch_back (hfail : FailAt X ((a : Int) :: (i : Int) :: T) S C s) {t : Nat}
    (hia : InstrAt X.p a (i1 opLazybranch (t : Int))) (hf : ∃ w, VM.fetch X.p t = .ok w) :
    Leads X s (Entry X t i T S C) :=
  (lazybranch_back_raw hfail hia hf).mono fun _ ⟨h1, h2, h3, h4, h5, h6⟩ => ⟨h1, h2, h3, h4, h5, h6⟩

/-- `Setmark`: the text position goes on the grouping stack, above a frame whose `Back` case takes it off again -/
theorem setmark_delivers {v : Int} (he : Entry X a i (T ++ [v]) S C s) (hia : InstrAt X.p a (i0 opSetmark))
    (hf : ∃ w, VM.fetch X.p (a + 1) = .ok w) : Delivers X (a + 1) T S ((i : Int) :: S) C [⟨i, C⟩] s := by
  obtain ⟨cap, rfl, hc⟩ := he.eq hia rfl
  exact Delivers.single_above (v := v) [(a : Int)] (frame_pos (w := decode opSetmark) hia.fetch [] rfl)
    (leads_of_advance (k := 0) (s1 := ⟨a, _, i, (a : Int) :: (T ++ [v]), (i : Int) :: S, cap⟩) rfl hf rfl hc)
    fun _ _ hfl => fail_through (w := decode opSetmark) hfl hia.fetch fun _ _ => rfl

/-- `Capturemark slot -1`: the interval from the mark to the text position is appended to the log; the `Back` case removes
    it and puts the mark back -/
theorem capturemark_delivers {v : Int} {g mk : Nat} (he : Entry X a i (T ++ [v]) ((mk : Int) :: S) C s)
    (hia : InstrAt X.p a (i2 opCapturemark (X.sl g : Int) (-1))) (hg : X.sl g < X.p.capsize)
    (hf : ∃ w, VM.fetch X.p (a + 3) = .ok w) :
    Delivers X (a + 3) T ((mk : Int) :: S) S C [⟨i, C ++ [(g, min mk i, max mk i - min mk i)]⟩] s := by
  obtain ⟨cap, rfl, hc⟩ := he.eq (t := opCapturemark) hia rfl
  have hcapok : VM.capOk X.p (X.sl g : Int) = true := by simp [VM.capOk, hg]
  refine Delivers.single_above (v := v) [(a : Int), (mk : Int)] (frame_pos (w := decode opCapturemark) hia.fetch [_] rfl)
    (leads_of_advance (k := 2) (s1 := ⟨a, decode opCapturemark, i, (a : Int) :: (mk : Int) :: (T ++ [v]), S,
      MatchBuilder.capture cap (X.sl g) (mk : Int) (i : Int)⟩) ?_ hf rfl (capRep_capture hc g hg mk i)) fun s'' v' hfl => ?_
  · show VM.caseCapturemark X.p _ = _
    simp only [caseCapturemark, bind, Except.bind, hia.operand_at 0 _ rfl, hia.operand_at 1 _ rfl, pure, Except.pure]
    simp [hcapok, VM.push1]
  · obtain ⟨tp, cap', chk, hst, hc'⟩ := fail_back (w := decode opCapturemark) (rest := (mk : Int) :: (T ++ [v'])) hfl hia.fetch
    obtain ⟨rest, hcr, hrep⟩ := capRep_uncapture hc'
    refine Leads.of_step hst (Leads.here ⟨⟨a, { decode opCapturemark with back := true }, tp, T ++ [v'], (mk : Int) :: S,
      MatchBuilder.uncapture cap'⟩, ?_, rfl, rfl, hrep⟩)
    show VM.caseCapturemarkBack X.p _ = _
    simp only [caseCapturemarkBack, bind, Except.bind, hia.operand_at 0 _ rfl, hia.operand_at 1 _ rfl, VM.restoreMark,
      VM.spush, VM.uncapture, hcr, pure, Except.pure]
    simp

theorem stop_step (hop : VM.fetch X.p a = .ok s.oper) (hia : InstrAt X.p a (i0 opStop)) : VM.step X.p X.env s = .stop s := by
  obtain ⟨pc, w, tp, tr, st, cap⟩ := s
  cases hia.fetch.symm.trans hop
  exact step_of_body_ok X.p X.env (r := (_, .halt)) rfl

end control

/-- `Capture`: `Setmark; ⟨body⟩; Capturemark slot -1` around a body that computes the successes of its pattern -/
theorem Computes.capture {X : Setup} {a g : Nat} {body : Code} {pat : Spec.Pat} {d : Bool} (hg : X.sl g < X.p.capsize)
    (hb : Computes X (a + 1) body (Spec.m X.se pat d)) :
    Computes X a ([i0 opSetmark] ++ body ++ [i2 opCapturemark (X.sl g : Int) (-1)]) (Spec.m X.se (.cap g pat) d) := by
  intro hcode i T S v C s hst he
  simp only [List.cons_append, List.nil_append] at hcode
  obtain ⟨hsm, h⟩ := hcode.cons0
  obtain ⟨hB, h⟩ := h.app
  obtain ⟨hcm, hE⟩ := h.cons2
  refine (Delivers.bind1 (setmark_delivers he hsm hB.fetch_start) fun F s1 v1 _ he1 =>
    Delivers.bind _ s1 (hb hB i (F ++ T) _ v1 C s1 hst he1) fun r _ F' s2 v2 _ he2 =>
      capturemark_delivers he2 hcm hg hE.fetch_end).cast
    (by rw [codeLen_seq (codeLen_seq (k := 1) rfl rfl) (l := 3) rfl]; omega) (by simp only [Spec.m, List.map_eq_flatMap])

end RegexVerif.Compile
