/-
Soundness of the certifier of `Model/AutoAtomic.lean`: the syntactic tests `ks`/`totalS`/`atMostOneS` imply
`Kills`/`Stays`/`AtMostOne` of `Lemmas/Rewrites.lean` and `Total` ("always succeeds", defined here), and the tree walk
`cert` establishes `EqMod` at the dead positions of the pending sites together with `HeadEq` for the pair of trees
(`cert_sound`: one case per constructor, each closed by the lemma of one combinator of `Res`).

`canAtomic`, `canAtomicLazy`, `canAtomicEnd` of the model are `ks` read for one loop and its continuation; `cert` does
not call them (it goes through `stepSites`).  The oracle that knows nothing, `o0` with `o0_sound`, is in Props/C05.lean.
-/
import RegexVerif.Model.AutoAtomic
import RegexVerif.Lemmas.Rewrites
import RegexVerif.Lemmas.Ite

namespace RegexVerif.AutoAtomic
open RegexVerif.Spec

/-- what the two oracle bits mean -/
structure Oracle.Sound (e : Env) (o : Oracle) : Prop where
  disj : ∀ p q, o.disj p q = true → ∀ r, p.test e r = true → q.test e r = false
  uni : ∀ p, o.uni p = true → ∀ r r', p.test e r = true → p.test e r' = true → e.isWord r = e.isWord r'

/-- the dead positions of a site on a text (the model's `Site` only names the loop) -/
def siteDead (e : Env) : Site → Nat → Bool
  | .acc p, i => acc e p i
  | .btw p, i => prevAcc e p i && acc e p i
  | .top, _ => true

def dead (e : Env) (S : List Site) (i : Nat) : Bool := S.any (fun s => siteDead e s i)

theorem dead_nil (e : Env) : dead e [] = fun _ => false := rfl

theorem dead_cons (e : Env) (s : Site) (S : List Site) (i : Nat) :
    dead e (s :: S) i = (siteDead e s i || dead e S i) := rfl

theorem dead_append (e : Env) (S T : List Site) (i : Nat) :
    dead e (S ++ T) i = (dead e S i || dead e T i) := List.any_append

theorem dead_of_mem {e : Env} {S : List Site} {s : Site} (hs : s ∈ S) {i : Nat} (h : siteDead e s i = true) :
    dead e S i = true :=
  List.any_eq_true.mpr ⟨s, hs, h⟩

/-! ## the oracle bits -/

theorem disjoint_sound {e : Env} {o : Oracle} (hs : o.Sound e) {p q : Pred} (h : o.disjoint p q = true) :
    ∀ r, p.test e r = true → q.test e r = false := by
  unfold Oracle.disjoint at h
  rw [Bool.or_eq_true] at h
  rcases h with h | h
  · intro r hr
    unfold nativeDisj at h
    split at h
    · simp only [bne_iff_ne, ne_eq] at h
      simp only [Pred.test, Bool.false_eq_true, if_false, beq_iff_eq, beq_eq_false_iff_ne, ne_eq] at hr ⊢
      omega
    · simp only [beq_iff_eq] at h
      simp only [Pred.test, Bool.false_eq_true, if_false, beq_iff_eq, Bool.not_eq_false'] at hr ⊢
      omega
    · simp only [beq_iff_eq] at h
      simp only [Pred.test, Bool.false_eq_true, if_false, Bool.not_eq_true', beq_eq_false_iff_ne, ne_eq] at hr ⊢
      omega
    · cases h
  · exact hs.disj p q h

theorem uniform_sound {e : Env} {o : Oracle} (hs : o.Sound e) {p : Pred} (h : o.uniform p = true) :
    ∀ r r', p.test e r = true → p.test e r' = true → e.isWord r = e.isWord r' := by
  unfold Oracle.uniform at h
  split at h
  · intro r r' hr hr'
    simp only [Pred.test, Bool.false_eq_true, if_false, beq_iff_eq] at hr hr'
    rw [← hr, ← hr']
  · exact hs.uni _ h

theorem btw_le_acc (e : Env) (p : Pred) (i : Nat) (h : (prevAcc e p i && acc e p i) = true) : acc e p i = true :=
  (Bool.and_eq_true _ _ ▸ h).2

theorem killsChr_sound {e : Env} {o : Oracle} (hs : o.Sound e) {s : Site} {q : Pred}
    (h : killsChr o s q = true) : Kills e (siteDead e s) (.chr q) := by
  cases s with
  | acc p => exact kills_chr (disjoint_sound hs h)
  | btw p => exact (kills_chr (disjoint_sound hs h)).mono (btw_le_acc e p)
  | top => cases h

theorem not_test_nl_of_disjoint {e : Env} {p : Pred} (h : ∀ r, p.test e r = true → (Pred.one 10 false).test e r = false) :
    p.test e 10 = false := by
  cases hp : p.test e 10
  · rfl
  · have := h 10 hp
    simp [Pred.test] at this

theorem killsAnchor_sound {e : Env} {o : Oracle} (hs : o.Sound e) {s : Site} {a : Anchor}
    (h : killsAnchor o s a = true) : Kills e (siteDead e s) (.anchor a) := by
  cases s with
  | acc p =>
    cases a <;> simp only [killsAnchor, Bool.false_eq_true] at h
    · exact kills_eol (not_test_nl_of_disjoint (disjoint_sound hs h))
    · exact kills_endz (not_test_nl_of_disjoint (disjoint_sound hs h))
    · exact kills_end e p
  | btw p =>
    cases a <;> simp only [killsAnchor, Bool.false_eq_true] at h
    · exact (kills_eol (not_test_nl_of_disjoint (disjoint_sound hs h))).mono (btw_le_acc e p)
    · exact kills_boundary_uniform (uniform_sound hs h)
    · exact (kills_endz (not_test_nl_of_disjoint (disjoint_sound hs h))).mono (btw_le_acc e p)
    · exact (kills_end e p).mono (btw_le_acc e p)
  | top => cases a <;> cases h

theorem ks_sound {e : Env} {o : Oracle} (hs : o.Sound e) (s : Site) :
    ∀ k : Pat, ((ks o s k).1 = true → Kills e (siteDead e s) k) ∧ ((ks o s k).2 = true → Stays e (siteDead e s) k) := by
  intro k
  induction k with
  | empty => exact ⟨fun h => (by cases h), fun _ => stays_empty e _⟩
  | nothing => exact ⟨fun _ => kills_nothing e _, fun _ => (kills_nothing e _).stays⟩
  | chr q => exact ⟨fun h => killsChr_sound hs h, fun h => (killsChr_sound hs h).stays⟩
  | anchor a => exact ⟨fun h => killsAnchor_sound hs h, fun _ => stays_anchor e _ a⟩
  | seq a b iha ihb =>
    have hk : (ks o s (.seq a b)).1 = true → Kills e (siteDead e s) (.seq a b) := by
      intro h
      simp only [ks, Bool.or_eq_true, Bool.and_eq_true] at h
      rcases h with h | ⟨h1, h2⟩
      · exact kills_seq_first b (iha.1 h)
      · exact kills_seq_stays (iha.2 h1) (ihb.1 h2)
    refine ⟨hk, fun h => ?_⟩
    simp only [ks, Bool.or_eq_true, Bool.and_eq_true] at h
    rcases h with h | ⟨h1, h2⟩
    · exact (hk (by simpa only [ks, Bool.or_eq_true, Bool.and_eq_true] using h)).stays
    · exact stays_seq (iha.2 h1) (ihb.2 h2)
  | alt a b iha ihb =>
    refine ⟨fun h => ?_, fun h => ?_⟩ <;> simp only [ks, Bool.and_eq_true] at h
    · exact kills_alt (iha.1 h.1) (ihb.1 h.2)
    · exact stays_alt (iha.2 h.1) (ihb.2 h.2)
  | quant lzy lo hi b ih =>
    refine ⟨fun h => ?_, fun h => ?_⟩ <;> simp only [ks, Bool.and_eq_true, decide_eq_true_eq] at h
    · exact kills_quant lzy hi h.1 (ih.1 h.2)
    · exact stays_quant lzy lo hi (ih.1 h)
  | cap g b ih => exact ⟨fun h => kills_cap g (ih.1 h), fun h => stays_cap g (ih.2 h)⟩
  | look behind neg b ih =>
    refine ⟨fun h => ?_, fun _ => stays_look e _ behind neg b⟩
    simp only [ks, Bool.and_eq_true, Bool.not_eq_true'] at h
    obtain ⟨⟨rfl, rfl⟩, h3⟩ := h
    exact kills_lookahead (ih.1 h3)
  | atomic b ih => exact ⟨fun h => kills_atomic (ih.1 h), fun h => stays_atomic (ih.2 h)⟩
  | ref g ci => exact ⟨fun h => (by cases h), fun h => (by cases h)⟩
  | refCond g y n ihy ihn =>
    refine ⟨fun h => ?_, fun h => ?_⟩ <;> simp only [ks, Bool.and_eq_true] at h
    · exact kills_refCond g (ihy.1 h.1) (ihn.1 h.2)
    · exact stays_refCond g (ihy.2 h.1) (ihn.2 h.2)
  | exprCond c y n _ ihy ihn =>
    refine ⟨fun h => ?_, fun h => ?_⟩ <;> simp only [ks, Bool.and_eq_true] at h
    · exact kills_exprCond c (ihy.1 h.1) (ihn.1 h.2)
    · exact stays_exprCond c (ihy.2 h.1) (ihn.2 h.2)

def Total (e : Env) (k : Pat) : Prop := ∀ st, m e k false st ≠ []

theorem total_seq {e : Env} {a b : Pat} (ha : Total e a) (hb : Total e b) : Total e (.seq a b) := by
  intro st hc
  rw [m_seq_ltr, List.flatMap_eq_nil_iff] at hc
  cases hm : m e a false st with
  | nil => exact ha st hm
  | cons y ys => exact hb y (hc y (by simp [hm]))

theorem totalS_sound (e : Env) : ∀ k : Pat, totalS k = true → Total e k := by
  intro k
  induction k with
  | empty => intro _ st; simp [m]
  | seq a b iha ihb =>
    intro h
    simp only [totalS, Bool.and_eq_true] at h
    exact total_seq (iha h.1) (ihb h.2)
  | alt a b iha ihb =>
    intro h st hc
    simp only [totalS, Bool.or_eq_true] at h
    rw [m_alt_eq_append, List.append_eq_nil_iff] at hc
    exact h.elim (iha · st hc.1) (ihb · st hc.2)
  | quant lzy lo hi b _ =>
    intro h st
    simp only [totalS, beq_iff_eq] at h
    rw [m_quant]
    exact iter_ne_nil (by omega)
  | cap g b ih =>
    intro h st
    simp only [m, ne_eq, List.map_eq_nil_iff]
    exact ih h st
  | atomic b ih =>
    intro h st
    rw [m_atomic]
    cases hb : m e b false st with
    | nil => exact absurd hb (ih h st)
    | cons y ys => simp
  | refCond g y n ihy ihn =>
    intro h st
    simp only [totalS, Bool.and_eq_true] at h
    simp only [m]
    split
    · exact ihy h.1 st
    · exact ihn h.2 st
  | exprCond c y n _ ihy ihn =>
    intro h st
    simp only [totalS, Bool.and_eq_true] at h
    simp only [m]
    split
    · exact ihy h.1 _
    · exact ihn h.2 st
  | _ => intro h; cases h

theorem atMostOneS_sound (e : Env) (rtl : Bool) : ∀ k : Pat, atMostOneS k = true → AtMostOne e rtl k := by
  intro k
  induction k with
  | empty => intro _; exact atMostOne_empty e rtl
  | nothing => intro _; exact atMostOne_nothing e rtl
  | chr q => intro _; exact atMostOne_chr e rtl q
  | anchor a => intro _; exact atMostOne_anchor e rtl a
  | ref g ci => intro _; exact atMostOne_ref e rtl g ci
  | atomic b _ => intro _; exact atMostOne_atomic e rtl b
  | look bh ng b _ => intro _; exact atMostOne_look e rtl bh ng b
  | seq a b iha ihb =>
    intro h
    simp only [atMostOneS, Bool.and_eq_true] at h
    exact atMostOne_seq (iha h.1) (ihb h.2)
  | cap g b ih => intro h; exact atMostOne_cap g (ih h)
  | _ => intro h; cases h

theorem contKills_sound {e : Env} {o : Oracle} (hs : o.Sound e) (s : Site) :
    ∀ K : List Pat, contKills o s K = true → Kills e (siteDead e s) (seqOf K)
  | [], h => by cases h
  | [k], h => by
    simp only [contKills, Bool.and_false, Bool.or_false] at h
    exact (ks_sound hs s k).1 h
  | k :: b :: rest, h => by
    rw [contKills, Bool.or_eq_true, Bool.and_eq_true] at h
    rcases h with h | ⟨h1, h2⟩
    · exact kills_seq_first _ ((ks_sound hs s k).1 h)
    · exact kills_seq_stays ((ks_sound hs s k).2 h1) (contKills_sound hs s (b :: rest) h2)

theorem total_seqOf_cons {e : Env} {k : Pat} {K : List Pat} (hk : Total e k) (hK : Total e (seqOf K)) :
    Total e (seqOf (k :: K)) := by
  cases K with
  | nil => exact hk
  | cons b rest => exact total_seq hk hK

theorem contEnd_sound {e : Env} {o : Oracle} (hs : o.Sound e) (s : Site) :
    ∀ K : List Pat, contEnd o s K = true → Kills e (siteDead e s) (seqOf K) ∨ (Stays e (siteDead e s) (seqOf K) ∧ Total e (seqOf K))
  | [], _ => Or.inr ⟨stays_empty e _, fun st => by simp [seqOf, m]⟩
  | [k], h => by
    simp only [contEnd, Bool.and_true, Bool.or_eq_true, Bool.and_eq_true] at h
    rcases h with h | ⟨h1, h2⟩
    · exact Or.inl ((ks_sound hs s k).1 h)
    · exact Or.inr ⟨(ks_sound hs s k).2 h1, totalS_sound e k h2⟩
  | k :: b :: rest, h => by
    rw [contEnd, Bool.or_eq_true, Bool.and_eq_true, Bool.and_eq_true] at h
    rcases h with h | ⟨⟨h1, h2⟩, h3⟩
    · exact Or.inl (kills_seq_first _ ((ks_sound hs s k).1 h))
    · rcases contEnd_sound hs s (b :: rest) h3 with ih | ⟨ih1, ih2⟩
      · exact Or.inl (kills_seq_stays ((ks_sound hs s k).2 h1) ih)
      · exact Or.inr ⟨stays_seq ((ks_sound hs s k).2 h1) ih1, total_seqOf_cons (totalS_sound e k h2) ih2⟩

/-! ## what a result of `cert` claims -/

/-- the same successes except at the dead positions of the pending sites, and — when `r.head` — the same first
    success -/
def Holds (e : Env) (d : Bool) (r : Res) (p p' : Pat) : Prop :=
  EqMod e (dead e r.sites) d p p' ∧ (r.head = true → HeadEq e d p p')

def Valid (e : Env) (d : Bool) (r : Res) (p p' : Pat) : Prop := r.errs = [] → Holds e d r p p'

theorem holds_of_eq {e : Env} {d : Bool} {p p' : Pat} (h : ∀ st, m e p d st = m e p' d st) (r : Res) :
    Holds e d r p p' := ⟨EqMod.of_eq h, fun _ => HeadEq.of_eq h⟩

theorem Holds.eq {e : Env} {d : Bool} {r : Res} {p p' : Pat} (h : Holds e d r p p') (hs : r.sites = []) :
    ∀ st, m e p d st = m e p' d st := by
  have h1 := h.1
  rw [hs] at h1
  exact EqMod.eq_of_none h1

theorem Holds.headEq {e : Env} {d : Bool} {r : Res} {p p' : Pat} (h : Holds e d r p p') (hk : r.headOK = true) :
    HeadEq e d p p' := by
  unfold Res.headOK at hk
  rw [Bool.or_eq_true] at hk
  rcases hk with hk | hk
  · exact h.2 hk
  · exact HeadEq.of_eq (h.eq (by simpa using hk))

theorem Holds.congr_right {e : Env} {d : Bool} {r : Res} {p q q' : Pat} (h : Holds e d r p q)
    (hq : ∀ st, m e q d st = m e q' d st) : Holds e d r p q' :=
  ⟨h.1.trans (EqMod.of_eq hq), fun hh => (h.2 hh).trans (HeadEq.of_eq hq)⟩

theorem Holds.trans {e : Env} {d : Bool} {r1 r2 r : Res} {p q s : Pat} (h1 : Holds e d r1 p q) (h2 : Holds e d r2 q s)
    (hD1 : ∀ i, dead e r1.sites i = true → dead e r.sites i = true)
    (hD2 : ∀ i, dead e r2.sites i = true → dead e r.sites i = true)
    (hh : r.head = true → r1.headOK = true ∧ r2.headOK = true) : Holds e d r p s :=
  ⟨(h1.1.mono hD1).trans (h2.1.mono hD2), fun h => (h1.headEq (hh h).1).trans (h2.headEq (hh h).2)⟩

theorem eqMod_top {e : Env} {d : Bool} {p p' : Pat} {D : Nat → Bool} (hD : ∀ i, D i = true) : EqMod e D d p p' := by
  have hnil : ∀ l : List St, live D l = [] := fun l => List.filter_eq_nil_iff.mpr (fun t _ => by simp [hD])
  intro st
  rw [hnil, hnil]

theorem holds_top {e : Env} {d : Bool} {r : Res} {p p' : Pat} (h : HeadEq e d p p') (hs : r.sites = [.top]) :
    Holds e d r p p' :=
  ⟨eqMod_top (fun i => by rw [hs]; rfl), fun _ => h⟩

theorem valid_of_eq {e : Env} {d : Bool} {p p' : Pat} (h : p' = p) : Valid e d .ok p p' :=
  fun _ => holds_of_eq (fun _ => by rw [h]) _

theorem valid_fail {e : Env} {d : Bool} {p p' : Pat} (c : Nat) : Valid e d (.fail c) p p' :=
  fun h => by cases h

theorem valid_ite {e : Env} {d : Bool} {p p' : Pat} {c : Prop} [Decidable c] {r r' : Res}
    (h1 : c → Valid e d r p p') (h2 : ¬ c → Valid e d r' p p') : Valid e d (if c then r else r') p p' :=
  ite_cases (P := (Valid e d · p p')) h1 h2

theorem valid_orElse {e : Env} {d : Bool} {p p' : Pat} {r r' : Res} (h1 : Valid e d r p p') (h2 : Valid e d r' p p') :
    Valid e d (orElse r r') p p' := by
  unfold orElse
  split
  · exact h1
  · split
    · exact h2
    · exact h1

theorem close_errs {r : Res} (h : r.close.errs = []) : r.errs = [] ∧ r.headOK = true := by
  unfold Res.close at h
  split at h
  · exact ⟨h, by assumption⟩
  · rename_i hk
    simp only [List.append_eq_nil_iff, List.map_eq_nil_iff] at h
    exact absurd (by simp [Res.headOK, h.2]) hk

theorem close_sites (r : Res) : r.close.sites = [] := by
  unfold Res.close; split <;> rfl

theorem eqOnly_errs {r : Res} (h : r.eqOnly.errs = []) : r.errs = [] ∧ r.sites = [] := by
  unfold Res.eqOnly at h
  split at h
  · rename_i hs
    exact ⟨h, by simpa using hs⟩
  · simp only [List.append_eq_nil_iff, List.map_eq_nil_iff] at h
    exact h

theorem eqOnly_sites (r : Res) : r.eqOnly.sites = [] := by
  unfold Res.eqOnly; split
  · rename_i hs; simpa using hs
  · rfl

theorem valid_close {e : Env} {d d' : Bool} {r : Res} {x x' q q' : Pat} (hx : Valid e d r x x')
    (hq : HeadEq e d x x' → ∀ st, m e q d' st = m e q' d' st) : Valid e d' r.close q q' := by
  intro h
  obtain ⟨he, hk⟩ := close_errs h
  exact holds_of_eq (hq ((hx he).headEq hk)) _

/-! ## the concatenation step -/

theorem stepSites_spec {e : Env} {o : Oracle} (hs : o.Sound e) (k : Pat) :
    ∀ S : List Site, (stepSites o k S).2 = [] →
      ∀ s ∈ S, Kills e (siteDead e s) k ∨ (s ∈ (stepSites o k S).1 ∧ Stays e (siteDead e s) k)
  | [], _, s, hs' => by cases hs'
  | x :: xs, h, s, hmem => by
    simp only [stepSites] at h ⊢
    by_cases hk : (ks o x k).1 = true
    · simp only [hk, if_true] at h ⊢
      rcases List.mem_cons.mp hmem with rfl | hm
      · exact Or.inl ((ks_sound hs s k).1 hk)
      · exact stepSites_spec hs k xs h s hm
    · simp only [hk, Bool.false_eq_true, if_false] at h ⊢
      by_cases hst : (ks o x k).2 = true
      · simp only [hst, if_true] at h ⊢
        rcases List.mem_cons.mp hmem with rfl | hm
        · exact Or.inr ⟨by simp, (ks_sound hs s k).2 hst⟩
        · exact (stepSites_spec hs k xs h s hm).imp_right (fun h2 => ⟨List.mem_cons_of_mem _ h2.1, h2.2⟩)
      · simp only [hst, Bool.false_eq_true, if_false] at h
        cases h

theorem kills_dead {e : Env} {S : List Site} {k : Pat} (h : ∀ s ∈ S, Kills e (siteDead e s) k) :
    Kills e (dead e S) k := by
  intro st hd
  obtain ⟨s, hs, hd⟩ := List.any_eq_true.mp hd
  exact h s hs st hd

theorem eqMod_seq_step {e : Env} {D D' : Nat → Bool} {a a' : Pat} (k : Pat) (h : EqMod e D false a a')
    (hk : ∀ st, D st.pos = true → m e k false st = [] ∨ (D' st.pos = true ∧ ∀ t ∈ m e k false st, t.pos = st.pos)) :
    EqMod e D' false (.seq a k) (.seq a' k) := by
  intro st
  rw [m_seq_ltr, m_seq_ltr, live_flatMap, live_flatMap]
  refine flatMap_congr_live (h st) _ (fun x hx => ?_)
  rcases hk x hx with h1 | ⟨h1, h2⟩
  · rw [h1]; rfl
  · exact List.filter_eq_nil_iff.mpr (fun t ht => by simp [h2 t ht, h1])

theorem headEq_seq_step {e : Env} {D : Nat → Bool} {a a' : Pat} (k : Pat)
    (h : EqMod e D false a a') (hk : (HeadEq e false a a' ∧ Total e k) ∨ Kills e D k) :
    HeadEq e false (.seq a k) (.seq a' k) := by
  rcases hk with ⟨hh, hk⟩ | hk
  · intro st
    rw [m_seq_ltr, m_seq_ltr, head?_flatMap_of_ne_nil _ _ (fun x _ => hk x), head?_flatMap_of_ne_nil _ _ (fun x _ => hk x),
      hh st]
  · exact HeadEq.of_eq (h.seq_kill k hk)

theorem seqStep_core {e : Env} {o : Oracle} (hs : o.Sound e) {a a' : Pat} (k : Pat) {ra : Res}
    (ha : Holds e false ra a a') (herr : (stepSites o k ra.sites).2 = []) :
    EqMod e (dead e (stepSites o k ra.sites).1) false (.seq a k) (.seq a' k) ∧
      (((stepSites o k ra.sites).1.isEmpty || (ra.headOK && totalS k)) = true →
        HeadEq e false (.seq a k) (.seq a' k)) := by
  have hsp := stepSites_spec hs k ra.sites herr
  constructor
  · apply eqMod_seq_step k ha.1
    intro st hd
    obtain ⟨s, hsm, hd⟩ := List.any_eq_true.mp hd
    exact (hsp s hsm).imp (· st hd) (fun h => ⟨dead_of_mem h.1 hd, h.2 st hd⟩)
  · intro ht
    apply headEq_seq_step k ha.1
    rw [Bool.or_eq_true, Bool.and_eq_true] at ht
    rcases ht with ht | ⟨hh, ht⟩
    · refine Or.inr (kills_dead (fun s hm => (hsp s hm).elim id (fun h => ?_)))
      rw [List.isEmpty_iff.mp ht] at h
      cases h.1
    · exact Or.inl ⟨ha.headEq hh, totalS_sound e k ht⟩

theorem seqStep_errs {o : Oracle} {k : Pat} {ra rb : Res} (h : (seqStep o k ra rb).errs = []) :
    ra.errs = [] ∧ rb.errs = [] ∧ (stepSites o k ra.sites).2 = [] := by
  simp only [seqStep, List.append_eq_nil_iff] at h
  exact ⟨h.1.1, h.1.2, h.2⟩

theorem Holds.seq_last {e : Env} {r : Res} {x x' : Pat} (a : Pat) (h : Holds e false r x x') :
    Holds e false r (.seq a x) (.seq a x') :=
  ⟨(tailObs_live _).seq_ltr a h.1, fun hh => tailObs_head.seq_ltr a (h.2 hh)⟩

/-- the pending sites are checked against the second factor `k` of either tree: first factors, then second factors,
    or the other way round -/
theorem seqStep_sound {e : Env} {o : Oracle} (hs : o.Sound e) {a a' b b' k : Pat} {ra rb : Res} (hk : k = b ∨ k = b')
    (ha : Valid e false ra a a') (hb : Valid e false rb b b') :
    Valid e false (seqStep o k ra rb) (.seq a b) (.seq a' b') := by
  intro herr
  obtain ⟨h1, h2, h3⟩ := seqStep_errs herr
  have hc : Holds e false ⟨(stepSites o k ra.sites).1, (stepSites o k ra.sites).1.isEmpty || (ra.headOK && totalS k), 0, [], 0⟩
      (.seq a k) (.seq a' k) := seqStep_core hs k (ha h1) h3
  have hb := hb h2
  have hD1 : ∀ i, dead e (stepSites o k ra.sites).1 i = true → dead e (seqStep o k ra rb).sites i = true :=
    fun i hi => by simp only [seqStep, dead_append, hi, Bool.true_or]
  have hD2 : ∀ i, dead e rb.sites i = true → dead e (seqStep o k ra rb).sites i = true :=
    fun i hi => by simp only [seqStep, dead_append, hi, Bool.or_true]
  have hh : (seqStep o k ra rb).head = true →
      rb.headOK = true ∧ ((stepSites o k ra.sites).1.isEmpty || (ra.headOK && totalS k)) = true := fun h => by
    simpa only [seqStep, Bool.and_eq_true] using h
  rcases hk with rfl | rfl
  · exact Holds.trans hc (hb.seq_last a') hD1 hD2 (fun h => ⟨Bool.or_eq_true_iff.mpr (Or.inl (hh h).2), (hh h).1⟩)
  · exact Holds.trans (hb.seq_last a) hc hD2 hD1 (fun h => ⟨(hh h).1, Bool.or_eq_true_iff.mpr (Or.inl (hh h).2)⟩)

theorem seqRes_sound {e : Env} {o : Oracle} (hs : o.Sound e) {a a' b b' : Pat} {ra rb : Res}
    (ha : Valid e false ra a a') (hb : Valid e false rb b b') :
    Valid e false (seqRes o b b' ra rb) (.seq a b) (.seq a' b') :=
  valid_orElse (seqStep_sound hs (Or.inl rfl) ha hb) (seqStep_sound hs (Or.inr rfl) ha hb)

/-- the bump-along marker after the first factor is Empty -/
theorem seqMarker_sound {e : Env} {o : Oracle} (hs : o.Sound e) {a a' b : Pat} {ra r : Res} {certb : Pat → Res}
    (ha : Valid e false ra a a') (hb : ∀ y, Valid e false (certb y) b y) (b' : Pat)
    (hr : Valid e false r (.seq a b) (.seq a' b')) :
    Valid e false (seqMarker o b ra r certb b') (.seq a b) (.seq a' b') := by
  unfold seqMarker
  split
  · refine valid_orElse hr (fun h => (seqRes_sound hs ha (hb _) h).congr_right (fun st => ?_))
    simp only [m, Bool.false_eq_true, if_false, List.flatMap_singleton]
  · exact hr

/-! ## the other combinators -/

theorem seqRtl_errs {ra rb : Res} (h : (seqRtl ra rb).errs = []) : ra.errs = [] ∧ rb.errs = [] ∧ rb.sites = [] := by
  unfold seqRtl at h
  split at h <;> exact ⟨(List.append_eq_nil_iff.mp h).1, eqOnly_errs (List.append_eq_nil_iff.mp h).2⟩

theorem seqRtl_sound {e : Env} {a a' b b' : Pat} {ra rb : Res}
    (ha : Valid e true ra a a') (hb : Valid e true rb b b') : Valid e true (seqRtl ra rb) (.seq a b) (.seq a' b') := by
  intro herr
  obtain ⟨h1, h2, h3⟩ := seqRtl_errs herr
  have ha := ha h1
  have hb := (hb h2).eq h3
  unfold seqRtl
  split
  · rename_i hs
    exact holds_of_eq (seq_congr_dir (ha.eq (by simpa using hs)) hb) _
  · exact ⟨eqMod_top (fun i => rfl), fun hh => HeadEq.trans (tailObs_head.seq_rtl b (ha.headEq hh))
      (HeadEq.of_eq (seq_congr_dir (fun _ => rfl) hb))⟩

/-- branches: both arguments of `C` are tail positions -/
theorem valid_union {e : Env} {d : Bool} {C : Pat → Pat → Pat}
    (hC : ∀ {L}, TailObs L → ∀ {a a' b b'}, Obs L e d a a' → Obs L e d b b' → Obs L e d (C a b) (C a' b'))
    {ra rb : Res} {a a' b b' : Pat} (ha : Valid e d ra a a') (hb : Valid e d rb b b') :
    Valid e d (union ra rb) (C a b) (C a' b') := by
  intro h
  simp only [union, List.append_eq_nil_iff] at h
  have ha := ha h.1
  have hb := hb h.2
  refine ⟨hC (tailObs_live _) (ha.1.mono fun i hi => ?_) (hb.1.mono fun i hi => ?_), fun hh => ?_⟩
  · simp only [union, dead_append, hi, Bool.true_or]
  · simp only [union, dead_append, hi, Bool.or_true]
  · simp only [union, Bool.and_eq_true] at hh
    exact hC tailObs_head (ha.headEq hh.1) (hb.headEq hh.2)

theorem valid_exprCond {e : Env} {d : Bool} {rc ry rn : Res} {c c' y y' n n' : Pat}
    (hc : Valid e d rc c c') (hy : Valid e d ry y y') (hn : Valid e d rn n n') :
    Valid e d { union ry rn with errs := rc.close.errs ++ (union ry rn).errs, made := rc.close.made + (union ry rn).made }
      (.exprCond c y n) (.exprCond c' y' n') := by
  intro h
  obtain ⟨h1, h2⟩ := List.append_eq_nil_iff.mp h
  obtain ⟨hce, hck⟩ := close_errs h1
  have hcond := exprCond_eq_of_headEq y n ((hc hce).headEq hck)
  have hu := valid_union (C := .exprCond c') (fun _ => Obs.exprCond c') hy hn h2
  exact ⟨(EqMod.of_eq hcond).trans hu.1, fun hh => (HeadEq.of_eq hcond).trans (hu.2 hh)⟩

theorem wrap_errs (r : Res) : r.wrap.errs = r.close.errs := by
  simp only [Res.wrap]; split <;> rfl

theorem wrap_sites {r : Res} (h : r.close.errs = []) : r.wrap.sites = [.top] := by
  simp [Res.wrap, h]

theorem valid_wrap {e : Env} {d : Bool} {r : Res} {p p' : Pat} (h : Valid e d r p p') :
    Valid e d r.wrap p (.atomic p') := by
  intro herr
  rw [wrap_errs] at herr
  obtain ⟨he, hk⟩ := close_errs herr
  exact holds_top (((h he).headEq hk).trans (headEq_atomic e d p')) (wrap_sites herr)

theorem topOf_errs {c : Res} {n : Nat} (h : (c.topOf n).errs = []) : c.errs = [] ∧ (c.topOf n).sites = [.top] := by
  unfold Res.topOf at h ⊢
  split
  · rename_i hc; exact ⟨by simpa using hc, rfl⟩
  · rename_i hc
    rw [if_neg hc] at h
    exact absurd (by simp [h]) hc

theorem canGo_of_hiAtLeast {hi : Option Nat} {lo : Nat} (h : hiAtLeast hi lo = true) : ∀ c, c < lo → canGo hi c = true := by
  intro c hc
  cases hi with
  | none => rfl
  | some x => simp only [hiAtLeast, canGo, decide_eq_true_eq] at h ⊢; omega

theorem eqMod_quant_hi_one {e : Env} {D : Nat → Bool} {d : Bool} {b b' : Pat} (lzy : Bool) (lo : Nat)
    (h : EqMod e D d b b') : EqMod e D d (.quant lzy lo (some 1) b) (.quant lzy lo (some 1) b') :=
  (tailObs_live D).quant_hi_one lzy lo h

theorem bodyKills_sound {e : Env} {o : Oracle} (hs : o.Sound e) {x x' : Pat} {S : List Site}
    (h : bodyKills o x x' S = true) : Kills e (dead e S) x ∧ Kills e (dead e S) x' := by
  unfold bodyKills at h
  simp only [List.all_eq_true, Bool.and_eq_true] at h
  exact ⟨kills_dead (fun s hm => (ks_sound hs s x).1 (h s hm).1), kills_dead (fun s hm => (ks_sound hs s x').1 (h s hm).2)⟩

theorem quant_zero_zero' (e : Env) (lzy : Bool) (a : Pat) (rtl : Bool) (st : St) :
    m e (.quant lzy 0 (some 0) a) rtl st = [st] := by
  rw [m_quant, iter_stop (Or.inl rfl)]
  rfl

theorem quantRes_sound {e : Env} {o : Oracle} (hs : o.Sound e) {d : Bool} {lzy : Bool} {lo : Nat} {hi : Option Nat}
    {lzy' : Bool} {lo' : Nat} {hi' : Option Nat} {x x' : Pat} {r : Res} (hx : Valid e d r x x') :
    Valid e d (quantRes o d x x' lzy lo hi lzy' lo' hi' r) (.quant lzy lo hi x) (.quant lzy' lo' hi' x') := by
  unfold quantRes
  refine valid_ite (fun h1 => ?_) (fun _ => valid_ite (fun h2 => ?_) (fun _ => valid_fail _))
  · -- the same loop around the two bodies
    obtain ⟨rfl, rfl, rfl⟩ := h1
    refine valid_ite (fun h2 herr => ?_) (fun h2 => valid_ite (fun h3 herr => ?_) (fun _ => ?_))
    · -- no site pending in the body
      exact holds_of_eq (quant_congr_dir lzy lo hi ((hx herr).eq (by simpa using h2))) r
    · -- at most one iteration
      subst h3
      exact ⟨eqMod_quant_hi_one lzy lo (hx herr).1, fun hh => tailObs_head.quant_hi_one lzy lo ((hx herr).headEq hh)⟩
    · refine valid_ite (fun _ herr => ?_) (fun h4 => valid_ite (fun h5 herr => ?_) (fun _ herr => ?_))
      · -- right-to-left: an error
        cases (List.append_eq_nil_iff.mp herr).2
      · -- the body cannot start where its sites give back
        obtain rfl : d = false := by simpa using h4
        obtain ⟨k1, _⟩ := bodyKills_sound hs h5
        exact ⟨(hx herr).1.quant lzy lo hi k1,
          fun hh => headEq_quant_eqMod lzy lo hi ((hx herr).headEq hh) (hx herr).1 k1⟩
      · exact absurd (by simp [(eqOnly_errs herr).2]) h2
  · -- a lazy loop cut down to its minimum
    obtain ⟨rfl, rfl, rfl, rfl, h5⟩ := h2
    have hmin := headEq_lazy_min e d lo hi x (canGo_of_hiAtLeast h5)
    refine valid_ite (fun h0 _ => ?_) (fun _ => valid_ite (fun h3 herr => ?_) (fun _ => ?_))
    · -- `x{0,0}`
      subst h0
      refine holds_top (hmin.trans (HeadEq.of_eq (fun st => ?_))) rfl
      rw [quant_zero_zero', quant_zero_zero']
    · -- minimum 1, or the body cannot start where its sites give back
      obtain ⟨hce, hts⟩ := topOf_errs herr
      obtain ⟨he, hk⟩ := close_errs hce
      rcases h3 with rfl | ⟨rfl, h4⟩
      · exact holds_top (hmin.trans (tailObs_head.quant_hi_one true 1 ((hx he).headEq hk))) hts
      · obtain ⟨k1, _⟩ := bodyKills_sound hs h4
        exact holds_top (hmin.trans (headEq_quant_eqMod true lo (some lo) ((hx he).headEq hk) (hx he).1 k1)) hts
    · refine valid_ite (fun _ herr => ?_) (fun _ herr => ?_)
      · cases (List.append_eq_nil_iff.mp herr).2
      · obtain ⟨hce, hts⟩ := topOf_errs herr
        obtain ⟨he, hs'⟩ := eqOnly_errs hce
        exact holds_top (hmin.trans (HeadEq.of_eq (quant_congr_dir true lo (some lo) ((hx he).eq hs')))) hts

/-! ## repeaters of one character (the replacements recognised by `charSite`) -/

theorem repeater_lazy_eq_greedy (e : Env) (q : Pred) (n : Nat) (st : St) :
    m e (.quant true n (some n) (.chr q)) false st = m e (.quant false n (some n) (.chr q)) false st := by
  have h := atMostOne_quant_fixed false n (atMostOne_chr e false q) st
  rw [m_quant] at h ⊢
  rw [iter_chr_lazy_reverse, m_quant]
  match iter (m e (.chr q) false) false n (some n) (e.n + n + 1) 0 st, h with
  | [], _ => rfl
  | [_], _ => rfl

theorem repeater_successes (e : Env) (q : Pred) (n : Nat) (st : St) :
    m e (.quant false n (some n) (.chr q)) false st
      = if n ≤ runLen e q st.pos then [{ st with pos := st.pos + n }] else [] := by
  rw [charloop_successes]
  simp only [capN, Nat.sub_zero]
  by_cases h : n ≤ runLen e q st.pos
  · rw [if_pos h, Nat.min_eq_right h, Nat.add_sub_cancel_left]; rfl
  · rw [if_neg h, Nat.min_eq_left (Nat.le_of_not_le h), Nat.sub_eq_zero_of_le (Nat.lt_of_not_le h)]; rfl

/-- a Multi string of one rune is the repeater -/
theorem repPat_eq_repeater (e : Env) (q : Pred) : ∀ (n : Nat) (st : St),
    m e (repPat q n) false st = m e (.quant false n (some n) (.chr q)) false st
  | 0, st => (quant_zero_zero' e false _ false st).symm
  | 1, st => by
    refine Eq.trans ?_ (chr_then_loop e q false 0 (some 0) st)
    rw [m_seq_ltr, funext (quant_zero_zero' e false (.chr q) false), List.flatMap_singleton']
    rfl
  | n + 2, st =>
    (seq_congr_dir (fun _ => rfl) (repPat_eq_repeater e q (n + 1)) st).trans (chr_then_loop e q false (n + 1) (some (n + 1)) st)

theorem atomic_single_fixed {e : Env} {q : Pred} {n : Nat} {st : St} :
    m e (.atomic (.quant false n (some n) (.chr q))) false st = m e (.quant false n (some n) (.chr q)) false st :=
  atomic_of_atMostOne (atMostOne_quant_fixed false n (atMostOne_chr e false q)) st

theorem charloop_eqMod_site (e : Env) (p : Pred) (lo : Nat) (hi : Option Nat) :
    EqMod e (siteDead e (loopSite p lo)) false (.quant false lo hi (.chr p)) (.atomic (.quant false lo hi (.chr p))) := by
  unfold loopSite
  split
  · exact charloop_eqMod_atomic_between e p lo hi ‹_›
  · exact charloop_eqMod_atomic e p lo hi

/-- The three replacements `charSite` recognises, in its order: a repeater `q{n}` (equal lists: lazy, greedy and atomic
    are the same thing); the atomic greedy loop (a pending site: `EqMod` at the positions the loop gives back, and
    `HeadEq` unless the loop was lazy); a lazy loop cut to its minimum in tail position (`HeadEq` only, site `.top`). -/
theorem charSite_sound {e : Env} {lzy : Bool} {lo : Nat} {hi : Option Nat} {q : Pred} {p' : Pat} {r : Res}
    (h : charSite lzy lo hi q p' = some r) : r.errs = [] ∧ Holds e false r (.quant lzy lo hi (.chr q)) p' := by
  unfold charSite at h
  split at h
  · rename_i hc
    obtain ⟨rfl, hp⟩ := hc
    obtain rfl := Option.some.inj h
    refine ⟨rfl, holds_of_eq (fun st => ?_) _⟩
    have hrep : m e (.quant lzy lo (some lo) (.chr q)) false st = m e (.quant false lo (some lo) (.chr q)) false st := by
      cases lzy
      · rfl
      · exact repeater_lazy_eq_greedy e q lo st
    rcases hp with rfl | rfl
    · rw [hrep, atomic_single_fixed]
    · exact hrep
  · split at h
    · rename_i hp
      subst hp
      cases lzy with
      | true =>
        obtain rfl : Res.mk [.acc q] false 1 [] 1 = r := Option.some.inj h
        refine ⟨rfl, ?_, fun hh => by cases hh⟩
        exact (lazy_charloop_eqMod_atomic e q lo hi).mono (fun i hi => by simp [dead, siteDead, hi])
      | false =>
        obtain rfl : Res.mk [loopSite q lo] true 0 [] 1 = r := Option.some.inj h
        exact ⟨rfl, (charloop_eqMod_site e q lo hi).mono (fun i hi => by simp [dead, hi]), fun _ => headEq_atomic e false _⟩
    · split at h
      · rename_i hc
        obtain ⟨rfl, h5, hp⟩ := hc
        obtain rfl := Option.some.inj h
        refine ⟨rfl, holds_top ?_ rfl⟩
        have hmin := (headEq_lazy_min e false lo hi (.chr q) (canGo_of_hiAtLeast h5)).trans
          (HeadEq.of_eq (repeater_lazy_eq_greedy e q lo))
        rcases hp with rfl | rfl
        · exact hmin.trans (headEq_atomic e false _)
        · exact hmin.trans (HeadEq.of_eq (fun st => (repPat_eq_repeater e q lo st).symm))
      · cases h

theorem charSiteRtl_sound {e : Env} {lzy : Bool} {lo : Nat} {hi : Option Nat} {q : Pred} {p' : Pat} {r : Res}
    (h : charSiteRtl lzy lo hi q p' = some r) : r.errs = [] ∧ Holds e true r (.quant lzy lo hi (.chr q)) p' := by
  unfold charSiteRtl at h
  split at h
  · rename_i hc
    obtain ⟨rfl, rfl⟩ := hc
    obtain rfl := Option.some.inj h
    exact ⟨rfl, holds_top (headEq_atomic e true _) rfl⟩
  · split at h
    · rename_i hc
      obtain ⟨rfl, rfl, rfl⟩ := hc
      obtain rfl := Option.some.inj h
      refine ⟨rfl, holds_top ?_ rfl⟩
      exact (headEq_lazy_min e true 0 hi (.chr q) (fun c hc => by omega)).trans
        (HeadEq.of_eq (quant_zero_zero' e true _ true))
    · cases h

/-! ## the tree walk -/

theorem siteOf_sound {e : Env} {rtl lzy : Bool} {lo : Nat} {hi : Option Nat} {p' x : Pat} {r : Res}
    (h : siteOf rtl lzy lo hi p' x = some r) : r.errs = [] ∧ Holds e rtl r (.quant lzy lo hi x) p' := by
  unfold siteOf at h
  split at h
  · cases rtl with
    | true => exact charSiteRtl_sound h
    | false => exact charSite_sound h
  · cases h

theorem quantGeneric_sound {e : Env} {o : Oracle} (hs : o.Sound e) {rtl lzy : Bool} {lo : Nat} {hi : Option Nat} {x : Pat}
    {certx : Pat → Res} (hx : ∀ y, Valid e rtl (certx y) x y) (p' : Pat) :
    Valid e rtl (quantGeneric o rtl x lzy lo hi certx p') (.quant lzy lo hi x) p' := by
  unfold quantGeneric
  split
  · exact quantRes_sound hs (hx _)
  · exact valid_wrap (quantRes_sound hs (hx _))
  · exact valid_fail _

theorem cert_sound {e : Env} {o : Oracle} (hs : o.Sound e) :
    ∀ (p : Pat) (d : Bool) (p' : Pat), (cert o d p p').errs = [] → Holds e d (cert o d p p') p p' := by
  intro p
  induction p with
  | seq a b iha ihb =>
    intro d p'
    unfold cert
    split
    · cases d with
      | true => exact seqRtl_sound (iha true _) (ihb true _)
      | false => exact seqMarker_sound hs (iha false _) (ihb false) _ (seqRes_sound hs (iha false _) (ihb false _))
    · exact valid_fail _
  | alt a b iha ihb =>
    intro d p'
    have hu := fun a' b' => valid_union (C := .alt) (fun hL => hL.alt) (iha d a') (ihb d b')
    unfold cert
    split
    · exact hu _ _
    · exact valid_wrap (hu _ _)
    · exact valid_fail _
  | cap g a ih =>
    intro d p'
    unfold cert
    split
    · refine valid_ite (fun hg h => ?_) (fun _ => valid_fail _)
      subst hg
      exact ⟨(tailObs_live _).cap g (ih d _ h).1, fun hh => tailObs_head.cap g ((ih d _ h).2 hh)⟩
    · exact valid_fail _
  | atomic x ih =>
    intro d p'
    -- the Atomic node dropped around something with at most one success, the body in tail position
    have r2 : Valid e d (if atMostOneS p' = true then (cert o d x p').close else .fail 10) (.atomic x) p' :=
      valid_ite (fun h1 => valid_close (ih d p') (fun hh st =>
        (atomic_eq_of_headEq hh st).trans (atomic_of_atMostOne (atMostOneS_sound e d p' h1) st))) (fun _ => valid_fail _)
    cases p' with
    | atomic x' => exact valid_orElse (valid_close (ih d x') atomic_eq_of_headEq) r2
    | _ => exact r2
  | look bh ng x ih =>
    intro d p'
    unfold cert
    split
    · refine valid_ite (fun hc => ?_) (fun _ => valid_fail _)
      obtain ⟨rfl, rfl⟩ := hc
      exact valid_close (ih bh _) (fun hh => look_eq_of_headEq ng hh d)
    · exact valid_fail _
  | refCond g y n ihy ihn =>
    intro d p'
    have hu := fun y' n' => valid_union (C := .refCond g) (fun _ => Obs.refCond g) (ihy d y') (ihn d n')
    unfold cert
    split
    · exact valid_ite (fun hg => hg ▸ hu _ _) (fun _ => valid_fail _)
    · exact valid_ite (fun hg => hg ▸ valid_wrap (hu _ _)) (fun _ => valid_fail _)
    · exact valid_fail _
  | exprCond c y n ihc ihy ihn =>
    intro d p'
    unfold cert
    split
    · exact valid_exprCond (ihc d _) (ihy d _) (ihn d _)
    · exact valid_wrap (valid_exprCond (ihc d _) (ihy d _) (ihn d _))
    · exact valid_fail _
  | quant lzy lo hi x ih =>
    intro d p'
    unfold cert
    refine valid_ite valid_of_eq (fun _ => ?_)
    cases hsite : siteOf d lzy lo hi p' x with
    | some r => exact fun _ => (siteOf_sound hsite).2
    | none => exact quantGeneric_sound hs (ih d) p'
  | _ =>
    intro d p'
    unfold cert
    exact valid_ite valid_of_eq (fun _ => valid_fail _)

theorem certTopDir_headEq {e : Env} {o : Oracle} (hs : o.Sound e) {d : Bool} {p p' : Pat} (h : certTopDir o d p p' = true) :
    HeadEq e d p p' := by
  obtain ⟨he, hk⟩ := close_errs (List.isEmpty_iff.mp h)
  exact (cert_sound hs p d p' he).headEq hk

end RegexVerif.AutoAtomic
