/-
Soundness of the compile-time facts (Model/Facts.lean) against the specification semantics `Spec.m`.
No fact looks at the captures, so what a success of each node type looks like is stated once without them
(`mem_m_*`); a success of a quantifier is a `Chain` of body iterations (`quant_chain`).  Each analysis is an
induction over the pattern that uses those, with an invariant of its own: `Within` for the lengths (`m_within`),
`PrefixOK` for the leading prefix (`leadingPrefix_ok`); `edgeAnchor_holds` for the anchors.  `find_success` leads
from a find result back to a success.

The length analyses SATURATE as the Go code does, at values a pattern of the model can exceed: `minLen` is a lower
and `maxLen` an upper bound, not the exact lengths, and only the bounding directions are proved.
-/
import RegexVerif.Model.Facts
import RegexVerif.Lemmas.Spec
import RegexVerif.Lemmas.Dir

namespace RegexVerif.Facts
open RegexVerif.Spec

/-! ### single steps -/

theorem stepChar_spec (e : Env) (rtl : Bool) (pos r pos' : Nat) (h : stepChar e rtl pos = some (r, pos')) :
    Fwd rtl pos pos' ∧ span rtl pos pos' = 1 ∧ (rtl = false → e.text[pos]? = some r ∧ pos' = pos + 1) := by
  unfold stepChar at h
  cases rtl
  · simp only [Bool.false_eq_true, if_false, Option.map_eq_some_iff, Prod.mk.injEq] at h
    obtain ⟨x, hx, rfl, rfl⟩ := h
    exact ⟨Nat.le_succ pos, Nat.add_sub_cancel_left .., fun _ => ⟨hx, rfl⟩⟩
  · simp only [if_true] at h
    split at h
    · cases h
    · simp only [Option.map_eq_some_iff, Prod.mk.injEq] at h
      obtain ⟨x, _, _, rfl⟩ := h
      refine ⟨Nat.sub_le pos 1, ?_, nofun⟩
      show pos - (pos - 1) = 1
      omega

theorem refMatch_fwd (e : Env) (ci rtl : Bool) (s len pos pos' : Nat)
    (h : refMatch e ci rtl s len pos = some pos') : Fwd rtl pos pos' := by
  unfold refMatch at h
  cases rtl
  · simp only [Bool.false_eq_true, if_false] at h
    split at h
    · cases h; exact Nat.le_add_right pos len
    · cases h
  · simp only [if_true] at h
    split at h
    · cases h
    · split at h
      · cases h; exact Nat.sub_le pos len
      · cases h

/-! ### what a success of each node type looks like -/

theorem mem_m_chr {e : Env} {P : Pred} {rtl : Bool} {st st' : St} (hm : st' ∈ m e (.chr P) rtl st) :
    ∃ r, stepChar e rtl st.pos = some (r, st'.pos) ∧ P.test e r = true := by
  simp only [m] at hm
  split at hm
  · rename_i r pos' hstep
    split at hm
    · rename_i ht
      rw [List.mem_singleton.mp hm]
      exact ⟨r, hstep, ht⟩
    · cases hm
  · cases hm

theorem mem_m_chr_ltr {e : Env} {P : Pred} {st st' : St} (hm : st' ∈ m e (.chr P) false st) :
    ∃ r, e.text[st.pos]? = some r ∧ P.test e r = true ∧ st'.pos = st.pos + 1 := by
  obtain ⟨r, hs, ht⟩ := mem_m_chr hm
  obtain ⟨hr, hp⟩ := (stepChar_spec e false _ _ _ hs).2.2 rfl
  exact ⟨r, hr, ht, hp⟩

theorem mem_m_anchor {e : Env} {a : Anchor} {rtl : Bool} {st st' : St} (hm : st' ∈ m e (.anchor a) rtl st) :
    anchorHolds e a st.pos = true ∧ st' = st := by
  simp only [m] at hm
  split at hm
  · rename_i h
    exact ⟨h, List.mem_singleton.mp hm⟩
  · cases hm

theorem mem_m_seq_ltr {e : Env} {a b : Pat} {st st' : St} (hm : st' ∈ m e (.seq a b) false st) :
    ∃ y ∈ m e a false st, st' ∈ m e b false y :=
  List.mem_flatMap.mp hm

theorem mem_m_seq_rtl {e : Env} {a b : Pat} {st st' : St} (hm : st' ∈ m e (.seq a b) true st) :
    ∃ y ∈ m e b true st, st' ∈ m e a true y :=
  List.mem_flatMap.mp hm

theorem mem_m_alt {e : Env} {a b : Pat} {rtl : Bool} {st st' : St} (hm : st' ∈ m e (.alt a b) rtl st) :
    st' ∈ m e a rtl st ∨ st' ∈ m e b rtl st :=
  List.mem_append.mp hm

/-- capture groups and atomic groups are transparent as far as positions go -/
theorem mem_m_wrap {e : Env} {p : Pat} {rtl : Bool} {st st' : St} (hm : st' ∈ m e p rtl st) :
    match p with
    | .cap _ b | .atomic b => ∃ y ∈ m e b rtl st, y.pos = st'.pos
    | _ => True := by
  cases p with
  | cap g b =>
    obtain ⟨y, hy, rfl⟩ := List.mem_map.mp hm
    exact ⟨y, hy, rfl⟩
  | atomic b => exact ⟨st', List.mem_of_mem_take hm, rfl⟩
  | _ => trivial

theorem mem_m_look {e : Env} {behind neg rtl : Bool} {body : Pat} {st st' : St}
    (hm : st' ∈ m e (.look behind neg body) rtl st) :
    st'.pos = st.pos ∧ (neg = false → m e body behind st ≠ []) := by
  simp only [m] at hm
  split at hm
  · split at hm
    · rename_i hn
      rw [List.mem_singleton.mp hm]
      exact ⟨rfl, fun h => by rw [h] at hn; cases hn⟩
    · cases hm
  · rename_i heq
    split at hm
    · cases hm
    · rw [List.mem_singleton.mp hm]
      exact ⟨rfl, fun _ h => by rw [h] at heq; cases heq⟩

theorem mem_m_zero {e : Env} {p : Pat} {rtl : Bool} {st st' : St} (hm : st' ∈ m e p rtl st) :
    match p with
    | .empty | .anchor _ | .look _ _ _ => st'.pos = st.pos
    | _ => True := by
  cases p with
  | empty => exact congrArg St.pos (List.mem_singleton.mp hm)
  | anchor a => exact congrArg St.pos (mem_m_anchor hm).2
  | look behind neg body => exact (mem_m_look hm).1
  | _ => trivial

theorem mem_m_ref {e : Env} {g : Nat} {ci rtl : Bool} {st st' : St} (hm : st' ∈ m e (.ref g ci) rtl st) :
    ∃ s len, refMatch e ci rtl s len st.pos = some st'.pos := by
  simp only [m] at hm
  split at hm
  · cases hm
  · rename_i s len _
    split at hm
    · rename_i hr
      rw [List.mem_singleton.mp hm]
      exact ⟨s, len, hr⟩
    · cases hm

/-- alternation and the two conditionals: a success is a success of one of the two branches, from the same
    position (an expression conditional hands its `yes` branch the condition's captures) -/
theorem mem_m_branch {e : Env} {p : Pat} {rtl : Bool} {st st' : St} (hm : st' ∈ m e p rtl st) :
    match p with
    | .alt a b | .refCond _ a b | .exprCond _ a b =>
      ∃ s : St, s.pos = st.pos ∧ (st' ∈ m e a rtl s ∨ st' ∈ m e b rtl s)
    | _ => True := by
  cases p with
  | alt a b => exact ⟨st, rfl, List.mem_append.mp hm⟩
  | refCond g a b =>
    simp only [m] at hm
    split at hm
    · exact ⟨st, rfl, Or.inl hm⟩
    · exact ⟨st, rfl, Or.inr hm⟩
  | exprCond c a b =>
    simp only [m] at hm
    split at hm
    · exact ⟨_, by rfl, Or.inl hm⟩
    · exact ⟨st, rfl, Or.inr hm⟩
  | _ => trivial

/-! ### a success of `iter` is a chain of body iterations -/

/-- `Chain f j s s'`: `s'` is reached from `s` by `j` successive successes of `f` -/
inductive Chain (f : St → List St) : Nat → St → St → Prop where
  | zero (s : St) : Chain f 0 s s
  | succ {j : Nat} {s y s' : St} : y ∈ f s → Chain f j y s' → Chain f (j + 1) s s'

theorem iter_chain (f : St → List St) (lzy : Bool) (lo : Nat) (hi : Option Nat) :
    ∀ (fuel cnt : Nat) (st : St), ∀ st' ∈ iter f lzy lo hi fuel cnt st,
      ∃ j, Chain f j st st' ∧ lo ≤ cnt + j ∧ ∀ h, hi = some h → cnt ≤ h → cnt + j ≤ h := by
  intro fuel
  induction fuel with
  | zero =>
    intro cnt st st' hmem
    rw [iter, List.mem_ite_nil_right, List.mem_singleton] at hmem
    exact ⟨0, hmem.2 ▸ .zero _, hmem.1, fun _ _ hc => hc⟩
  | succ fuel ih =>
    intro cnt st st' hmem
    rcases mem_iter_succ.mp hmem with ⟨hlo, rfl⟩ | ⟨hgo, y, hy, h⟩
    · exact ⟨0, .zero _, hlo, fun _ _ hc => hc⟩
    · have hlt : ∀ h, hi = some h → cnt < h := fun h hh => by subst hh; exact of_decide_eq_true hgo
      split at h
      · rename_i hc
        rw [Bool.and_eq_true, decide_eq_true_eq] at hc
        rw [List.mem_singleton.mp h]
        exact ⟨1, .succ hy (.zero _), hc.2, fun h hh _ => hlt h hh⟩
      · obtain ⟨j, hch, hlo, hhi⟩ := ih (cnt + 1) y st' h
        exact ⟨j + 1, .succ hy hch, by omega, fun h hh _ => by have := hhi h hh (hlt h hh); omega⟩

theorem chain_head {f : St → List St} {j : Nat} {s s' : St} (hc : Chain f j s s') (hj : 0 < j) :
    ∃ y, y ∈ f s := by
  cases hc with
  | zero => cases hj
  | succ hy _ => exact ⟨_, hy⟩

theorem chain_min (rtl : Bool) (f : St → List St) (k : Nat)
    (hf : ∀ s, ∀ y ∈ f s, Fwd rtl s.pos y.pos ∧ k ≤ span rtl s.pos y.pos) :
    ∀ {j : Nat} {s s' : St}, Chain f j s s' → Fwd rtl s.pos s'.pos ∧ j * k ≤ span rtl s.pos s'.pos := by
  intro j s s' hc
  induction hc with
  | zero s => exact ⟨Fwd.refl _ _, by simp⟩
  | succ hy _ ih =>
    obtain ⟨h1, h2⟩ := hf _ _ hy
    obtain ⟨h3, h4⟩ := ih
    refine ⟨h1.trans h3, ?_⟩
    rw [span_add h1 h3, Nat.succ_mul]; omega

theorem chain_max (rtl : Bool) (f : St → List St) (c : Nat)
    (hf : ∀ s, ∀ y ∈ f s, Fwd rtl s.pos y.pos ∧ span rtl s.pos y.pos ≤ c) :
    ∀ {j : Nat} {s s' : St}, Chain f j s s' → Fwd rtl s.pos s'.pos ∧ span rtl s.pos s'.pos ≤ j * c := by
  intro j s s' hc
  induction hc with
  | zero s => exact ⟨Fwd.refl _ _, by simp [span_self]⟩
  | succ hy _ ih =>
    obtain ⟨h1, h2⟩ := hf _ _ hy
    obtain ⟨h3, h4⟩ := ih
    refine ⟨h1.trans h3, ?_⟩
    rw [span_add h1 h3, Nat.succ_mul]; omega

theorem quant_chain (e : Env) (lzy : Bool) (lo : Nat) (hi : Option Nat) (body : Pat) (rtl : Bool) (st st' : St)
    (hm : st' ∈ m e (.quant lzy lo hi body) rtl st) :
    ∃ j, Chain (m e body rtl) j st st' ∧ lo ≤ j ∧ ∀ h, hi = some h → j ≤ h := by
  simp only [m] at hm
  obtain ⟨j, hc, hlo, hhi⟩ := iter_chain (m e body rtl) lzy lo hi _ 0 st st' hm
  exact ⟨j, hc, by omega, fun h hh => by have := hhi h hh (Nat.zero_le _); omega⟩

/-! ### the saturating arithmetic never exceeds the exact value -/

theorem addMinLength_le (x y : Nat) : addMinLength x y ≤ x + y := by
  unfold addMinLength maxMinLength; split <;> omega

theorem multiplyMinLength_le (x y : Nat) : multiplyMinLength x y ≤ x * y := by
  unfold multiplyMinLength
  split
  · omega
  · rename_i h0
    split
    · rename_i h
      have hy : 0 < y := by omega
      have hx : 0 < x := by omega
      rcases h with h | h | h
      · exact Nat.le_trans h (Nat.le_mul_of_pos_right x hy)
      · exact Nat.le_trans h (Nat.le_mul_of_pos_left y hx)
      · have := (Nat.div_lt_iff_lt_mul hy).mp h
        omega
    · omega

theorem addMaxLength_eq {x y v : Nat} (h : addMaxLength x y = some v) : v = x + y := by
  unfold addMaxLength at h; split at h <;> simp at h; omega

theorem multiplyMaxLength_eq {x y v : Nat} (h : multiplyMaxLength x y = some v) : v = x * y := by
  unfold multiplyMaxLength at h
  split at h
  · rename_i h0; simp at h; subst h
    rcases h0 with h0 | h0 <;> subst h0 <;> simp
  · split at h <;> simp at h; omega

/-! ### minimum and maximum length -/

theorem isChr_eq {p : Pat} (h : isChr p = true) : ∃ P, p = .chr P := by
  cases p with
  | chr P => exact ⟨P, rfl⟩
  | _ => cases h

theorem minLen_quant (lzy : Bool) (lo : Nat) (hi : Option Nat) (body : Pat) :
    minLen (.quant lzy lo hi body) ≤ lo * minLen body := by
  simp only [minLen]
  split
  · rename_i hb
    obtain ⟨P, rfl⟩ := isChr_eq hb
    exact Nat.le_of_eq (Nat.mul_one lo).symm
  · exact multiplyMinLength_le lo (minLen body)

theorem maxLen_quant {lzy : Bool} {lo : Nat} {hi : Option Nat} {body : Pat} {k : Nat}
    (hk : maxLen (.quant lzy lo hi body) = some k) : ∃ h c, hi = some h ∧ maxLen body = some c ∧ k = h * c := by
  simp only [maxLen] at hk
  cases hi with
  | none => cases hk
  | some h =>
    simp only at hk
    split at hk
    · rename_i hb
      obtain ⟨P, rfl⟩ := isChr_eq hb
      cases hk
      exact ⟨_, 1, rfl, rfl, (Nat.mul_one _).symm⟩
    · cases hb : maxLen body with
      | none => rw [hb] at hk; cases hk
      | some c => rw [hb] at hk; exact ⟨_, c, rfl, rfl, multiplyMaxLength_eq hk⟩

/-- the upper bound of an alternation and of both conditionals -/
theorem maxBoth_eq {x y : Option Nat} {k : Nat}
    (h : (match x, y with
      | some a, some b => some (max a b)
      | _, _ => none) = some k) : ∃ a b, x = some a ∧ y = some b ∧ k = max a b := by
  cases x <;> cases y <;> cases h
  exact ⟨_, _, rfl, rfl, rfl⟩

theorem maxLen_seq {a b : Pat} {k : Nat} (hk : maxLen (.seq a b) = some k) :
    ∃ x y, maxLen a = some x ∧ maxLen b = some y ∧ k = x + y := by
  simp only [maxLen] at hk
  cases ha : maxLen a with
  | none => rw [ha] at hk; cases hk
  | some x =>
    cases hb : maxLen b with
    | none => rw [ha, hb] at hk; cases hk
    | some y => rw [ha, hb] at hk; exact ⟨x, y, rfl, rfl, addMaxLength_eq hk⟩

/-- a success from `a` to `b` in direction `rtl` consumes at least `lo` and, when `hi` is known, at most
    `hi` characters -/
def Within (rtl : Bool) (a b lo : Nat) (hi : Option Nat) : Prop :=
  Fwd rtl a b ∧ lo ≤ span rtl a b ∧ ∀ k, hi = some k → span rtl a b ≤ k

theorem Within.same {rtl : Bool} {a b : Nat} (h : b = a) (hi : Option Nat) : Within rtl a b 0 hi := by
  rw [h, Within, span_self]
  exact ⟨Fwd.refl _ _, Nat.le_refl 0, fun k _ => Nat.zero_le k⟩

theorem Within.seq {rtl : Bool} {a b c l1 l2 lo : Nat} {u1 u2 hi : Option Nat}
    (h1 : Within rtl a b l1 u1) (h2 : Within rtl b c l2 u2) (hl : lo ≤ l1 + l2)
    (hu : ∀ k, hi = some k → ∃ x y, u1 = some x ∧ u2 = some y ∧ k = x + y) : Within rtl a c lo hi := by
  refine ⟨h1.1.trans h2.1, ?_, fun k hk => ?_⟩
  · have := h1.2.1
    have := h2.2.1
    rw [span_add h1.1 h2.1]; omega
  · obtain ⟨x, y, hx, hy, rfl⟩ := hu k hk
    have := h1.2.2 x hx
    have := h2.2.2 y hy
    rw [span_add h1.1 h2.1]; omega

theorem Within.either {rtl : Bool} {a b l1 l2 : Nat} {u1 u2 hi : Option Nat}
    (h : Within rtl a b l1 u1 ∨ Within rtl a b l2 u2)
    (hu : ∀ k, hi = some k → ∃ x y, u1 = some x ∧ u2 = some y ∧ k = max x y) : Within rtl a b (min l1 l2) hi := by
  rcases h with h | h
  · refine ⟨h.1, by have := h.2.1; omega, fun k hk => ?_⟩
    obtain ⟨x, y, hx, _, rfl⟩ := hu k hk
    have := h.2.2 x hx; omega
  · refine ⟨h.1, by have := h.2.1; omega, fun k hk => ?_⟩
    obtain ⟨x, y, _, hy, rfl⟩ := hu k hk
    have := h.2.2 y hy; omega

/-- **positions only move in the direction, and `ComputeMinLength` / `computeMaxLength` bound what is consumed**
    (the parts by name: `m_fwd`, `minLen_span`, `maxLen_span`) -/
theorem m_within (e : Env) (p : Pat) :
    ∀ (rtl : Bool) (st : St), ∀ st' ∈ m e p rtl st, Within rtl st.pos st'.pos (minLen p) (maxLen p) := by
  induction p with
  | empty | anchor _ | look _ _ _ _ => intro rtl st st' hm; exact .same (mem_m_zero hm) _
  | nothing => intro rtl st st' hm; cases hm
  | chr P =>
    intro rtl st st' hm
    obtain ⟨r, hs, _⟩ := mem_m_chr hm
    obtain ⟨hf, h1, _⟩ := stepChar_spec e rtl _ _ _ hs
    exact ⟨hf, Nat.le_of_eq h1.symm, fun k hk => by cases hk; exact Nat.le_of_eq h1⟩
  | ref g ci =>
    intro rtl st st' hm
    obtain ⟨s, len, hr⟩ := mem_m_ref hm
    exact ⟨refMatch_fwd e ci rtl s len _ _ hr, Nat.zero_le _, nofun⟩
  | seq a b iha ihb =>
    intro rtl st st' hm
    have hl : minLen (.seq a b) ≤ minLen a + minLen b := addMinLength_le (minLen a) (minLen b)
    cases rtl
    · obtain ⟨y, hy, hxy⟩ := mem_m_seq_ltr hm
      exact (iha _ _ y hy).seq (ihb _ _ _ hxy) hl fun k => maxLen_seq
    · obtain ⟨y, hy, hxy⟩ := mem_m_seq_rtl hm
      refine (ihb _ _ y hy).seq (iha _ _ _ hxy) (by omega) fun k hk => ?_
      obtain ⟨x, y, hx, hy, rfl⟩ := maxLen_seq hk
      exact ⟨y, x, hy, hx, Nat.add_comm x y⟩
  | alt a b iha ihb | refCond _ a b iha ihb | exprCond _ a b _ iha ihb =>
    intro rtl st st' hm
    obtain ⟨s, hs, hor⟩ := mem_m_branch hm
    rw [← hs]
    exact .either (hor.imp (iha rtl s st') (ihb rtl s st')) fun k => maxBoth_eq
  | cap _ body ih | atomic body ih =>
    intro rtl st st' hm
    obtain ⟨y, hy, hp⟩ := mem_m_wrap hm
    rw [← hp]; exact ih rtl st y hy
  | quant lzy lo hi body ih =>
    intro rtl st st' hm
    obtain ⟨j, hc, hlo, hhi⟩ := quant_chain e lzy lo hi body rtl st st' hm
    obtain ⟨hf, hmin⟩ := chain_min rtl _ (minLen body) (fun s y hy => ⟨(ih rtl s y hy).1, (ih rtl s y hy).2.1⟩) hc
    refine ⟨hf, ?_, fun k hk => ?_⟩
    · have := minLen_quant lzy lo hi body
      have := Nat.mul_le_mul_right (minLen body) hlo
      omega
    · obtain ⟨h, c, rfl, hb, rfl⟩ := maxLen_quant hk
      have := (chain_max rtl _ c (fun s y hy => ⟨(ih rtl s y hy).1, (ih rtl s y hy).2.2 c hb⟩) hc).2
      have := Nat.mul_le_mul_right c (hhi h rfl)
      omega

theorem m_fwd (e : Env) (p : Pat) :
    ∀ (rtl : Bool) (st : St), ∀ st' ∈ m e p rtl st, Fwd rtl st.pos st'.pos :=
  fun rtl st st' hm => (m_within e p rtl st st' hm).1

theorem minLen_span (e : Env) (p : Pat) :
    ∀ (rtl : Bool) (st : St), ∀ st' ∈ m e p rtl st, minLen p ≤ span rtl st.pos st'.pos :=
  fun rtl st st' hm => (m_within e p rtl st st' hm).2.1

theorem maxLen_span (e : Env) (p : Pat) :
    ∀ (rtl : Bool) (st : St), ∀ st' ∈ m e p rtl st, ∀ k, maxLen p = some k → span rtl st.pos st'.pos ≤ k :=
  fun rtl st st' hm => (m_within e p rtl st st' hm).2.2

/-! ### leading and trailing anchors -/

theorem countedAnchor_eq {x a : Anchor} (h : countedAnchor x = some a) : a = x := by
  cases x <;> cases h <;> rfl

theorem skippable_pos (e : Env) (p : Pat) :
    skippable p = true → ∀ (rtl : Bool) (st : St), ∀ st' ∈ m e p rtl st, st'.pos = st.pos := by
  induction p with
  | empty | look _ _ _ _ => intro _ rtl st st' hm; exact mem_m_zero hm
  | seq a b iha ihb =>
    intro hs rtl st st' hm
    simp only [skippable, Bool.and_eq_true] at hs
    cases rtl
    · obtain ⟨y, hy, hxy⟩ := mem_m_seq_ltr hm
      rw [ihb hs.2 _ y st' hxy, iha hs.1 _ st y hy]
    · obtain ⟨y, hy, hxy⟩ := mem_m_seq_rtl hm
      rw [iha hs.1 _ y st' hxy, ihb hs.2 _ st y hy]
  | _ => intro h; cases h

/-- the position at which the anchor found from the pattern's start (`fromEnd = false`) or end is
    evaluated: the attempt's start when that edge is matched first, else its end -/
def edgePos (fromEnd rtl : Bool) (st st' : St) : Nat := if fromEnd = rtl then st.pos else st'.pos

theorem edgeAnchor_holds (e : Env) (p : Pat) :
    ∀ (fromEnd rtl : Bool) (a : Anchor) (st : St), edgeAnchor fromEnd p = some a →
      ∀ st' ∈ m e p rtl st, anchorHolds e a (edgePos fromEnd rtl st st') = true := by
  induction p with
  | anchor x =>
    intro fromEnd rtl a st h st' hm
    obtain ⟨hh, rfl⟩ := mem_m_anchor hm
    cases countedAnchor_eq h
    unfold edgePos
    split <;> exact hh
  | cap _ body ih | atomic body ih =>
    intro fromEnd rtl a st h st' hm
    obtain ⟨y, hy, hp⟩ := mem_m_wrap hm
    have := ih fromEnd rtl a st h y hy
    unfold edgePos at this ⊢
    rwa [hp] at this
  | alt x y ihx ihy =>
    intro fromEnd rtl a st h st' hm
    simp only [edgeAnchor] at h
    cases hx : edgeAnchor fromEnd x with
    | none => rw [hx] at h; cases h
    | some ax =>
      simp only [hx] at h
      split at h
      · rename_i hy
        cases h
        exact (mem_m_alt hm).elim (ihx fromEnd rtl a st hx st') (ihy fromEnd rtl a st hy st')
      · cases h
  | seq x y ihx ihy =>
    intro fromEnd rtl a st h st' hm
    simp only [edgeAnchor] at h
    -- `z` is the state between the two children; the edge child is the one matched first iff `fromEnd = rtl`
    cases rtl
    · obtain ⟨z, hz, hzs⟩ := mem_m_seq_ltr hm
      cases fromEnd <;> simp only [Bool.false_eq_true, if_false, if_true] at h <;> split at h
      · rename_i hs
        simpa [edgePos, skippable_pos e x hs false st z hz] using ihy false false a z h st' hzs
      · simpa [edgePos] using ihx false false a st h z hz
      · rename_i hs
        simpa [edgePos, skippable_pos e y hs false z st' hzs] using ihx true false a st h z hz
      · simpa [edgePos] using ihy true false a z h st' hzs
    · obtain ⟨z, hz, hzs⟩ := mem_m_seq_rtl hm
      cases fromEnd <;> simp only [Bool.false_eq_true, if_false, if_true] at h <;> split at h
      · rename_i hs
        simpa [edgePos, skippable_pos e x hs true z st' hzs] using ihy false true a st h z hz
      · simpa [edgePos] using ihx false true a z h st' hzs
      · rename_i hs
        simpa [edgePos, skippable_pos e y hs true st z hz] using ihx true true a z h st' hzs
      · simpa [edgePos] using ihy true true a st h z hz
  | _ => intro fromEnd rtl a st h; cases h

/-! ### leading prefix -/

def bytesFrom (e : Env) (utf8 : Nat → List Nat) (i : Nat) : List Nat := (e.text.drop i).flatMap utf8

/-- the invariant of `tryFindPrefix`: the bytes at `i` start with the prefix, and when the function
    says "continue" the prefix is exactly what was consumed up to `j` -/
def PrefixOK (e : Env) (utf8 : Nat → List Nat) (r : List Nat × Bool) (i j : Nat) : Prop :=
  ∃ t, bytesFrom e utf8 i = r.1 ++ t ∧ (r.2 = true → t = bytesFrom e utf8 j)

theorem PrefixOK.nil_false (e : Env) (utf8 : Nat → List Nat) (i j : Nat) : PrefixOK e utf8 ([], false) i j :=
  ⟨_, rfl, nofun⟩

theorem PrefixOK.nil_same (e : Env) (utf8 : Nat → List Nat) (c : Bool) {i j : Nat} (h : j = i) :
    PrefixOK e utf8 ([], c) i j :=
  ⟨bytesFrom e utf8 i, rfl, fun _ => by rw [h]⟩

theorem PrefixOK.weaken {e : Env} {utf8 : Nat → List Nat} {l : List Nat} {c : Bool} {i j : Nat}
    (h : PrefixOK e utf8 (l, c) i j) (k : Nat) : PrefixOK e utf8 (l, false) i k :=
  let ⟨t, ht, _⟩ := h
  ⟨t, ht, nofun⟩

theorem commonPrefix_cons (x y : Nat) (xs ys : List Nat) :
    commonPrefix (x :: xs) (y :: ys) = if x = y then x :: commonPrefix xs ys else [] := rfl

theorem commonPrefix_nil_right (a : List Nat) : commonPrefix a [] = [] := by cases a <;> rfl

/-- `commonPrefix a b` is the meet of `a` and `b` in the prefix order; the facts below are read off it -/
theorem prefix_commonPrefix (a b c : List Nat) : c <+: commonPrefix a b ↔ c <+: a ∧ c <+: b := by
  induction c generalizing a b with
  | nil => exact ⟨fun _ => ⟨List.nil_prefix, List.nil_prefix⟩, fun _ => List.nil_prefix⟩
  | cons z zs ih =>
    cases a with
    | nil => simp [commonPrefix]
    | cons x xs =>
      cases b with
      | nil => simp [commonPrefix]
      | cons y ys =>
        rw [commonPrefix_cons]
        split
        · subst_vars
          simp only [List.cons_prefix_cons, ih]
          exact ⟨fun ⟨h, h1, h2⟩ => ⟨⟨h, h1⟩, h, h2⟩, fun ⟨⟨h, h1⟩, _, h2⟩ => ⟨h, h1, h2⟩⟩
        · rename_i hne
          simp only [List.prefix_nil, List.cons_prefix_cons]
          exact ⟨nofun, fun ⟨⟨h1, _⟩, h2, _⟩ => (hne (h1 ▸ h2)).elim⟩

theorem commonPrefix_left (a b : List Nat) : commonPrefix a b <+: a :=
  ((prefix_commonPrefix a b _).1 (List.prefix_refl _)).1

theorem commonPrefix_right (a b : List Nat) : commonPrefix a b <+: b :=
  ((prefix_commonPrefix a b _).1 (List.prefix_refl _)).2

theorem eq_of_prefix_iff {l₁ l₂ : List Nat} (h : ∀ c, c <+: l₁ ↔ c <+: l₂) : l₁ = l₂ :=
  ((h l₁).1 (List.prefix_refl _)).eq_of_length_le ((h l₂).2 (List.prefix_refl _)).length_le

theorem commonPrefix_comm (a b : List Nat) : commonPrefix a b = commonPrefix b a :=
  eq_of_prefix_iff fun d => by simp only [prefix_commonPrefix, and_comm]

/-- associativity: why the running intersection of the Go loop (a left fold over the branches) may be modelled by
    the right-nested binary form -/
theorem commonPrefix_assoc (a b c : List Nat) :
    commonPrefix (commonPrefix a b) c = commonPrefix a (commonPrefix b c) :=
  eq_of_prefix_iff fun d => by simp only [prefix_commonPrefix, and_assoc]

theorem rep_add (a b : Nat) (l : List Nat) : rep (a + b) l = rep a l ++ rep b l := by
  induction a with
  | zero => simp [rep]
  | succ a ih => rw [Nat.succ_add]; simp [rep, ih]

theorem bytesFrom_step (e : Env) (utf8 : Nat → List Nat) (i r : Nat) (h : e.text[i]? = some r) :
    bytesFrom e utf8 i = utf8 r ++ bytesFrom e utf8 (i + 1) := by
  obtain ⟨hlt, hget⟩ := List.getElem?_eq_some_iff.mp h
  unfold bytesFrom
  rw [List.drop_eq_getElem_cons hlt, hget]
  simp

theorem chain_prefix (e : Env) (utf8 : Nat → List Nat) (f : St → List St) (pb : List Nat)
    (hf : ∀ s, ∀ y ∈ f s, bytesFrom e utf8 s.pos = pb ++ bytesFrom e utf8 y.pos) :
    ∀ {j : Nat} {s s' : St}, Chain f j s s' → bytesFrom e utf8 s.pos = rep j pb ++ bytesFrom e utf8 s'.pos := by
  intro j s s' hc
  induction hc with
  | zero s => simp [rep]
  | succ hy _ ih => rw [hf _ _ hy, ih]; simp [rep]

theorem leadingPrefix_ok (e : Env) (utf8 : Nat → List Nat) (p : Pat) :
    ∀ (st : St), ∀ st' ∈ m e p false st, PrefixOK e utf8 (leadingPrefix utf8 p) st.pos st'.pos := by
  induction p with
  | empty | anchor _ | look _ _ _ _ => intro st st' hm; exact .nil_same _ _ _ (mem_m_zero hm)
  | nothing => intro st st' hm; cases hm
  | ref g ci | refCond g yes no _ _ | exprCond c yes no _ _ _ => intro st st' _; exact .nil_false _ _ _ _
  | chr P =>
    intro st st' hm
    obtain ⟨r, hr, ht, hp⟩ := mem_m_chr_ltr hm
    match P, ht with
    | .notone _ _, _ | .set _ _, _ | .one _ true, _ => exact .nil_false _ _ _ _
    | .one c false, ht =>
      cases (beq_iff_eq.mp ht : c = r)
      exact ⟨_, bytesFrom_step e utf8 st.pos _ hr, fun _ => by rw [hp]⟩
  | seq a b iha ihb =>
    intro st st' hm
    obtain ⟨y, hy, hxy⟩ := mem_m_seq_ltr hm
    obtain ⟨ta, hta, hca⟩ := iha st y hy
    simp only [leadingPrefix]
    split
    · rename_i hc
      obtain ⟨tb, htb, hcb⟩ := ihb y st' hxy
      exact ⟨tb, by rw [hta, hca hc, htb, List.append_assoc], hcb⟩
    · exact ⟨ta, hta, nofun⟩
  | alt a b iha ihb =>
    intro st st' hm
    simp only [leadingPrefix]
    rcases mem_m_alt hm with hm | hm
    · obtain ⟨t, ht, _⟩ := iha st st' hm
      obtain ⟨u, hu⟩ := commonPrefix_left (leadingPrefix utf8 a).1 (leadingPrefix utf8 b).1
      exact ⟨u ++ t, by rw [ht, ← List.append_assoc, hu], nofun⟩
    · obtain ⟨t, ht, _⟩ := ihb st st' hm
      obtain ⟨u, hu⟩ := commonPrefix_right (leadingPrefix utf8 a).1 (leadingPrefix utf8 b).1
      exact ⟨u ++ t, by rw [ht, ← List.append_assoc, hu], nofun⟩
  | quant lzy lo hi body ih =>
    intro st st' hm
    obtain ⟨j, hc, hlo, hhi⟩ := quant_chain e lzy lo hi body false st st' hm
    simp only [leadingPrefix]
    split
    · exact .nil_false _ _ _ _
    · rename_i hlo0
      split
      · rename_i hcont
        have hch := chain_prefix e utf8 (m e body false) _
          (fun s y hy => let ⟨t, ht, hc⟩ := ih s y hy; by rw [ht, hc hcont]) hc
        generalize hL : min (if isOne body = true then 32 else 4) lo = limit
        have hj : limit + (j - limit) = j := Nat.add_sub_cancel' (Nat.le_trans (hL ▸ Nat.min_le_right _ _) hlo)
        refine ⟨rep (j - limit) (leadingPrefix utf8 body).1 ++ bytesFrom e utf8 st'.pos, ?_, fun hh => ?_⟩
        · rw [hch, ← List.append_assoc, ← rep_add, hj]
        · rw [Nat.sub_eq_zero_of_le (hhi limit (by simpa using hh))]; rfl
      · obtain ⟨y, hy⟩ := chain_head hc (Nat.lt_of_lt_of_le (Nat.pos_of_ne_zero hlo0) hlo)
        exact (ih st y hy).weaken _
  | cap g body ih =>
    intro st st' hm
    obtain ⟨y, hy, hp⟩ := mem_m_wrap hm
    rw [← hp]; exact ih st y hy
  | atomic body ih =>
    intro st st' hm
    obtain ⟨y, hy, hp⟩ := mem_m_wrap hm
    simp only [leadingPrefix]
    split
    · exact .nil_false _ _ _ _
    · rw [← hp]; exact ih st y hy

theorem bytesFrom_split (e : Env) (utf8 : Nat → List Nat) (i j : Nat) (h : i ≤ j) :
    bytesFrom e utf8 i = ((e.text.drop i).take (j - i)).flatMap utf8 ++ bytesFrom e utf8 j := by
  unfold bytesFrom
  rw [← List.flatMap_append]
  congr 1
  have : e.text.drop j = (e.text.drop i).drop (j - i) := by rw [List.drop_drop]; congr 1; omega
  rw [this, List.take_append_drop]

/-- every literal the prefix analysis can emit is ASCII -/
def asciiOnly : Pat → Bool
  | .chr (.one c false) => decide (c < 128)
  | .seq a b => asciiOnly a && asciiOnly b
  | .alt a b => asciiOnly a && asciiOnly b
  | .quant _ _ _ b => asciiOnly b
  | .atomic b => asciiOnly b
  | .cap _ b => asciiOnly b
  | _ => true

theorem leadingPrefix_ascii (p : Pat) (h : asciiOnly p = true) :
    leadingPrefix utf8enc p = leadingPrefix (fun r => [r]) p := by
  induction p with
  | chr q =>
    match q, h with
    | .one c false, h => simp [leadingPrefix, utf8enc, of_decide_eq_true h]
    | .one _ true, _ | .notone _ _, _ | .set _ _, _ => rfl
  | seq a b iha ihb | alt a b iha ihb =>
    simp only [asciiOnly, Bool.and_eq_true] at h
    simp only [leadingPrefix, iha h.1, ihb h.2]
  | quant lzy lo hi body ih | atomic body ih | cap g body ih =>
    simp only [asciiOnly] at h
    simp only [leadingPrefix, ih h]
  | _ => rfl

/-! ### from a find result back to the success of the pattern -/

theorem attempt_success (e : Env) (p : Pat) (rtl : Bool) (i : Nat) (st : St) (h : attempt e p rtl i = some st) :
    ∃ y ∈ m e p rtl { pos := i, caps := [] }, st.pos = y.pos ∧
      lastCap st.caps 0 = some (min i y.pos, max i y.pos - min i y.pos) := by
  unfold attempt at h
  have hmem := List.mem_of_mem_head? h
  simp only [m, List.mem_map] at hmem
  obtain ⟨y, hy, rfl⟩ := hmem
  exact ⟨y, hy, rfl, by simp [lastCap]⟩

/-- an attempt's result is a success of the pattern from the attempt position `i`, reported as group 0: the
    side of `(index, length)` the scan reaches first is `i`, the other side is where the success ended -/
theorem attempt_span (e : Env) (p : Pat) (rtl : Bool) (i : Nat) (st : St) (h : attempt e p rtl i = some st) :
    ∃ y idx len, y ∈ m e p rtl { pos := i, caps := [] } ∧ lastCap st.caps 0 = some (idx, len) ∧
      len = span rtl i y.pos ∧ (if rtl then idx + len else idx) = i ∧ (if rtl then idx else idx + len) = y.pos := by
  obtain ⟨y, hy, _, hcap⟩ := attempt_success e p rtl i st h
  have hf := m_fwd e p rtl _ y hy
  refine ⟨y, _, _, hy, hcap, ?_⟩
  cases rtl
  · have : i ≤ y.pos := hf
    rw [Nat.min_eq_left this, Nat.max_eq_right this]
    exact ⟨rfl, rfl, Nat.add_sub_cancel' this⟩
  · have : y.pos ≤ i := hf
    rw [Nat.min_eq_right this, Nat.max_eq_left this]
    exact ⟨rfl, Nat.add_sub_cancel' this, rfl⟩

theorem find_success (e : Env) (p : Pat) (rtl : Bool) (start : Nat) (st : St) (h : find e p rtl start = some st) :
    ∃ i y idx len, y ∈ m e p rtl { pos := i, caps := [] } ∧ lastCap st.caps 0 = some (idx, len) ∧
      len = span rtl i y.pos ∧ (if rtl then idx + len else idx) = i ∧ (if rtl then idx else idx + len) = y.pos := by
  obtain ⟨i, _, hat⟩ := List.exists_of_findSome?_eq_some h
  exact ⟨i, attempt_span e p rtl i st hat⟩

theorem find_success_ltr (e : Env) (p : Pat) (start : Nat) (st : St) (h : find e p false start = some st) :
    ∃ i y len, y ∈ m e p false { pos := i, caps := [] } ∧ lastCap st.caps 0 = some (i, len) := by
  obtain ⟨i, y, idx, len, hy, hcap, _, hi, _⟩ := find_success e p false start st h
  cases (hi : idx = i)
  exact ⟨idx, y, len, hy, hcap⟩

end RegexVerif.Facts
