/-
The closed-form bound on the height of the grouping-stack typing of emitted programs.

Every slot of a type `tyAt` assigns inside the code of a sub-tree was pushed by a frame of an enclosing node
(`Setmark`/`Nullmark`: 1 slot; `Setcount`/`Nullcount`: 2; `Setjump`: 2; `Setjump; Setmark`: 3), and every such frame
consists of at least as many instructions counted by `opcodeBacktracks` as half its slots:

  node                       slots around the child   counted instructions of the frame
  Capture                    1                        Setmark, Capturemark
  Loop, no counter, min ≥ 1  1                        Setmark, Branchmark
  Loop, no counter, min 0    1                        (Nullmark is NOT counted) Goto, Branchmark
  Loop with counter          2                        Setcount | Nullcount (+ Goto), Branchcount
  PosLook                    3                        Setjump, Setmark, Getmark, Forejump
  NegLook                    2                        Setjump, Lazybranch, Backjump, Forejump
  Atomic                     2                        Setjump, Forejump
  BackRefCond                2 (own instructions)     Setjump, Lazybranch, Forejump, Goto, Forejump
  ExprCond                   3                        Setjump, Setmark, Lazybranch, Getmark, Forejump, …

Hence `height (tyAt cfg a σ n q) ≤ height σ + 2 · trackCount (code of n)` (`tyAt_below`), and for the whole program
(`Lazybranch; root; Stop`, the leading `Lazybranch` is counted) `height + 2 ≤ 2·TrackCount ≤ 4·TrackCount`
(`progFn_height`).  The bool-only program keeps the first program's `TrackCount`, which is at least the number of its own
backtracking instructions (`codeFromTree_tc_le`).

At the end, for Props/C13: `stackAlloc0_room` and the iteration `stackRunN` of its examples.
-/
import RegexVerif.Lemmas.StackTypingEmit
import RegexVerif.Lemmas.StackCapacity

namespace RegexVerif.Lemmas.StackHeightEmit
open RegexVerif.Code RegexVerif.Writer RegexVerif.StackTyping RegexVerif.Generated.Opcodes
open RegexVerif.Lemmas.Compose RegexVerif.Lemmas.StackTypingEmit RegexVerif.Lemmas.StackCapacity
open RegexVerif.Lemmas.StackTypingSound

/-- every type `o` may be has height at most `B` -/
def Below (B : Nat) (o : Option STy) : Prop := ∀ τ, o = some τ → τ.length ≤ B

section below
variable {B B' : Nat} {o x y : Option STy} {τ : STy}

theorem below_none : Below B none ↔ True := ⟨fun _ => trivial, fun _ _ h => nomatch h⟩

theorem below_some : Below B (some τ) ↔ τ.length ≤ B := ⟨fun h => h τ rfl, fun h _ e => Option.some.inj e ▸ h⟩

theorem below_ite {c : Prop} [Decidable c] : Below B (if c then x else y) ↔ (c → Below B x) ∧ (¬ c → Below B y) := by
  split <;> simp [*]

theorem Below.mono (h : Below B o) (hB : B ≤ B') : Below B' o := fun τ e => Nat.le_trans (h τ e) hB

theorem below_entry {c : Prop} [Decidable c] {e : Nat} (h : τ.length + e ≤ B) : Below B (if c then some τ else none) :=
  below_ite.2 ⟨fun _ => below_some.2 (Nat.le_trans (Nat.le_add_right _ _) h), fun _ => below_none.2 trivial⟩

end below

/-! ### the counted instructions of the frames (the operands do not matter) -/

section frames
variable (x y : Int)

theorem tc_setmark : trackCount [i0 opSetmark] = 1 := by decide +kernel
theorem tc_capturemark : trackCount [i2 opCapturemark x y] = 1 := rfl
theorem tc_setjump_setmark : trackCount [i0 opSetjump, i0 opSetmark] = 2 := by decide +kernel
theorem tc_getmark_forejump : trackCount [i0 opGetmark, i0 opForejump] = 2 := by decide +kernel
theorem tc_setjump_lazybranch : trackCount [i0 opSetjump, i1 opLazybranch x] = 2 := rfl
theorem tc_backjump_forejump : trackCount [i0 opBackjump, i0 opForejump] = 2 := by decide +kernel
theorem tc_setjump : trackCount [i0 opSetjump] = 1 := by decide +kernel
theorem tc_forejump : trackCount [i0 opForejump] = 1 := by decide +kernel
theorem tc_testref : trackCount [i0 opSetjump, i1 opLazybranch x, i1 opTestref y, i0 opForejump] = 3 := rfl
theorem tc_goto_forejump : trackCount [i1 opGoto x, i0 opForejump] = 2 := rfl
theorem tc_setjump_setmark_lazybranch : trackCount [i0 opSetjump, i0 opSetmark, i1 opLazybranch x] = 3 := rfl
theorem tc_goto_getmark_forejump : trackCount [i1 opGoto x, i0 opGetmark, i0 opForejump] = 3 := rfl
theorem tc_lazybranch : trackCount [i1 opLazybranch x] = 1 := rfl
theorem tc_goto : trackCount [i1 opGoto x] = 1 := rfl

/-- every variant of the loop frame counts at least 2: `Nullmark` is not counted, but then there is a `Goto` -/
theorem tc_loop (lzy : Bool) (m n : Int) (z : Int) (C : Code) :
    trackCount C + 2 ≤ trackCount
      ((if counted m n then (if m == 0 then [i1 opNullcount 0] else [i1 opSetcount (1 - m)])
        else (if m == 0 then [i0 opNullmark] else [i0 opSetmark])) ++
      (if m == 0 then [i1 opGoto x] else []) ++ C ++
      (if counted m n then [i2 (opBranchcount + (if lzy then 1 else 0)) y z]
        else [i1 (opBranchmark + (if lzy then 1 else 0)) y])) := by
  have h1 : 1 ≤ trackCount ((if counted m n then (if m == 0 then [i1 opNullcount 0] else [i1 opSetcount (1 - m)])
        else (if m == 0 then [i0 opNullmark] else [i0 opSetmark])) ++ (if m == 0 then [i1 opGoto x] else [])) := by
    cases counted m n <;> cases m == 0 <;> exact Nat.le_of_ble_eq_true rfl
  have h2 : trackCount (if counted m n then [i2 (opBranchcount + (if lzy then 1 else 0)) y z]
        else [i1 (opBranchmark + (if lzy then 1 else 0)) y]) = 1 := by
    cases counted m n <;> cases lzy <;> rfl
  simp only [trackCount_append] at h1 ⊢
  omega

end frames

mutual
/-- **height of the explicit typing.**  Stated for every bound `B` above `height σ + 2 · trackCount`, so that the bound of a
    child entered with a longer type is found by arithmetic; `tyList_height` and `tyAlt_height` below are `Below`
    unfolded, at the least `B`. -/
theorem tyAt_below (cfg : Cfg) : ∀ (n : GoNode) (a : Nat) (tb : Tables) (σ : STy) (q : Nat), ∀ B : Nat,
    σ.length + 2 * trackCount (emitNode cfg a tb n).1 ≤ B → Below B (tyAt cfg a σ n q)
  | .empty, a, tb, σ, q => fun _ _ => below_none.2 trivial
  | .bare t, a, tb, σ, q => fun _ hB => below_entry hB
  | .char t rtl ci ch, a, tb, σ, q => fun _ hB => below_entry hB
  | .set rtl ci s, a, tb, σ, q => fun _ hB => below_entry hB
  | .multi rtl ci s, a, tb, σ, q => fun _ hB => below_entry hB
  | .ref rtl ci m, a, tb, σ, q => fun _ hB => below_entry hB
  | .charloop t rtl ci ch m n, a, tb, σ, q => fun _ hB => below_entry hB
  | .setloop t rtl ci s m n, a, tb, σ, q => fun _ hB => below_entry hB
  | .other t, a, tb, σ, q => fun _ _ => below_none.2 trivial
  | .concat cs, a, tb, σ, q => fun _ hB => Below.mono (tyList_height cfg cs a tb σ q) hB
  | .alt cs, a, tb, σ, q => fun _ hB => Below.mono (tyAlt_height cfg cs a _ tb σ q) hB
  | .group c, a, tb, σ, q => tyAt_below cfg c a tb σ q
  | .capture m n c, a, tb, σ, q => by
    intro B hB
    by_cases he : emitCapture cfg m n = true
    · simp only [emitNode, he, if_true, trackCount_append, tc_setmark, tc_capturemark] at hB
      have ih := tyAt_below cfg c (a + 1) tb (.pos :: σ) q B (by simp only [List.length_cons]; omega)
      simp only [tyAt, he, if_true, below_ite, below_some, below_none, List.length_cons, ih, implies_true, and_true]
      omega
    · simp only [emitNode, he] at hB
      simp only [tyAt, he]
      exact tyAt_below cfg c a tb σ q B hB
  | .loop lzy m n c, a, tb, σ, q => by
    intro B hB
    simp only [emitNode] at hB
    have hc := tc_loop (a + loopHeadLen m n + size cfg c : Nat) (a + loopHeadLen m n : Nat) lzy m n (repArg m n)
      (emitNode cfg (a + loopHeadLen m n) tb c).1
    have ih := tyAt_below cfg c (a + loopHeadLen m n) tb (if counted m n then .count :: .pos :: σ else .pos :: σ) q B
      (by cases counted m n <;> simp only [List.length_cons, if_true, Bool.false_eq_true, if_false] <;> omega)
    simp only [tyAt, below_ite, below_some, below_none, ih, implies_true, and_true]
    cases counted m n <;> simp only [List.length_cons, if_true, Bool.false_eq_true, if_false] <;> omega
  | .poslook c, a, tb, σ, q => by
    intro B hB
    simp only [emitNode, trackCount_append, tc_setjump_setmark, tc_getmark_forejump] at hB
    have ih := tyAt_below cfg c (a + 2) tb (.pos :: cdt σ) q B (by simp only [List.length_cons]; omega)
    simp only [tyAt, below_ite, below_some, below_none, List.length_cons, ih, implies_true, and_true]
    omega
  | .neglook c, a, tb, σ, q => by
    intro B hB
    simp only [emitNode, trackCount_append, tc_setjump_lazybranch, tc_backjump_forejump] at hB
    have ih := tyAt_below cfg c (a + 3) tb (cdt σ) q B (by simp only [List.length_cons]; omega)
    simp only [tyAt, below_ite, below_some, below_none, List.length_cons, ih, implies_true, and_true]
    omega
  | .atomic c, a, tb, σ, q => by
    intro B hB
    simp only [emitNode, trackCount_append, tc_setjump, tc_forejump] at hB
    have ih := tyAt_below cfg c (a + 1) tb (cdt σ) q B (by simp only [List.length_cons]; omega)
    simp only [tyAt, below_ite, below_some, below_none, List.length_cons, ih, implies_true, and_true]
    omega
  | .backrefcond1 m y, a, tb, σ, q => by
    intro B hB
    simp only [emitNode, trackCount_append, tc_testref, tc_goto_forejump] at hB
    have ih := tyAt_below cfg y (a + 6) tb σ q B (by omega)
    simp only [tyAt, below_ite, below_some, below_none, List.length_cons, ih, implies_true, and_true]
    omega
  | .backrefcond2 m y n, a, tb, σ, q => by
    intro B hB
    simp only [emitNode, trackCount_append, tc_testref, tc_goto_forejump] at hB
    have ih := tyAt_below cfg y (a + 6) tb σ q B (by omega)
    have ih2 := tyAt_below cfg n (a + 6 + size cfg y + 3) (emitNode cfg (a + 6) tb y).2 σ q B (by omega)
    simp only [tyAt, below_ite, below_some, below_none, List.length_cons, ih, ih2, implies_true, and_true]
    omega
  | .exprcond2 c y, a, tb, σ, q => by
    intro B hB
    simp only [emitNode, trackCount_append, tc_setjump_setmark_lazybranch, tc_getmark_forejump,
      tc_goto_getmark_forejump] at hB
    have ih := tyAt_below cfg c (a + 4) tb (.pos :: cdt σ) q B (by simp only [List.length_cons]; omega)
    have ih2 := tyAt_below cfg y (a + 4 + size cfg c + 2) (emitNode cfg (a + 4) tb c).2 σ q B (by omega)
    simp only [tyAt, below_ite, below_some, below_none, List.length_cons, ih, ih2, implies_true, and_true]
    omega
  | .exprcond3 c y n, a, tb, σ, q => by
    intro B hB
    simp only [emitNode, trackCount_append, tc_setjump_setmark_lazybranch, tc_getmark_forejump,
      tc_goto_getmark_forejump] at hB
    have ih := tyAt_below cfg c (a + 4) tb (.pos :: cdt σ) q B (by simp only [List.length_cons]; omega)
    have ih2 := tyAt_below cfg y (a + 4 + size cfg c + 2) (emitNode cfg (a + 4) tb c).2 σ q B (by omega)
    have ih3 := tyAt_below cfg n (a + 4 + size cfg c + 2 + size cfg y + 4)
      (emitNode cfg (a + 4 + size cfg c + 2) (emitNode cfg (a + 4) tb c).2 y).2 σ q B (by omega)
    simp only [tyAt, below_ite, below_some, below_none, List.length_cons, ih, ih2, ih3, implies_true, and_true]
    omega
theorem tyList_height (cfg : Cfg) : ∀ (cs : List GoNode) (a : Nat) (tb : Tables) (σ : STy) (q : Nat) (τ : STy),
    tyList cfg a σ cs q = some τ → τ.length ≤ σ.length + 2 * trackCount (emitList cfg a tb cs).1
  | [], a, tb, σ, q => by simp only [tyList]; exact below_none.2 trivial
  | c :: cs, a, tb, σ, q => by
    simp only [tyList, emitList, trackCount_append]
    exact below_ite.2 ⟨fun _ => tyAt_below cfg c a tb σ q _ (by omega),
      fun _ => Below.mono (tyList_height cfg cs _ (emitNode cfg a tb c).2 σ q) (by omega)⟩
theorem tyAlt_height (cfg : Cfg) : ∀ (cs : List GoNode) (a fin : Nat) (tb : Tables) (σ : STy) (q : Nat) (τ : STy),
    tyAlt cfg a σ cs q = some τ → τ.length ≤ σ.length + 2 * trackCount (emitAlt cfg a fin tb cs).1
  | [], a, fin, tb, σ, q => by simp only [tyAlt]; exact below_none.2 trivial
  | c :: cs, a, fin, tb, σ, q => by
    by_cases he : cs.isEmpty = true
    · simp only [tyAlt, emitAlt, he, if_true]
      exact tyAt_below cfg c a tb σ q _ (Nat.le_refl _)
    · simp only [tyAlt, emitAlt, he, Bool.false_eq_true, if_false, trackCount_append, tc_lazybranch, tc_goto]
      have ih := tyAt_below cfg c (a + 2) tb σ q
      have ih2 : Below _ _ := tyAlt_height cfg cs (a + 2 + size cfg c + 2) fin (emitNode cfg (a + 2) tb c).2 σ q
      exact below_ite.2 ⟨fun _ => below_some.2 (by omega), fun _ => below_ite.2 ⟨fun _ => below_some.2 (by omega),
        fun _ => below_ite.2 ⟨fun _ => ih _ (by omega), fun _ => ih2.mono (by omega)⟩⟩⟩
end

/-- the types of the program `Lazybranch; root; Stop`: the leading `Lazybranch` is counted and pushes nothing -/
theorem progFn_height (cfg : Cfg) (root : GoNode) {q : Nat} {τ : STy} (h : progFn cfg root q = some τ) :
    τ.length + 2 ≤ 2 * trackCount (codeFromTree cfg root).1 := by
  have ih := tyAt_below cfg root 2 ⟨[], []⟩ [] q _ (Nat.le_refl _)
  have hb : Below (2 * trackCount (emitNode cfg 2 ⟨[], []⟩ root).1) (progFn cfg root q) := by
    simp only [List.length_nil, Nat.zero_add] at ih
    simp only [progFn, below_ite, below_some, below_none, List.length_nil, Nat.zero_le, ih, implies_true, and_true]
  have := hb τ h
  simp only [codeFromTree, trackCount_append, tc_lazybranch]
  omega

theorem arrOf_hbound (F : Fn) (N H : Nat) (hF : ∀ q τ, F q = some τ → τ.length ≤ H) : HBound (arrOf F N) H := by
  intro q S h
  by_cases hq : q < N
  · rw [arrOf_get F N q hq] at h; exact hF q S h
  · simp [arrOf, Assign.get, hq] at h

theorem codeFromTree_typing_height (cfg : Cfg) (root : GoNode) (hok : root.ok = true) (p : Prog)
    (hp : Holds p (codeFromTree cfg root).1) (hcaps : capsOk cfg p.capsize root = true) :
    ∃ bs a H, p.boundaries = some bs ∧ TypingW p bs a ∧ HBound a H ∧
      H + 2 ≤ 2 * trackCount (codeFromTree cfg root).1 := by
  obtain ⟨hb, hty⟩ := codeFromTree_typingW cfg root hok p hp hcaps
  have h0 := progFn_height cfg root (q := 0) (τ := []) (by simp [progFn])
  exact ⟨_, _, 2 * trackCount (codeFromTree cfg root).1 - 2, hb, hty,
    arrOf_hbound _ _ _ (fun q τ h => by have := progFn_height cfg root h; omega), by omega⟩

theorem emit_height_le (ti : TreeInfo) (root : GoNode) (h : treeWf ti root = true) :
    ∃ bs a H, (emit ti root).boundaries = some bs ∧ TypingW (emit ti root) bs a ∧ HBound a H ∧
      H + 2 ≤ 2 * (emit ti root).trackcount :=
  codeFromTree_typing_height (mainCfg ti) root (treeWf_ok h) (emit ti root) rfl (treeWf_caps h)

/-- the same for the bool-only program, whose `TrackCount` is the first program's (`codeFromTree_tc_le`) -/
theorem emitQuick_height_le (ti : TreeInfo) (root : GoNode) (h : treeWf ti root = true) (qp : Prog)
    (hq : emitQuick ti root = some qp) :
    ∃ bs a H, qp.boundaries = some bs ∧ TypingW qp bs a ∧ HBound a H ∧ H + 2 ≤ 2 * qp.trackcount := by
  rw [emitQuick_eq ti root qp hq]
  obtain ⟨bs, a, H, h1, h2, h3, h4⟩ := codeFromTree_typing_height (quickCfg ti root) root (treeWf_ok h)
    { emit ti root with codes := (flatten (codeFromTree (quickCfg ti root) root).1).toArray } rfl (treeWf_capsQuick h)
  refine ⟨bs, a, H, h1, h2, h3, ?_⟩
  have := codeFromTree_tc_le (writerCaps ti).2 (slotsInUse ti root) root
  show H + 2 ≤ 2 * trackCount (codeFromTree (mainCfg ti) root).1
  have e1 : quickCfg ti root = ⟨(writerCaps ti).2, some (slotsInUse ti root)⟩ := rfl
  have e2 : mainCfg ti = ⟨(writerCaps ti).2, none⟩ := rfl
  rw [e1] at h4
  rw [e2]
  omega

/-- the real first allocation `initMatch` makes has room for the deepest grouping stack plus the `4·TrackCount` free
    slots `ensureStorage` asks for -/
theorem stackAlloc0_room {H tc : Nat} (h : H + 2 ≤ 2 * tc) : H + 2 + tc * 4 ≤ Capacity.stackAlloc0 tc := by
  have := (stackAlloc0_ge tc).2
  omega

/-- `n` iterations from `s` with the length of `runstack` (the modelled `if` of `ensureStorage` at every storage check);
    used to exhibit concrete reachable states in the non-vacuity examples of Props/C13 -/
def stackRunN (tc : Nat) (p : Prog) (env : VM.Env) : Nat → VM.VMState → Nat → Option (VM.VMState × Nat)
  | 0, s, cap => some (s, cap)
  | n + 1, s, cap =>
    match VM.step p env s with
    | .next s' chk => stackRunN tc p env n s' (if chk then Capacity.stackEnsure tc cap s'.stack.length else cap)
    | _ => none

end RegexVerif.Lemmas.StackHeightEmit
