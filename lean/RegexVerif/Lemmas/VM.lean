/-
Lemmas about the interpreter model `RegexVerif.VM` (Model/VM.lean).  The backtracking stack is a sequence of whole
frames (`Frames`): the saved code position of an instruction over the data slots its Back / Back2 case pops.  `Inv` says
so by the mode of the operator about to run, and `step_ok` keeps it: a well-formed program raises no structural fault.
Every case of the switch is reached through the table `Selects`; the cases that leave the grouping stack alone are
described once, by `Neutral`.
-/
import RegexVerif.Model.VM

namespace RegexVerif.Lemmas.VM
open RegexVerif.VM RegexVerif.Code RegexVerif

/-- the facts `instrOk` checks for the instruction at boundary `pc` -/
structure InstrFacts (p : Prog) (bs : List Nat) (pc : Nat) (w : Word) (o : Op) : Prop where
  fetch : fetch p pc = .ok w
  op : Op.ofNat? w.op = some o
  noback : w.back = false
  noback2 : w.back2 = false
  operands : operandsOk p bs pc o = true
  inside : pc + o.size ≤ p.codes.size
  next : o = .stop ∨ pc + o.size ∈ bs

/-- what the decidable check `Prog.wf` provides, as propositions (`wf_spec`, which Props/C10 states as `wf_sound`) -/
structure WF (p : Prog) (bs : List Nat) : Prop where
  bnd : p.boundaries = some bs
  instr : ∀ pc ∈ bs, ∃ w o, InstrFacts p bs pc w o
  zero : 0 ∈ bs
  root : ∃ w, fetch p 0 = .ok w ∧ Op.ofNat? w.op = some .lazybranch
  rootTarget : ∃ t wt, p.codes[1]? = some t ∧ 0 ≤ t ∧ fetch p t.toNat = .ok wt ∧ Op.ofNat? wt.op = some .stop

theorem isOpAt_spec {p : Prog} {pc : Nat} {o : Op} (h : isOpAt p pc o = true) :
    ∃ w, fetch p pc = .ok w ∧ Op.ofNat? w.op = some o := by
  unfold isOpAt at h
  split at h
  · next w hw => exact ⟨w, hw, by simpa using h⟩
  · simp at h

theorem instrOk_spec {p : Prog} {bs : List Nat} {pc : Nat} (h : instrOk p bs pc = true) :
    ∃ w o, InstrFacts p bs pc w o := by
  unfold instrOk at h
  split at h
  · simp at h
  · next w hw =>
    split at h
    · simp at h
    · next o ho =>
      simp only [Bool.and_eq_true, Bool.not_eq_true', decide_eq_true_eq, Bool.or_eq_true,
        List.contains_iff_mem] at h
      exact ⟨w, o, hw, ho, h.1.1.1.1.1, h.1.1.1.1.2, h.1.1.2, h.1.2, h.2⟩

theorem wf_spec {p : Prog} (h : p.wf = true) : ∃ bs, WF p bs := by
  unfold Prog.wf at h
  split at h
  · simp at h
  · next bs hbs =>
    simp only [Bool.and_eq_true, List.all_eq_true, List.contains_iff_mem] at h
    obtain ⟨⟨⟨⟨hall, h0⟩, hroot⟩, htgt⟩, _⟩ := h
    refine ⟨bs, hbs, fun pc hpc => instrOk_spec (hall pc hpc), h0, isOpAt_spec hroot, ?_⟩
    split at htgt
    · next t ht =>
      simp only [Bool.and_eq_true, decide_eq_true_eq] at htgt
      obtain ⟨wt, h1, h2⟩ := isOpAt_spec htgt.2
      exact ⟨t, wt, ht, htgt.1, h1, h2⟩
    · simp at htgt

/-! ## unfolding lemmas for `step` / `run` (for proofs built on the model) -/

section unfolding
variable (p : Prog) (env : Env)

@[simp] theorem finish_advance (s : VMState) (i : Nat) : finish p (s, .advance i) = doAdvance p s i := rfl
@[simp] theorem finish_goto (s : VMState) (t : Int) : finish p (s, .goto t) = doGoto p s t := rfl
@[simp] theorem finish_back (s : VMState) : finish p (s, .back) = doBacktrack p s := rfl
@[simp] theorem finish_halt (s : VMState) : finish p (s, .halt) = .stop s := rfl

theorem step_of_body_ok {s : VMState} {r : VMState × Exit} (h : body p env s = .ok r) :
    step p env s = finish p r := by simp [step, h]

theorem step_of_body_error {s : VMState} {f : Fault} (h : body p env s = .error f) :
    step p env s = .fault f := by simp [step, h]

/-- **the `switch` as a table**: the case that opcode `o` selects in mode `m`, one line of `body` each; an opcode has a
    Back / Back2 case exactly when frames of that kind exist (`frameData`), and `Prune` has no case at all -/
inductive Selects (p : Prog) (env : Env) (s : VMState) : Op → Mode → Res → Prop
  | stop : Selects p env s .stop .fwd (.ok (s, .halt))
  | nothing : Selects p env s .nothing .fwd (.ok (s, .back))
  | goto : Selects p env s .goto .fwd (caseGoto p s)
  | testref : Selects p env s .testref .fwd (caseTestref p s)
  | lazybranch : Selects p env s .lazybranch .fwd (.ok (push1 s s.textpos, .advance 1))
  | lazybranchBack : Selects p env s .lazybranch .back (caseLazybranchBack p s)
  | setmark : Selects p env s .setmark .fwd (.ok (push0 (spush s s.textpos), .advance 0))
  | nullmark : Selects p env s .nullmark .fwd (.ok (push0 (spush s (-1)), .advance 0))
  | setmarkBack : Selects p env s .setmark .back (casePop1Back s)
  | nullmarkBack : Selects p env s .nullmark .back (casePop1Back s)
  | getmark : Selects p env s .getmark .fwd (caseGetmark env s)
  | getmarkBack : Selects p env s .getmark .back (caseRestoreBack s)
  | capturemark : Selects p env s .capturemark .fwd (caseCapturemark p s)
  | capturemarkBack : Selects p env s .capturemark .back (caseCapturemarkBack p s)
  | branchmark : Selects p env s .branchmark .fwd (caseBranchmark p s)
  | branchmarkBack : Selects p env s .branchmark .back (caseBranchmarkBack s)
  | branchmarkBack2 : Selects p env s .branchmark .back2 (caseRestoreBack s)
  | lazybranchmark : Selects p env s .lazybranchmark .fwd (caseLazybranchmark s)
  | lazybranchmarkBack : Selects p env s .lazybranchmark .back (caseLazybranchmarkBack p s)
  | lazybranchmarkBack2 : Selects p env s .lazybranchmark .back2 (caseLazybranchmarkBack2 s)
  | setcount : Selects p env s .setcount .fwd (caseSetcount p s.textpos s)
  | nullcount : Selects p env s .nullcount .fwd (caseSetcount p (-1) s)
  | setcountBack : Selects p env s .setcount .back (casePop2Back s)
  | nullcountBack : Selects p env s .nullcount .back (casePop2Back s)
  | branchcount : Selects p env s .branchcount .fwd (caseBranchcount p s)
  | branchcountBack : Selects p env s .branchcount .back (caseBranchcountBack env s)
  | branchcountBack2 : Selects p env s .branchcount .back2 (caseBranchcountBack2 s)
  | lazybranchcount : Selects p env s .lazybranchcount .fwd (caseLazybranchcount p s)
  | lazybranchcountBack : Selects p env s .lazybranchcount .back (caseLazybranchcountBack p s)
  | lazybranchcountBack2 : Selects p env s .lazybranchcount .back2 (caseLazybranchcountBack2 s)
  | setjump : Selects p env s .setjump .fwd (caseSetjump s)
  | setjumpBack : Selects p env s .setjump .back (casePop2Back s)
  | backjump : Selects p env s .backjump .fwd (caseBackjump p s)
  | forejump : Selects p env s .forejump .fwd (caseForejump p s)
  | forejumpBack : Selects p env s .forejump .back (caseForejumpBack s)
  | bol : Selects p env s .bol .fwd (caseBol env s)
  | eol : Selects p env s .eol .fwd (caseEol env s)
  | boundary : Selects p env s .boundary .fwd (caseBoundary env env.wordChar true s)
  | nonboundary : Selects p env s .nonboundary .fwd (caseBoundary env env.wordChar false s)
  | ecmaboundary : Selects p env s .ecmaboundary .fwd (caseBoundary env env.ecmaWordChar true s)
  | nonecmaboundary : Selects p env s .nonecmaboundary .fwd (caseBoundary env env.ecmaWordChar false s)
  | beginning : Selects p env s .beginning .fwd (.ok (assertion s (decide (¬ s.textpos > 0))))
  | start : Selects p env s .start .fwd (.ok (assertion s (decide (s.textpos = env.textstart))))
  | endz : Selects p env s .endz .fwd (caseEndZ env s)
  | end_ : Selects p env s .end_ .fwd (.ok (assertion s (decide (¬ env.len - s.textpos > 0))))
  | one : Selects p env s .one .fwd (caseChar p env 0 s)
  | notone : Selects p env s .notone .fwd (caseChar p env 1 s)
  | set : Selects p env s .set .fwd (caseChar p env 2 s)
  | multi : Selects p env s .multi .fwd (caseMulti p env s)
  | ref : Selects p env s .ref .fwd (caseRef p env s)
  | onerep : Selects p env s .onerep .fwd (caseRep p env 0 s)
  | notonerep : Selects p env s .notonerep .fwd (caseRep p env 1 s)
  | setrep : Selects p env s .setrep .fwd (caseRep p env 2 s)
  | oneloop : Selects p env s .oneloop .fwd (caseLoop p env 0 false s)
  | notoneloop : Selects p env s .notoneloop .fwd (caseLoop p env 1 false s)
  | setloop : Selects p env s .setloop .fwd (caseLoop p env 2 false s)
  | oneloopatomic : Selects p env s .oneloopatomic .fwd (caseLoop p env 0 true s)
  | notoneloopatomic : Selects p env s .notoneloopatomic .fwd (caseLoop p env 1 true s)
  | setloopatomic : Selects p env s .setloopatomic .fwd (caseLoop p env 2 true s)
  | oneloopBack : Selects p env s .oneloop .back (caseLoopBack s)
  | notoneloopBack : Selects p env s .notoneloop .back (caseLoopBack s)
  | setloopBack : Selects p env s .setloop .back (caseLoopBack s)
  | onelazy : Selects p env s .onelazy .fwd (caseLazy p env s)
  | notonelazy : Selects p env s .notonelazy .fwd (caseLazy p env s)
  | setlazy : Selects p env s .setlazy .fwd (caseLazy p env s)
  | onelazyBack : Selects p env s .onelazy .back (caseLazyBack p env 0 s)
  | notonelazyBack : Selects p env s .notonelazy .back (caseLazyBack p env 1 s)
  | setlazyBack : Selects p env s .setlazy .back (caseLazyBack p env 2 s)
  | updatebumpalong : Selects p env s .updatebumpalong .fwd (caseUpdateBumpalong s)
  | prune : Selects p env s .prune .fwd (.error .unknownOp)
  | noBack {o : Op} : frameData o false = none → Selects p env s o .back (.error .unknownOp)
  | noBack2 {o : Op} : frameData o true = none → Selects p env s o .back2 (.error .unknownOp)

theorem body_selects {s : VMState} {o : Op} {m : Mode} (hop : Op.ofNat? s.oper.op = some o)
    (hm : modeOf s.oper = some m) : Selects p env s o m (body p env s) := by
  unfold body
  rw [hop, hm]
  cases m with
  | fwd => cases o <;> constructor
  | back => cases o <;> first | exact .noBack rfl | constructor
  | back2 => cases o <;> first | exact .noBack2 rfl | constructor

@[simp] theorem run_zero (s : VMState) : run p env 0 s = (.fuel s, 0) := rfl

theorem run_succ_next {s s' : VMState} {chk : Bool} (fuel : Nat) (h : step p env s = .next s' chk) :
    run p env (fuel + 1) s = ((run p env fuel s').1, (run p env fuel s').2 + 1) := by
  simp [run, h]

theorem run_succ_stop {s s' : VMState} (fuel : Nat) (h : step p env s = .stop s') :
    run p env (fuel + 1) s = (.done s', 1) := by simp [run, h]

theorem run_succ_fault {s : VMState} {f : Fault} (fuel : Nat) (h : step p env s = .fault f) :
    run p env (fuel + 1) s = (.fault f, 1) := by simp [run, h]

theorem run_fault {I : VMState → Prop} (hI : ∀ s s' chk, I s → step p env s = .next s' chk → I s') :
    ∀ (fuel : Nat) (s : VMState), I s → ∀ f, (run p env fuel s).1 = .fault f →
      ∃ s1, I s1 ∧ step p env s1 = .fault f := by
  intro fuel
  induction fuel with
  | zero => intro s _ f h; cases h
  | succ fuel ih =>
    intro s hs f h
    cases hst : step p env s with
    | fault g => rw [run_succ_fault p env fuel hst] at h; cases h; exact ⟨s, hs, hst⟩
    | stop s' => rw [run_succ_stop p env fuel hst] at h; cases h
    | next s' chk => rw [run_succ_next p env fuel hst] at h; exact ih s' (hI s s' chk hs hst) f h

/-- the observed run that the driver executes (leg W) is `run`: same outcome, same number of iterations -/
theorem runObs_eq_run {σ : Type} (obs : σ → VMState → σ) : ∀ (fuel : Nat) (s : VMState) (a : σ) (n : Nat),
    (runObs p env obs fuel s a n).1 = (run p env fuel s).1 ∧
    (runObs p env obs fuel s a n).2.2 = n + (run p env fuel s).2 := by
  intro fuel
  induction fuel with
  | zero => intro s a n; simp [runObs, run]
  | succ fuel ih =>
    intro s a n
    unfold runObs run
    cases h : step p env s with
    | fault f => simp
    | stop s' => simp
    | next s' chk =>
      simp only
      have := ih s' (obs a s) (n + 1)
      refine ⟨this.1, ?_⟩
      rw [this.2]; omega

end unfolding

/-- a frame of a greedy single-character loop: `pos` is where the loop stands after giving one character
    back, `i` how many more it can give back -/
def LoopPos (n : Int) (rtl : Bool) (pos i : Int) : Prop :=
  0 ≤ pos ∧ pos ≤ n ∧ (if rtl then pos + i ≤ n else i ≤ pos)

/-- a frame of a lazy single-character loop: `pos` is where the next character is read, `i` how many more
    may be taken after that one -/
def LazyPos (n : Int) (rtl : Bool) (pos i : Int) : Prop :=
  0 ≤ i ∧ (if rtl then pos ≤ n ∧ 0 ≤ pos - i - 1 else 0 ≤ pos ∧ pos + i + 1 ≤ n)

/-- what the data slots of a frame (top first) must satisfy so that the Back / Back2 case that pops them
    only touches the text inside `[0, n]` -/
def posOk (n : Int) (o : Op) (b2 rtl : Bool) (d : List Int) : Prop :=
  match o, b2, d with
  | .oneloop, false, [pos, i] => LoopPos n rtl pos i
  | .notoneloop, false, [pos, i] => LoopPos n rtl pos i
  | .setloop, false, [pos, i] => LoopPos n rtl pos i
  | .onelazy, false, [pos, i] => LazyPos n rtl pos i
  | .notonelazy, false, [pos, i] => LazyPos n rtl pos i
  | .setlazy, false, [pos, i] => LazyPos n rtl pos i
  | .lazybranch, false, [tp] => 0 ≤ tp ∧ tp ≤ n
  | .branchmark, false, [tp, _] => 0 ≤ tp ∧ tp ≤ n
  | .lazybranchmark, false, [tp, _] => 0 ≤ tp ∧ tp ≤ n
  | .lazybranchcount, false, [tp, _, _] => 0 ≤ tp ∧ tp ≤ n
  | _, _, _ => True

/-- the backtracking stack is a sequence of whole frames — saved code position (sign = Back2) on top of the
    data slots its Back / Back2 case pops — above the frame `[0, tp]` of the `Lazybranch` at code position 0 -/
inductive Frames (p : Prog) (bs : List Nat) (n : Int) : List Int → Prop
  | root (tp : Int) : 0 ≤ tp → tp ≤ n → Frames p bs n [0, tp]
  | cons (c : Int) (w : Word) (o : Op) (d rest : List Int) :
      (savedPos c).1 ∈ bs → fetch p (savedPos c).1 = .ok w → Op.ofNat? w.op = some o →
      frameData o (savedPos c).2 = some d.length → posOk n o (savedPos c).2 w.rtl d →
      Frames p bs n rest → Frames p bs n (c :: (d ++ rest))

/-- shape of the backtracking stack by the mode of the operator about to run -/
def Shape (p : Prog) (bs : List Nat) (n : Int) (s : VMState) (o : Op) : Prop :=
  match s.oper.back, s.oper.back2 with
  | false, false => Frames p bs n s.track ∨ (s.track = [] ∧ (s.codepos = 0 ∨ o = .stop))
  | true, false => ∃ d rest, s.track = d ++ rest ∧ frameData o false = some d.length ∧
      posOk n o false s.oper.rtl d ∧ (Frames p bs n rest ∨ (rest = [] ∧ s.codepos = 0))
  | false, true => ∃ d rest, s.track = d ++ rest ∧ frameData o true = some d.length ∧
      posOk n o true s.oper.rtl d ∧ Frames p bs n rest
  | true, true => False

/-- what every case of the switch may rely on -/
structure Ctx (p : Prog) (bs : List Nat) (env : Env) (s : VMState) (w : Word) (o : Op) : Prop where
  wf : WF p bs
  facts : InstrFacts p bs s.codepos w o
  pcIn : s.codepos ∈ bs
  oop : s.oper.op = w.op
  ortl : s.oper.rtl = w.rtl
  oci : s.oper.ci = w.ci
  tp0 : 0 ≤ s.textpos
  tpn : s.textpos ≤ env.len

/-- **the invariant** of the interpreter loop; `WF p bs` is inside it (`Ctx.wf`), and `Props.C10.Safe` is this with `bs` hidden -/
def Inv (p : Prog) (bs : List Nat) (env : Env) (s : VMState) : Prop :=
  ∃ w o, Ctx p bs env s w o ∧ Shape p bs env.len s o

/-- the stack `t` with which a case goes on: whole frames, at most one frame of the current instruction
    higher than the stack the case found -/
def Grown (p : Prog) (bs : List Nat) (n : Int) (s : VMState) (o : Op) (t : List Int) : Prop :=
  Frames p bs n t ∧
    (t.length ≤ s.track.length ∨ ∃ b k, frameData o b = some k ∧ t.length ≤ s.track.length + (k + 1))

/-- what a case body hands to `advance` / `goTo` / `backtrack` -/
def Mid (p : Prog) (bs : List Nat) (n : Int) (s s1 : VMState) (o : Op) : Exit → Prop
  | .halt => True
  | .back => Frames p bs n s1.track ∧ s1.track.length ≤ s.track.length
  | .advance i => Grown p bs n s o s1.track ∧ i + 1 = o.size
  | .goto t => isBoundaryPos bs t = true ∧
      (Grown p bs n s o s1.track ∨
        (s1.track = [] ∧ ∃ wt, fetch p t.toNat = .ok wt ∧ Op.ofNat? wt.op = some .stop))

/-- what `body_ok` says of a case body: a fault is not structural; otherwise code position and operator are untouched, the
    text position is in the text, and the backtracking stack is as `Mid` says for the way the case leaves.  Nothing is
    said when the case halts (the run ends there), nor what a case RETURNS: that is read off `Selects` and Model/VM.lean -/
def BodyOk (p : Prog) (bs : List Nat) (env : Env) (s : VMState) (o : Op) : Res → Prop
  | .error f => f.structural = false
  | .ok (s1, e) => s1.codepos = s.codepos ∧ s1.oper = s.oper ∧ 0 ≤ s1.textpos ∧ s1.textpos ≤ env.len ∧
      Mid p bs env.len s s1 o e

theorem savedPos_pos (c : Nat) : savedPos (c : Int) = (c, false) := by
  unfold savedPos; simp

theorem savedPos_neg (c : Nat) (h : c ≠ 0) : savedPos (-(c : Int)) = (c, true) := by
  unfold savedPos
  have : (-(c : Int)) < 0 := by omega
  simp [h]

theorem operand_ok {p : Prog} {bs : List Nat} {s : VMState} {w : Word} {o : Op}
    (hf : InstrFacts p bs s.codepos w o) (i : Nat) (hi : i + 1 < o.size) :
    ∃ v, operand p s i = .ok v ∧ p.codes[s.codepos + i + 1]? = some v := by
  have hlt : s.codepos + i + 1 < p.codes.size := by have := hf.inside; omega
  refine ⟨p.codes[s.codepos + i + 1], ?_, ?_⟩
  · unfold operand; simp [hlt]
  · simp [hlt]

theorem Ctx.op_eq {p : Prog} {bs : List Nat} {env : Env} {s : VMState} {w : Word} {o : Op}
    (c : Ctx p bs env s w o) : Op.ofNat? s.oper.op = some o := by
  rw [c.oop]; exact c.facts.op

theorem codepos_ne_zero {p : Prog} {bs : List Nat} {env : Env} {s : VMState} {w : Word} {o : Op}
    (c : Ctx p bs env s w o) (h : o ≠ .lazybranch) : s.codepos ≠ 0 := by
  intro h0
  obtain ⟨w0, hw0, ho0⟩ := c.wf.root
  have := c.facts.fetch
  rw [h0, hw0] at this
  cases this
  rw [c.facts.op] at ho0
  cases ho0
  exact h rfl

section push
variable {p : Prog} {bs : List Nat} {env : Env} {s : VMState} {w : Word} {o : Op}

theorem Grown.keep {n : Int} {t : List Int} (h : Frames p bs n t) (hl : t.length ≤ s.track.length) :
    Grown p bs n s o t := ⟨h, .inl hl⟩

theorem Ctx.push (c : Ctx p bs env s w o) (d : List Int) {rest : List Int}
    (hd : frameData o false = some d.length) (hp : posOk env.len o false s.oper.rtl d)
    (hr : Frames p bs env.len rest) (hl : rest.length ≤ s.track.length) :
    Grown p bs env.len s o ((s.codepos : Int) :: (d ++ rest)) := by
  have hs := savedPos_pos s.codepos
  refine ⟨Frames.cons _ w o d rest ?_ ?_ c.facts.op ?_ ?_ hr, .inr ⟨false, _, hd, ?_⟩⟩
  · rw [hs]; exact c.pcIn
  · rw [hs]; exact c.facts.fetch
  · rw [hs]; exact hd
  · rw [hs, ← c.ortl]; exact hp
  · simp only [List.length_cons, List.length_append]; omega

theorem Ctx.pushNeg (c : Ctx p bs env s w o) (d : List Int) {rest : List Int}
    (hd : frameData o true = some d.length) (hp : posOk env.len o true s.oper.rtl d)
    (hr : Frames p bs env.len rest) (hl : rest.length ≤ s.track.length) :
    Grown p bs env.len s o (-(s.codepos : Int) :: (d ++ rest)) := by
  have hs := savedPos_neg s.codepos (codepos_ne_zero c (by rintro rfl; cases hd))
  refine ⟨Frames.cons _ w o d rest ?_ ?_ c.facts.op ?_ ?_ hr, .inr ⟨true, _, hd, ?_⟩⟩
  · rw [hs]; exact c.pcIn
  · rw [hs]; exact c.facts.fetch
  · rw [hs]; exact hd
  · rw [hs, ← c.ortl]; exact hp
  · simp only [List.length_cons, List.length_append]; omega

end push

theorem charAt_ok (env : Env) (j : Int) (h0 : 0 ≤ j) (h1 : j < env.len) : ∃ c, charAt env j = .ok c := by
  unfold charAt Env.len at *
  have : j.toNat < env.text.size := by omega
  simp [h0, this]

theorem forwardcharnext_ok (env : Env) (rtl : Bool) (pos : Int) (h0 : 0 ≤ pos) (hn : pos ≤ env.len)
    (hav : 1 ≤ (if rtl then pos else env.len - pos)) :
    ∃ ch, forwardcharnext env rtl pos = .ok (ch, pos + (if rtl then -1 else 1)) := by
  unfold forwardcharnext
  cases rtl with
  | true =>
    simp only [ite_true] at hav ⊢
    obtain ⟨ch, hc⟩ := charAt_ok env (pos - 1) (by omega) (by omega)
    exact ⟨ch, by rw [hc]; rfl⟩
  | false =>
    simp only [Bool.false_eq_true, ite_false] at hav ⊢
    obtain ⟨ch, hc⟩ := charAt_ok env pos (by omega) (by omega)
    exact ⟨ch, by rw [hc]; rfl⟩

theorem avail_nonneg {n pos : Int} (rtl : Bool) (h0 : 0 ≤ pos) (hn : pos ≤ n) :
    0 ≤ (if rtl then pos else n - pos) := by
  cases rtl <;> simp only [if_true, Bool.false_eq_true, if_false] <;> omega

theorem move_ok {n pos m : Int} (rtl : Bool) (h0 : 0 ≤ pos) (hn : pos ≤ n) (hm0 : 0 ≤ m)
    (hm : m ≤ (if rtl then pos else n - pos)) :
    0 ≤ pos + (if rtl then -1 else 1) * m ∧ pos + (if rtl then -1 else 1) * m ≤ n := by
  cases rtl <;> simp only [if_true, Bool.false_eq_true, if_false, Int.neg_mul, Int.one_mul] at hm ⊢ <;> omega

theorem scan_ok (env : Env) (pred : Nat → Bool) (rtl : Bool) :
    ∀ (k : Nat) (pos : Int), 0 ≤ pos → pos ≤ env.len → (k : Int) ≤ (if rtl then pos else env.len - pos) →
      ∃ m, scan env pred rtl k pos = .ok m ∧ m ≤ k := by
  intro k
  induction k with
  | zero => intro pos _ _ _; exact ⟨0, rfl, Nat.le_refl _⟩
  | succ k ih =>
    intro pos h0 hn hk
    obtain ⟨c, hc⟩ := forwardcharnext_ok env rtl pos h0 hn (by omega)
    unfold scan
    rw [hc]
    by_cases hp : pred c
    · have hb := move_ok (m := 1) rtl h0 hn (by omega) (by omega)
      rw [Int.mul_one] at hb
      obtain ⟨m, hm, hle⟩ := ih (pos + (if rtl then -1 else 1)) (by omega) (by omega)
        (by cases rtl <;> simp only [if_true, Bool.false_eq_true, if_false] at hk ⊢ <;> omega)
      simp only [hp, ite_true, hm]
      exact ⟨m + 1, rfl, by omega⟩
    · simp only [hp]; exact ⟨0, rfl, by omega⟩

theorem loopPos_of_move {n pos m : Int} (rtl : Bool) (h0 : 0 ≤ pos) (hn : pos ≤ n) (hm0 : 0 < m)
    (hm : m ≤ (if rtl then pos else n - pos)) :
    LoopPos n rtl (pos + (if rtl then -1 else 1) * m - (if rtl then -1 else 1)) (m - 1) := by
  unfold LoopPos
  cases rtl <;> simp only [if_true, Bool.false_eq_true, if_false, Int.neg_mul, Int.one_mul] at hm ⊢ <;> omega

theorem LoopPos.back {n pos i : Int} {rtl : Bool} (h : LoopPos n rtl pos i) (hi : 0 < i) :
    LoopPos n rtl (pos - (if rtl then -1 else 1)) (i - 1) := by
  unfold LoopPos at *
  cases rtl <;> simp only [if_true, Bool.false_eq_true, if_false] at h ⊢ <;> omega

theorem lazyPos_of_avail {n pos c : Int} (rtl : Bool) (h0 : 0 ≤ pos) (hn : pos ≤ n) (hc0 : 0 < c)
    (hc : c ≤ (if rtl then pos else n - pos)) : LazyPos n rtl pos (c - 1) := by
  unfold LazyPos
  cases rtl <;> simp only [if_true, Bool.false_eq_true, if_false] at hc ⊢ <;> omega

theorem LazyPos.next {n pos i : Int} {rtl : Bool} (h : LazyPos n rtl pos i) :
    (0 ≤ pos ∧ pos ≤ n ∧ 1 ≤ (if rtl then pos else n - pos)) ∧
      (0 ≤ pos + (if rtl then -1 else 1) ∧ pos + (if rtl then -1 else 1) ≤ n) ∧
      (0 < i → LazyPos n rtl (pos + (if rtl then -1 else 1)) (i - 1)) := by
  unfold LazyPos at *
  cases rtl <;> simp only [if_true, Bool.false_eq_true, if_false] at h ⊢ <;> omega

section cases
variable {p : Prog} {bs : List Nat} {env : Env} {s : VMState} {w : Word} {o : Op}

/-- operand 0 is a set index (what `operandsOk` checks for the five set opcodes) -/
def SetOperand (p : Prog) (pc : Nat) : Prop := ∀ a, p.codes[pc + 1]? = some a → 0 ≤ a ∧ a.toNat < p.nsets

theorem charPred_ok (sel : Nat) (x : Int) (hset : 2 ≤ sel → 0 ≤ x ∧ x.toNat < p.nsets) :
    ∃ pred, charPred p env sel x = .ok pred := by
  unfold charPred
  match sel with
  | 0 => exact ⟨_, rfl⟩
  | 1 => exact ⟨_, rfl⟩
  | k + 2 =>
    have := hset (by omega)
    simp only [setPred, this, and_self, ite_true]
    exact ⟨_, rfl⟩

/-- what the Back / Back2 case of `o` finds on the stack: the data slots `d` of its frame, above whole frames -/
structure Popped (p : Prog) (bs : List Nat) (n : Int) (s : VMState) (o : Op) (b2 : Bool) (d rest : List Int) :
    Prop where
  track : s.track = d ++ rest
  data : frameData o b2 = some d.length
  pos : posOk n o b2 s.oper.rtl d
  frames : Frames p bs n rest

theorem Popped.le {n : Int} {b2 : Bool} {d rest : List Int} (h : Popped p bs n s o b2 d rest) :
    rest.length ≤ s.track.length := by
  rw [h.track, List.length_append]; omega

/-- the data slots of a popped frame by name: `h` is `Popped.data` once the opcode is known -/
theorem slots1 {d : List Int} (h : some 1 = some d.length) : ∃ a, d = [a] := by
  match d, h with
  | [a], _ => exact ⟨a, rfl⟩

theorem slots2 {d : List Int} (h : some 2 = some d.length) : ∃ a b, d = [a, b] := by
  match d, h with
  | [a, b], _ => exact ⟨a, b, rfl⟩

theorem slots3 {d : List Int} (h : some 3 = some d.length) : ∃ a b c, d = [a, b, c] := by
  match d, h with
  | [a, b, c], _ => exact ⟨a, b, c, rfl⟩

theorem slots0 {d : List Int} (h : some 0 = some d.length) : d = [] := by
  match d, h with
  | [], _ => rfl

theorem cmpBack_err (env : Env) (ci : Bool) (get : Int → M Nat) (E : Fault → Prop) :
    ∀ (k : Nat) (a b : Int), (∀ i, a - k ≤ i → i < a → ∀ f, get i = .error f → E f) →
      (∀ j, b - k ≤ j → j < b → ∀ f, charAt env j = .error f → E f) →
      ∀ f, cmpBack env ci get k a b = .error f → E f := by
  intro k
  induction k with
  | zero => intro a b _ _ f h; cases h
  | succ k ih =>
    intro a b hget htext f h
    unfold cmpBack at h
    cases hg : get (a - 1) with
    | error f' => rw [hg] at h; cases h; exact hget _ (by omega) (by omega) _ hg
    | ok x =>
      cases hc : charAt env (b - 1) with
      | error f' => rw [hg, hc] at h; cases h; exact htext _ (by omega) (by omega) _ hc
      | ok y =>
        rw [hg, hc] at h
        simp only at h
        by_cases hx : x = (if ci then env.toLower y else y)
        · rw [if_pos hx] at h
          exact ih (a - 1) (b - 1) (fun i h1 h2 => hget i (by omega) (by omega))
            (fun j h1 h2 => htext j (by omega) (by omega)) f h
        · rw [if_neg hx] at h; cases h

theorem cmpBack_err_get (env : Env) (ci : Bool) (get : Int → M Nat) (E : Fault → Prop)
    (hget : ∀ i f, get i = .error f → E f) (k : Nat) (a b : Int) (h0 : 0 ≤ b - k) (hn : b ≤ env.len) :
    ∀ f, cmpBack env ci get k a b = .error f → E f :=
  cmpBack_err env ci get E k a b (fun i _ _ f h => hget i f h) fun j h1 h2 f h => by
    obtain ⟨y, hy⟩ := charAt_ok env j (by omega) (by omega)
    rw [hy] at h; cases h

theorem window_ok {n tp k : Int} (rtl : Bool) (h0 : 0 ≤ tp) (hn : tp ≤ n) (hk0 : 0 ≤ k)
    (hk : ¬ (if rtl then tp else n - tp) < k) :
    (0 ≤ (if rtl then tp else tp + k) - k ∧ (if rtl then tp else tp + k) ≤ n) ∧
      0 ≤ (if rtl then tp - k else tp + k) ∧ (if rtl then tp - k else tp + k) ≤ n := by
  cases rtl <;> simp only [if_true, Bool.false_eq_true, if_false] at hk ⊢ <;> omega

theorem isMatched_ok (s : VMState) (a : Int) (h : 0 ≤ a) :
    isMatched s a = .ok (MatchBuilder.isMatched s.cap.m a.toNat) := by
  unfold isMatched
  have : ¬ a < 0 := by omega
  simp [this]

/-- a primitive that returns a state (`trackto`, `uncapture`, `uncaptureTo`) fails only with `E` and returns a state with `P` -/
def OnlyFault (E : Fault) (P : VMState → Prop) : M VMState → Prop
  | .error f => f = E
  | .ok s' => P s'

theorem OnlyFault.bind {E : Fault} {P : VMState → Prop} {x : M VMState} (hx : OnlyFault E P x)
    (hE : E.structural = false) {f : VMState → Res} (hf : ∀ s', P s' → BodyOk p bs env s o (f s')) :
    BodyOk p bs env s o (x >>= f) := by
  cases x with
  | error e => have : e = E := hx; subst this; exact hE
  | ok a => exact hf a hx

/-- `s'` is `s` up to the capture arrays -/
def SameButCap (s s' : VMState) : Prop :=
  s'.track = s.track ∧ s'.textpos = s.textpos ∧ s'.codepos = s.codepos ∧ s'.oper = s.oper ∧ s'.stack = s.stack

theorem SameButCap.trans {s1 s2 s3 : VMState} (a : SameButCap s1 s2) (b : SameButCap s2 s3) : SameButCap s1 s3 :=
  ⟨b.1.trans a.1, b.2.1.trans a.2.1, b.2.2.1.trans a.2.2.1, b.2.2.2.1.trans a.2.2.2.1, b.2.2.2.2.trans a.2.2.2.2⟩

theorem SameButCap.back {s1 s2 : VMState} (h : SameButCap s1 s2) (hcp : s1.codepos = s.codepos)
    (hop : s1.oper = s.oper) (h0 : 0 ≤ s1.textpos) (hn : s1.textpos ≤ env.len)
    (hfr : Frames p bs env.len s1.track) (hl : s1.track.length ≤ s.track.length) :
    BodyOk p bs env s o (.ok (s2, .back)) := by
  obtain ⟨a1, a2, a3, a4, _⟩ := h
  exact ⟨a3.trans hcp, a4.trans hop, a2 ▸ h0, a2 ▸ hn, a1 ▸ hfr, a1 ▸ hl⟩

theorem uncapture_ok (s : VMState) : OnlyFault .crawlUnderflow (SameButCap s) (uncapture s) := by
  unfold uncapture
  split
  · exact rfl
  · exact ⟨rfl, rfl, rfl, rfl, rfl⟩

theorem uncaptureTo_ok (target : Int) : ∀ (fuel : Nat) (s : VMState),
    OnlyFault .crawlUnderflow (SameButCap s) (uncaptureTo target fuel s) := by
  intro fuel
  induction fuel with
  | zero =>
    intro s
    unfold uncaptureTo
    split
    · exact ⟨rfl, rfl, rfl, rfl, rfl⟩
    · exact rfl
  | succ fuel ih =>
    intro s
    unfold uncaptureTo
    split
    · exact ⟨rfl, rfl, rfl, rfl, rfl⟩
    · have h1 := uncapture_ok s
      cases hu : uncapture s with
      | error f => rw [hu] at h1; exact h1
      | ok s' =>
        rw [hu] at h1
        have h2 := ih s'
        simp only
        cases hu2 : uncaptureTo target fuel s' with
        | error f => rw [hu2] at h2; exact h2
        | ok s'' => rw [hu2] at h2; exact SameButCap.trans h1 h2

theorem frameSize_cons {c : Int} {w : Word} {o : Op} {d : List Int}
    (hf : fetch p (savedPos c).1 = .ok w) (ho : Op.ofNat? w.op = some o)
    (hd : frameData o (savedPos c).2 = some d.length) : frameSize p c = some (d.length + 1) := by
  unfold frameSize
  simp [hf, ho, hd]

theorem frameSize_root (hwf : WF p bs) : frameSize p 0 = some 2 := by
  obtain ⟨w0, hw0, ho0⟩ := hwf.root
  have := frameSize_cons (c := 0) (d := [0]) hw0 ho0 rfl
  exact this

theorem cutFrames_cons {c : Int} {d : List Int} (hs : frameSize p c = some (d.length + 1)) (fuel k : Nat)
    (rest : List Int) :
    cutFrames p (fuel + 1) (k + 1) (c :: (d ++ rest)) =
      if d.length ≤ k then cutFrames p fuel (k - d.length) rest else none := by
  have hdrop : (c :: (d ++ rest)).drop (d.length + 1) = rest := by simp
  simp only [cutFrames, hs, hdrop, List.length_append, Nat.add_le_add_iff_right, Nat.le_add_right, and_true,
    Nat.add_sub_add_right]

theorem trackto_of_cut {s1 : VMState} {t : List Int} (hne : t ≠ []) (hle : t.length ≤ s1.track.length)
    (hc : cutFrames p s1.track.length (s1.track.length - t.length) s1.track = some t) :
    trackto p s1 (t.length : Int) = .ok { s1 with track := t } := by
  unfold trackto
  rw [if_pos ⟨Int.natCast_nonneg _, hle⟩, Int.toNat_natCast, hc]
  cases t with
  | nil => exact absurd rfl hne
  | cons _ _ => rfl

theorem cutFrames_frames (hwf : WF p bs) (n : Int) : ∀ (fuel k : Nat) (t t' : List Int),
    Frames p bs n t → cutFrames p fuel k t = some t' → (t' = [] ∨ Frames p bs n t') ∧ t'.length ≤ t.length := by
  intro fuel
  induction fuel with
  | zero =>
    intro k t t' hfr h
    cases k with
    | zero => cases h; exact ⟨Or.inr hfr, Nat.le_refl _⟩
    | succ k => cases h
  | succ fuel ih =>
    intro k t t' hfr h
    cases k with
    | zero => cases h; exact ⟨Or.inr hfr, Nat.le_refl _⟩
    | succ k =>
      cases hfr with
      | root tp h0 hn =>
        -- under the root frame there is nothing: the cut ends there or fails
        have hc := cutFrames_cons (d := [tp]) (frameSize_root hwf) fuel k []
        rw [show (0 : Int) :: ([tp] ++ []) = [0, tp] from rfl, h] at hc
        split at hc
        · cases fuel <;> cases hk : k - [tp].length <;> rw [hk] at hc <;> simp [cutFrames] at hc
          all_goals subst hc; exact ⟨Or.inl rfl, Nat.zero_le _⟩
        · cases hc
      | cons c w o d rest hin hf ho hd hp hr =>
        rw [cutFrames_cons (frameSize_cons hf ho hd)] at h
        split at h
        · have := ih _ _ _ hr h
          exact ⟨this.1, by simp only [List.length_cons, List.length_append]; omega⟩
        · cases h

theorem trackto_ok (hwf : WF p bs) (s1 : VMState) (newpos : Int) (hfr : Frames p bs env.len s1.track) :
    OnlyFault .tracktoRange (fun s' => (Frames p bs env.len s'.track ∧ s'.track.length ≤ s1.track.length) ∧
        s'.textpos = s1.textpos ∧ s'.codepos = s1.codepos ∧ s'.oper = s1.oper)
      (trackto p s1 newpos) := by
  unfold trackto
  split
  · cases hcut : cutFrames p s1.track.length (s1.track.length - newpos.toNat) s1.track with
    | none => exact rfl
    | some t =>
      cases t with
      | nil => exact rfl
      | cons c t =>
        obtain ⟨h | h, hl⟩ := cutFrames_frames hwf env.len _ _ _ _ hfr hcut
        · cases h
        · exact ⟨⟨h, hl⟩, rfl, rfl, rfl⟩
  · exact rfl

theorem frames_ne_nil {n : Int} {t : List Int} (h : Frames p bs n t) : t ≠ [] := by
  cases h <;> simp

/-- raising the bottom slot (the text position saved by the `Lazybranch` at 0) keeps the frames -/
theorem frames_setLast {n : Int} (tp : Int) (h0 : 0 ≤ tp) (hn : tp ≤ n) : ∀ {t : List Int},
    Frames p bs n t → Frames p bs n (t.dropLast ++ [tp]) := by
  intro t h
  induction h with
  | root v _ _ => exact Frames.root tp h0 hn
  | cons c w o d rest hin hf ho hd hp hr ih =>
    have hne := frames_ne_nil hr
    have : (c :: (d ++ rest)).dropLast ++ [tp] = c :: (d ++ (rest.dropLast ++ [tp])) := by
      rw [List.dropLast_cons_of_ne_nil (by simp [hne]), List.dropLast_append_of_ne_nil hne]
      simp
    rw [this]
    exact Frames.cons c w o d _ hin hf ho hd hp ih

/-- the opcodes whose forward case leaves the grouping stack and the captures alone: the single-character
    instructions, the string and backreference comparisons, the zero-width tests; not `Goto`, which moves the code position -/
def neutral : Op → Bool
  | .onerep | .notonerep | .setrep | .oneloop | .notoneloop | .setloop | .onelazy | .notonelazy | .setlazy
  | .one | .notone | .set | .multi | .ref | .testref | .bol | .eol | .boundary | .nonboundary | .beginning | .start
  | .endz | .end_ | .ecmaboundary | .nonecmaboundary | .oneloopatomic | .notoneloopatomic | .setloopatomic => true
  | _ => false

/-- **what a neutral case does** from a state satisfying the invariant — the forward case of a neutral opcode above the
    stack `rest` it found, or the Back case of a single-character loop above the stack `rest` under its popped frame: it
    moves inside the text and leaves by `backtrack()`, or — possibly under one new frame of its own — to the next
    instruction; nothing else of the state changes, and only a backreference can fail, with `capRange` -/
def Neutral (env : Env) (s : VMState) (o : Op) (rest : List Int) : Res → Prop
  | .error f => f = .capRange ∧ o = .ref
  | .ok (s1, e) => (∃ tp t, s1 = { s with textpos := tp, track := t }) ∧ 0 ≤ s1.textpos ∧ s1.textpos ≤ env.len ∧
      ((s1.track = rest ∧ e = .back) ∨
        ((s1.track = rest ∨ ∃ d, s1.track = (s.codepos : Int) :: (d ++ rest) ∧
            frameData o false = some d.length ∧ posOk env.len o false s.oper.rtl d) ∧
          ∃ i, e = .advance i ∧ i + 1 = o.size))

section neutral
variable {rest : List Int} {tp : Int} {i : Nat}

theorem Neutral.back (h0 : 0 ≤ tp) (hn : tp ≤ env.len) :
    Neutral env s o rest (.ok ({ s with textpos := tp, track := rest }, .back)) :=
  ⟨⟨_, _, rfl⟩, h0, hn, .inl ⟨rfl, rfl⟩⟩

theorem Neutral.adv (h0 : 0 ≤ tp) (hn : tp ≤ env.len) (hi : i + 1 = o.size) :
    Neutral env s o rest (.ok ({ s with textpos := tp, track := rest }, .advance i)) :=
  ⟨⟨_, _, rfl⟩, h0, hn, .inr ⟨.inl rfl, i, rfl, hi⟩⟩

theorem Neutral.push (d : List Int) (h0 : 0 ≤ tp) (hn : tp ≤ env.len) (hi : i + 1 = o.size)
    (hd : frameData o false = some d.length) (hp : posOk env.len o false s.oper.rtl d) :
    Neutral env s o rest (.ok ({ s with textpos := tp, track := (s.codepos : Int) :: (d ++ rest) }, .advance i)) :=
  ⟨⟨_, _, rfl⟩, h0, hn, .inr ⟨.inr ⟨d, rfl, hd, hp⟩, i, rfl, hi⟩⟩

theorem Neutral.bodyOk (c : Ctx p bs env s w o) (hfr : Frames p bs env.len rest) (hl : rest.length ≤ s.track.length)
    {r : Res} (h : Neutral env s o rest r) : BodyOk p bs env s o r := by
  match r, h with
  | .error f, h => exact h.1 ▸ rfl
  | .ok (s1, e), ⟨⟨tp, t, e1⟩, h0, hn, hx⟩ =>
    subst e1
    refine ⟨rfl, rfl, h0, hn, ?_⟩
    rcases hx with ⟨rfl, rfl⟩ | ⟨ht, i, rfl, hi⟩
    · exact ⟨hfr, hl⟩
    · refine ⟨?_, hi⟩
      rcases ht with rfl | ⟨d, rfl, hd, hp⟩
      · exact .keep hfr hl
      · exact c.push d hd hp hfr hl

end neutral

variable (c : Ctx p bs env s w o)
include c

theorem Ctx.back : Neutral env s o s.track (.ok (s, .back)) := Neutral.back c.tp0 c.tpn

theorem Ctx.adv {i : Nat} (hi : i + 1 = o.size) : Neutral env s o s.track (.ok (s, .advance i)) :=
  Neutral.adv c.tp0 c.tpn hi

theorem setOperand_of (ho : o = .set ∨ o = .setrep ∨ o = .setloop ∨ o = .setlazy ∨ o = .setloopatomic) :
    SetOperand p s.codepos := by
  intro a ha
  have h := c.facts.operands
  unfold operandsOk at h
  rcases ho with rfl | rfl | rfl | rfl | rfl <;> simpa [ha] using h

theorem charTest_ok (hsz : 2 ≤ o.size) (sel : Nat)
    (hset : 2 ≤ sel → SetOperand p s.codepos) :
    ∃ x pred, operand p s 0 = .ok x ∧ charPred p env sel x = .ok pred := by
  obtain ⟨x, hx, hx'⟩ := operand_ok c.facts 0 (by omega)
  obtain ⟨pred, hpred⟩ := charPred_ok (p := p) (env := env) sel x (fun h => hset h x hx')
  exact ⟨x, pred, hx, hpred⟩

theorem caseChar_neutral (hsz : o.size = 2) (sel : Nat) (hset : 2 ≤ sel → SetOperand p s.codepos) :
    Neutral env s o s.track (caseChar p env sel s) := by
  unfold caseChar
  split
  · exact c.back
  · next hfc =>
    obtain ⟨x, pred, hx, hpred⟩ := charTest_ok c (by omega) sel hset
    have hav : (1 : Int) ≤ forwardchars env s := by omega
    obtain ⟨ch, hch⟩ := forwardcharnext_ok env s.oper.rtl s.textpos c.tp0 c.tpn hav
    have hb := move_ok s.oper.rtl c.tp0 c.tpn (by omega) hav
    simp only [Int.mul_one] at hb
    simp only [bind, Except.bind, hx, hpred, hch, pure, Except.pure]
    split
    · exact .adv hb.1 hb.2 (by omega)
    · exact .back hb.1 hb.2

theorem caseRep_neutral (hsz : o.size = 3) (sel : Nat) (hset : 2 ≤ sel → SetOperand p s.codepos) :
    Neutral env s o s.track (caseRep p env sel s) := by
  unfold caseRep
  obtain ⟨cnt, hc1, _⟩ := operand_ok c.facts 1 (by omega)
  simp only [bind, Except.bind, hc1, pure, Except.pure]
  split
  · exact c.back
  · next hfc =>
    have hfc0 : 0 ≤ forwardchars env s := avail_nonneg s.oper.rtl c.tp0 c.tpn
    obtain ⟨x, pred, hx, hpred⟩ := charTest_ok c (by omega) sel hset
    obtain ⟨m, hm, hle⟩ := scan_ok env pred s.oper.rtl cnt.toNat s.textpos c.tp0 c.tpn
      (show (cnt.toNat : Int) ≤ forwardchars env s by omega)
    simp only [hx, hpred, hm]
    split
    · have hb := move_ok (m := (m : Int) + 1) s.oper.rtl c.tp0 c.tpn (by omega)
        (show (m : Int) + 1 ≤ forwardchars env s by omega)
      exact .back hb.1 hb.2
    · have hb := move_ok (m := (m : Int)) s.oper.rtl c.tp0 c.tpn (by omega)
        (show (m : Int) ≤ forwardchars env s by omega)
      exact .adv hb.1 hb.2 (by omega)

theorem caseLoop_neutral (hsz : o.size = 3) (sel : Nat) (atomic : Bool)
    (hset : 2 ≤ sel → SetOperand p s.codepos)
    (ho : atomic = false → o = .oneloop ∨ o = .notoneloop ∨ o = .setloop) :
    Neutral env s o s.track (caseLoop p env sel atomic s) := by
  unfold caseLoop
  obtain ⟨c0, hc0, _⟩ := operand_ok c.facts 1 (by omega)
  obtain ⟨x, pred, hx, hpred⟩ := charTest_ok c (by omega) sel hset
  generalize hk : (if c0 > forwardchars env s then forwardchars env s else c0) = k
  have hkle : k ≤ forwardchars env s := by rw [← hk]; split <;> omega
  have hfc0 : 0 ≤ forwardchars env s := avail_nonneg s.oper.rtl c.tp0 c.tpn
  obtain ⟨m, hm, hle⟩ := scan_ok env pred s.oper.rtl k.toNat s.textpos c.tp0 c.tpn
    (show (k.toNat : Int) ≤ forwardchars env s by omega)
  have hav : (m : Int) ≤ forwardchars env s := by omega
  have hb := move_ok s.oper.rtl c.tp0 c.tpn (by omega) hav
  simp only [bind, Except.bind, hc0, hx, hpred, hk, hm, pure, Except.pure]
  split
  · next hpush =>
    have hl : LoopPos env.len s.oper.rtl (s.textpos + bump s * ↑m - bump s) ((m : Int) - 1) :=
      loopPos_of_move s.oper.rtl c.tp0 c.tpn (by omega) hav
    refine .push [_, _] hb.1 hb.2 (by omega) ?_ ?_
    · rcases ho (by simpa using hpush.2) with rfl | rfl | rfl <;> rfl
    · rcases ho (by simpa using hpush.2) with rfl | rfl | rfl <;> exact hl
  · exact .adv hb.1 hb.2 (by omega)

theorem caseLoopBack_neutral (hsz : o.size = 3)
    (ho : o = .oneloop ∨ o = .notoneloop ∨ o = .setloop) {d rest : List Int}
    (h : Popped p bs env.len s o false d rest) : Neutral env s o rest (caseLoopBack s) := by
  obtain ⟨pos, i, rfl⟩ : ∃ a b, d = [a, b] := by rcases ho with rfl | rfl | rfl <;> exact slots2 h.data
  have hl : LoopPos env.len s.oper.rtl pos i := by rcases ho with rfl | rfl | rfl <;> exact h.pos
  unfold caseLoopBack
  simp only [h.track, List.cons_append, List.nil_append]
  split
  · next hi =>
    refine .push [_, _] hl.1 hl.2.1 (by omega) ?_ ?_
    · rcases ho with rfl | rfl | rfl <;> rfl
    · rcases ho with rfl | rfl | rfl <;> exact hl.back hi
  · exact .adv hl.1 hl.2.1 (by omega)

theorem caseLazy_neutral (hsz : o.size = 3) (ho : o = .onelazy ∨ o = .notonelazy ∨ o = .setlazy) :
    Neutral env s o s.track (caseLazy p env s) := by
  unfold caseLazy
  obtain ⟨c0, hc0, _⟩ := operand_ok c.facts 1 (by omega)
  simp only [bind, Except.bind, hc0, pure, Except.pure]
  generalize hk : (if c0 > forwardchars env s then forwardchars env s else c0) = k
  have hkle : k ≤ forwardchars env s := by rw [← hk]; split <;> omega
  split
  · next hpos =>
    have hl : LazyPos env.len s.oper.rtl s.textpos (k - 1) :=
      lazyPos_of_avail s.oper.rtl c.tp0 c.tpn hpos hkle
    refine .push [_, _] c.tp0 c.tpn (by omega) ?_ ?_
    · rcases ho with rfl | rfl | rfl <;> rfl
    · rcases ho with rfl | rfl | rfl <;> exact hl
  · exact c.adv (by omega)

theorem caseLazyBack_neutral (hsz : o.size = 3) (sel : Nat)
    (hset : 2 ≤ sel → SetOperand p s.codepos)
    (ho : o = .onelazy ∨ o = .notonelazy ∨ o = .setlazy) {d rest : List Int}
    (h : Popped p bs env.len s o false d rest) : Neutral env s o rest (caseLazyBack p env sel s) := by
  obtain ⟨pos, i, rfl⟩ : ∃ a b, d = [a, b] := by rcases ho with rfl | rfl | rfl <;> exact slots2 h.data
  have hl : LazyPos env.len s.oper.rtl pos i := by rcases ho with rfl | rfl | rfl <;> exact h.pos
  obtain ⟨⟨h0, hn, hav⟩, hb, hnext⟩ := hl.next
  unfold caseLazyBack
  simp only [h.track, List.cons_append, List.nil_append]
  obtain ⟨x, pred, hx, hpred⟩ := charTest_ok c (by omega) sel hset
  obtain ⟨ch, hch⟩ := forwardcharnext_ok env s.oper.rtl pos h0 hn hav
  simp only [bind, Except.bind, hx, hpred, hch, pure, Except.pure]
  split
  · split
    · next hi =>
      refine .push [_, _] hb.1 hb.2 (by omega) ?_ ?_
      · rcases ho with rfl | rfl | rfl <;> rfl
      · rcases ho with rfl | rfl | rfl <;> exact hnext hi
    · exact .adv hb.1 hb.2 (by omega)
  · exact .back hb.1 hb.2

theorem runematch_ok (str : List Nat) :
    runematch env s str = .ok none ∨
      ∃ pos, runematch env s str = .ok (some pos) ∧ 0 ≤ pos ∧ pos ≤ env.len := by
  suffices h : ∀ r, runematch env s str = r → r = .ok none ∨ ∃ pos, r = .ok (some pos) ∧ 0 ≤ pos ∧ pos ≤ env.len
    from h _ rfl
  intro r hr
  unfold runematch at hr
  simp only at hr
  split at hr
  · exact Or.inl hr.symm
  · next hfc =>
    obtain ⟨hw, hp⟩ := window_ok s.oper.rtl c.tp0 c.tpn (Int.natCast_nonneg str.length) hfc
    split at hr
    · next f hf =>
      exact (cmpBack_err_get env _ _ (fun _ => False) (by intro i f h; cases h) _ _ _ hw.1 hw.2 f hf).elim
    · exact Or.inl hr.symm
    · exact Or.inr ⟨_, hr.symm, hp⟩

theorem refmatch_ok (index len : Int) :
    refmatch env s index len = .error .capRange ∨ refmatch env s index len = .ok none ∨
      ∃ pos, refmatch env s index len = .ok (some pos) ∧ 0 ≤ pos ∧ pos ≤ env.len := by
  suffices h : ∀ r, refmatch env s index len = r →
      r = .error .capRange ∨ r = .ok none ∨ ∃ pos, r = .ok (some pos) ∧ 0 ≤ pos ∧ pos ≤ env.len from h _ rfl
  intro r hr
  unfold refmatch at hr
  split at hr
  · exact Or.inl hr.symm
  · next hlen =>
    split at hr
    · exact Or.inr (Or.inl hr.symm)
    · next hfc =>
      obtain ⟨hw, hp⟩ := window_ok s.oper.rtl c.tp0 c.tpn (by omega) hfc
      simp only at hr
      split at hr
      · next f hf =>
        have := cmpBack_err_get env _ _ (fun f => f = .capRange) (by intro i f h; split at h <;> cases h; rfl) _ _ _
          (by rw [Int.toNat_of_nonneg (by omega)]; exact hw.1) hw.2 f hf
        rw [this] at hr; exact Or.inl hr.symm
      · exact Or.inr (Or.inl hr.symm)
      · exact Or.inr (Or.inr ⟨_, hr.symm, hp⟩)

theorem caseMulti_neutral (ho : o = .multi) : Neutral env s o s.track (caseMulti p env s) := by
  subst ho
  unfold caseMulti
  obtain ⟨i, hi, hi'⟩ := operand_ok c.facts 0 (by decide)
  have hops := c.facts.operands
  simp only [operandsOk, hi', Option.getD_some, Bool.and_eq_true, decide_eq_true_eq] at hops
  obtain ⟨str, hstr⟩ : ∃ str, p.strings[i.toNat]? = some str := ⟨_, getElem?_pos p.strings i.toNat hops.2⟩
  simp only [bind, Except.bind, hi, hops.1, ite_true, pure, Except.pure, hstr]
  rcases runematch_ok c str with h | ⟨pos, h, h1, h2⟩
  · rw [h]; exact c.back
  · rw [h]; exact .adv h1 h2 rfl

theorem slotOperand_of (ho : o = .ref ∨ o = .testref) :
    ∀ a, p.codes[s.codepos + 1]? = some a → 0 ≤ a ∧ a.toNat < p.capsize := by
  intro a ha
  have h := c.facts.operands
  unfold operandsOk at h
  rcases ho with rfl | rfl <;> simpa [ha] using h

theorem caseRef_neutral (ho : o = .ref) : Neutral env s o s.track (caseRef p env s) := by
  subst ho
  unfold caseRef
  obtain ⟨a, ha, ha'⟩ := operand_ok c.facts 0 (by decide)
  have hslot := slotOperand_of c (Or.inl rfl) a ha'
  simp only [bind, Except.bind, ha, isMatched_ok s a hslot.1, pure, Except.pure]
  split
  · rcases refmatch_ok c (MatchBuilder.matchIndex s.cap.m a.toNat) (MatchBuilder.matchLength s.cap.m a.toNat)
      with h | h | ⟨pos, h, h1, h2⟩
    · rw [h]; exact ⟨rfl, rfl⟩
    · rw [h]; exact c.back
    · rw [h]; exact .adv h1 h2 rfl
  · split
    · exact c.adv rfl
    · exact c.back

theorem caseTestref_neutral (ho : o = .testref) : Neutral env s o s.track (caseTestref p s) := by
  subst ho
  unfold caseTestref
  obtain ⟨a, ha, ha'⟩ := operand_ok c.facts 0 (by decide)
  have hslot := slotOperand_of c (Or.inr rfl) a ha'
  simp only [bind, Except.bind, ha, isMatched_ok s a hslot.1, pure, Except.pure]
  split
  · exact c.adv rfl
  · exact c.back

theorem assertion_neutral (hsz : o.size = 1) (b : Bool) : Neutral env s o s.track (.ok (assertion s b)) := by
  cases b
  · exact c.back
  · exact c.adv (by omega)

theorem assertAt_neutral (hsz : o.size = 1) (j : Int) (h0 : 0 ≤ j) (h1 : j < env.len) (f : Nat → Bool) :
    Neutral env s o s.track ((charAt env j).map (fun ch => assertion s (f ch))) := by
  obtain ⟨ch, hch⟩ := charAt_ok env j h0 h1
  rw [hch]; exact assertion_neutral c hsz _

theorem caseBol_neutral (hsz : o.size = 1) : Neutral env s o s.track (caseBol env s) := by
  unfold caseBol
  have hn := c.tpn
  split
  · exact assertAt_neutral c hsz _ (by omega) (by omega) _
  · exact assertion_neutral c hsz true

theorem caseEol_neutral (hsz : o.size = 1) : Neutral env s o s.track (caseEol env s) := by
  unfold caseEol
  have h0 := c.tp0
  split
  · exact assertAt_neutral c hsz _ h0 (by omega) _
  · exact assertion_neutral c hsz true

theorem caseBoundary_neutral (hsz : o.size = 1) (wd : Nat → Bool) (want : Bool) :
    Neutral env s o s.track (caseBoundary env wd want s) := by
  unfold caseBoundary isBoundary
  have h0 := c.tp0
  have hn := c.tpn
  have h1 : ∃ a, (if s.textpos > 0 then (charAt env (s.textpos - 1)).map wd else .ok false) = .ok a := by
    split
    · obtain ⟨ch, hch⟩ := charAt_ok env (s.textpos - 1) (by omega) (by omega)
      exact ⟨_, by rw [hch]; rfl⟩
    · exact ⟨_, rfl⟩
  have h2 : ∃ a, (if s.textpos < env.len then (charAt env s.textpos).map wd else .ok false) = .ok a := by
    split
    · obtain ⟨ch, hch⟩ := charAt_ok env s.textpos (by omega) (by omega)
      exact ⟨_, by rw [hch]; rfl⟩
    · exact ⟨_, rfl⟩
  obtain ⟨a, ha⟩ := h1
  obtain ⟨b, hb⟩ := h2
  rw [ha, hb]
  exact assertion_neutral c hsz _

theorem caseEndZ_neutral (hsz : o.size = 1) : Neutral env s o s.track (caseEndZ env s) := by
  unfold caseEndZ
  have h0 := c.tp0
  simp only
  split
  · exact c.back
  · split
    · exact assertion_neutral c hsz _
    · split
      · exact assertAt_neutral c hsz _ h0 (by omega) _
      · exact assertion_neutral c hsz true

/-- the opcodes whose operand 0 is a jump target (what `operandsOk` checks to be an instruction boundary) -/
def branches : Op → Bool
  | .lazybranch | .branchmark | .lazybranchmark | .goto | .branchcount | .lazybranchcount => true
  | _ => false

theorem jumpTarget_boundary (ho : branches o = true) :
    ∀ a, p.codes[s.codepos + 1]? = some a → isBoundaryPos bs a = true := by
  intro a ha
  have h := c.facts.operands
  unfold operandsOk at h
  cases o <;> first | exact absurd ho (by decide) | simpa [ha] using h

theorem jumpTarget_ok (ho : branches o = true) :
    ∃ t, operand p s 0 = .ok t ∧ p.codes[s.codepos + 1]? = some t ∧ isBoundaryPos bs t = true := by
  obtain ⟨t, ht, ht'⟩ := operand_ok c.facts 0 (by cases o <;> first | exact absurd ho (by decide) | decide)
  exact ⟨t, ht, ht', jumpTarget_boundary c ho t ht'⟩

theorem caseGoto_ok (ho : o = .goto) (hfr : Frames p bs env.len s.track) :
    BodyOk p bs env s o (caseGoto p s) := by
  unfold caseGoto
  obtain ⟨t, ht, _, hb⟩ := jumpTarget_ok c (by rw [ho]; rfl)
  rw [ht]
  exact ⟨rfl, rfl, c.tp0, c.tpn, hb, .inl (.keep hfr (Nat.le_refl _))⟩

theorem caseLazybranchBack_ok (ho : o = .lazybranch) (d rest : List Int)
    (ht : s.track = d ++ rest) (hfd : frameData o false = some d.length)
    (hpos : posOk env.len o false s.oper.rtl d)
    (hrest : Frames p bs env.len rest ∨ (rest = [] ∧ s.codepos = 0)) :
    BodyOk p bs env s o (caseLazybranchBack p s) := by
  subst ho
  obtain ⟨tp, rfl⟩ := slots1 hfd
  have htp : 0 ≤ tp ∧ tp ≤ env.len := hpos
  unfold caseLazybranchBack
  simp only [ht, List.cons_append, List.nil_append]
  obtain ⟨t, ht1, ht', hb⟩ := jumpTarget_ok c rfl
  rw [ht1]
  refine ⟨rfl, rfl, htp.1, htp.2, hb, ?_⟩
  rcases hrest with h | ⟨h1, h2⟩
  · exact .inl (.keep h (by rw [ht]; exact Nat.le_succ _))
  · refine .inr ⟨h1, ?_⟩
    obtain ⟨t0, wt, hc1, _, hf, hs⟩ := c.wf.rootTarget
    rw [h2, Nat.zero_add, hc1] at ht'
    cases ht'
    exact ⟨wt, hf, hs⟩

theorem casePop1Back_ok (hfr : Frames p bs env.len s.track) :
    BodyOk p bs env s o (casePop1Back s) := by
  unfold casePop1Back
  split
  · exact ⟨rfl, rfl, c.tp0, c.tpn, hfr, Nat.le_refl _⟩
  · exact rfl

theorem casePop2Back_ok (hfr : Frames p bs env.len s.track) :
    BodyOk p bs env s o (casePop2Back s) := by
  unfold casePop2Back
  split
  · exact ⟨rfl, rfl, c.tp0, c.tpn, hfr, Nat.le_refl _⟩
  · exact rfl

theorem caseGetmark_ok (ho : o = .getmark) (hfr : Frames p bs env.len s.track) :
    BodyOk p bs env s o (caseGetmark env s) := by
  subst ho
  unfold caseGetmark texttoStack
  split
  · next v rest hs =>
    split
    · next hv => exact ⟨rfl, rfl, hv.1, hv.2, c.push [v] rfl trivial hfr (Nat.le_refl _), rfl⟩
    · exact rfl
  · exact rfl

theorem caseRestoreBack_ok {b2 : Bool} {d rest : List Int}
    (h : Popped p bs env.len s o b2 d rest) (hk : frameData o b2 = some 1) :
    BodyOk p bs env s o (caseRestoreBack s) := by
  obtain ⟨v, rfl⟩ := slots1 (hk.symm.trans h.data)
  unfold caseRestoreBack restoreMark
  simp only [h.track, List.cons_append, List.nil_append]
  exact ⟨rfl, rfl, c.tp0, c.tpn, h.frames, h.le⟩

theorem capOperands_of (ho : o = .capturemark) :
    ∀ a b, p.codes[s.codepos + 1]? = some a → p.codes[s.codepos + 2]? = some b →
      ((0 ≤ a ∧ a.toNat < p.capsize) ∨ a = -1) ∧ ((0 ≤ b ∧ b.toNat < p.capsize) ∨ b = -1) ∧
        ¬ (a = -1 ∧ b = -1) := by
  intro a b ha hb
  have h := c.facts.operands
  subst ho
  simp only [operandsOk, ha, hb, Option.getD_some, Bool.and_eq_true, Bool.or_eq_true, decide_eq_true_eq,
    beq_iff_eq, Bool.not_eq_true', Bool.and_eq_false_imp] at h
  refine ⟨h.1.1, h.1.2, ?_⟩
  intro ⟨h1, h2⟩
  have := h.2 h1
  simp [h2] at this

theorem caseCapturemark_ok (ho : o = .capturemark)
    (hfr : Frames p bs env.len s.track) : BodyOk p bs env s o (caseCapturemark p s) := by
  subst ho
  unfold caseCapturemark
  obtain ⟨c0, h0, h0'⟩ := operand_ok c.facts 0 (by decide)
  obtain ⟨c1, h1, h1'⟩ := operand_ok c.facts 1 (by decide)
  obtain ⟨hc0, hc1, hne⟩ := capOperands_of c rfl c0 c1 h0' h1'
  simp only [bind, Except.bind, h0, h1, pure, Except.pure]
  have hpush : ∀ (st : List Int) (cp : MatchBuilder.Runner) (v : Int),
      BodyOk p bs env s .capturemark (.ok (push1 { s with stack := st, cap := cp } v, .advance 2)) :=
    fun _ _ v => ⟨rfl, rfl, c.tp0, c.tpn, c.push [v] rfl trivial hfr (Nat.le_refl _), rfl⟩
  by_cases hn : c1 = -1
  · subst hn
    have hcap : capOk p c0 = true := by
      rcases hc0 with h | h
      · simp [capOk, h]
      · exact absurd ⟨h, rfl⟩ hne
    simp only [bne_self_eq_false, Bool.false_eq_true, ite_false, hcap, ite_true]
    split
    · exact hpush _ _ _
    · exact rfl
  · have hc1' : 0 ≤ c1 := by
      rcases hc1 with h | h
      · exact h.1
      · exact absurd h hn
    have hcond : c0 = -1 ∨ capOk p c0 = true := by
      rcases hc0 with h | h
      · exact Or.inr (by simp [capOk, h])
      · exact Or.inl h
    simp only [bne_iff_ne, ne_eq, hn, not_false_eq_true, ite_true, isMatched_ok s c1 hc1', Except.map, hcond]
    split
    · exact ⟨rfl, rfl, c.tp0, c.tpn, hfr, Nat.le_refl _⟩
    · split
      · exact hpush _ _ _
      · exact rfl

theorem caseCapturemarkBack_ok (ho : o = .capturemark) {d rest : List Int}
    (h : Popped p bs env.len s o false d rest) : BodyOk p bs env s o (caseCapturemarkBack p s) := by
  subst ho
  obtain ⟨v, rfl⟩ := slots1 h.data
  unfold caseCapturemarkBack restoreMark
  obtain ⟨c0, h0, _⟩ := operand_ok c.facts 0 (by decide)
  obtain ⟨c1, h1, _⟩ := operand_ok c.facts 1 (by decide)
  simp only [h.track, List.cons_append, List.nil_append]
  rw [h0, h1]
  have hend : ∀ s2, SameButCap (spush { s with track := rest } v) s2 → BodyOk p bs env s .capturemark (.ok (s2, .back)) :=
    fun s2 h2 => h2.back rfl rfl c.tp0 c.tpn h.frames h.le
  refine (uncapture_ok _).bind rfl (fun s2 h2 => ?_)
  split
  · exact (uncapture_ok s2).bind rfl (fun s3 h3 => hend s3 (h2.trans h3))
  · exact hend s2 h2

theorem caseBranchmark_ok (ho : o = .branchmark)
    (hfr : Frames p bs env.len s.track) : BodyOk p bs env s o (caseBranchmark p s) := by
  subst ho
  unfold caseBranchmark
  split
  · next mark rest hs =>
    simp only
    split
    · obtain ⟨t, ht, _, hb⟩ := jumpTarget_ok c rfl
      rw [ht]
      exact ⟨rfl, rfl, c.tp0, c.tpn, hb, .inl (c.push [_, mark] rfl ⟨c.tp0, c.tpn⟩ hfr (Nat.le_refl _))⟩
    · exact ⟨rfl, rfl, c.tp0, c.tpn, c.pushNeg [mark] rfl trivial hfr (Nat.le_refl _), rfl⟩
  · exact rfl

theorem caseBranchmarkBack_ok (ho : o = .branchmark) {d rest : List Int}
    (h : Popped p bs env.len s o false d rest) : BodyOk p bs env s o (caseBranchmarkBack s) := by
  subst ho
  obtain ⟨tp, mark, rfl⟩ := slots2 h.data
  have htp : 0 ≤ tp ∧ tp ≤ env.len := h.pos
  unfold caseBranchmarkBack
  simp only [h.track, List.cons_append, List.nil_append]
  split
  · next h1 h2 =>
    cases h1
    exact ⟨rfl, rfl, htp.1, htp.2, c.pushNeg [mark] rfl trivial h.frames h.le, rfl⟩
  · exact rfl
  · next h1 h2 =>
    cases hs : s.stack with
    | nil => exact (h2 _ _ _ rfl hs).elim
    | cons a b => exact (h1 _ _ _ _ _ rfl hs).elim

theorem caseLazybranchmark_ok (ho : o = .lazybranchmark)
    (hfr : Frames p bs env.len s.track) : BodyOk p bs env s o (caseLazybranchmark s) := by
  subst ho
  unfold caseLazybranchmark
  split
  · next old rest hs =>
    simp only
    split
    · split
      · exact ⟨rfl, rfl, c.tp0, c.tpn, c.push [_, old] rfl ⟨c.tp0, c.tpn⟩ hfr (Nat.le_refl _), rfl⟩
      · exact ⟨rfl, rfl, c.tp0, c.tpn, c.push [_, s.textpos] rfl ⟨c.tp0, c.tpn⟩ hfr (Nat.le_refl _), rfl⟩
    · exact ⟨rfl, rfl, c.tp0, c.tpn, c.pushNeg [0, old] rfl trivial hfr (Nat.le_refl _), rfl⟩
  · exact rfl

theorem caseLazybranchmarkBack_ok (ho : o = .lazybranchmark) {d rest : List Int}
    (h : Popped p bs env.len s o false d rest) : BodyOk p bs env s o (caseLazybranchmarkBack p s) := by
  subst ho
  obtain ⟨pos, old, rfl⟩ := slots2 h.data
  have htp : 0 ≤ pos ∧ pos ≤ env.len := h.pos
  unfold caseLazybranchmarkBack
  simp only [h.track, List.cons_append, List.nil_append]
  obtain ⟨t, ht, _, hb⟩ := jumpTarget_ok c rfl
  rw [ht]
  exact ⟨rfl, rfl, htp.1, htp.2, hb, .inl (c.pushNeg [1, old] rfl trivial h.frames h.le)⟩

theorem caseLazybranchmarkBack2_ok (ho : o = .lazybranchmark) {d rest : List Int}
    (h : Popped p bs env.len s o true d rest) : BodyOk p bs env s o (caseLazybranchmarkBack2 s) := by
  subst ho
  obtain ⟨np, old, rfl⟩ := slots2 h.data
  have hl := h.le
  unfold caseLazybranchmarkBack2
  simp only [h.track, List.cons_append, List.nil_append]
  split
  · split
    · exact ⟨rfl, rfl, c.tp0, c.tpn, h.frames, hl⟩
    · exact rfl
  · exact ⟨rfl, rfl, c.tp0, c.tpn, h.frames, hl⟩

theorem caseSetcount_ok (ho : o = .setcount ∨ o = .nullcount) (mark : Int)
    (hfr : Frames p bs env.len s.track) : BodyOk p bs env s o (caseSetcount p mark s) := by
  unfold caseSetcount
  obtain ⟨v, hv, _⟩ := operand_ok c.facts 0 (by rcases ho with rfl | rfl <;> decide)
  rw [hv]
  refine ⟨rfl, rfl, c.tp0, c.tpn, c.push [] ?_ ?_ hfr (Nat.le_refl _), ?_⟩ <;> rcases ho with rfl | rfl <;> trivial

theorem caseBranchcount_ok (ho : o = .branchcount)
    (hfr : Frames p bs env.len s.track) : BodyOk p bs env s o (caseBranchcount p s) := by
  subst ho
  unfold caseBranchcount
  split
  · next count mark rest hs =>
    obtain ⟨lim, hl, _⟩ := operand_ok c.facts 1 (by decide)
    obtain ⟨t, ht, _, hb⟩ := jumpTarget_ok c rfl
    simp only [bind, Except.bind, hl, ht, pure, Except.pure]
    split
    · exact ⟨rfl, rfl, c.tp0, c.tpn, c.pushNeg [count, mark] rfl trivial hfr (Nat.le_refl _), rfl⟩
    · exact ⟨rfl, rfl, c.tp0, c.tpn, hb, .inl (c.push [mark] rfl trivial hfr (Nat.le_refl _))⟩
  · exact rfl

theorem caseBranchcountBack_ok (ho : o = .branchcount) {d rest : List Int}
    (h : Popped p bs env.len s o false d rest) : BodyOk p bs env s o (caseBranchcountBack env s) := by
  subst ho
  obtain ⟨pmark, rfl⟩ := slots1 h.data
  have hl := h.le
  unfold caseBranchcountBack texttoStack
  simp only [h.track, List.cons_append, List.nil_append]
  split
  · next h1 h2 =>
    cases h1
    split
    · split
      · next hv => exact ⟨rfl, rfl, hv.1, hv.2, c.pushNeg [_, pmark] rfl trivial h.frames hl, rfl⟩
      · exact rfl
    · exact ⟨rfl, rfl, c.tp0, c.tpn, h.frames, hl⟩
  · exact rfl
  · next h1 h2 => exact (h1 _ _ rfl).elim

theorem caseBranchcountBack2_ok (ho : o = .branchcount) {d rest : List Int}
    (h : Popped p bs env.len s o true d rest) : BodyOk p bs env s o (caseBranchcountBack2 s) := by
  subst ho
  obtain ⟨count, mark, rfl⟩ := slots2 h.data
  unfold caseBranchcountBack2
  simp only [h.track, List.cons_append, List.nil_append]
  exact ⟨rfl, rfl, c.tp0, c.tpn, h.frames, h.le⟩

theorem caseLazybranchcount_ok (ho : o = .lazybranchcount)
    (hfr : Frames p bs env.len s.track) : BodyOk p bs env s o (caseLazybranchcount p s) := by
  subst ho
  unfold caseLazybranchcount
  split
  · next count mark rest hs =>
    simp only
    split
    · obtain ⟨t, ht, _, hb⟩ := jumpTarget_ok c rfl
      rw [ht]
      exact ⟨rfl, rfl, c.tp0, c.tpn, hb, .inl (c.pushNeg [mark] rfl trivial hfr (Nat.le_refl _))⟩
    · exact ⟨rfl, rfl, c.tp0, c.tpn, c.push [_, count, mark] rfl ⟨c.tp0, c.tpn⟩ hfr (Nat.le_refl _), rfl⟩
  · exact rfl

theorem caseLazybranchcountBack_ok (ho : o = .lazybranchcount) {d rest : List Int}
    (h : Popped p bs env.len s o false d rest) : BodyOk p bs env s o (caseLazybranchcountBack p s) := by
  subst ho
  obtain ⟨tp, count, mark, rfl⟩ := slots3 h.data
  have htp : 0 ≤ tp ∧ tp ≤ env.len := h.pos
  have hl := h.le
  unfold caseLazybranchcountBack
  simp only [h.track, List.cons_append, List.nil_append]
  obtain ⟨lim, hlim, _⟩ := operand_ok c.facts 1 (by decide)
  obtain ⟨t, ht, _, hb⟩ := jumpTarget_ok c rfl
  simp only [bind, Except.bind, hlim, ht, pure, Except.pure]
  split
  · exact ⟨rfl, rfl, htp.1, htp.2, hb, .inl (c.pushNeg [mark] rfl trivial h.frames hl)⟩
  · exact ⟨rfl, rfl, c.tp0, c.tpn, h.frames, hl⟩

theorem caseLazybranchcountBack2_ok (ho : o = .lazybranchcount) {d rest : List Int}
    (h : Popped p bs env.len s o true d rest) : BodyOk p bs env s o (caseLazybranchcountBack2 s) := by
  subst ho
  obtain ⟨pmark, rfl⟩ := slots1 h.data
  have hl := h.le
  unfold caseLazybranchcountBack2
  simp only [h.track, List.cons_append, List.nil_append]
  split
  · next h1 h2 => cases h1; exact ⟨rfl, rfl, c.tp0, c.tpn, h.frames, hl⟩
  · exact rfl
  · next h1 h2 => exact (h1 _ _ rfl).elim

theorem caseSetjump_ok (ho : o = .setjump) (hfr : Frames p bs env.len s.track) :
    BodyOk p bs env s o (caseSetjump s) := by
  subst ho
  exact ⟨rfl, rfl, c.tp0, c.tpn, c.push [] rfl trivial hfr (Nat.le_refl _), rfl⟩

theorem caseBackjump_ok (hfr : Frames p bs env.len s.track) :
    BodyOk p bs env s o (caseBackjump p s) := by
  unfold caseBackjump
  split
  · next cp tp rest hs =>
    refine (trackto_ok (env := env) c.wf { s with stack := rest } tp hfr).bind rfl (fun s1 h1 => ?_)
    obtain ⟨⟨a1, al⟩, a2, a3, a4⟩ := h1
    refine (uncaptureTo_ok cp _ s1).bind rfl (fun s2 h2 => ?_)
    exact h2.back a3 a4 (a2 ▸ c.tp0) (a2 ▸ c.tpn) a1 al
  · exact rfl

theorem caseForejump_ok (ho : o = .forejump) (hfr : Frames p bs env.len s.track) :
    BodyOk p bs env s o (caseForejump p s) := by
  subst ho
  unfold caseForejump
  split
  · next cp tp rest hs =>
    have h1 := trackto_ok (env := env) c.wf { s with stack := rest } tp hfr
    cases ht : trackto p { s with stack := rest } tp with
    | error f => rw [ht] at h1; have : f = .tracktoRange := h1; subst this; exact rfl
    | ok s1 =>
      rw [ht] at h1
      obtain ⟨⟨a1, al⟩, a2, a3, a4⟩ := h1
      have := c.push [cp] rfl trivial a1 al
      rw [← a3] at this
      exact ⟨a3, a4, a2 ▸ c.tp0, a2 ▸ c.tpn, this, rfl⟩
  · exact rfl

theorem caseForejumpBack_ok (ho : o = .forejump) {d rest : List Int}
    (h : Popped p bs env.len s o false d rest) : BodyOk p bs env s o (caseForejumpBack s) := by
  subst ho
  obtain ⟨cp, rfl⟩ := slots1 h.data
  unfold caseForejumpBack
  simp only [h.track, List.cons_append, List.nil_append]
  have h2 := uncaptureTo_ok cp s.cap.crawl.length { s with track := rest }
  cases hu : uncaptureTo cp s.cap.crawl.length { s with track := rest } with
  | error f => rw [hu] at h2; have : f = .crawlUnderflow := h2; subst this; exact rfl
  | ok s2 => rw [hu] at h2; exact SameButCap.back h2 rfl rfl c.tp0 c.tpn h.frames h.le

theorem caseUpdateBumpalong_ok (ho : o = .updatebumpalong)
    (hfr : Frames p bs env.len s.track) : BodyOk p bs env s o (caseUpdateBumpalong s) := by
  subst ho
  have hkeep : BodyOk p bs env s .updatebumpalong (.ok (s, .advance 0)) :=
    ⟨rfl, rfl, c.tp0, c.tpn, .keep hfr (Nat.le_refl _), rfl⟩
  unfold caseUpdateBumpalong
  split
  · split
    · refine ⟨rfl, rfl, c.tp0, c.tpn, .keep (frames_setLast s.textpos c.tp0 c.tpn hfr) ?_, rfl⟩
      have := List.length_pos_iff.mpr (frames_ne_nil hfr)
      simp only [List.length_append, List.length_dropLast, List.length_cons, List.length_nil]
      omega
    · exact hkeep
  · exact hkeep

theorem body_neutral (hn : neutral o = true) {r : Res} (hsel : Selects p env s o .fwd r) :
    Neutral env s o s.track r := by
  cases hsel with
  | onerep => exact caseRep_neutral c rfl 0 (by omega)
  | notonerep => exact caseRep_neutral c rfl 1 (by omega)
  | setrep => exact caseRep_neutral c rfl 2 (fun _ => setOperand_of c (by simp))
  | oneloop => exact caseLoop_neutral c rfl 0 false (by omega) (by simp)
  | notoneloop => exact caseLoop_neutral c rfl 1 false (by omega) (by simp)
  | setloop => exact caseLoop_neutral c rfl 2 false (fun _ => setOperand_of c (by simp)) (by simp)
  | oneloopatomic => exact caseLoop_neutral c rfl 0 true (by omega) (by simp)
  | notoneloopatomic => exact caseLoop_neutral c rfl 1 true (by omega) (by simp)
  | setloopatomic => exact caseLoop_neutral c rfl 2 true (fun _ => setOperand_of c (by simp)) (by simp)
  | onelazy | notonelazy | setlazy => exact caseLazy_neutral c rfl (by simp)
  | one => exact caseChar_neutral c rfl 0 (by omega)
  | notone => exact caseChar_neutral c rfl 1 (by omega)
  | set => exact caseChar_neutral c rfl 2 (fun _ => setOperand_of c (by simp))
  | multi => exact caseMulti_neutral c rfl
  | ref => exact caseRef_neutral c rfl
  | testref => exact caseTestref_neutral c rfl
  | bol => exact caseBol_neutral c rfl
  | eol => exact caseEol_neutral c rfl
  | boundary | nonboundary | ecmaboundary | nonecmaboundary => exact caseBoundary_neutral c rfl _ _
  | beginning | start | end_ => exact assertion_neutral c rfl _
  | endz => exact caseEndZ_neutral c rfl
  | _ => cases hn

/-- **every case of the switch**, from a state satisfying the invariant: no structural fault, and what it
    hands to `advance` / `goTo` / `backtrack` is again a stack of whole frames, higher than before by at most one
    frame of the current instruction, and not at all when the case ends in `backtrack()` -/
theorem body_ok (hsh : Shape p bs env.len s o) :
    BodyOk p bs env s o (body p env s) := by
  have hop := c.op_eq
  have hm : modeOf s.oper = match s.oper.back, s.oper.back2 with
      | false, false => some .fwd | true, false => some .back | false, true => some .back2 | true, true => none := rfl
  unfold Shape at hsh
  cases hb : s.oper.back <;> cases hb2 : s.oper.back2 <;> rw [hb, hb2] at hsh hm <;> dsimp only at hsh hm
  · -- forward cases; only `Lazybranch` at 0 and `Stop` can be met with an empty stack
    have hsel := body_selects p env hop hm
    generalize body p env s = r at hsel ⊢
    by_cases hl : o = .lazybranch
    · subst hl
      cases hsel
      refine ⟨rfl, rfl, c.tp0, c.tpn, ?_, rfl⟩
      rcases hsh with h | ⟨h1, h2 | h2⟩
      · exact c.push [_] rfl ⟨c.tp0, c.tpn⟩ h (Nat.le_refl _)
      · refine ⟨?_, .inr ⟨false, 1, rfl, by simp [push1]⟩⟩
        show Frames p bs env.len ((s.codepos : Int) :: s.textpos :: s.track)
        rw [h1, h2]; exact Frames.root _ c.tp0 c.tpn
      · cases h2
    by_cases hs : o = .stop
    · subst hs; cases hsel; exact ⟨rfl, rfl, c.tp0, c.tpn, trivial⟩
    have hfr : Frames p bs env.len s.track := by
      rcases hsh with h | ⟨_, h | h⟩
      · exact h
      · exact absurd h (codepos_ne_zero c hl)
      · exact absurd h hs
    have hle := Nat.le_refl s.track.length
    by_cases hn : neutral o = true
    · exact (body_neutral c hn hsel).bodyOk c hfr hle
    cases hsel with
    | stop => exact absurd rfl hs
    | lazybranch => exact absurd rfl hl
    | prune => have := c.facts.operands; simp [operandsOk] at this
    | setmark | nullmark => exact ⟨rfl, rfl, c.tp0, c.tpn, c.push [] rfl trivial hfr hle, rfl⟩
    | nothing => exact ⟨rfl, rfl, c.tp0, c.tpn, hfr, hle⟩
    | goto => exact caseGoto_ok c rfl hfr
    | getmark => exact caseGetmark_ok c rfl hfr
    | capturemark => exact caseCapturemark_ok c rfl hfr
    | branchmark => exact caseBranchmark_ok c rfl hfr
    | lazybranchmark => exact caseLazybranchmark_ok c rfl hfr
    | setcount | nullcount => exact caseSetcount_ok c (by simp) _ hfr
    | branchcount => exact caseBranchcount_ok c rfl hfr
    | lazybranchcount => exact caseLazybranchcount_ok c rfl hfr
    | setjump => exact caseSetjump_ok c rfl hfr
    | backjump => exact caseBackjump_ok c hfr
    | forejump => exact caseForejump_ok c rfl hfr
    | updatebumpalong => exact caseUpdateBumpalong_ok c rfl hfr
    | _ => exact absurd rfl hn
  · obtain ⟨d, rest, ht, hfd, hpos, hrest⟩ := hsh
    have h : Popped p bs env.len s o true d rest := ⟨ht, hfd, hpos, hrest⟩
    have hsel := body_selects p env hop hm
    generalize body p env s = r at hsel ⊢
    cases hsel with
    | branchmarkBack2 => exact caseRestoreBack_ok c h rfl
    | lazybranchmarkBack2 => exact caseLazybranchmarkBack2_ok c rfl h
    | branchcountBack2 => exact caseBranchcountBack2_ok c rfl h
    | lazybranchcountBack2 => exact caseLazybranchcountBack2_ok c rfl h
    | noBack2 hno => rw [hno] at hfd; cases hfd
  · -- Back cases; only the `Lazybranch` at 0 can be resumed with nothing below its frame
    obtain ⟨d, rest, ht, hfd, hpos, hrest⟩ := hsh
    have hsel := body_selects p env hop hm
    generalize body p env s = r at hsel ⊢
    by_cases hl : o = .lazybranch
    · subst hl
      cases hsel with
      | lazybranchBack => exact caseLazybranchBack_ok c rfl d rest ht hfd hpos hrest
      | noBack hno => cases hno
    have h : Popped p bs env.len s o false d rest := by
      refine ⟨ht, hfd, hpos, ?_⟩
      rcases hrest with h | ⟨_, h⟩
      · exact h
      · exact absurd h (codepos_ne_zero c hl)
    have hfr0 : some 0 = some d.length → Frames p bs env.len s.track := fun h0 => by
      rw [ht, slots0 h0]; exact h.frames
    cases hsel with
    | lazybranchBack => exact absurd rfl hl
    | oneloopBack | notoneloopBack | setloopBack =>
      exact (caseLoopBack_neutral c rfl (by simp) h).bodyOk c h.frames h.le
    | onelazyBack => exact (caseLazyBack_neutral c rfl 0 (by omega) (by simp) h).bodyOk c h.frames h.le
    | notonelazyBack => exact (caseLazyBack_neutral c rfl 1 (by omega) (by simp) h).bodyOk c h.frames h.le
    | setlazyBack =>
      exact (caseLazyBack_neutral c rfl 2 (fun _ => setOperand_of c (by simp)) (by simp) h).bodyOk c h.frames h.le
    | branchmarkBack => exact caseBranchmarkBack_ok c rfl h
    | lazybranchmarkBack => exact caseLazybranchmarkBack_ok c rfl h
    | nullcountBack | setcountBack | setjumpBack => exact casePop2Back_ok c (hfr0 hfd)
    | nullmarkBack | setmarkBack => exact casePop1Back_ok c (hfr0 hfd)
    | branchcountBack => exact caseBranchcountBack_ok c rfl h
    | lazybranchcountBack => exact caseLazybranchcountBack_ok c rfl h
    | capturemarkBack => exact caseCapturemarkBack_ok c rfl h
    | getmarkBack => exact caseRestoreBack_ok c h rfl
    | forejumpBack => exact caseForejumpBack_ok c rfl h
    | noBack hno => rw [hno] at hfd; cases hfd

end cases

section stepping
variable {p : Prog} {bs : List Nat} {env : Env}

/-- what `step_ok` says of one iteration: a fault is not structural, the next state satisfies the invariant; nothing of the
    state a run stops in.  `chk` in the statements is `Outcome.next`'s `checked`: the iteration went through `ensureStorage` -/
def StepOk (p : Prog) (bs : List Nat) (env : Env) : Outcome → Prop
  | .fault f => f.structural = false
  | .stop _ => True
  | .next s' _ => Inv p bs env s'

theorem instr_unique {pc : Nat} {w w' : Word} {o o' : Op} (h : InstrFacts p bs pc w o)
    (hf : fetch p pc = .ok w') (ho : Op.ofNat? w'.op = some o') : w = w' ∧ o = o' := by
  have := h.fetch
  rw [hf] at this
  cases this
  have := h.op
  rw [ho] at this
  cases this
  exact ⟨rfl, rfl⟩

theorem inv_enter (hwf : WF p bs) (s1 : VMState) (pc : Nat) (hpc : pc ∈ bs)
    (h0 : 0 ≤ s1.textpos) (hn : s1.textpos ≤ env.len)
    (hsh : Frames p bs env.len s1.track ∨
      (s1.track = [] ∧ ∃ wt, fetch p pc = .ok wt ∧ Op.ofNat? wt.op = some .stop)) :
    ∃ w, fetch p pc = .ok w ∧ Inv p bs env { s1 with codepos := pc, oper := w } := by
  obtain ⟨w, o, hf⟩ := hwf.instr pc hpc
  refine ⟨w, hf.fetch, w, o, ⟨hwf, hf, hpc, rfl, rfl, rfl, h0, hn⟩, ?_⟩
  unfold Shape
  simp only [hf.noback, hf.noback2]
  rcases hsh with h | ⟨h1, wt, h2, h3⟩
  · exact Or.inl h
  · exact Or.inr ⟨h1, Or.inr (instr_unique hf h2 h3).2⟩

/-- `advance` and `goTo` enter an instruction boundary forwards above whole frames (`inv_enter`).  `backtrack()` pops the
    saved position of the top frame: the root frame resumes the `Lazybranch` at 0 with nothing below it, any other its own
    instruction in the mode its sign says, data slots on top of the frames below — `Shape` in Back / Back2 mode -/
theorem finish_ok {s : VMState} {w : Word} {o : Op} (c : Ctx p bs env s w o)
    (hns : o ≠ .stop) (s1 : VMState) (e : Exit) (hb : BodyOk p bs env s o (.ok (s1, e))) :
    StepOk p bs env (finish p (s1, e)) := by
  have hwf := c.wf
  obtain ⟨hcp, hop, h0, hn, hmid⟩ := hb
  cases e with
  | halt => exact trivial
  | advance i =>
    obtain ⟨⟨hfr, _⟩, hsz⟩ : Grown p bs env.len s o s1.track ∧ i + 1 = o.size := hmid
    have hnext : s1.codepos + i + 1 ∈ bs := by
      rcases c.facts.next with h | h
      · exact absurd h hns
      · rw [hcp]; have : s.codepos + i + 1 = s.codepos + o.size := by omega
        rw [this]; exact h
    obtain ⟨w', hf', hinv⟩ := inv_enter (env := env) hwf s1 _ hnext h0 hn (Or.inl hfr)
    simp only [finish, doAdvance, hf']
    exact hinv
  | goto t =>
    obtain ⟨hbd, hsh⟩ : isBoundaryPos bs t = true ∧ _ := hmid
    simp only [isBoundaryPos, Bool.and_eq_true, decide_eq_true_eq, List.contains_iff_mem] at hbd
    obtain ⟨w', hf', hinv⟩ := inv_enter (env := env) hwf s1 t.toNat hbd.2 h0 hn (hsh.imp_left (·.1))
    have : ¬ t < 0 := by omega
    simp only [finish, doGoto, this, ite_false, hf']
    exact hinv
  | back =>
    have hfr : Frames p bs env.len s1.track := hmid.1
    cases htr : s1.track with
    | nil => rw [htr] at hfr; exact absurd rfl (frames_ne_nil hfr)
    | cons cc tl =>
      rw [htr] at hfr
      cases hfr with
      | root tp ht0 htn =>
        obtain ⟨w0, o0, hf0⟩ := hwf.instr 0 hwf.zero
        obtain ⟨wr, hwr, hor⟩ := hwf.root
        obtain ⟨rfl, rfl⟩ := instr_unique hf0 hwr hor
        have hsp : savedPos 0 = (0, false) := by decide
        simp only [finish, doBacktrack, htr, hsp, hf0.fetch]
        refine ⟨w0, .lazybranch, ⟨hwf, hf0, hwf.zero, rfl, rfl, rfl, h0, hn⟩, ?_⟩
        unfold Shape
        simp only [hf0.noback2, Bool.false_eq_true, ite_false]
        exact ⟨[tp], [], rfl, rfl, ⟨ht0, htn⟩, Or.inr ⟨rfl, trivial⟩⟩
      | cons _ w' o' d rest hin hf ho hd hp hr =>
        obtain ⟨w2, o2, hf2⟩ := hwf.instr _ hin
        obtain ⟨rfl, rfl⟩ := instr_unique hf2 hf ho
        simp only [finish, doBacktrack, htr, hf]
        cases hb2 : (savedPos cc).2 with
        | true =>
          simp only [ite_true]
          refine ⟨w2, o2, ⟨hwf, hf2, hin, rfl, rfl, rfl, h0, hn⟩, ?_⟩
          unfold Shape
          simp only [hf2.noback]
          rw [hb2] at hd hp
          exact ⟨d, rest, rfl, hd, hp, hr⟩
        | false =>
          simp only [Bool.false_eq_true, ite_false]
          refine ⟨w2, o2, ⟨hwf, hf2, hin, rfl, rfl, rfl, h0, hn⟩, ?_⟩
          unfold Shape
          simp only [hf2.noback2]
          rw [hb2] at hd hp
          exact ⟨d, rest, rfl, hd, hp, Or.inl hr⟩

/-- **One iteration of the interpreter loop keeps the invariant and raises no structural fault.** -/
theorem step_ok {s : VMState} (hinv : Inv p bs env s) : StepOk p bs env (step p env s) := by
  obtain ⟨w, o, c, hsh⟩ := hinv
  have hb := body_ok c hsh
  by_cases hstop : o = .stop
  · -- at `Stop`: forwards it halts; it has no Back / Back2 case and no frame refers to it
    subst hstop
    have hop := c.op_eq
    unfold Shape at hsh
    cases hbk : s.oper.back <;> cases hbk2 : s.oper.back2 <;> simp only [hbk, hbk2] at hsh
    · simp only [step, body, hop, modeOf, hbk, hbk2, finish]; exact trivial
    · obtain ⟨d, rest, _, hfd, _⟩ := hsh; simp [frameData] at hfd
    · obtain ⟨d, rest, _, hfd, _⟩ := hsh; simp [frameData] at hfd
  · unfold step
    cases hbody : body p env s with
    | error f => rw [hbody] at hb; exact hb
    | ok r =>
      obtain ⟨s1, e⟩ := r
      rw [hbody] at hb
      exact finish_ok c hstop s1 e hb

/-- the start state of an attempt (`executeDefault` after its `goTo(0)`) satisfies the invariant -/
theorem init_inv (hwf : WF p bs) (pos : Int) (h0 : 0 ≤ pos) (hn : pos ≤ env.len) :
    ∃ s0, init p pos = .ok s0 ∧ Inv p bs env s0 ∧ s0.codepos = 0 ∧ s0.track = [] ∧ s0.stack = [] ∧
      s0.cap = { m := MatchBuilder.newMatch p.capsize, crawl := [] } ∧ fetch p 0 = .ok s0.oper := by
  obtain ⟨w, o, hf⟩ := hwf.instr 0 hwf.zero
  refine ⟨{ codepos := 0, oper := w, textpos := pos, track := [], stack := [],
             cap := { m := MatchBuilder.newMatch p.capsize, crawl := [] } },
    by simp [init, hf.fetch, Except.map], ⟨w, o, ⟨hwf, hf, hwf.zero, rfl, rfl, rfl, h0, hn⟩, ?_⟩, rfl, rfl, rfl, rfl, hf.fetch⟩
  unfold Shape
  simp only [hf.noback, hf.noback2]
  exact Or.inr ⟨trivial, Or.inl trivial⟩

end stepping

/-! ## a concrete program for the non-vacuity examples -/

/-- `Lazybranch 18; Setmark; Nullmark; Goto 11; One a; Oneloopatomic b 1; Branchmark 6; One c;
    Capturemark 0 -1; Stop` (what the writer emits for `(?:ab?)*c`); `demo_wf`, `demo_typed` are in
    Lemmas/StackTypingEmit.lean -/
def demo : Prog :=
  { codes := #[23, 18, 31, 30, 38, 11, 9, 97, 43, 98, 1, 24, 6, 9, 99, 32, 0, -1, 40], strings := #[],
    nsets := 0, trackcount := 5, capsize := 1, caps := [], rtl := false }

/-- the text "ababc" with trivial oracles -/
def demoEnv : Env :=
  { text := #[97, 98, 97, 98, 99], textstart := 0, setMem := fun _ _ => false, toLower := id,
    wordChar := fun _ => true, ecmaWordChar := fun _ => true, endzStrict := false, ecma := false }

end RegexVerif.Lemmas.VM
