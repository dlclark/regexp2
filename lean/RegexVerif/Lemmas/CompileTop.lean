/-
Compiler correctness, the whole program — `Lazybranch end; ⟨root⟩; Stop` run from the start state of an attempt halts
at `Stop` with the verdict and the captures of `Spec.attempt`.  `run_done_unique'` (a run that ends at `Stop` ends in
one state) and `quickCodes_emit_strip` (`QuickCodes` is the main writer's code for the stripped tree) stand here
because this is the last file that Props/C01.lean and the bool-only program's files both import.  `ccInfo n` /
`ccInfoR n` at the end are `TreeInfo`s with dense group numbers (`capnumlist = none`), for which `mapCapnum (mainCfg ti) 0 = 0` and the slot clauses
of `InFrag` hold by evaluation.
-/
import RegexVerif.Lemmas.CompileMain

namespace RegexVerif.Compile
open RegexVerif.VM RegexVerif.Code RegexVerif.Writer RegexVerif.Generated.Opcodes RegexVerif RegexVerif.Spec
open RegexVerif.Lemmas.VM

theorem run_of_reach {p : Prog} {env : VM.Env} {s s' s'' : VMState} (h : Reach p env s s')
    (hs : VM.step p env s' = .stop s'') : ∃ n, ∀ fuel, n ≤ fuel → (VM.run p env fuel s).1 = .done s'' := by
  induction h with
  | refl s =>
    refine ⟨1, fun fuel hf => ?_⟩
    obtain ⟨k, rfl⟩ : ∃ k, fuel = k + 1 := ⟨fuel - 1, by omega⟩
    rw [run_succ_stop p env k hs]
  | step hst _ ih =>
    obtain ⟨n, hn⟩ := ih hs
    refine ⟨n + 1, fun fuel hf => ?_⟩
    obtain ⟨k, rfl⟩ : ∃ k, fuel = k + 1 := ⟨fuel - 1, by omega⟩
    rw [run_succ_next p env k hst]
    exact hn k (by omega)

theorem run_done_unique' (p : Code.Prog) (env : VM.Env) (s0 s s' : VM.VMState) (f f' : Nat)
    (h : (VM.run p env f s0).1 = .done s) (h' : (VM.run p env f' s0).1 = .done s') : s = s' := by
  induction f generalizing f' s0 with
  | zero => simp [VM.run] at h
  | succ f ih =>
    cases f' with
    | zero => simp [VM.run] at h'
    | succ f' =>
      unfold VM.run at h h'
      cases hst : VM.step p env s0 with
      | fault e => rw [hst] at h; simp at h
      | stop t => rw [hst] at h h'; simp at h h'; rw [← h, ← h']
      | next t chk => rw [hst] at h h'; simp at h h'; exact ih t f' h h'

theorem toPatRoot_some {X : TP} {d : Bool} {t : GoNode} {pat : Pat} (h : toPatRoot X d t = some pat) :
    ∃ body, t = .capture 0 (-1) body ∧ toPat X d body = some pat := by
  unfold toPatRoot at h
  split at h
  · exact ⟨_, rfl, h⟩
  · cases h

/-- `QuickCodes` is word for word the code the main writer emits for `stripTree`, and the second writer builds the tables
    the main writer builds for that tree -/
theorem quickCodes_emit_strip (ti : TreeInfo) (root : GoNode) (q : List Int) (h : quickCodes ti root = some q) :
    q = (emit ti (stripTree (quickCfg ti root) root)).codes.toList ∧
      (codeFromTree (quickCfg ti root) root).2 = (codeFromTree (mainCfg ti) (stripTree (quickCfg ti root) root)).2 := by
  simp only [quickCodes] at h
  split at h
  · simp only [Option.some.injEq] at h
    subst h
    simp only [emit, codeFromTree, quickCfg, mainCfg]
    rw [emitNode_strip, size_strip]
    simp
  · simp at h

/-- the group-to-slot map of a tree -/
def slotOf (ti : TreeInfo) (g : Nat) : Nat := (mapCapnum (mainCfg ti) (g : Int)).toNat

/-- the state `executeDefault` starts in -/
def startState (p : Prog) (w : Word) (i : Int) : VMState :=
  { codepos := 0, oper := w, textpos := i, track := [], stack := [],
    cap := { m := MatchBuilder.newMatch p.capsize, crawl := [] } }

theorem codeAt_root (ti : TreeInfo) (t : GoNode) (hok : t.ok = true) :
    CodeAt (emit ti t) 0 (i1 opLazybranch ((2 + size (mainCfg ti) t : Nat) : Int) :: (emitNode (mainCfg ti) 2 ⟨[], []⟩ t).1) ∧
    InstrAt (emit ti t) (2 + size (mainCfg ti) t) (i0 opStop) := by
  have hcodes : (emit ti t).codes = (flatten ([] ++ (i1 opLazybranch ((2 + size (mainCfg ti) t : Nat) : Int) ::
      (emitNode (mainCfg ti) 2 ⟨[], []⟩ t).1) ++ [i0 opStop])).toArray := by
    simp [emit, codeFromTree]
  have hops := codeFromTree_ops (mainCfg ti) t hok
  refine ⟨⟨[], [i0 opStop], hcodes, rfl, by simpa [codeFromTree] using hops, by simp⟩, ?_⟩
  have := InstrAt.of_split (p := emit ti t) (i := i0 opStop) (post := []) hcodes (hops _ (by simp [codeFromTree]))
  simpa [emitNode_size] using this

/-- what `InFrag k` says, clause by clause.  Two numbers are called tier: `tier t`, the highest tier of a node type that
    occurs in `t`, and the `k` of `InFrag k`, which bounds it and also gates the tree option RightToLeft (from 7 on): a
    right-to-left tree of one-character nodes has `tier t = 1` and lies in `InFrag 7`, not in `InFrag 6` -/
structure FragFacts (k : Nat) (TPx : TP) (ti : TreeInfo) (t : GoNode) : Prop where
  pat : (toPatRoot TPx ti.rtl t).isSome = true
  tier : tier t ≤ k
  rtl : ti.rtl = false ∨ 7 ≤ k
  slot0 : mapCapnum (mainCfg ti) 0 = 0
  slots : 6 ≤ Compile.tier t → ∀ g, slotOf ti g = g

theorem inFrag_spec {k : Nat} {TPx : TP} {ti : TreeInfo} {t : GoNode} (h : InFrag k TPx ti t = true) :
    FragFacts k TPx ti t := by
  simp only [InFrag, Bool.and_eq_true, decide_eq_true_eq, Bool.not_eq_true', beq_iff_eq, Bool.or_eq_true] at h
  refine ⟨h.1.1.1.1, h.1.1.1.2, h.1.1.2, h.1.2, ?_⟩
  intro h6 g
  rcases h.2 with h2 | h2
  · omega
  · have hnone : (writerCaps ti).2 = none := by simpa using h2
    have hne : ¬ ((g : Int) = -1) := by omega
    simp [slotOf, mainCfg, hnone, mapCapnum, hne]

/-- what the final state of an attempt says about the specification's answer -/
structure Agrees (ti : TreeInfo) (se : Spec.Env) (pat : Pat) (i : Nat) (s : VMState) : Prop where
  /-- `runmatch.matchcount[0] > 0` exactly when the specification's attempt succeeds -/
  verdict : VM.matched s = (Spec.attempt se pat ti.rtl i).isSome
  /-- on success the interpreter stands at the end of the match … -/
  pos : ∀ st, Spec.attempt se pat ti.rtl i = some st → s.textpos = (st.pos : Int)
  /-- … and the capture arrays hold, slot by slot and in order, the intervals of the specification's capture log -/
  caps : ∀ st, Spec.attempt se pat ti.rtl i = some st → CapRep (slotOf ti) (capsize ti) s.cap st.caps

theorem InstrAt.congr {p p' : Prog} {a : Nat} {i : Instr} (hc : p.codes = p'.codes) (h : InstrAt p' a i) : InstrAt p a i := by
  constructor
  · have := h.fetch
    unfold VM.fetch at this ⊢
    rw [hc]; exact this
  · intro k hk; rw [hc]; exact h.arg k hk

theorem CodeAt.congr {p p' : Prog} {a : Nat} {c : Code} (hc : p.codes = p'.codes) (h : CodeAt p' a c) : CodeAt p a c := by
  obtain ⟨pre, post, h1, h2, h3, h4⟩ := h
  exact ⟨pre, post, by rw [hc]; exact h1, h2, h3, h4⟩

/-- **the refinement on the fragment of a tier `k ≤ maxTier`, for any program that shares code words, tables and capture
    size with `emit ti t`** (the interpreter reads nothing else of a `Prog`: `trackcount`, `caps`, `rtl` are not consulted
    by `VM.step`; the bool-only program `{ emit ti t with codes := QuickCodes }` is such a program for the stripped
    tree); from tier 4 on (general loops) the text must be strictly shorter than `MaxInt32` -/
theorem compile_correct_prog (k : Nat) (hk : k ≤ maxTier) (ti : TreeInfo) (t : GoNode) (TPx : TP) (env : VM.Env)
    (se : Spec.Env) (pat : Pat) (i : Nat) (p : Prog)
    (hpc : p.codes = (emit ti t).codes) (hps : p.strings = (emit ti t).strings) (hpn : p.nsets = (emit ti t).nsets)
    (hpz : p.capsize = capsize ti)
    (hfrag : InFrag k TPx ti t = true) (hwf : treeWf ti t = true) (hpat : toPatRoot TPx ti.rtl t = some pat)
    (hrel : EnvRel TPx (codeFromTree (mainCfg ti) t).2.sets env se) (hi : i ≤ se.n) (hlen : se.n ≤ 2147483647)
    (hlenS : 4 ≤ k → se.n < 2147483647) (hecma : 6 ≤ k → env.ecma = false) :
    ∃ s0 s n, VM.init p (i : Int) = .ok s0 ∧
      (∀ fuel, n ≤ fuel → (VM.run p env fuel s0).1 = .done s) ∧ Agrees ti se pat i s := by
  obtain ⟨_, htier, _, hslot0, hid⟩ := inFrag_spec hfrag
  obtain ⟨body, ht, hbody⟩ := toPatRoot_some hpat
  simp only [treeWf, Bool.and_eq_true] at hwf
  obtain ⟨⟨hok, hcaps⟩, hbd⟩ := hwf
  obtain ⟨hall', hstop'⟩ := codeAt_root ti t hok
  have hall := CodeAt.congr hpc hall'
  have hlb := hall.instr
  have hroot : CodeAt p 2 _ := hall.drop [i1 opLazybranch _] rfl rfl
  have hstop := InstrAt.congr hpc hstop'
  let W : World :=
    { X := { p := p, env := env, se := se, sl := slotOf ti },
      TPx := TPx, caps := (writerCaps ti).2, fin := (codeFromTree (mainCfg ti) t).2,
      hrel := hrel, hstr := hps, hnsets := hpn, hsl := fun _ => rfl, hlen := hlen, k := tier t,
      hlenS := fun h => hlenS (by omega), hid := hid, hecma := fun h => hecma (by omega) }
  have hpr : toPat TPx ti.rtl t = some (.cap 0 pat) := by
    rw [ht]; simp [toPat, hbody]
  have hsl0 : slotOf ti 0 = 0 := by simp [slotOf, hslot0]
  have hcs : 0 < capsize ti := by
    rw [ht] at hcaps
    simp only [capsOk, beq_self_eq_true, if_true, Bool.and_eq_true] at hcaps
    have := slotOk_iff.1 hcaps.1
    omega
  have hcsp : 0 < p.capsize := by rw [hpz]; exact hcs
  have hf0 : VM.fetch p 0 = .ok (decode opLazybranch) := hlb.fetch
  let s0 : VMState := startState p (decode opLazybranch) (i : Int)
  have hinit : VM.init p (i : Int) = .ok s0 := by simp [VM.init, hf0, Except.map, s0, startState]
  have he0 : Entry W.X 0 i [] [] [] s0 := ⟨rfl, hf0, rfl, rfl, rfl, capRep_init _ _⟩
  obtain ⟨s1, hr1, he1⟩ := lazybranch_leads (X := W.X) he0 hlb hroot.fetch_start
  have hwfst : St.wf se.n ⟨i, []⟩ := St.wf_start hi
  have hcaps' : capsOk W.cfg W.X.p.capsize t = true := by
    show capsOk (mainCfg ti) p.capsize t = true
    rw [hpz]; exact hcaps
  have hdel : Delivers W.X (2 + size (mainCfg ti) t) [(0 : Int)] [] [] [] (m se (.cap 0 pat) ti.rtl ⟨i, []⟩) s1 :=
    emitNode_size (mainCfg ti) t 2 ⟨[], []⟩ ▸ node_computes W (Nat.le_trans htier hk) t ti.rtl 2 ⟨[], []⟩ (.cap 0 pat)
      (Nat.le_refl _) hpr hok hcaps' hbd (TabExt.refl _) hroot i [(0 : Int)] [] (i : Int) [] s1 hwfst (by simpa using he1)
  refine ⟨s0, ?_⟩
  cases hrs : m se (.cap 0 pat) ti.rtl ⟨i, []⟩ with
  | nil =>
    rw [hrs] at hdel
    obtain ⟨s2, hr2, v', hf2⟩ := hdel
    obtain ⟨s3, hr3, _, hop3, _, _, _, hcap3⟩ := lazybranch_back_raw (X := W.X) (a := 0) (T := []) hf2 hlb ⟨_, hstop.fetch⟩
    have hst := stop_step hop3 hstop
    obtain ⟨n, hn⟩ := run_of_reach ((hr1.trans hr2).trans hr3) hst
    refine ⟨s3, n, hinit, hn, ?_⟩
    have hatt : Spec.attempt se pat ti.rtl i = none := by simp [Spec.attempt, hrs]
    refine ⟨?_, by simp [hatt], by simp [hatt]⟩
    have hcnt := hcap3.cnt 0 hcsp
    simp [VM.matched, hatt, hcnt]
  | cons r rs =>
    rw [hrs] at hdel
    obtain ⟨F, _, ⟨s2, hr2, v', he2⟩, _⟩ := hdel
    have hst := stop_step he2.op hstop
    obtain ⟨n, hn⟩ := run_of_reach (hr1.trans hr2) hst
    refine ⟨s2, n, hinit, hn, ?_⟩
    have hatt : Spec.attempt se pat ti.rtl i = some r := by simp [Spec.attempt, hrs]
    refine ⟨?_, ?_, ?_⟩
    · have hmem : r ∈ m se (.cap 0 pat) ti.rtl ⟨i, []⟩ := by rw [hrs]; simp
      simp only [m, List.mem_map] at hmem
      obtain ⟨y, _, hy⟩ := hmem
      have hcnt := he2.cap.cnt 0 hcsp
      have : 0 < (r.caps.filter (fun x => slotOf ti x.1 == 0)).length := by
        rw [← hy]
        simp [List.filter_append, hsl0]
      have hpos : MatchBuilder.cnt s2.cap.m 0 > 0 := by
        have : MatchBuilder.cnt s2.cap.m 0 = (r.caps.filter (fun x => slotOf ti x.1 == 0)).length := hcnt
        omega
      simp [VM.matched, hatt, hpos]
    · intro st hst'; rw [hatt] at hst'; cases hst'; exact he2.tp
    · intro st hst'; rw [hatt] at hst'; cases hst'
      have := he2.cap
      rw [show W.X.p.capsize = capsize ti from hpz] at this
      exact this

/-- **the refinement for the emitted program**, on the fragment up to tier `k` (`InFrag k`), any `k ≤ maxTier` -/
theorem compile_correct_upto (k : Nat) (hk : k ≤ maxTier) (ti : TreeInfo) (t : GoNode) (TPx : TP) (env : VM.Env)
    (se : Spec.Env) (pat : Pat) (i : Nat)
    (hfrag : InFrag k TPx ti t = true) (hwf : treeWf ti t = true) (hpat : toPatRoot TPx ti.rtl t = some pat)
    (hrel : EnvRel TPx (codeFromTree (mainCfg ti) t).2.sets env se) (hi : i ≤ se.n) (hlen : se.n ≤ 2147483647)
    (hlenS : 4 ≤ k → se.n < 2147483647) (hecma : 6 ≤ k → env.ecma = false) :
    ∃ s0 s n, VM.init (emit ti t) (i : Int) = .ok s0 ∧
      (∀ fuel, n ≤ fuel → (VM.run (emit ti t) env fuel s0).1 = .done s) ∧ Agrees ti se pat i s :=
  compile_correct_prog k hk ti t TPx env se pat i (emit ti t) rfl rfl rfl rfl hfrag hwf hpat hrel hi hlen hlenS hecma

theorem inFrag_ltr {k : Nat} (hk : k < 7) {TPx : TP} {ti : TreeInfo} {t : GoNode} (h : InFrag k TPx ti t = true) :
    ti.rtl = false := by
  rcases (inFrag_spec h).rtl with h | h
  · exact h
  · omega

theorem inFrag_mono {k k' : Nat} (hk : k ≤ k') {TPx : TP} {ti : TreeInfo} {t : GoNode} (h : InFrag k TPx ti t = true) :
    InFrag k' TPx ti t = true := by
  simp only [InFrag, Bool.and_eq_true, decide_eq_true_eq, Bool.not_eq_true', beq_iff_eq, Bool.or_eq_true] at h ⊢
  exact ⟨⟨⟨⟨h.1.1.1.1, by omega⟩, h.1.1.2.imp id (fun h2 => by omega)⟩, h.1.2⟩, h.2⟩

/-! ## concrete instances for the non-vacuity examples of Props/C01 -/

/-- the translation parameters of the examples: .NET reading of `\Z`, sets read by `readSet` without named classes -/
def ccTP : TP := { strict := false, rd := readSet [] }

def ccInfo (captop : Int) : TreeInfo := { captop := captop, capnumlist := none, caps := [], rtl := false }

def ccSe (text : List Nat) : Spec.Env := { text := text, textstart := 0, named := [], word := [], fold := [] }

/-- interpreter oracles computed from the specification's environment (what `EnvRel` demands) -/
def ccEnv (sets : List (List Nat)) (se : Spec.Env) : VM.Env :=
  { text := se.text.toArray, textstart := se.textstart,
    setMem := fun k r =>
      match readSet [] (sets.getD k []) with
      | some c => c.mem se false r
      | none => false,
    toLower := id, wordChar := se.isWord, ecmaWordChar := fun _ => false, endzStrict := false, ecma := false }

theorem ccRel (sets : List (List Nat)) (se : Spec.Env) : EnvRel ccTP sets (ccEnv sets se) se := by
  refine ⟨rfl, rfl, fun _ => rfl, rfl, ?_⟩
  intro k s c hk hc r
  have hc' : readSet [] s = some c := hc
  simp [ccEnv, hk, hc']

/-- what an attempt of the emitted program reports: matched?, final text position, live prefix of every capture array -/
def ccRun (ti : TreeInfo) (t : GoNode) (env : VM.Env) (i : Nat) (fuel : Nat) : Option (Bool × Int × List (List Int)) :=
  match VM.init (emit ti t) (i : Int) with
  | .ok s0 =>
    match (VM.run (emit ti t) env fuel s0).1 with
    | .done s => some (VM.matched s, s.textpos,
        (List.range (capsize ti)).map (fun c => (MatchBuilder.arr s.cap.m c).take (2 * MatchBuilder.cnt s.cap.m c)))
    | _ => none
  | .error _ => none

/-- `(a|ab)(c|bcd)` -/
def ccT1 : GoNode :=
  .capture 0 (-1) (.concat [.capture 1 (-1) (.alt [.char opOne false false 97, .multi false false [97, 98]]),
    .capture 2 (-1) (.alt [.char opOne false false 99, .multi false false [98, 99, 100]])])

/-- `a*ab` -/
def ccT2 : GoNode := .capture 0 (-1) (.concat [.charloop opOneloop false false 97 0 maxInt32, .multi false false [97, 98]])

/-- `(?>a+)b` -/
def ccT3 : GoNode :=
  .capture 0 (-1) (.concat [.atomic (.charloop opOneloop false false 97 1 maxInt32), .char opOne false false 98])

/-- the payload of `[a-z]` as leg Wr sends it: hash bytes, then the raw range section -/
def ccAZ : List Nat := [0, 1, 0, 0, 0, 0, 0, 0, 0, 97, 122, 2097152, 97, 122]

/-- `(?=a)[a-z]` -/
def ccT4 : GoNode := .capture 0 (-1) (.concat [.poslook (.char opOne false false 97), .set false false ccAZ])

/-- `(?:ab|c)+d` -/
def ccT5 : GoNode :=
  .capture 0 (-1) (.concat [.loop false 1 maxInt32 (.alt [.multi false false [97, 98], .char opOne false false 99]),
    .char opOne false false 100])

/-- `(?:a{2}b){1,3}?c` -/
def ccT6 : GoNode :=
  .capture 0 (-1) (.concat [.loop true 1 3 (.concat [.charloop opOneloop false false 97 2 2, .char opOne false false 98]),
    .char opOne false false 99])

/-- `(a*)+b` -/
def ccT7 : GoNode :=
  .capture 0 (-1) (.concat [.loop false 1 maxInt32 (.capture 1 (-1) (.charloop opOneloop false false 97 0 maxInt32)),
    .char opOne false false 98])

/-- `.*ab` (`Notoneloop(\n)* ; UpdateBumpalong ; Multi "ab"`) -/
def ccT8 : GoNode :=
  .capture 0 (-1) (.concat [.charloop opNotoneloop false false 10 0 maxInt32, .bare opUpdateBumpalong,
    .multi false false [97, 98]])

/-- `(a)\1` -/
def ccT9 : GoNode := .capture 0 (-1) (.concat [.capture 1 (-1) (.char opOne false false 97), .ref false false 1])

/-- `(a)?(?(1)b|c)` -/
def ccT10 : GoNode :=
  .capture 0 (-1) (.concat [.loop false 0 1 (.capture 1 (-1) (.char opOne false false 97)),
    .backrefcond2 1 (.char opOne false false 98) (.char opOne false false 99)])

/-- `(?(?=(a))ab|c)` -/
def ccT11 : GoNode :=
  .capture 0 (-1) (.exprcond3 (.poslook (.capture 1 (-1) (.char opOne false false 97))) (.multi false false [97, 98])
    (.char opOne false false 99))

/-- a tree compiled with the option RightToLeft -/
def ccInfoR (captop : Int) : TreeInfo := { captop := captop, capnumlist := none, caps := [], rtl := true }

/-- `(?<=ab)c` -/
def ccT12 : GoNode := .capture 0 (-1) (.concat [.poslook (.multi true false [97, 98]), .char opOne false false 99])

/-- `(?:ab|c)+d` under RightToLeft: the parser stores the concatenation reversed -/
def ccT13 : GoNode :=
  .capture 0 (-1) (.concat [.char opOne true false 100,
    .loop false 1 maxInt32 (.alt [.multi true false [97, 98], .char opOne true false 99])])

/-- `a+b` under RightToLeft: stored `b`, then the loop -/
def ccT14 : GoNode :=
  .capture 0 (-1) (.concat [.char opOne true false 98, .charloop opOneloop true false 97 1 maxInt32])

/-- `(?<=ca*?)b`: the body of the lookbehind is stored reversed -/
def ccT15 : GoNode :=
  .capture 0 (-1) (.concat [.poslook (.concat [.charloop opOnelazy true false 97 0 maxInt32, .char opOne true false 99]),
    .char opOne false false 98])

end RegexVerif.Compile
