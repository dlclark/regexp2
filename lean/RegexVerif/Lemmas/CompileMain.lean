/-
Compiler correctness, the simulation proper — by induction over the tree, the code the writer emits for a
node computes (`Computes`: delivers, in order and on demand) exactly the successes the specification lists for the node's
pattern.  One case per node type: the translation `toPat` is read backwards, then the rule of the node type applies to
what the children compute.  The list functions of the hypotheses are taken apart by unfolding
(`simp only [okList, capsOkList, boundsOkList, …]`) and, for the translation, by `toPatList_cons`; none has a
`∀ c ∈ cs` form.
-/
import RegexVerif.Lemmas.CompileLoop
import RegexVerif.Lemmas.CompileCut
import RegexVerif.Lemmas.CompileGLoop
import RegexVerif.Lemmas.CompileRef

namespace RegexVerif.Compile
open RegexVerif.VM RegexVerif.Code RegexVerif.Writer RegexVerif.Generated.Opcodes RegexVerif RegexVerif.Spec

section toPatInv
variable {TPx : TP} {d : Bool} {p : Pat}

theorem toPat_char {t : Nat} {rtl ci : Bool} {ch : Int} (h : toPat TPx d (.char t rtl ci ch) = some p) :
    rtl = d ∧ 0 ≤ ch ∧ ((t = opOne ∧ .chr (.one ch.toNat false) = p) ∨ (t = opNotone ∧ .chr (.notone ch.toNat false) = p)) := by
  simp only [toPat, Option.ite_none_right_eq_some, Bool.and_eq_true, beq_iff_eq, decide_eq_true_eq] at h
  obtain ⟨⟨hr, hc⟩, h⟩ := h
  refine ⟨hr, hc, ?_⟩
  split at h
  · next ht => exact Or.inl ⟨ht, Option.some.inj h⟩
  · obtain ⟨ht, h⟩ := Option.ite_none_right_eq_some.1 h
    exact Or.inr ⟨ht, Option.some.inj h⟩

theorem toPat_set {rtl ci : Bool} {s : List Nat} (h : toPat TPx d (.set rtl ci s) = some p) :
    (rtl = d ∧ ci = false) ∧ ∃ c, TPx.rd s = some c ∧ .chr (.set c false) = p := by
  simpa only [toPat, Option.ite_none_right_eq_some, Option.map_eq_some_iff, Bool.and_eq_true, beq_iff_eq,
    Bool.not_eq_true'] using h

theorem toPat_multi {rtl ci : Bool} {s : List Nat} (h : toPat TPx d (.multi rtl ci s) = some p) :
    (rtl = d ∧ ci = false) ∧ nestSeq (s.map (fun r => .chr (.one r false))) = p := by
  simpa only [toPat, Option.ite_none_right_eq_some, Bool.and_eq_true, beq_iff_eq, Bool.not_eq_true', Option.some.injEq] using h

theorem toPat_ref {rtl ci : Bool} {m : Int} (h : toPat TPx d (.ref rtl ci m) = some p) :
    (rtl = d ∧ 0 ≤ m) ∧ .ref m.toNat ci = p := by
  simpa only [toPat, Option.ite_none_right_eq_some, Bool.and_eq_true, beq_iff_eq, decide_eq_true_eq, Option.some.injEq] using h

theorem toPat_charloop {t : Nat} {rtl ci : Bool} {ch m n : Int} (h : toPat TPx d (.charloop t rtl ci ch m n) = some p) :
    ((rtl = d ∧ 0 ≤ ch) ∧ t ∈ charloopTypes) ∧
      loopPat t m n (.chr (if isNotoneFamily t then .notone ch.toNat false else .one ch.toNat false)) = p := by
  simpa only [toPat, Option.ite_none_right_eq_some, Bool.and_eq_true, beq_iff_eq, decide_eq_true_eq, List.contains_iff_mem,
    Option.some.injEq] using h

theorem toPat_setloop {t : Nat} {rtl ci : Bool} {s : List Nat} {m n : Int} (h : toPat TPx d (.setloop t rtl ci s m n) = some p) :
    ((rtl = d ∧ ci = false) ∧ t ∈ setloopTypes) ∧ ∃ c, TPx.rd s = some c ∧ loopPat t m n (.chr (.set c false)) = p := by
  simpa only [toPat, Option.ite_none_right_eq_some, Option.map_eq_some_iff, Bool.and_eq_true, beq_iff_eq, Bool.not_eq_true',
    List.contains_iff_mem] using h

theorem toPat_concat {cs : List GoNode} (h : toPat TPx d (.concat cs) = some p) :
    ∃ ps, toPatList TPx d cs = some ps ∧ nestSeq (if d then ps.reverse else ps) = p := by
  simpa only [toPat, Option.map_eq_some_iff] using h

theorem toPat_alt {cs : List GoNode} (h : toPat TPx d (.alt cs) = some p) : ∃ ps, toPatList TPx d cs = some ps ∧ nestAlt ps = p := by
  simpa only [toPat, Option.map_eq_some_iff] using h

theorem toPat_loop {lzy : Bool} {m n : Int} {c : GoNode} (h : toPat TPx d (.loop lzy m n c) = some p) :
    ∃ b, toPat TPx d c = some b ∧ .quant lzy m.toNat (hiOf n) b = p := by
  simpa only [toPat, Option.map_eq_some_iff] using h

theorem toPat_capture {m n : Int} {c : GoNode} (h : toPat TPx d (.capture m n c) = some p) :
    (n = -1 ∧ 0 ≤ m) ∧ ∃ b, toPat TPx d c = some b ∧ .cap m.toNat b = p := by
  simpa only [toPat, Option.ite_none_right_eq_some, Option.map_eq_some_iff, Bool.and_eq_true, beq_iff_eq,
    decide_eq_true_eq] using h

/-- `neg = false`: `PosLook`, `neg = true`: `NegLook` -/
theorem toPat_look {neg : Bool} {c : GoNode} (h : toPat TPx d (if neg then .neglook c else .poslook c) = some p) :
    ∃ b q, lookDir c = some b ∧ toPat TPx b c = some q ∧ .look b neg q = p := by
  cases neg <;>
  · simp only [Bool.false_eq_true, if_false, if_true, toPat] at h
    split at h
    · cases h
    · next b hb =>
      obtain ⟨q, hq, rfl⟩ := Option.map_eq_some_iff.1 h
      exact ⟨b, q, hb, hq, rfl⟩

theorem toPat_atomic {c : GoNode} (h : toPat TPx d (.atomic c) = some p) : ∃ b, toPat TPx d c = some b ∧ .atomic b = p := by
  simpa only [toPat, Option.map_eq_some_iff] using h

theorem toPat_backrefcond1 {m : Int} {y : GoNode} (h : toPat TPx d (.backrefcond1 m y) = some p) :
    0 ≤ m ∧ ∃ y', toPat TPx d y = some y' ∧ .refCond m.toNat y' .empty = p := by
  simpa only [toPat, Option.ite_none_right_eq_some, Option.map_eq_some_iff] using h

theorem toPat_backrefcond2 {m : Int} {y n : GoNode} (h : toPat TPx d (.backrefcond2 m y n) = some p) :
    0 ≤ m ∧ ∃ y' n', toPat TPx d y = some y' ∧ toPat TPx d n = some n' ∧ .refCond m.toNat y' n' = p := by
  simp only [toPat, Option.ite_none_right_eq_some] at h
  obtain ⟨hm, h⟩ := h
  split at h
  · next y' n' hy hn => exact ⟨hm, y', n', hy, hn, Option.some.inj h⟩
  · cases h

theorem toPat_exprcond2 {c y : GoNode} (h : toPat TPx d (.exprcond2 c y) = some p) :
    ∃ c' y', toPat TPx d c = some c' ∧ toPat TPx d y = some y' ∧ .exprCond c' y' .empty = p := by
  simp only [toPat] at h
  split at h
  · next c' y' hc hy => exact ⟨c', y', hc, hy, Option.some.inj h⟩
  · cases h

theorem toPat_exprcond3 {c y n : GoNode} (h : toPat TPx d (.exprcond3 c y n) = some p) :
    ∃ c' y' n', toPat TPx d c = some c' ∧ toPat TPx d y = some y' ∧ toPat TPx d n = some n' ∧ .exprCond c' y' n' = p := by
  simp only [toPat] at h
  split at h
  · next c' y' n' hc hy hn => exact ⟨c', y', n', hc, hy, hn, Option.some.inj h⟩
  · cases h

theorem toPatList_cons {c : GoNode} {cs : List GoNode} {ps : List Pat} (h : toPatList TPx d (c :: cs) = some ps) :
    ∃ b bs, toPat TPx d c = some b ∧ toPatList TPx d cs = some bs ∧ b :: bs = ps := by
  simp only [toPatList] at h
  split at h
  · next b bs hb hbs => exact ⟨b, bs, hb, hbs, Option.some.inj h⟩
  · cases h

end toPatInv

/-- everything that is fixed while one program runs on one input.  Needed only to call `node_computes`: the rules
    (`Computes.*`) take a `Setup` and an `EnvRel` alone -/
structure World where
  X : Setup
  TPx : TP
  /-- `w.caps` of the writer -/
  caps : Option (List (Int × Int))
  /-- the final string / set tables -/
  fin : Tables
  hrel : EnvRel TPx fin.sets X.env X.se
  hstr : X.p.strings = fin.strings.toArray
  hnsets : X.p.nsets = fin.sets.length
  hsl : ∀ g : Nat, X.sl g = (mapCapnum ⟨caps, none⟩ (g : Int)).toNat
  /-- the text is not longer than the "unbounded" repeat count `MaxInt32` -/
  hlen : X.se.n ≤ 2147483647
  /-- the tier up to which trees are considered in this world -/
  k : Nat
  /-- from tier 4 on (general loops: the iteration counter must stay below `MaxInt32`) the text is strictly shorter -/
  hlenS : 4 ≤ k → X.se.n < 2147483647
  /-- from tier 6 on (groups are read back) slots are group numbers -/
  hid : 6 ≤ k → ∀ g, X.sl g = g
  /-- from tier 6 on the engine is not in ECMAScript mode (where a reference to a group without capture matches the empty string;
      the specification has no such rule) -/
  hecma : 6 ≤ k → X.env.ecma = false

def World.cfg (W : World) : Cfg := ⟨W.caps, none⟩

theorem emitAlt_cons_cons (cfg : Cfg) (a fin : Nat) (tb : Tables) (c d : GoNode) (ds : List GoNode) :
    emitAlt cfg a fin tb (c :: d :: ds) =
      ([i1 opLazybranch ((a + 2 + size cfg c + 2 : Nat) : Int)] ++ (emitNode cfg (a + 2) tb c).1 ++ [i1 opGoto (fin : Int)] ++
        (emitAlt cfg (a + 2 + size cfg c + 2) fin (emitNode cfg (a + 2) tb c).2 (d :: ds)).1,
       (emitAlt cfg (a + 2 + size cfg c + 2) fin (emitNode cfg (a + 2) tb c).2 (d :: ds)).2) := by
  conv => lhs; rw [emitAlt]
  simp

theorem sizeAlt_cons_cons (cfg : Cfg) (c d : GoNode) (ds : List GoNode) :
    sizeAlt cfg (c :: d :: ds) = 2 + size cfg c + 2 + sizeAlt cfg (d :: ds) := by
  conv => lhs; rw [sizeAlt]
  simp

/-- the highest tier the simulation lemma covers -/
def maxTier : Nat := 8

section main
variable (W : World)

theorem slot_id (h6 : 6 ≤ W.k) {g : Int} (hg : 0 ≤ g) (hs : 0 ≤ mapCapnum W.cfg g) :
    mapCapnum W.cfg g = ((g.toNat : Nat) : Int) := by
  have h1 := W.hsl g.toNat
  rw [W.hid h6, Int.toNat_of_nonneg hg] at h1
  have h2 : (mapCapnum W.cfg g).toNat = g.toNat := h1.symm
  omega

theorem interned_get {tbl fin : List (List Nat)} {x : List Nat} (h : ∃ e, fin = (internKey id tbl x).2 ++ e) :
    fin[(internKey id tbl x).1]? = some x := by
  obtain ⟨e, rfl⟩ := h
  exact get_of_ext (internKey_get tbl x)

variable (hWk : W.k ≤ maxTier)
include hWk

mutual
/-- **the simulation lemma**: the code of a node of the fragment computes the specification's successes of its
    pattern -/
theorem node_computes : ∀ (n : GoNode) (d : Bool) (a : Nat) (tb : Tables) (pat : Pat),
    tier n ≤ W.k → toPat W.TPx d n = some pat → n.ok = true → capsOk W.cfg W.X.p.capsize n = true →
    boundsOk n = true → TabExt (emitNode W.cfg a tb n).2 W.fin → Computes W.X a (emitNode W.cfg a tb n).1 (m W.X.se pat d)
  | .empty => by
    intro d a tb pat _ hp _ _ _ _
    cases hp
    exact Computes.nil
  | .bare t => by
    intro d a tb pat _ hp _ _ _ _
    exact Computes.bare W.hrel hp
  | .char t rtl ci ch => by
    intro d a tb pat _ hp _ _ _ _
    obtain ⟨rfl, hch, hk⟩ := toPat_char hp
    rcases hk with ⟨rfl, rfl⟩ | ⟨rfl, rfl⟩
    · exact Computes.char W.hrel (by decide) (predOk_one W.X ch hch)
    · exact Computes.char W.hrel (by decide) (predOk_notone W.X ch hch)
  | .set rtl ci pl => by
    intro d a tb pat _ hp _ _ _ hext
    obtain ⟨⟨rfl, rfl⟩, cls, hrd, rfl⟩ := toPat_set hp
    exact Computes.char W.hrel (t := opSet) (by decide) (predOk_set W.hrel W.hnsets (interned_get hext.2) hrd)
  | .multi rtl ci str => by
    intro d a tb pat _ hp _ _ _ hext
    obtain ⟨⟨rfl, rfl⟩, rfl⟩ := toPat_multi hp
    have hget : W.X.p.strings[(internKey id tb.strings str).1]? = some str := by
      rw [W.hstr, List.getElem?_toArray]
      exact interned_get hext.1
    exact Computes.multi W.hrel hget
  | .ref rtl ci g => by
    intro d a tb pat ht hp _ hcaps _ _
    obtain ⟨⟨rfl, hg0⟩, rfl⟩ := toPat_ref hp
    simp only [tier] at ht
    obtain rfl : ci = false := by
      cases ci with
      | false => rfl
      | true => have := Nat.le_trans ht hWk; simp [maxTier] at this
    have h6 : 6 ≤ W.k := by simpa using ht
    have hslot := slotOk_iff.1 (by simpa [capsOk] using hcaps : slotOk W.cfg W.X.p.capsize g = true)
    have hsl := slot_id W h6 hg0 hslot.1
    simp only [emitNode, hsl]
    exact Computes.ref W.hrel (W.hid h6) (g := g.toNat) (by omega) (W.hecma h6)
  | .charloop t rtl ci ch lo hi => by
    intro d a tb pat _ hp _ _ hbd _ hcode i T S v C s hwf he
    obtain ⟨⟨⟨rfl, hch⟩, hty⟩, rfl⟩ := toPat_charloop hp
    rw [emitNode_size]
    simp only [emitNode] at hcode
    simp only [boundsOk, Bool.and_eq_true, decide_eq_true_eq] at hbd
    obtain ⟨⟨⟨_, h0⟩, hmn⟩, hn⟩ := hbd
    rcases charloop_families t hty with ⟨h1, h2, h3⟩ | ⟨h1, h2, h3⟩
    · simp only [h1, if_true] at hcode
      simp only [h3, Bool.false_eq_true, if_false]
      exact loopnode_delivers W.hrel W.hlen hwf he (List.mem_append_left _ hty) (Or.inl ⟨rfl, h2⟩) h0 hmn hn hcode
        (fun _ => h2 ▸ predOk_one W.X ch hch)
    · simp only [h1, Bool.false_eq_true, if_false] at hcode
      simp only [h3, if_true]
      exact loopnode_delivers W.hrel W.hlen hwf he (List.mem_append_left _ hty) (Or.inr (Or.inl ⟨rfl, h2⟩)) h0 hmn hn hcode
        (fun _ => h2 ▸ predOk_notone W.X ch hch)
  | .setloop t rtl ci pl lo hi => by
    intro d a tb pat _ hp _ _ hbd hext hcode i T S v C s hwf he
    obtain ⟨⟨⟨rfl, rfl⟩, hty⟩, cls, hrd, rfl⟩ := toPat_setloop hp
    rw [emitNode_size]
    simp only [emitNode, setKey_eq] at hcode hext
    simp only [boundsOk, Bool.and_eq_true, decide_eq_true_eq] at hbd
    obtain ⟨⟨h0, hmn⟩, hn⟩ := hbd
    have hpo : (lo > 0 ∨ hi > lo) → PredOk W.X 2 ((internKey id tb.sets pl).1 : Int) (.set cls false) := by
      intro hne
      have hcond : (decide (lo > 0) || decide (hi > lo)) = true := by
        rcases hne with h | h <;> simp [h]
      rw [if_pos hcond] at hext
      exact predOk_set W.hrel W.hnsets (interned_get hext.2) hrd
    exact loopnode_delivers W.hrel W.hlen hwf he (List.mem_append_right _ hty) (Or.inr (Or.inr ⟨rfl, setloop_family t hty⟩))
      h0 hmn hn hcode ((setloop_family t hty).symm ▸ hpo)
  | .concat cs => by
    intro d a tb pat ht hp hok hcaps hbd hext
    obtain ⟨ps, hps, rfl⟩ := toPat_concat hp
    exact (list_computes cs d a tb ps ht hps (Bool.and_eq_true_iff.1 hok).2 hcaps hbd hext).to rfl
      (funext fun st => (m_nestSeq_dir W.X.se d ps st).symm)
  | .alt cs => by
    intro d a tb pat ht hp hok hcaps hbd hext hcode i T S v C s hwf he
    obtain ⟨ps, hps, rfl⟩ := toPat_alt hp
    simp only [GoNode.ok, Bool.and_eq_true, Bool.not_eq_true'] at hok
    have hne : cs ≠ [] := by intro h; subst h; simp at hok
    rw [emitNode_size]
    exact alt_delivers cs d a (a + sizeAlt W.cfg cs) tb ps hne rfl ht hps hok.2 hcaps hbd hcode hext i T S v C s hwf he
  | .loop lzy lo hi c => by
    intro d a tb pat ht hp hok hcaps hbd hext
    obtain ⟨pc, hpc, rfl⟩ := toPat_loop hp
    simp only [boundsOk, Bool.and_eq_true, decide_eq_true_eq] at hbd
    obtain ⟨⟨⟨h0, hmn⟩, hnm⟩, hbc⟩ := hbd
    simp only [tier, Nat.max_le] at ht
    exact Computes.gloop W.hrel (W.hlenS ht.1) h0 hmn hnm (emitNode_size _ _ _ _)
      (node_computes c d (a + loopHeadLen lo hi) tb pc ht.2 hpc hok hcaps hbc hext)
  | .capture g n c => by
    intro d a tb pat ht hp hok hcaps hbd hext
    obtain ⟨⟨rfl, hg0⟩, pc, hpc, rfl⟩ := toPat_capture hp
    have hec : emitCapture W.cfg g (-1) = true := rfl
    simp only [capsOk, beq_self_eq_true, if_true, Bool.and_eq_true] at hcaps
    have hslot := slotOk_iff.1 hcaps.1
    have hsl : mapCapnum W.cfg g = (W.X.sl g.toNat : Int) := by
      rw [W.hsl, Int.toNat_of_nonneg hg0]
      exact (Int.toNat_of_nonneg hslot.1).symm
    simp only [emitNode, hec, if_true, mapCapnum_neg_one, hsl] at hext ⊢
    exact Computes.capture (g := g.toNat) (by omega) (node_computes c d (a + 1) tb pc ht hpc hok hcaps.2 hbd hext)
  | .group c => node_computes c
  | .poslook c => by
    intro d a tb pat ht hp hok hcaps hbd hext
    have htc : tier c ≤ W.k := by
      simp only [tier] at ht
      split at ht <;> (simp only [Nat.max_le] at ht; exact ht.2)
    obtain ⟨b, pc, _, hpc, rfl⟩ := toPat_look (neg := false) hp
    exact Computes.poslook W.hrel (node_computes c b (a + 2) tb pc htc hpc hok hcaps hbd hext)
  | .neglook c => by
    intro d a tb pat ht hp hok hcaps hbd hext
    have htc : tier c ≤ W.k := by
      simp only [tier] at ht
      split at ht <;> (simp only [Nat.max_le] at ht; exact ht.2)
    obtain ⟨b, pc, _, hpc, rfl⟩ := toPat_look (neg := true) hp
    exact Computes.neglook (emitNode_size _ _ _ _) (node_computes c b (a + 3) tb pc htc hpc hok hcaps hbd hext)
  | .atomic c => by
    intro d a tb pat ht hp hok hcaps hbd hext
    obtain ⟨pc, hpc, rfl⟩ := toPat_atomic hp
    simp only [tier, Nat.max_le] at ht
    exact Computes.atomic (node_computes c d (a + 1) tb pc ht.2 hpc hok hcaps hbd hext)
  | .backrefcond1 g y => by
    intro d a tb pat ht hp hok hcaps hbd hext
    simp only [tier, Nat.max_le] at ht
    obtain ⟨hg0, py, hpy, rfl⟩ := toPat_backrefcond1 hp
    simp only [capsOk, Bool.and_eq_true] at hcaps
    have hslot := slotOk_iff.1 hcaps.1
    have hsl := slot_id W ht.1 hg0 hslot.1
    simp only [emitNode, hsl]
    exact (Computes.backrefcond (szn := 0) (ncode := []) (W.hid ht.1) (g := g.toNat) (by omega) (emitNode_size _ _ _ _) rfl
      (node_computes y d (a + 6) tb py ht.2 hpy hok hcaps.2 hbd hext) Computes.nil).to (List.append_nil _) rfl
  | .backrefcond2 g y n => by
    intro d a tb pat ht hp hok hcaps hbd hext
    simp only [tier, Nat.max_le] at ht
    obtain ⟨hg0, py, pn, hpy, hpn, rfl⟩ := toPat_backrefcond2 hp
    simp only [capsOk, GoNode.ok, boundsOk, Bool.and_eq_true] at hcaps hok hbd
    have hslot := slotOk_iff.1 hcaps.1.1
    have hsl := slot_id W ht.1 hg0 hslot.1
    simp only [emitNode, hsl]
    exact Computes.backrefcond (W.hid ht.1) (g := g.toNat) (by omega) (emitNode_size _ _ _ _) (emitNode_size _ _ _ _)
      (node_computes y d (a + 6) tb py ht.2.1 hpy hok.1 hcaps.1.2 hbd.1 ((emitNode_ext W.cfg n _ _ hok.2).trans hext))
      (node_computes n d (a + 6 + size W.cfg y + 3) _ pn ht.2.2 hpn hok.2 hcaps.2 hbd.2 hext)
  | .exprcond2 c y => by
    intro d a tb pat ht hp hok hcaps hbd hext
    simp only [tier, Nat.max_le] at ht
    obtain ⟨pc, py, hpc, hpy, rfl⟩ := toPat_exprcond2 hp
    simp only [capsOk, GoNode.ok, boundsOk, Bool.and_eq_true] at hcaps hok hbd
    exact (Computes.exprcond (szn := 0) (ncode := []) W.hrel (emitNode_size _ _ _ _) (emitNode_size _ _ _ _) rfl
      (node_computes c d (a + 4) tb pc ht.2.1 hpc hok.1 hcaps.1 hbd.1 ((emitNode_ext W.cfg y _ _ hok.2).trans hext))
      (node_computes y d (a + 4 + size W.cfg c + 2) _ py ht.2.2 hpy hok.2 hcaps.2 hbd.2 hext) Computes.nil).to
      (List.append_nil _) rfl
  | .exprcond3 c y n => by
    intro d a tb pat ht hp hok hcaps hbd hext
    simp only [tier, Nat.max_le] at ht
    obtain ⟨pc, py, pn, hpc, hpy, hpn, rfl⟩ := toPat_exprcond3 hp
    simp only [capsOk, GoNode.ok, boundsOk, Bool.and_eq_true] at hcaps hok hbd
    have hexty := (emitNode_ext W.cfg n _ _ hok.2).trans hext
    exact Computes.exprcond W.hrel (emitNode_size _ _ _ _) (emitNode_size _ _ _ _) (emitNode_size _ _ _ _)
      (node_computes c d (a + 4) tb pc ht.2.1 hpc hok.1.1 hcaps.1.1 hbd.1.1 ((emitNode_ext W.cfg y _ _ hok.1.2).trans hexty))
      (node_computes y d (a + 4 + size W.cfg c + 2) _ py ht.2.2.1 hpy hok.1.2 hcaps.1.2 hbd.1.2 hexty)
      (node_computes n d (a + 4 + size W.cfg c + 2 + size W.cfg y + 4) _ pn ht.2.2.2 hpn hok.2 hcaps.2 hbd.2 hext)
  | .other t => by
    intro d a tb pat ht
    have ht := Nat.le_trans ht hWk; simp [tier, maxTier] at ht
theorem list_computes : ∀ (cs : List GoNode) (d : Bool) (a : Nat) (tb : Tables) (ps : List Pat),
    tierList cs ≤ W.k → toPatList W.TPx d cs = some ps → okList cs = true →
    capsOkList W.cfg W.X.p.capsize cs = true → boundsOkList cs = true → TabExt (emitList W.cfg a tb cs).2 W.fin →
    Computes W.X a (emitList W.cfg a tb cs).1 (seqList W.X.se d ps)
  | [] => by
    intro d a tb ps _ hp _ _ _ _
    cases hp
    exact Computes.nil
  | c :: cs => by
    intro d a tb ps ht hp hok hcaps hbd hext
    obtain ⟨pc, ps', hpc, hps, rfl⟩ := toPatList_cons hp
    simp only [okList, capsOkList, boundsOkList, Bool.and_eq_true] at hok hcaps hbd
    simp only [tierList, Nat.max_le] at ht
    exact (node_computes c d a tb pc ht.1 hpc hok.1 hcaps.1 hbd.1 ((emitList_ext W.cfg cs _ _ hok.2).trans hext)).seq
      ((list_computes cs d (a + size W.cfg c) _ ps' ht.2 hps hok.2 hcaps.2 hbd.2 hext).at (by rw [emitNode_size]))
      (m_wf W.X.se pc d)
/-- `Alternate`: `Lazybranch next; ⟨branch⟩; Goto end` for every branch but the last -/
theorem alt_delivers : ∀ (cs : List GoNode) (d : Bool) (a fin : Nat) (tb : Tables) (ps : List Pat), cs ≠ [] →
    fin = a + sizeAlt W.cfg cs → tierList cs ≤ W.k → toPatList W.TPx d cs = some ps → okList cs = true →
    capsOkList W.cfg W.X.p.capsize cs = true → boundsOkList cs = true →
    CodeAt W.X.p a (emitAlt W.cfg a fin tb cs).1 → TabExt (emitAlt W.cfg a fin tb cs).2 W.fin →
    ∀ (i : Nat) (T S : List Int) (v : Int) (C : List (Nat × Nat × Nat)) (s : VMState), St.wf W.X.se.n ⟨i, C⟩ →
      Entry W.X a i (T ++ [v]) S C s → Delivers W.X fin T S S C (m W.X.se (nestAlt ps) d ⟨i, C⟩) s
  | [] => fun _ _ _ _ _ hne => absurd rfl hne
  | c :: cs => by
    intro d a fin tb ps _ hfin ht hp hok hcaps hbd hcode hext i T S v C s hwf he
    obtain ⟨pc, ps', hpc, hps, rfl⟩ := toPatList_cons hp
    simp only [okList, capsOkList, boundsOkList, Bool.and_eq_true] at hok hcaps hbd
    simp only [tierList, Nat.max_le] at ht
    cases cs with
    | nil =>
      cases hps
      subst hfin
      exact (node_computes c d a tb pc ht.1 hpc hok.1 hcaps.1 hbd.1 hext hcode i T S v C s hwf he).cast
        (by rw [emitNode_size]; simp [sizeAlt]) rfl
    | cons d0 ds =>
      rw [emitAlt_cons_cons] at hcode hext
      rw [sizeAlt_cons_cons] at hfin
      simp only [List.append_assoc, List.cons_append, List.nil_append] at hcode hext
      rw [m_nestAlt_cons]
      obtain ⟨hlb, h⟩ := hcode.cons1
      obtain ⟨hc2, h⟩ := h.app
      rw [emitNode_size] at h
      obtain ⟨hgo, hc4⟩ := h.cons1
      have hffin : ∃ w, VM.fetch W.X.p fin = .ok w :=
        hc4.fetch_at _ (List.append_nil _).symm (by rw [emitAlt_size, hfin]; omega)
      refine Delivers.of_leads (lazybranch_leads he hlb hc2.fetch_start) fun s1 he1 => ?_
      refine Delivers.append (Sm := S) (C1 := C) (F := [(a : Int), (i : Int)]) (lazybranch_frame hlb _) _ s1 ?_ fun s'' v' hf => ?_
      · exact (emitNode_size W.cfg c _ tb ▸ node_computes c d (a + 2) tb pc ht.1 hpc hok.1 hcaps.1 hbd.1
          ((emitAlt_ext W.cfg _ _ _ _ hok.2).trans hext) hc2 i ([(a : Int), (i : Int)] ++ T) S v C s1 hwf he1 :
            Delivers W.X (a + 2 + size W.cfg c) _ S S C _ s1).goto hgo hffin
      · refine Delivers.of_leads (lazybranch_back hf hlb hc4.fetch_start) fun s2 he2 => ?_
        exact alt_delivers (d0 :: ds) d (a + 2 + size W.cfg c + 2) fin _ ps' (by simp) (by rw [hfin]; omega) ht.2 hps
          hok.2 hcaps.2 hbd.2 hc4 hext i T S v' C s2 hwf he2
end

/-- `Concatenate`, as a statement about states -/
theorem list_delivers : ∀ (cs : List GoNode) (d : Bool) (a : Nat) (tb : Tables) (ps : List Pat),
    tierList cs ≤ W.k → toPatList W.TPx d cs = some ps → okList cs = true →
    capsOkList W.cfg W.X.p.capsize cs = true → boundsOkList cs = true →
    CodeAt W.X.p a (emitList W.cfg a tb cs).1 → TabExt (emitList W.cfg a tb cs).2 W.fin →
    ∀ (i : Nat) (T S : List Int) (v : Int) (C : List (Nat × Nat × Nat)) (s : VMState), St.wf W.X.se.n ⟨i, C⟩ →
      Entry W.X a i (T ++ [v]) S C s → Delivers W.X (a + sizeList W.cfg cs) T S S C (seqList W.X.se d ps ⟨i, C⟩) s :=
  fun cs d a tb ps ht hp hok hcaps hbd hcode hext i T S v C s hwf he =>
    emitList_size W.cfg cs a tb ▸ list_computes W hWk cs d a tb ps ht hp hok hcaps hbd hext hcode i T S v C s hwf he

end main

end RegexVerif.Compile
