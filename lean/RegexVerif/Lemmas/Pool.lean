/-
The BUFFER pools (`Model/Pool.lean`: `Pool.get`, `Pool.put`, invariant `Lemmas.Pool.Inv`, a held buffer has its
class's capacity).  `poolIndex` returns the smallest class that fits and, in an ascending class list, files a class
capacity under its own class (`poolIndex_self`, for `max = -1`, the value `put` passes: no upper bound); `inv_get`,
`inv_put`, `put_held`, `put_drop`, `get_cap`, `get_len_cap` say what `get` and `put` keep, file and hand out.
The pooled RUNNER (`RunnerReuse.put` = `putRunner`, invariant `PoolInv`, `poolInv_put`) is in Lemmas/RunnerReuse.lean.
-/
import RegexVerif.Model.Pool

namespace RegexVerif.Lemmas.Pool
open RegexVerif.Pool

/-- `i` is the position of the head of `cs` in the whole class list: the result `r` counts from there, and
    `cs` is indexed by `r - i` -/
theorem poolIndexFrom_spec (needed : Nat) (max : Int) :
    ∀ (cs : List Nat) (i r : Nat), poolIndexFrom needed max cs i = some r →
      i ≤ r ∧ r - i < cs.length ∧ needed ≤ cs.getD (r - i) 0 ∧ (max > 0 → (cs.getD (r - i) 0 : Int) ≤ max) ∧
      ∀ j, j < r - i → cs.getD j 0 < needed := by
  intro cs
  induction cs with
  | nil => intro i r h; simp [poolIndexFrom] at h
  | cons c cs ih =>
    intro i r h
    simp only [poolIndexFrom] at h
    by_cases hc : needed ≤ c
    · simp only [hc, if_true] at h
      by_cases hm : max > 0 ∧ (c : Int) > max
      · simp [hm] at h
      · simp only [hm, if_false, Option.some.injEq] at h
        subst h
        refine ⟨Nat.le_refl _, by simp, by simpa using hc, ?_, by intro j hj; omega⟩
        intro hpos
        simp only [Nat.sub_self, List.getD_cons_zero]
        have : ¬ (c : Int) > max := fun h' => hm ⟨hpos, h'⟩
        omega
    · simp only [hc, if_false] at h
      obtain ⟨h1, h2, h3, h4, h5⟩ := ih (i + 1) r h
      have e : r - i = (r - (i + 1)) + 1 := by omega
      refine ⟨by omega, by simp only [List.length_cons]; omega, ?_, ?_, ?_⟩
      · rw [e, List.getD_cons_succ]; exact h3
      · rw [e, List.getD_cons_succ]; exact h4
      · intro j hj
        cases j with
        | zero => simp only [List.getD_cons_zero]; omega
        | succ j => rw [List.getD_cons_succ]; exact h5 j (by omega)

theorem poolIndex_spec {sizes : List Nat} {needed : Nat} {max : Int} {r : Nat}
    (h : poolIndex sizes needed max = some r) :
    max ≠ 0 ∧ r < sizes.length ∧ needed ≤ sizes.getD r 0 ∧ (max > 0 → (sizes.getD r 0 : Int) ≤ max) ∧
    ∀ j, j < r → sizes.getD j 0 < needed := by
  unfold poolIndex at h
  by_cases hm : max = 0
  · simp [hm] at h
  · simp only [hm, if_false] at h
    have := poolIndexFrom_spec needed max sizes 0 r h
    simpa [hm] using this

theorem poolIndex_lt {sizes : List Nat} {needed : Nat} {max : Int} {r : Nat}
    (h : poolIndex sizes needed max = some r) : r < sizes.length :=
  (poolIndex_spec h).2.1

theorem poolIndexFrom_self (max : Int) (hmax : max < 0) :
    ∀ (cs : List Nat) (i k : Nat), cs.Pairwise (· < ·) → k < cs.length →
      poolIndexFrom (cs.getD k 0) max cs i = some (i + k) := by
  intro cs
  induction cs with
  | nil => intro i k _ hk; simp at hk
  | cons c cs ih =>
    intro i k hs hk
    have hs' := List.pairwise_cons.mp hs
    cases k with
    | zero =>
      simp only [List.getD_cons_zero, poolIndexFrom, Nat.le_refl, if_true, Nat.add_zero]
      have : ¬ (max > 0 ∧ (c : Int) > max) := by omega
      simp [this]
    | succ k =>
      simp only [List.getD_cons_succ, poolIndexFrom]
      have hk' : k < cs.length := by simpa using hk
      have hlt : c < cs.getD k 0 := by
        have : cs.getD k 0 = cs[k] := by simp [List.getD, hk']
        rw [this]; exact hs'.1 _ (List.getElem_mem hk')
      have : ¬ cs.getD k 0 ≤ c := by omega
      simp only [this, if_false]
      rw [ih (i + 1) k hs'.2 hk']
      congr 1; omega

theorem poolIndex_self {sizes : List Nat} (hs : sizes.Pairwise (· < ·)) {k : Nat} (hk : k < sizes.length) :
    poolIndex sizes (sizes.getD k 0) (-1) = some k := by
  unfold poolIndex
  simp only [show ¬ ((-1 : Int) = 0) by omega, if_false]
  have := poolIndexFrom_self (-1) (by omega) sizes 0 k hs hk
  simpa using this

theorem removeAt_eq_eraseIdx {α : Type} (xs : List α) (j : Nat) : removeAt xs j = xs.eraseIdx j := by
  induction xs generalizing j with
  | nil => rfl
  | cons x xs ih => cases j with
    | zero => rfl
    | succ j => simp [removeAt, ih]

theorem mem_removeAt {α : Type} (xs : List α) (j : Nat) (x : α) (h : x ∈ removeAt xs j) : x ∈ xs :=
  List.mem_of_mem_eraseIdx (removeAt_eq_eraseIdx xs j ▸ h)

theorem get_len_cap (p : Pools) (needed : Nat) (max : Int) (pick : Option Nat) :
    (get p needed max pick).buf.len = needed ∧ needed ≤ (get p needed max pick).buf.cap := by
  unfold Pool.get
  cases hi : poolIndex p.sizes needed max with
  | none => simp [Buf.make, Buf.cap]
  | some idx =>
    have hfit := (poolIndex_spec hi).2.2.1
    simp only [List.getD_eq_getElem?_getD] at hfit
    cases pick with
    | none => simp [Buf.make, Buf.cap, hfit]
    | some j =>
      simp only
      cases hb : (p.held.getD idx [])[j]? with
      | none => simp [Buf.make, Buf.cap, hfit]
      | some b =>
        simp only
        by_cases hc : b.cap ≥ needed
        · rw [if_pos hc]; exact ⟨rfl, hc⟩
        · rw [if_neg hc]; simp [Buf.make, Buf.cap, hfit]

/-- the pool invariant: one holder list per class, and every held buffer has exactly the class's
    capacity -/
def Inv (p : Pools) : Prop :=
  p.held.length = p.sizes.length ∧
  ∀ i, i < p.held.length → ∀ b ∈ p.held.getD i [], b.cap = p.sizes.getD i 0

theorem inv_new (sizes : List Nat) : Inv (Pools.new sizes) := by
  refine ⟨by simp [Pools.new], ?_⟩
  intro i hi b hb
  simp only [Pools.new, List.length_map] at hi
  simp [Pools.new, List.getD, hi] at hb

theorem inv_set {p : Pools} (h : Inv p) (idx : Nat) (l : List Buf)
    (hl : ∀ b ∈ l, b.cap = p.sizes.getD idx 0) : Inv { p with held := p.held.set idx l } := by
  refine ⟨by simpa using h.1, ?_⟩
  intro i hi b hb
  simp only [List.length_set] at hi
  by_cases hidx : idx = i
  · subst hidx
    have : (p.held.set idx l).getD idx [] = l := by simp [List.getD, hi]
    rw [this] at hb
    exact hl b hb
  · have : (p.held.set idx l).getD i [] = p.held.getD i [] := by
      simp [List.getD, hidx]
    rw [this] at hb
    exact h.2 i hi b hb

theorem inv_get {p : Pools} (h : Inv p) (needed : Nat) (max : Int) (pick : Option Nat) :
    Inv (get p needed max pick).pools := by
  unfold Pool.get
  cases hi : poolIndex p.sizes needed max with
  | none => exact h
  | some idx =>
    cases pick with
    | none => exact h
    | some j =>
      simp only
      cases hb : (p.held.getD idx [])[j]? with
      | none => exact h
      | some b =>
        have hidx : idx < p.held.length := by rw [h.1]; exact poolIndex_lt hi
        have hrem : Inv { p with held := p.held.set idx (removeAt (p.held.getD idx []) j) } :=
          inv_set h idx _ (fun x hx => h.2 idx hidx x (mem_removeAt _ _ _ hx))
        simp only
        by_cases hc : b.cap ≥ needed
        · rw [if_pos hc]; exact hrem
        · rw [if_neg hc]; exact hrem

theorem inv_put {p : Pools} (h : Inv p) (b : Buf) : Inv (put p b) := by
  unfold put
  cases hi : poolIndex p.sizes b.cap (-1) with
  | none => exact h
  | some idx =>
    simp only
    by_cases hne : b.cap ≠ p.sizes.getD idx 0
    · rw [if_pos hne]; exact h
    · rw [if_neg hne]
      have hidx : idx < p.held.length := by rw [h.1]; exact poolIndex_lt hi
      apply inv_set h
      intro x hx
      simp only [List.mem_cons] at hx
      cases hx with
      | inl hx => subst hx; simp only [Buf.cap] at hne ⊢; omega
      | inr hx => exact h.2 idx hidx x hx

theorem put_held {p : Pools} (hs : p.sizes.Pairwise (· < ·)) (h : Inv p) (b : Buf) (i : Nat) (hi : i < p.sizes.length)
    (hcap : b.cap = p.sizes.getD i 0) : (put p b).held.getD i [] = { b with len := 0 } :: p.held.getD i [] := by
  unfold put
  rw [hcap, poolIndex_self hs hi]
  have hidx : i < p.held.length := by rw [h.1]; exact hi
  simp [List.getD, hidx]

theorem put_drop (p : Pools) (b : Buf) (hno : ∀ i, i < p.sizes.length → b.cap ≠ p.sizes.getD i 0) : put p b = p := by
  unfold put
  cases hi : poolIndex p.sizes b.cap (-1) with
  | none => rfl
  | some idx =>
    have := hno idx (poolIndex_lt hi)
    simp only []
    rw [if_pos this]

theorem get_cap {p : Pools} (h : Inv p) (needed : Nat) (max : Int) (pick : Option Nat) (idx : Nat)
    (hi : poolIndex p.sizes needed max = some idx) :
    (get p needed max pick).pooled = true ∧ (get p needed max pick).buf.cap = p.sizes.getD idx 0 := by
  unfold Pool.get
  rw [hi]
  cases pick with
  | none => simp [Buf.make, Buf.cap]
  | some j =>
    simp only
    cases hb : (p.held.getD idx [])[j]? with
    | none => simp [Buf.make, Buf.cap]
    | some b =>
      have hidx : idx < p.held.length := by rw [h.1]; exact poolIndex_lt hi
      have hbcap := h.2 idx hidx b (List.mem_of_getElem? hb)
      simp only
      by_cases hc : b.cap ≥ needed
      · rw [if_pos hc]; exact ⟨rfl, hbcap⟩
      · rw [if_neg hc]; simp [Buf.make, Buf.cap]

end RegexVerif.Lemmas.Pool
