/-
Exact evaluation on known text, and the condition of an ExprCond, `(?(expr)yes|no)`.

When the text at the position is known (`E.pat.drop s.pos = …`), the head of a turn of `scanRegex` is an equation between
`Res` values: a run of ordinary runes is passed and joins the concatenation, and the turn goes on with the special rune
behind it (`Stop`: `scanStep_stop`) or ends with the pattern (`scanStep_end`).  `Lemmas/EscapeFull.lean` evaluates the
parser on `escape isPrint s` (Go's `Escape(s)`) with these.  Here they serve the one place where the shape of the tree
depends on positions: `condExpr` goes back to the inner `(` and sets `ignoreNextParen` (`Rew`), so the next turn skips
nothing, does not take the `(` for `(?P=`, and opens the group that becomes the condition before `addGroup` can close
the ExprCond (`scanStep_rew`); and while an ExprCond waits for its condition, `scanGroupOpen` does open a group.
-/
import RegexVerif.Lemmas.ParserPartial

namespace RegexVerif.Parser
open RegexVerif.EscapeParse (isSpaceCh isSpecialCh isQuantCh isDigitCh isTrueQuant isTrueBrace dropDigits)
variable (E : Env)

/-! ## The head of a turn on known text -/

/-- nothing `scanBlank` skips stands at the head of the text: under IgnorePatternWhitespace no blank and no `#`, and in
    either mode no `(?#`.  (`BlankAt E s` of `Lemmas/Parser.lean` is the negation of `NoBlank s.options.x (E.pat.drop s.pos)`
    in index form, for the totality chain; no lemma relates the two.) -/
def NoBlank (x : Bool) (l : List Nat) : Prop :=
  ∀ c tl, l = c :: tl → (x = true → isSpaceCh c = false ∧ c ≠ 35) ∧
    ¬(c = 40 ∧ tl.head? = some 63 ∧ tl.tail.head? = some 35)

theorem scanBlank_id (s : PS) (h : NoBlank s.options.x (E.pat.drop s.pos)) : scanBlank E s = .ok () s := by
  unfold scanBlank
  cases hd : E.pat.drop s.pos with
  | nil => simp [blankGo]
  | cons c tl =>
    obtain ⟨h1, h2⟩ := h c tl hd
    have hb : blankGo s.options.x .normal (c :: tl) 0 = (0, false) := by
      rw [blankGo, if_neg, if_neg, if_neg h2]
      · intro hh
        simp only [Bool.and_eq_true, beq_iff_eq] at hh
        exact (h1 hh.1).2 hh.2
      · intro hh
        simp only [Bool.and_eq_true] at hh
        rw [(h1 hh.1).1] at hh
        cases hh.2
    rw [hb]
    rfl

/-- the rune `c` before the text `tl` ends a run of ordinary runes and is the special rune of the turn: special, no
    quantifier, and not the `(` of a `(?#` comment -/
def Stop (c : Nat) (tl : List Nat) : Prop :=
  isSpecialCh c = true ∧ isQuantCh c = false ∧ ¬(c = 40 ∧ tl.head? = some 63 ∧ tl.tail.head? = some 35)

/-- the text is empty or starts with an ordinary rune or a `Stop` rune: neither a blank nor a quantifier stands at its
    head -/
def Quiet (l : List Nat) : Prop := ∀ c tl, l = c :: tl → isStopperXCh c = false ∨ Stop c tl

theorem quiet_ord {c : Nat} (h : isStopperXCh c = false) (tl : List Nat) : Quiet (c :: tl) :=
  fun _ _ e => by cases e; exact .inl h

theorem special_not_blank {c : Nat} (h : isSpecialCh c = true) : isSpaceCh c = false ∧ c ≠ 35 := by
  simp only [isSpecialCh, List.contains_iff_mem, List.mem_cons, List.not_mem_nil, or_false] at h
  rcases h with rfl | rfl | rfl | rfl | rfl | rfl | rfl | rfl | rfl | rfl | rfl | rfl <;> decide

theorem Quiet.noBlank {l : List Nat} (h : Quiet l) (x : Bool) : NoBlank x l := by
  intro c tl e
  rcases h c tl e with h | h
  · simp only [isStopperXCh, Bool.or_eq_false_iff, beq_eq_false_iff_ne] at h
    exact ⟨fun _ => h.1, fun hc => by rw [hc.1] at h; exact absurd h.2 (by decide)⟩
  · exact ⟨fun _ => special_not_blank h.1, h.2.2⟩

theorem Quiet.noQuant {c : Nat} {tl : List Nat} (h : Quiet (c :: tl)) : isTrueQuant c tl = false := by
  have hq : isQuantCh c = false := by
    rcases h c tl rfl with h | h
    · simp only [isStopperXCh, Bool.or_eq_false_iff] at h
      cases hqc : isQuantCh c with
      | false => rfl
      | true =>
        simp only [isQuantCh, List.contains_iff_mem, List.mem_cons, List.not_mem_nil, or_false] at hqc
        rcases hqc with rfl | rfl | rfl | rfl <;> exact absurd h.2 (by decide)
    · exact h.2.1
  have h123 : c ≠ 123 := fun e => by subst e; exact absurd hq (by decide)
  simp [isTrueQuant, h123, hq]

theorem isTrueQuantifier_quiet (s : PS) (h : Quiet (E.pat.drop s.pos)) : isTrueQuantifier E s = .ok false s := by
  unfold isTrueQuantifier
  cases hd : E.pat.drop s.pos with
  | nil => rfl
  | cons c tl => rw [hd] at h; simp [h.noQuant]

/-! the three reads of the text at the position, in terms of the text that is left -/

theorem charsRight_drop (s : PS) : charsRight E s = .ok (E.pat.drop s.pos).length s := by
  unfold charsRight; rw [List.length_drop]

theorem rightChar_drop {s : PS} {c : Nat} {tl : List Nat} (hD : E.pat.drop s.pos = c :: tl) :
    rightChar E 0 s = .ok c s := by
  unfold rightChar; simp [(drop_cons_facts E hD).2.1]

theorem moveRightGetChar_drop {s : PS} {c : Nat} {tl : List Nat} (hD : E.pat.drop s.pos = c :: tl) :
    moveRightGetChar E s = .ok c { s with pos := s.pos + 1 } := by
  simp [moveRightGetChar, bind, M.bind, rightChar_drop E hD, moveRight, modify, pure, M.pure]

theorem stepHead_stop (s : PS) (c : Nat) (tl : List Nat) (hD : E.pat.drop s.pos = c :: tl) (h : Stop c tl) :
    stepHead E s = .ok (c, false) { s with pos := s.pos + 1 } := by
  unfold stepHead
  simp [bind, M.bind, charsRight_drop, hD, pure, M.pure, rightChar_drop E hD, h.1, h.2.1, moveRight, modify]

theorem stepHead_end (s : PS) (hD : E.pat.drop s.pos = []) : stepHead E s = .ok (33, false) s := by
  unfold stepHead
  simp [bind, M.bind, charsRight_drop, hD, pure, M.pure]

theorem drop_add_of_append {l p tl : List Nat} {k : Nat} (h : l.drop k = p ++ tl) :
    l.drop (k + p.length) = tl ∧ p.length + tl.length = l.length - k := by
  constructor
  · rw [← List.drop_drop, h]; simp
  · have := congrArg List.length h
    simp at this; omega

theorem iter_inl {β γ : Type} (f : β → M (Sum β γ)) (n : Nat) (b b' : β) (s s' : PS)
    (h : f b s = .ok (.inl b') s') : iter f (n + 1) b s = iter f n b' s' := by
  simp only [iter, h]

theorem iter_inr {β γ : Type} (f : β → M (Sum β γ)) (n : Nat) (b : β) (c : γ) (s s' : PS)
    (h : f b s = .ok (.inr c) s') : iter f (n + 1) b s = .ok c s' := by
  simp only [iter, h]

theorem skipOrdinary_run (p : List Nat) : ∀ (s : PS) (tl : List Nat) (n : Nat),
    E.pat.drop s.pos = p ++ tl → (∀ x ∈ p, isStopperXCh x = false) → (∀ c tl', tl = c :: tl' → Stop c tl') →
    p.length < n → skipOrdinary E n s = .ok () { s with pos := s.pos + p.length } := by
  induction p with
  | nil =>
    intro s tl n hD _ htl hn
    obtain ⟨n, rfl⟩ : ∃ m, n = m + 1 := ⟨n - 1, by simp at hn; omega⟩
    simp only [List.nil_append] at hD
    unfold skipOrdinary
    refine iter_inr _ _ _ _ _ _ ?_
    cases tl with
    | nil => simp [bind, M.bind, charsRight_drop, hD, pure, M.pure]
    | cons c tl' =>
      have h := htl c tl' rfl
      have h1 : isStopperXCh c = true := by simp [isStopperXCh, h.1]
      have h123 : c ≠ 123 := by intro e; subst e; exact absurd h.2.1 (by decide)
      cases hx : s.options.x <;>
        simp [bind, M.bind, charsRight_drop, pure, M.pure, opts, rightChar_drop E hD, hx, h1, h.1, h123, isTrueQuantifier, hD]
  | cons x p ih =>
    intro s tl n hD hord htl hn
    obtain ⟨n, rfl⟩ : ∃ m, n = m + 1 := ⟨n - 1, by simp at hn; omega⟩
    simp only [List.cons_append] at hD
    have h1 : isStopperXCh x = false := hord x (by simp)
    have h2 : isSpecialCh x = false := by
      simp only [isStopperXCh, Bool.or_eq_false_iff] at h1; exact h1.2
    have := ih { s with pos := s.pos + 1 } tl n (drop_cons_facts E hD).2.2 (fun y hy => hord y (by simp [hy])) htl
      (by simp at hn; omega)
    unfold skipOrdinary at this ⊢
    refine (iter_inl _ _ _ () _ { s with pos := s.pos + 1 } ?_).trans ?_
    · simp [bind, M.bind, charsRight_drop, pure, M.pure, opts, rightChar_drop E hD, isTrueQuantifier, hD, h1, h2, moveRight,
        modify]
    · rw [this]
      simp [Nat.add_assoc, Nat.add_comm 1]

theorem quiet_run {p tl : List Nat} (hord : ∀ x ∈ p, isStopperXCh x = false) (htl : Quiet tl) : Quiet (p ++ tl) := by
  cases p with
  | nil => exact htl
  | cons c p => exact quiet_ord (hord c (by simp)) _

theorem stepRun_run (s : PS) (p tl : List Nat) (hD : E.pat.drop s.pos = p ++ tl)
    (hord : ∀ x ∈ p, isStopperXCh x = false) (htl : ∀ c tl', tl = c :: tl' → Stop c tl') :
    stepRun E s = .ok (s.pos, s.pos + p.length) { s with pos := s.pos + p.length } := by
  obtain ⟨hd1, hlen⟩ := drop_add_of_append hD
  have hq : Quiet tl := fun c tl' e => .inr (htl c tl' e)
  have e1 := scanBlank_id E s (hD ▸ (quiet_run hord hq).noBlank _)
  have e2 := skipOrdinary_run E p s tl (E.pat.length - s.pos + 1) hD hord htl (by omega)
  have e3 := scanBlank_id E { s with pos := s.pos + p.length } (by rw [hd1]; exact hq.noBlank _)
  unfold stepRun
  simp only [bind, M.bind, e1, textpos, charsRight, e2, e3, pure, M.pure]

theorem addToConcatenate_run (s : PS) (sp : Nat) (p tl : List Nat) (hD : E.pat.drop sp = p ++ tl) :
    addToConcatenate E sp p.length s =
      .ok () { s with concatenation := addKids s.concatenation (runKidsG E s.options p) } := by
  obtain ⟨_, hle⟩ := drop_add_of_append hD
  rw [addToConcatenate_eq, if_neg (by omega), hD, List.take_left']
  rfl

theorem stepLiteral_same (p : Nat) (isQ b : Bool) (s : PS) : stepLiteral E p p isQ b s = .ok b s := by
  unfold stepLiteral
  simp [pure, M.pure]

theorem stepLiteral_run (s : PS) (sp : Nat) (p tl : List Nat) (b : Bool) (hD : E.pat.drop sp = p ++ tl) :
    stepLiteral E sp (sp + p.length) false b s =
      .ok (if p = [] then b else false)
        { s with concatenation := addKids s.concatenation (runKidsG E s.options p) } := by
  cases p with
  | nil => simpa [runKidsG, addKids] using stepLiteral_same E sp false b s
  | cons c p =>
    have hlt : sp < sp + (c :: p).length := by simp
    have h := addToConcatenate_run E s sp (c :: p) tl hD
    have hpos : (c :: p).length > 0 := by simp
    unfold stepLiteral
    simp only [hlt, if_true, Bool.false_eq_true, if_false, Nat.sub_zero, Nat.add_sub_cancel_left, hpos]
    simp only [List.length_cons] at h
    simp [bind, M.bind, h, pure, M.pure]

/-- a turn on a run of ordinary runes before a `Stop` rune: the run joins the concatenation, the switch is entered on
    the rune -/
theorem scanStep_stop (s : PS) (p : List Nat) (c : Nat) (tl : List Nat) (b : Bool)
    (hD : E.pat.drop s.pos = p ++ c :: tl) (hord : ∀ x ∈ p, isStopperXCh x = false) (hst : Stop c tl) :
    scanStep E b s = stepSwitch E s.options c false (if p = [] then b else false)
      { s with pos := s.pos + p.length + 1, concatenation := addKids s.concatenation (runKidsG E s.options p) } := by
  obtain ⟨hd1, _⟩ := drop_add_of_append hD
  have e1 := stepRun_run E s p _ hD hord (fun _ _ e => by cases e; exact hst)
  have e4 := stepHead_stop E { s with pos := s.pos + p.length } c tl hd1 hst
  have e5 := stepLiteral_run E { s with pos := s.pos + p.length + 1 } s.pos p _ b hD
  have hne : c ≠ 33 ∧ c ≠ 32 :=
    ⟨fun e => by subst e; exact absurd hst.1 (by decide), fun e => by subst e; exact absurd hst.1 (by decide)⟩
  unfold scanStep
  simp [bind, M.bind, opts, e1, e4, e5, hne.1, hne.2]

/-- … before the end of the pattern: `BreakOuterScan` -/
theorem scanStep_end (s : PS) (p : List Nat) (b : Bool) (hD : E.pat.drop s.pos = p)
    (hord : ∀ x ∈ p, isStopperXCh x = false) :
    scanStep E b s = .ok (.inr ())
      { s with pos := s.pos + p.length, concatenation := addKids s.concatenation (runKidsG E s.options p) } := by
  have hD' : E.pat.drop s.pos = p ++ [] := by simpa using hD
  have e1 := stepRun_run E s p [] hD' hord nofun
  have e4 := stepHead_end E { s with pos := s.pos + p.length } (drop_add_of_append hD').1
  have e5 := stepLiteral_run E { s with pos := s.pos + p.length } s.pos p [] b hD'
  unfold scanStep
  simp [bind, M.bind, opts, pure, M.pure, e1, e4, e5]

/-! ## The turn that starts on a `(` -/

/-- the position stands on a `(` that does not start a `(?#` comment -/
def AtParen (s : PS) : Prop :=
  E.pat[s.pos]? = some 40 ∧ ¬(E.pat[s.pos + 1]? = some 63 ∧ E.pat[s.pos + 2]? = some 35)

theorem AtParen.stop {s : PS} (h : AtParen E s) : ∃ tl, E.pat.drop s.pos = 40 :: tl ∧ Stop 40 tl := by
  refine ⟨_, drop_eq_cons_of_getElem? h.1, by decide, by decide, fun hh => h.2 ?_⟩
  have := hh.2
  simp only [List.head?_drop, List.tail_drop, Nat.add_assoc] at this
  exact this

theorem stepIsPythonRef_ignore (o : Opts) (s : PS) (h : s.ignoreNextParen = true) :
    stepIsPythonRef E o s = .ok false s := by
  unfold stepIsPythonRef
  simp [h]

/-! ## After `(?(`: the state `condExpr` leaves -/

/-- the state `condExpr` leaves: `ignoreNextParen` set, the position on the inner `(` -/
def Rew (s : PS) : Prop := s.ignoreNextParen = true ∧ AtParen E s

theorem scanStep_rew (b : Bool) (s : PS) (h : Rew E s) : scanStep E b s = stepOpen E false { s with pos := s.pos + 1 } := by
  obtain ⟨tl, hD, hs⟩ := h.2.stop
  rw [scanStep_stop E s [] 40 tl b hD nofun hs]
  unfold stepSwitch
  simp only [show ¬((40 : Nat) = 91) by omega, if_false, if_true, bind, M.bind,
    stepIsPythonRef_ignore E _ { s with pos := s.pos + [].length + 1, concatenation := _ } h.1, Bool.false_eq_true]
  rfl

/-- `condExpr` goes back to the inner `(`, sets `ignoreNextParen` and then only reads: it returns unless `?#` follows -/
theorem condExpr_rew (o : Opts) (pp : Nat) (h40 : E.pat[pp - 1]? = some 40) :
    H (fun _ => True) (condExpr E o pp) (fun _ => Rew E) := by
  unfold condExpr
  refine H.ite (fun _ => H.fault) fun _ => ?_
  refine H.bind (Q1 := fun _ s => E.pat[s.pos]? = some 40) (H_modify fun _ _ => h40) fun _ => ?_
  refine H.bind (Q1 := fun _ s => s.ignoreNextParen = true ∧ E.pat[s.pos]? = some 40) (H_modify fun _ h => ⟨rfl, h⟩)
    fun _ => ?_
  refine H.bind (Q1 := fun cr s => (s.ignoreNextParen = true ∧ E.pat[s.pos]? = some 40) ∧ cr = E.pat.length - s.pos)
    (fun s a s' hp hm => by cases hm; exact ⟨hp, rfl⟩) fun cr => ?_
  -- `b`: three runes are left and the second is `?`
  refine H.bind (Q1 := fun b s => (s.ignoreNextParen = true ∧ E.pat[s.pos]? = some 40) ∧ (b = false → Rew E s)) ?_
    fun b => ?_
  · refine H.ite (fun _ => H.bind (H_rightChar E 1) fun c => H.pure ?_) (fun h3 => H.pure ?_)
    · rintro s ⟨⟨hp, _⟩, hc⟩
      refine ⟨hp, fun hb => ⟨hp.1, hp.2, fun hn => ?_⟩⟩
      cases hc.symm.trans hn.1
      cases hb
    · rintro s ⟨hp, hcr⟩
      refine ⟨hp, fun _ => ⟨hp.1, hp.2, fun hn => ?_⟩⟩
      have := (List.getElem?_eq_some_iff.mp hn.2).1
      simp only [decide_eq_true_eq] at h3
      omega
  refine H.ite (fun _ => ?_) (fun hb => H.pure fun s hp => hp.2 (Bool.eq_false_iff.mpr hb))
  refine H.bind (H_rightChar E 2) fun rc2 => H.ite (fun _ => H.throw) fun h35 => ?_
  -- the third rune is not `#`; what is left only reads, and throws or returns
  refine H.conseq (P := Rew E) (Q := fun _ => Rew E) ?_
    (fun s h => ⟨h.1.1.1, h.1.1.2, fun hn => h35 (Option.some.inj (h.2.symm.trans hn.2))⟩) (fun _ _ h => h)
  refine H.ite (fun _ => H.throw) fun _ => ?_
  exact H.bind (H_andM (H_andMM (H_rcNe E 3 33) (H_rcNe E 3 61))) fun _ =>
    H.ite (fun _ => H.throw) (fun _ => H.pure fun _ h => h)

/-- `groupOpenIsPlain` only reads; when it answers "not plain", the rune at the position is `?` and the next one, if any,
    is not `)` -/
theorem groupOpenIsPlain_reads {P : PS → Prop} : H P (groupOpenIsPlain E)
    (fun b s => P s ∧ (b = false → E.pat[s.pos]? = some 63 ∧ ¬ E.pat[s.pos + 1]? = some 41)) := by
  unfold groupOpenIsPlain
  refine H.bind (Q1 := fun cr s => P s ∧ cr = E.pat.length - s.pos)
    (fun s a s' hp hm => by cases hm; exact ⟨hp, rfl⟩) fun cr => ?_
  refine H.bind (H_rightCharIf E _ 0) fun c0 => H.bind (H_rightCharIf E _ 1) fun c1 => H.pure ?_
  rintro s ⟨⟨⟨hp, hcr⟩, h0⟩, h1⟩
  refine ⟨hp, fun hb => ?_⟩
  have hb := of_decide_eq_false hb
  refine ⟨(h0 (by omega)).trans (by rw [show c0 = 63 by omega]), fun h41 => ?_⟩
  by_cases h2 : cr > 1
  · have hc1 := Option.some.inj ((h1 h2).symm.trans h41)
    omega
  · have := (List.getElem?_eq_some_iff.mp h41).1
    omega

/-! ## Which branches of `scanGroupOpen` return an ExprCond, which return nothing

`ne_X` and `some_X` are value facts (`Ret`) of the scanner `X`, like `ret_X`; `X_rew` and `X_some` further down are the
corresponding `H` facts, which depend on the state. -/

def NotExprOpt (r : Option RNode) : Prop := ∀ g, r = some g → g.t ≠ .exprCond
def IsSomeOpt (r : Option RNode) : Prop := r ≠ none

theorem notExpr_none : NotExprOpt none := fun _ h => nomatch h
theorem notExpr_some {g : RNode} (h : g.t ≠ .exprCond) : NotExprOpt (some g) := by
  intro g' hg; cases hg; exact h

/-- closes `NotExprOpt r` for `none` and for `some` of a node of a concrete type other than ExprCond, and the value fact
    of `breakRecognize` (which never returns) -/
syntax "ne_close" : tactic
macro_rules
  | `(tactic| ne_close) => `(tactic| first
      | exact notExpr_none
      | exact notExpr_some (by intro h; cases h)
      | exact ret_breakRecognize _ _ _)

/-- closes `IsSomeOpt (some _)`, and the value fact of `breakRecognize` -/
syntax "some_close" : tactic
macro_rules
  | `(tactic| some_close) => `(tactic| first
      | exact (fun h => nomatch h)
      | exact ret_breakRecognize _ _ _)

theorem ne_gnClose (start close : Nat) (c u : Option Nat) : Ret (gnClose E start close c u) NotExprOpt := by
  unfold gnClose
  ret_run
  all_goals ne_close
theorem ne_scanGroupName (start close : Nat) : Ret (scanGroupName E start close) NotExprOpt := by
  unfold scanGroupName
  ret_run
  all_goals exact ne_gnClose E _ _ _ _
theorem ne_condEarly (o : Opts) : Ret (condEarly E o) NotExprOpt := by
  unfold condEarly
  ret_run
  all_goals ne_close
theorem ne_groupOpenPlain (o : Opts) : Ret (groupOpenPlain o) NotExprOpt := by
  unfold groupOpenPlain
  ret_run
  all_goals ne_close
theorem ne_groupOpenDefault (start : Nat) : Ret (groupOpenDefault E start) NotExprOpt := by
  unfold groupOpenDefault
  ret_run
  all_goals ne_close
theorem ne_groupOpenAngle (start : Nat) (o : Opts) (close : Nat) : Ret (groupOpenAngle E start o close) NotExprOpt := by
  unfold groupOpenAngle
  ret_run
  all_goals first | ne_close | exact ne_scanGroupName E _ _
theorem ne_groupOpenPython (start : Nat) (o : Opts) : Ret (groupOpenPython E start o) NotExprOpt := by
  unfold groupOpenPython
  ret_run
  all_goals ne_close

theorem some_gnClose (start close : Nat) (c u : Option Nat) : Ret (gnClose E start close c u) IsSomeOpt := by
  unfold gnClose
  ret_run
  all_goals some_close
theorem some_scanGroupName (start close : Nat) : Ret (scanGroupName E start close) IsSomeOpt := by
  unfold scanGroupName
  ret_run
  all_goals exact some_gnClose E _ _ _ _
theorem some_condExpr (o : Opts) (pp : Nat) : Ret (condExpr E o pp) IsSomeOpt := by
  unfold condExpr
  ret_run
  all_goals some_close
theorem some_groupOpenPlain (o : Opts) : Ret (groupOpenPlain o) IsSomeOpt := by
  unfold groupOpenPlain
  ret_run
  all_goals some_close
theorem some_groupOpenAngle (start : Nat) (o : Opts) (close : Nat) : Ret (groupOpenAngle E start o close) IsSomeOpt := by
  unfold groupOpenAngle
  ret_run
  all_goals first | some_close | exact some_scanGroupName E _ _
theorem some_groupOpenPython (start : Nat) (o : Opts) : Ret (groupOpenPython E start o) IsSomeOpt := by
  unfold groupOpenPython
  ret_run
  all_goals some_close
theorem some_scanCondition : Ret (scanCondition E) IsSomeOpt := by
  unfold scanCondition
  apply Ret.bind; intro o
  apply Ret.bind; intro pp
  apply Ret.bind; intro r
  split
  · exact Ret.pure (fun h => nomatch h)
  · exact some_condExpr E o pp

-- from here on `exact`/`apply` never unfold `H` and the program under it (slow to check)
attribute [local irreducible] H

/-! ## A returned ExprCond comes with the rewound state -/

/-- what `scanGroupOpen` promises about an ExprCond it returns -/
def RewPost (r : Option RNode) (s' : PS) : Prop := ∀ g, r = some g → g.t = .exprCond → Rew E s'

theorem H_ne_rew {P : PS → Prop} {m : M (Option RNode)} (h : Ret m NotExprOpt) : H P m (RewPost E) := by
  unfold Ret at h
  unfold H at *
  intro s r s' _ hm g hg ht
  exact absurd ht (h s r s' trivial hm g hg)

/-- the rune just consumed -/
def Prev (ch : Nat) (s : PS) : Prop := 1 ≤ s.pos ∧ E.pat[s.pos - 1]? = some ch

theorem prev_step {c : Nat} {s : PS} (h : E.pat[s.pos]? = some c) : Prev E c { s with pos := s.pos + 1 } :=
  ⟨Nat.le_add_left 1 _, h⟩

theorem scanCondition_rew : H (Prev E 40) (scanCondition E) (RewPost E) := by
  unfold scanCondition
  apply H.bind (Q1 := fun _ => Prev E 40) H_opts
  intro o
  apply H.bind (Q1 := fun pp _ => E.pat[pp - 1]? = some 40)
  · exact H.conseq H_textpos (fun _ h => h) (fun pp s' h => by obtain ⟨hp, rfl⟩ := h; exact hp.2)
  intro pp
  apply H.bind (Q1 := fun r _ => E.pat[pp - 1]? = some 40 ∧ NotExprOpt r)
  · have hne := ne_condEarly E o
    unfold Ret at hne
    unfold H at *
    intro s r s' hp hm
    exact ⟨hp, hne s r s' trivial hm⟩
  intro r
  apply H_pre
  intro hne
  cases r with
  | some nd =>
    apply H.pure
    intro s _ g hg ht
    exact absurd ht (hne g hg)
  | none =>
    have := condExpr_rew E o pp
    unfold H at *
    exact fun s r s' h40 hm _ _ _ => this h40 s r s' trivial hm

theorem ne_groupOpenSwitch (start : Nat) (o : Opts) {ch : Nat} (h : ch ≠ 40) :
    Ret (groupOpenSwitch E start o ch) NotExprOpt := by
  unfold groupOpenSwitch
  ret_run
  all_goals first
    | ne_close
    | exact ne_groupOpenAngle E _ _ _
    | exact absurd ‹ch = 40› h
    | exact ne_groupOpenPython E _ _
    | exact ne_groupOpenDefault E _

/-- only the `(?(` case can return an ExprCond -/
theorem groupOpenSwitch_rew (start : Nat) (o : Opts) (ch : Nat) : H (Prev E ch) (groupOpenSwitch E start o ch) (RewPost E) := by
  by_cases h40 : ch = 40
  · subst h40
    exact scanCondition_rew E
  · exact H_ne_rew E (ne_groupOpenSwitch E start o h40)

theorem scanGroupOpen_rew : H (fun _ => True) (scanGroupOpen E) (RewPost E) := by
  unfold scanGroupOpen
  refine H.bindT fun start => H.bindT fun o => H.bindT fun b => H.ite (fun _ => H_ne_rew E (ne_groupOpenPlain o)) fun _ => ?_
  refine H.bindT fun _ => H.bindT fun _ => H.bindT fun cr => H.ite (fun _ => H_ne_rew E (ret_breakRecognize E _ _)) fun _ => ?_
  exact H.bind (H.conseq (H_moveRightGetChar E) (fun _ h => h) (fun c s' ⟨s, _, hc, hs⟩ => (hs ▸ prev_step E hc : Prev E c s')))
    fun ch => groupOpenSwitch_rew E start o ch

/-! ## Under an ExprCond that waits for its condition, `scanGroupOpen` opens a group -/

def PendPrev (ch : Nat) (s : PS) : Prop := s.group.t = .exprCond ∧ Prev E ch s

theorem H_false {α : Type} {m : M α} {Q : α → PS → Prop} : H (fun _ => False) m Q := by
  unfold H; intro s a s' h; exact h.elim

theorem groupOpenDefault_some (start ch : Nat) (hne : ch ≠ 41) :
    H (PendPrev E ch) (groupOpenDefault E start) (fun r _ => r ≠ none) := by
  unfold groupOpenDefault
  apply H.bind (Q1 := fun _ s => s.group.t = .exprCond ∧ E.pat[s.pos]? = some ch)
  · unfold H
    intro s a s' hp hm
    unfold moveLeft at hm
    split at hm
    · cases hm
    · cases hm
      exact ⟨hp.1, hp.2.2⟩
  intro _
  apply H.bind (Q1 := fun a s => (s.group.t = .exprCond ∧ E.pat[s.pos]? = some ch) ∧ a.group.t = .exprCond)
    (H.conseq H_get (fun _ h => h) (fun a s h => ⟨h.2, h.1 ▸ h.2.1⟩))
  intro s0
  apply H_pre
  intro hs0
  dsimp only
  rw [if_neg (by simp [hs0])]
  apply H.bind (Q1 := fun _ s => s.group.t = .exprCond ∧ E.pat[s.pos]? = some ch) (H_charsRight E)
  intro cr
  refine H.ite (fun _ => H_of_ret (ret_breakRecognize E _ _)) (fun _ => ?_)
  apply H.bind (Q1 := fun c _ => True ∧ c = ch)
    (H.conseq (H_moveRightGetChar E) (fun _ h => h) (fun c _ ⟨s, hp, hc, _⟩ => ⟨trivial, Option.some.inj (hc.symm.trans hp.2)⟩))
  intro c
  apply H_pre
  intro hc
  subst hc
  rw [if_neg hne]
  refine H.ite (fun _ => H_of_ret (ret_breakRecognize E _ _)) (fun _ => ?_)
  exact H.bindT fun o => H.pure (fun _ _ h => nomatch h)

theorem groupOpenSwitch_some (start : Nat) (o : Opts) (ch : Nat) (hne : ch ≠ 41) :
    H (PendPrev E ch) (groupOpenSwitch E start o ch) (fun r _ => r ≠ none) := by
  unfold groupOpenSwitch
  refine H.ite (fun _ => ?_) (fun _ => ?_)
  · exact H.pure (fun _ _ h => nomatch h)
  refine H.ite (fun _ => ?_) (fun _ => ?_)
  · -- `(?=`: the options are set, a PosLook node is returned
    exact H_of_ret (by ret_run; all_goals some_close)
  refine H.ite (fun _ => ?_) (fun _ => ?_)
  · -- `(?!`: likewise, a NegLook node
    exact H_of_ret (by ret_run; all_goals some_close)
  refine H.ite (fun _ => ?_) (fun _ => ?_)
  · exact H.pure (fun _ _ h => nomatch h)
  refine H.ite (fun _ => ?_) (fun _ => ?_)
  · exact H_of_ret (some_groupOpenAngle E _ _ _)
  refine H.ite (fun _ => ?_) (fun _ => ?_)
  · exact H_of_ret (some_groupOpenAngle E _ _ _)
  refine H.ite (fun _ => ?_) (fun _ => ?_)
  · exact H_of_ret (some_scanCondition E)
  refine H.ite (fun _ => ?_) (fun _ => ?_)
  · exact H_of_ret (some_groupOpenPython E _ _)
  · exact groupOpenDefault_some E start ch hne

/-- while the group under construction is an ExprCond, `scanGroupOpen` opens a group (it cannot return
    "options only": the rune after `(?` is re-read by the default case and is not `)`, because `(?)` counts as plain) -/
theorem scanGroupOpen_some : H (fun s => s.group.t = .exprCond) (scanGroupOpen E) (fun r _ => r ≠ none) := by
  unfold scanGroupOpen
  apply H.bind (Q1 := fun _ s => s.group.t = .exprCond) (H.conseq H_textpos (fun _ h => h) (fun _ _ h => h.1))
  intro start
  apply H.bind (Q1 := fun _ s => s.group.t = .exprCond) H_opts
  intro o
  apply H.bind (Q1 := fun b s => s.group.t = .exprCond ∧
      (b = false → E.pat[s.pos]? = some 63 ∧ ¬ E.pat[s.pos + 1]? = some 41)) (groupOpenIsPlain_reads E)
  intro b
  refine H.ite (fun _ => H_of_ret (some_groupOpenPlain o)) (fun hb => ?_)
  have hbf : b = false := by simpa using hb
  apply H.bind (Q1 := fun _ s => s.group.t = .exprCond ∧ ¬ E.pat[s.pos + 1]? = some 41)
    (H_modify fun s hp => ⟨hp.1, (hp.2 hbf).2⟩)
  intro _
  apply H.bind (Q1 := fun _ s => s.group.t = .exprCond ∧ ¬ E.pat[s.pos]? = some 41) (m := moveRight 1) (H_modify fun _ hp => hp)
  intro _
  apply H.bind (Q1 := fun _ s => s.group.t = .exprCond ∧ ¬ E.pat[s.pos]? = some 41) (H_charsRight E)
  intro cr
  refine H.ite (fun _ => H_of_ret (ret_breakRecognize E _ _)) (fun _ => ?_)
  apply H.bind (Q1 := fun ch s => PendPrev E ch s ∧ ch ≠ 41)
    (H.conseq (H_moveRightGetChar E) (fun _ h => h) (fun c s' ⟨s, hp, hc, hs⟩ =>
      hs ▸ ⟨⟨hp.1, prev_step E hc⟩, fun h41 => hp.2 (h41 ▸ hc)⟩))
  intro ch
  apply H_pre
  intro hne
  exact groupOpenSwitch_some E start o ch hne

end RegexVerif.Parser
