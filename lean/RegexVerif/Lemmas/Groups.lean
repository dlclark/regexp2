/-
The capture-group bookkeeping of `RegexVerif.Model.Groups` (C17).

Both passes of the parser read a `(` through one classification, `kind`; `Step` (pre-scan) and `GStep` (main parse)
say what happens to a group of each kind, and `groupNumbers_sync` compares the two kind by kind.  The pre-scan keeps
`CapsInv`, `NamesInv` and, in pattern order, `OrdInv`; in default order `scanEvents_default` is a closed form of what
it leaves.  Either name-assignment pass yields tables with `TInv` (its `good` flag fails only for `(?<k>…)` in
pattern order), the writer adds `MInv`, and under `MInv` the listed numbers are the sorted slot table
(`usedNumbers`) and every lookup of `regexp.go` / `match.go` is the position of a number among them.

`assign evs cfg = some m` is a hypothesis throughout.  `assign` answers `none` for a repeated name under ECMAScript
(`noteName`) and for `(?<k>…)` under ECMAScript or with `k = 0` (`explicitNumber`); that its other `none` branches
are not met after the pre-scan is not proved.

The namespace is the model's, `RegexVerif.Groups`: the statements of `Props/C17.lean` name `GoodNames`, `MInv` … under it.
-/
import RegexVerif.Model.Groups

namespace RegexVerif.Groups

/-! ### what the statements of C17 speak of -/

/-- a name written in the pattern is not empty and not `strconv.Itoa k` for any `k` (in the spellings `(?<…>` and
    `(?'…'` the Go parser reads an all-digit name as a number; RE2's `(?P<0>…)` is left out by this) -/
def GoodNames (evs : List Event) : Prop :=
  ∀ nm, Event.named nm ∈ evs → nm ≠ "" ∧ ∀ k : Nat, nm ≠ itoa k

/-- no explicitly numbered group `(?<k>…)` in pattern-order mode: there it is booked under the
    *name* "k", which can coincide with the automatic name of another slot (`(a)(?<1>b)`: names
    0, 1, 1), so names and numbers are not in one-to-one correspondence -/
def NoOrdNumbered (cfg : Cfg) (evs : List Event) : Prop :=
  cfg.ord = true → ∀ k, Event.numbered k ∉ evs ∧ Event.numbered0 k ∉ evs

def countUnnamed : List Event → Nat
  | [] => 0
  | .unnamed :: es => countUnnamed es + 1
  | _ :: es => countUnnamed es

/-- the numbers written explicitly, `(?<k>…)`, with or without leading zeros -/
def explicitNumbers : List Event → List Nat
  | [] => []
  | .numbered k :: es => k :: explicitNumbers es
  | .numbered0 k :: es => k :: explicitNumbers es
  | _ :: es => explicitNumbers es

/-- the distinct names of the pattern in order of first appearance -/
def namesInOrderFrom (acc : List String) : List Event → List String
  | [] => acc
  | .named nm :: es => if nm ∈ acc then namesInOrderFrom acc es else namesInOrderFrom (acc ++ [nm]) es
  | _ :: es => namesInOrderFrom acc es

def namesInOrder (evs : List Event) : List String := namesInOrderFrom [] evs

/-- the documented rule of MaintainCaptureOrder / ECMAScript: one pass, every unnamed group and
    every first occurrence of a name takes the next number, a repeated name shares.  An explicitly
    numbered group `(?<k>…)` counts as a group named "k" (with or without leading zeros).  `n` is ExplicitCapture;
    then come the names seen so far with their numbers, and the next number. -/
def orderSpec (n : Bool) : List Event → List (String × Nat) → Nat → List (Option Nat)
  | [], _, _ => []
  | .unnamed :: es, seen, a =>
    if n then none :: orderSpec n es seen a else some a :: orderSpec n es seen (a + 1)
  | .named nm :: es, seen, a =>
    match seen.lookup nm with
    | some k => some k :: orderSpec n es seen a
    | none => some a :: orderSpec n es (seen ++ [(nm, a)]) (a + 1)
  | .numbered j :: es, seen, a =>
    match seen.lookup (itoa j) with
    | some k => some k :: orderSpec n es seen a
    | none => some a :: orderSpec n es (seen ++ [(itoa j, a)]) (a + 1)
  | .numbered0 j :: es, seen, a =>
    match seen.lookup (itoa j) with
    | some k => some k :: orderSpec n es seen a
    | none => some a :: orderSpec n es (seen ++ [(itoa j, a)]) (a + 1)
  | .noncap :: es, seen, a => none :: orderSpec n es seen a

/-- "each name takes the least number above the previous one that is not an explicit number": `lk` answers the number
    of a name, `E` says which numbers are written explicitly, `prev` is the number before the first name of the list -/
def ChainRule (lk : String → Option Nat) (E : Nat → Prop) : Nat → List String → Prop
  | _, [] => True
  | prev, nm :: rest =>
    ∃ k, lk nm = some k ∧ prev < k ∧ ¬ E k ∧ (∀ n, prev < n → n < k → E n) ∧ ChainRule lk E k rest

/-! ### lists: `idxOf?`, insertion sort, a pigeonhole fact, association lists, decimal names -/

theorem idxOf?_eq (x : Nat) (l : List Nat) : idxOf? x l = l.idxOf? x := by
  induction l with
  | nil => rfl
  | cons y ys ih => simp [idxOf?, List.idxOf?_cons, ih]

theorem idxOf?_eq_none {x : Nat} {l : List Nat} : idxOf? x l = none ↔ x ∉ l := by
  rw [idxOf?_eq]; exact List.idxOf?_eq_none_iff

theorem idxOf?_some_lt {x s : Nat} {l : List Nat} (h : idxOf? x l = some s) : s < l.length ∧ l[s]? = some x := by
  rw [idxOf?_eq, List.idxOf?_eq_some_iff] at h
  obtain ⟨hs, hx, _⟩ := h
  exact ⟨hs, by rw [List.getElem?_eq_getElem hs, hx]⟩

theorem idxOf?_getElem {l : List Nat} (hnd : l.Nodup) {i : Nat} {x : Nat} (h : l[i]? = some x) :
    idxOf? x l = some i := by
  obtain ⟨hi, rfl⟩ := List.getElem?_eq_some_iff.mp h
  rw [idxOf?_eq, List.idxOf?_eq_some_iff]
  exact ⟨hi, rfl, fun j hj e => Nat.ne_of_lt hj ((List.getElem_inj hnd).mp e)⟩

theorem idxOf?_of_mem {x : Nat} {l : List Nat} (h : x ∈ l) : ∃ s, idxOf? x l = some s :=
  Option.ne_none_iff_exists'.mp (mt idxOf?_eq_none.mp (not_not_intro h))

theorem idxOf?_range (n k : Nat) : idxOf? n (List.range k) = if n < k then some n else none := by
  split
  · next h => exact idxOf?_getElem List.nodup_range (List.getElem?_range h)
  · next h => exact idxOf?_eq_none.mpr (mt List.mem_range.mp h)

theorem perm_insertSorted (x : Nat) (l : List Nat) : (insertSorted x l).Perm (x :: l) := by
  induction l with
  | nil => exact .refl _
  | cons y ys ih =>
    unfold insertSorted
    split
    · exact .refl _
    · exact (ih.cons y).trans (.swap x y ys)

theorem perm_isort (l : List Nat) : (isort l).Perm l := by
  induction l with
  | nil => exact .refl _
  | cons x xs ih => exact (perm_insertSorted x _).trans (ih.cons x)

theorem mem_isort {y : Nat} {l : List Nat} : y ∈ isort l ↔ y ∈ l := (perm_isort l).mem_iff

theorem length_isort (l : List Nat) : (isort l).length = l.length := (perm_isort l).length_eq

theorem sorted_insertSorted {x : Nat} {l : List Nat} (hl : l.Pairwise (· ≤ ·)) :
    (insertSorted x l).Pairwise (· ≤ ·) := by
  induction l with
  | nil => simp [insertSorted]
  | cons z zs ih =>
    have hz := List.pairwise_cons.mp hl
    unfold insertSorted
    split
    · next h =>
      refine List.pairwise_cons.mpr ⟨fun a ha => ?_, hl⟩
      rcases List.mem_cons.mp ha with rfl | ha
      · exact h
      · exact Nat.le_trans h (hz.1 a ha)
    · refine List.pairwise_cons.mpr ⟨fun a ha => ?_, ih hz.2⟩
      rcases List.mem_cons.mp ((perm_insertSorted x zs).mem_iff.mp ha) with rfl | ha
      · omega
      · exact hz.1 a ha

theorem sorted_isort (l : List Nat) : (isort l).Pairwise (· ≤ ·) := by
  induction l with
  | nil => exact .nil
  | cons x xs ih => exact sorted_insertSorted ih

theorem pairwise_isort {l : List Nat} (hnd : l.Nodup) : (isort l).Pairwise (· < ·) :=
  ((sorted_isort l).and ((perm_isort l).nodup_iff.mpr hnd)).imp fun h => Nat.lt_of_le_of_ne h.1 h.2

theorem nodup_of_pairwise_lt {l : List Nat} (h : l.Pairwise (· < ·)) : l.Nodup :=
  h.imp (fun hab => Nat.ne_of_lt hab)

/-- pigeonhole for sorted lists: a strictly increasing list inside `[a, b)` has at most `b - a` elements -/
theorem length_le_of_pairwise_lt {l : List Nat} (hs : l.Pairwise (· < ·)) {a b : Nat} (hb : ∀ x ∈ l, a ≤ x ∧ x < b) :
    l.length ≤ b - a := by
  induction l generalizing a with
  | nil => exact Nat.zero_le _
  | cons y ys ih =>
    have hy := List.pairwise_cons.mp hs
    have := ih hy.2 (a := y + 1) fun x hx => ⟨hy.1 x hx, (hb x (List.mem_cons_of_mem _ hx)).2⟩
    have := hb y (List.mem_cons_self ..)
    simp only [List.length_cons]
    omega

theorem sorted_full_eq_range : ∀ (l : List Nat), l.Pairwise (· < ·) → (∀ x ∈ l, x < l.length) →
    l = List.range l.length := by
  have key : ∀ (l : List Nat) (a : Nat), l.Pairwise (· < ·) → (∀ x ∈ l, a ≤ x ∧ x < a + l.length) →
      l = List.range' a l.length := by
    intro l
    induction l with
    | nil => intro a _ _; rfl
    | cons y ys ih =>
      intro a hs hb
      have hy := List.pairwise_cons.mp hs
      have hys : ∀ x ∈ ys, y + 1 ≤ x ∧ x < a + ys.length + 1 :=
        fun x hx => ⟨hy.1 x hx, (hb x (List.mem_cons_of_mem _ hx)).2⟩
      -- the tail lives in `[y + 1, a + 1 + length)`, which has room for it only if `y = a`
      have := length_le_of_pairwise_lt hy.2 hys
      obtain rfl : y = a := by have := hb y (List.mem_cons_self ..); rw [List.length_cons] at this; omega
      rw [List.length_cons, List.range'_succ, ← ih (y + 1) hy.2 (by simpa [Nat.add_right_comm] using hys)]
  intro l hs hb
  rw [List.range_eq_range']
  exact key l 0 hs fun x hx => ⟨Nat.zero_le _, by simpa using hb x hx⟩

theorem lookup_setKey_self (k : String) (v : Nat) (l : List (String × Nat)) :
    (setKey k v l).lookup k = some v := by
  induction l with
  | nil => simp [setKey]
  | cons p rest ih =>
    obtain ⟨k', v'⟩ := p
    by_cases h : k' = k
    · simp [setKey, h]
    · simp [setKey, h, List.lookup_cons, beq_false_of_ne (Ne.symm h), ih]

theorem lookup_setKey_ne {k k' : String} (h : k' ≠ k) (v : Nat) (l : List (String × Nat)) :
    (setKey k v l).lookup k' = l.lookup k' := by
  induction l with
  | nil => simp [setKey, List.lookup_cons, beq_false_of_ne h]
  | cons p rest ih =>
    obtain ⟨k₁, v₁⟩ := p
    by_cases h1 : k₁ = k
    · subst h1; simp [setKey, List.lookup_cons, beq_false_of_ne h]
    · simp [setKey, h1, List.lookup_cons, ih]

theorem keys_setKey_of_mem {k : String} {v : Nat} {l : List (String × Nat)} (h : k ∈ l.map Prod.fst) :
    (setKey k v l).map Prod.fst = l.map Prod.fst := by
  induction l with
  | nil => simp at h
  | cons p rest ih =>
    by_cases h1 : p.1 = k
    · simp [setKey, h1]
    · have : k ∈ rest.map Prod.fst := by simpa [Ne.symm h1] using h
      simp [setKey, h1, ih this]

theorem lookup_isSome_iff_mem_keys {k : String} {l : List (String × Nat)} :
    (l.lookup k).isSome ↔ k ∈ l.map Prod.fst := by
  simp only [List.lookup_isSome_iff, List.mem_map, beq_iff_eq]
  exact ⟨fun ⟨p, hp, e⟩ => ⟨p, hp, e.symm⟩, fun ⟨p, hp, e⟩ => ⟨p, hp, e.symm⟩⟩

theorem lookup_append_of_none {k : String} {l l' : List (String × Nat)} (h : l.lookup k = none) :
    (l ++ l').lookup k = l'.lookup k := by
  rw [List.lookup_append, h, Option.none_or]

theorem lookup_append_of_some {k : String} {v : Nat} {l l' : List (String × Nat)} (h : l.lookup k = some v) :
    (l ++ l').lookup k = some v := by
  rw [List.lookup_append, h, Option.some_or]

theorem lookup_snoc {l : List (String × Nat)} {k nm : String} {v w : Nat} (h : (l ++ [(nm, w)]).lookup k = some v) :
    l.lookup k = some v ∨ (l.lookup k = none ∧ k = nm ∧ v = w) := by
  cases hl : l.lookup k with
  | some v' => left; rw [lookup_append_of_some hl] at h; exact h
  | none =>
    right
    rw [lookup_append_of_none hl] at h
    simp only [List.lookup_cons, List.lookup_nil] at h
    split at h
    · next hk => exact ⟨rfl, by simpa using hk, by injection h with h; exact h.symm⟩
    · cases h

/-! decimal names (`strconv.Itoa`) -/

theorem itoa_toList (a : Nat) : (itoa a).toList = Nat.toDigits 10 a := Nat.toList_repr

theorem itoa_inj {a b : Nat} (h : itoa a = itoa b) : a = b := by
  have := congrArg (fun s => Nat.ofDigitChars 10 s.toList 0) h
  simpa [itoa_toList] using this

theorem itoa_ne_empty (a : Nat) : itoa a ≠ "" := by
  intro h
  have := congrArg String.toList h
  simp [itoa_toList] at this

theorem itoa_digits (a : Nat) : (itoa a).toList.all Char.isDigit = true := by
  rw [itoa_toList, List.all_eq_true]
  exact fun c hc => Nat.isDigit_of_mem_toDigits (by decide) (by decide) hc

theorem ofDigitChars_itoa (a : Nat) : Nat.ofDigitChars 10 (itoa a).toList 0 = a := by
  rw [itoa_toList]; simp

theorem toDigits_head_ne_zero (n : Nat) (hn : 1 ≤ n) (c : Char) (rest : List Char)
    (h : Nat.toDigits 10 n = c :: rest) : c ≠ '0' := by
  induction n using Nat.strongRecOn generalizing c rest with
  | _ n ih =>
    by_cases hlt : n < 10
    · rw [Nat.toDigits_of_lt_base hlt] at h
      injection h with h _
      have : ∀ m : Fin 10, 1 ≤ m.val → Nat.digitChar m.val ≠ '0' := by decide
      exact h ▸ this ⟨n, hlt⟩ hn
    · rw [Nat.toDigits_of_base_le (by decide) (by omega)] at h
      cases hd : Nat.toDigits 10 (n / 10) with
      | nil => exact absurd hd Nat.toDigits_ne_nil
      | cons c' r' =>
        rw [hd] at h
        injection h with h _
        exact h ▸ ih (n / 10) (by omega) (by omega) c' r' hd

/-- the decimal string of a number has no leading zero (unless it is "0") -/
theorem itoa_canonical (n : Nat) (c : Char) (rest : List Char) (h : (itoa n).toList = c :: rest)
    (hr : rest ≠ []) : c ≠ '0' := by
  rw [itoa_toList] at h
  cases n with
  | zero => simp at h; exact absurd h.2 hr
  | succ k => exact toDigits_head_ne_zero (k + 1) (by omega) c rest h

/-! ### the pre-scan (`countCaptures`), one `(` at a time -/

/-- the slot table `p.caps` of the pre-scan -/
structure CapsInv (s : PState) : Prop where
  nodup : s.caps.Nodup
  zero : 0 ∈ s.caps
  bound : ∀ c ∈ s.caps, c < s.captop
  below : ∀ j, j < s.autocap → j ∈ s.caps

/-- `p.capnames` and `p.capnamelist` hold the same names, each once.  (`capnames = some []` is allowed: the pre-scan
    never produces it, but the lemmas below hold there too.) -/
structure NamesInv (s : PState) : Prop where
  keys : (s.capnames.getD []).map Prod.fst = s.capnamelist
  nodup : s.capnamelist.Nodup

theorem noteSlot_of_mem {i : Nat} {s : PState} (h : i ∈ s.caps) : noteSlot i s = s := if_pos h

theorem noteSlot_of_not_mem {i : Nat} {s : PState} (h : i ∉ s.caps) :
    noteSlot i s = { s with caps := s.caps ++ [i], captop := if s.captop ≤ i then i + 1 else s.captop } :=
  if_neg h

theorem noteSlot_caps_mem {i : Nat} {s : PState} {c : Nat} :
    c ∈ (noteSlot i s).caps ↔ c ∈ s.caps ∨ c = i := by
  by_cases h : i ∈ s.caps
  · rw [noteSlot_of_mem h]; exact ⟨Or.inl, fun hc => hc.elim id (· ▸ h)⟩
  · rw [noteSlot_of_not_mem h]; simp

@[simp] theorem noteSlot_capnames (i : Nat) (s : PState) : (noteSlot i s).capnames = s.capnames := by
  unfold noteSlot; split <;> rfl

@[simp] theorem noteSlot_capnamelist (i : Nat) (s : PState) : (noteSlot i s).capnamelist = s.capnamelist := by
  unfold noteSlot; split <;> rfl

@[simp] theorem noteSlot_autocap (i : Nat) (s : PState) : (noteSlot i s).autocap = s.autocap := by
  unfold noteSlot; split <;> rfl

theorem noteSlot_captop_ge (i : Nat) (s : PState) : s.captop ≤ (noteSlot i s).captop := by
  unfold noteSlot; by_cases h : i ∈ s.caps <;> simp [h]
  split <;> omega

/-- `noteCaptureSlot` keeps the slot table duplicate-free and below `captop`, whatever else of the
    state (`s'`) has changed around it -/
theorem CapsInv.note {s : PState} (h : CapsInv s) (i : Nat) {s' : PState} (hc : s'.caps = s.caps)
    (ht : s'.captop = s.captop) (hb : ∀ j, j < s'.autocap → j ∈ s.caps ∨ j = i) : CapsInv (noteSlot i s') := by
  refine ⟨?_, noteSlot_caps_mem.mpr (Or.inl (hc ▸ h.zero)), ?_, fun j hj => ?_⟩
  · by_cases hi : i ∈ s'.caps
    · rw [noteSlot_of_mem hi, hc]; exact h.nodup
    · rw [noteSlot_of_not_mem hi]
      exact List.nodup_append.mpr ⟨hc ▸ h.nodup, List.nodup_cons.mpr ⟨List.not_mem_nil, .nil⟩,
        fun a ha b hb e => hi (List.mem_singleton.mp hb ▸ e ▸ ha)⟩
  · intro c hcm
    have hge := noteSlot_captop_ge i s'
    rcases noteSlot_caps_mem.mp hcm with hcm | rfl
    · have := h.bound c (hc ▸ hcm); omega
    · by_cases hi : c ∈ s'.caps
      · have := h.bound c (hc ▸ hi); omega
      · rw [noteSlot_of_not_mem hi]; simp only; split <;> omega
  · rw [noteSlot_autocap] at hj
    exact noteSlot_caps_mem.mpr (hc ▸ hb j hj)

theorem capsInv_init : CapsInv initState :=
  ⟨by simp [initState], by simp [initState], by simp [initState], by simp [initState]⟩

theorem namesInv_init : NamesInv initState := ⟨rfl, .nil⟩

/-- what a `(` is to the capture bookkeeping -/
inductive Kind where
  | skip
  | auto
  | name (nm : String)
  | num (k : Nat)
  /-- `(?<k>…)` under ECMAScript: the pre-scan passes over it, the main parse rejects it -/
  | bad

/-- `(?<k>…)`, with or without leading zeros, is a group named "k" in pattern-order mode -/
def kind (cfg : Cfg) : Event → Kind
  | .noncap => .skip
  | .unnamed => if cfg.explicitCapture then .skip else .auto
  | .named nm => .name nm
  | .numbered k => if cfg.ecma then .bad else if cfg.ord then .name (itoa k) else .num k
  | .numbered0 k => if cfg.ecma then .bad else if cfg.ord then .name (itoa k) else .num k

/-- the successful steps of the pre-scan, by kind -/
inductive Step (cfg : Cfg) (s : PState) : Kind → PState → Prop
  | skip : Step cfg s .skip s
  | bad : Step cfg s .bad s
  | auto : Step cfg s .auto (noteSlot s.autocap { s with autocap := s.autocap + 1 })
  | num {k} : cfg.ord = false → Step cfg s (.num k) (noteSlot k s)
  | again {nm k} : (s.capnames.getD []).lookup nm = some k →
      Step cfg s (.name nm) { s with capnames := some (s.capnames.getD []) }
  | freshOrd {nm} : (s.capnames.getD []).lookup nm = none → cfg.ord = true →
      Step cfg s (.name nm) (noteSlot s.autocap
        { s with autocap := s.autocap + 1, capnames := some (s.capnames.getD [] ++ [(nm, s.autocap)]),
                 capnamelist := s.capnamelist ++ [nm] })
  | fresh {nm} : (s.capnames.getD []).lookup nm = none → cfg.ord = false →
      Step cfg s (.name nm) { s with capnames := some (s.capnames.getD [] ++ [(nm, 0)]), capnamelist := s.capnamelist ++ [nm] }

theorem ecma_of_ord {cfg : Cfg} (h : cfg.ord = false) : cfg.ecma = false := by
  unfold Cfg.ord at h; simp at h; exact h.2

theorem noteName_step {cfg : Cfg} {nm : String} {s s' : PState} (h : noteName cfg nm s = some s') :
    Step cfg s (.name nm) s' := by
  unfold noteName at h
  cases hl : (s.capnames.getD []).lookup nm with
  | some k =>
    simp only [hl, Option.isSome_some, if_true] at h
    split at h
    · cases h
    · injection h with h; exact h ▸ .again hl
  | none =>
    simp only [hl, Option.isSome_none, Bool.false_eq_true, if_false] at h
    split at h <;> injection h with h
    · next ho => exact h ▸ .freshOrd hl ho
    · next ho => exact h ▸ .fresh hl (by simpa using ho)

theorem scanEvent_step {cfg : Cfg} {e : Event} {s s' : PState} (h : scanEvent cfg s e = some s') :
    Step cfg s (kind cfg e) s' := by
  have num : ∀ k, (if cfg.ecma then some s else if cfg.ord then noteName cfg (itoa k) s
      else some (noteSlot k s)) = some s' →
      Step cfg s (if cfg.ecma then .bad else if cfg.ord then .name (itoa k) else .num k) s' := by
    intro k h
    split at h
    · next he => rw [if_pos he]; injection h with h; exact h ▸ .bad
    · next he =>
      rw [if_neg he]
      split at h
      · next ho => rw [if_pos ho]; exact noteName_step h
      · next ho => rw [if_neg ho]; injection h with h; exact h ▸ .num (by simpa using ho)
  cases e with
  | noncap => injection h with h; exact h ▸ .skip
  | unnamed =>
    simp only [scanEvent, kind] at h ⊢
    split at h <;> injection h with h
    · next hx => rw [if_pos hx]; exact h ▸ .skip
    · next hx => rw [if_neg hx]; exact h ▸ .auto
  | named nm => exact noteName_step h
  | numbered k => exact num k h
  | numbered0 k => exact num k h

theorem scanEvents_cons {cfg : Cfg} {e : Event} {es : List Event} {s s' : PState}
    (h : scanEvents cfg (e :: es) s = some s') : ∃ s1, Step cfg s (kind cfg e) s1 ∧ scanEvents cfg es s1 = some s' := by
  obtain ⟨s1, h1, h2⟩ := Option.bind_eq_some_iff.mp h
  exact ⟨s1, scanEvent_step h1, h2⟩

theorem NamesInv.congr {s t : PState} (h : NamesInv s) (h1 : t.capnames.getD [] = s.capnames.getD [])
    (h2 : t.capnamelist = s.capnamelist) : NamesInv t :=
  ⟨by rw [h1, h2]; exact h.keys, h2 ▸ h.nodup⟩

theorem NamesInv.not_mem {s : PState} (h : NamesInv s) {nm : String} (hl : (s.capnames.getD []).lookup nm = none) :
    nm ∉ s.capnamelist :=
  fun hm => by have := lookup_isSome_iff_mem_keys.mpr (h.keys ▸ hm); rw [hl] at this; cases this

theorem NamesInv.mem {s : PState} (h : NamesInv s) {nm : String} {k : Nat}
    (hl : (s.capnames.getD []).lookup nm = some k) : nm ∈ s.capnamelist :=
  h.keys ▸ lookup_isSome_iff_mem_keys.mp (by rw [hl]; rfl)

theorem NamesInv.add {s t : PState} (h : NamesInv s) {nm : String} {v : Nat}
    (hl : (s.capnames.getD []).lookup nm = none) (h1 : t.capnames.getD [] = s.capnames.getD [] ++ [(nm, v)])
    (h2 : t.capnamelist = s.capnamelist ++ [nm]) : NamesInv t := by
  refine ⟨by rw [h1, h2, List.map_append, h.keys]; rfl, h2 ▸ List.nodup_append.mpr ⟨h.nodup, ?_, ?_⟩⟩
  · exact List.nodup_cons.mpr ⟨List.not_mem_nil, .nil⟩
  · exact fun a ha b hb e => h.not_mem hl (List.mem_singleton.mp hb ▸ e ▸ ha)

theorem CapsInv.congr {s t : PState} (h : CapsInv s) (h1 : t.caps = s.caps) (h2 : t.captop = s.captop)
    (h3 : t.autocap = s.autocap) : CapsInv t :=
  ⟨h1 ▸ h.nodup, h1 ▸ h.zero, by rw [h1, h2]; exact h.bound, by rw [h1, h3]; exact h.below⟩

/-- `noteCaptureSlot(autocap)` followed by `autocap++` -/
theorem CapsInv.consume {s : PState} (h : CapsInv s) {s' : PState} (hc : s'.caps = s.caps)
    (ht : s'.captop = s.captop) (ha : s'.autocap = s.autocap + 1) : CapsInv (noteSlot s.autocap s') :=
  h.note _ hc ht fun j hj => (Nat.lt_succ_iff_lt_or_eq.mp (by rwa [ha] at hj)).imp_left (h.below j)

theorem Step.inv {cfg : Cfg} {k : Kind} {s s' : PState} (h : Step cfg s k s') (hc : CapsInv s)
    (hn : NamesInv s) : CapsInv s' ∧ NamesInv s' := by
  cases h with
  | skip | bad => exact ⟨hc, hn⟩
  | auto => exact ⟨hc.consume rfl rfl rfl, hn.congr (by simp) (by simp)⟩
  | num => exact ⟨hc.note _ rfl rfl fun j hj => Or.inl (hc.below j hj), hn.congr (by simp) (by simp)⟩
  | again => exact ⟨hc.congr rfl rfl rfl, hn.congr rfl rfl⟩
  | freshOrd hl => exact ⟨hc.consume rfl rfl rfl, hn.add (v := s.autocap) hl (by simp) (by simp)⟩
  | fresh hl => exact ⟨hc.congr rfl rfl rfl, hn.add hl rfl rfl⟩

theorem scanEvents_inv {cfg : Cfg} (evs : List Event) {s s' : PState} (h : scanEvents cfg evs s = some s')
    (hc : CapsInv s) (hn : NamesInv s) : CapsInv s' ∧ NamesInv s' := by
  induction evs generalizing s with
  | nil => injection h with h; exact h ▸ ⟨hc, hn⟩
  | cons _ es ih =>
    obtain ⟨s1, h1, h2⟩ := scanEvents_cons h
    obtain ⟨hc1, hn1⟩ := h1.inv hc hn
    exact ih h2 hc1 hn1

/-- in pattern-order mode slots are handed out consecutively -/
structure OrdInv (s : PState) : Prop where
  caps : s.caps = List.range s.autocap
  captop : s.captop = s.autocap
  pos : 1 ≤ s.autocap
  vals : ∀ cn, s.capnames = some cn → ∀ nm k, cn.lookup nm = some k → k < s.autocap

theorem ordInv_init : OrdInv initState :=
  ⟨by simp [initState, List.range_succ], rfl, by simp [initState], by simp [initState]⟩

theorem OrdInv.lookup_lt {s : PState} (h : OrdInv s) {nm : String} {k : Nat}
    (hl : (s.capnames.getD []).lookup nm = some k) : k < s.autocap := by
  cases hc : s.capnames with
  | none => simp [hc] at hl
  | some cn => exact h.vals cn hc nm k (by simpa [hc] using hl)

theorem OrdInv.mem_caps {s : PState} (h : OrdInv s) {k : Nat} : k ∈ s.caps ↔ k < s.autocap := by
  rw [h.caps, List.mem_range]

theorem OrdInv.consume {s s' : PState} (h : OrdInv s) (hc : s'.caps = s.caps) (ht : s'.captop = s.captop)
    (ha : s'.autocap = s.autocap + 1)
    (hv : ∀ nm k, (s'.capnames.getD []).lookup nm = some k → k ≤ s.autocap) :
    OrdInv (noteSlot s.autocap s') := by
  have hnot : s.autocap ∉ s'.caps := by rw [hc, h.mem_caps]; exact Nat.lt_irrefl _
  rw [noteSlot_of_not_mem hnot]
  refine ⟨by simp [hc, ha, h.caps, List.range_succ], by simp [ht, ha, h.captop], by simp [ha], ?_⟩
  intro cn hcn nm k hk
  have := hv nm k (by simpa [show s'.capnames = some cn from hcn] using hk)
  simp only [ha]; omega

theorem Step.ordInv {cfg : Cfg} (ho : cfg.ord = true) {k : Kind} {s s' : PState} (h : Step cfg s k s')
    (hi : OrdInv s) : OrdInv s' := by
  cases h with
  | skip | bad => exact hi
  | auto => exact hi.consume rfl rfl rfl fun nm k hk => Nat.le_of_lt (hi.lookup_lt hk)
  | num ho' | fresh _ ho' => rw [ho] at ho'; cases ho'
  | again => exact ⟨hi.caps, hi.captop, hi.pos, fun cn hcn nm k hk => hi.lookup_lt (by injection hcn with hcn; exact hcn ▸ hk)⟩
  | freshOrd =>
    refine hi.consume rfl rfl rfl fun nm k hk => ?_
    rcases lookup_snoc hk with hk | ⟨_, _, rfl⟩
    · exact Nat.le_of_lt (hi.lookup_lt hk)
    · exact Nat.le_refl _

theorem scanEvents_ordInv {cfg : Cfg} (ho : cfg.ord = true) (evs : List Event) {s s' : PState}
    (h : scanEvents cfg evs s = some s') (hi : OrdInv s) : OrdInv s' := by
  induction evs generalizing s with
  | nil => injection h with h; exact h ▸ hi
  | cons _ es ih =>
    obtain ⟨s1, h1, h2⟩ := scanEvents_cons h
    exact ih h2 (h1.ordInv ho hi)

theorem Step.mono {cfg : Cfg} {k : Kind} {s s' : PState} (h : Step cfg s k s') :
    (∀ c ∈ s.caps, c ∈ s'.caps) ∧
    (∀ nm v, (s.capnames.getD []).lookup nm = some v → (s'.capnames.getD []).lookup nm = some v) := by
  have slot : ∀ i (t : PState), t.caps = s.caps → ∀ c ∈ s.caps, c ∈ (noteSlot i t).caps :=
    fun i t ht c hc => noteSlot_caps_mem.mpr (Or.inl (ht ▸ hc))
  cases h with
  | skip | bad | again => exact ⟨fun _ => id, fun _ _ => id⟩
  | auto | num => rw [noteSlot_capnames]; exact ⟨slot _ _ rfl, fun _ _ => id⟩
  | freshOrd => rw [noteSlot_capnames]; exact ⟨slot _ _ rfl, fun _ _ hw => lookup_append_of_some hw⟩
  | fresh => exact ⟨fun _ => id, fun _ _ hw => lookup_append_of_some hw⟩

theorem Step.names {cfg : Cfg} {k : Kind} {s s' : PState} (h : Step cfg s k s') :
    (∀ nm, k = .name nm → ∃ v, (s'.capnames.getD []).lookup nm = some v) ∧
    (∀ x ∈ s'.capnamelist, x ∈ s.capnamelist ∨ k = .name x) := by
  have new : ∀ (nm : String) (v : Nat), (s.capnames.getD []).lookup nm = none →
      (∀ x, Kind.name nm = .name x → ∃ w, (s.capnames.getD [] ++ [(nm, v)]).lookup x = some w) ∧
      (∀ x ∈ s.capnamelist ++ [nm], x ∈ s.capnamelist ∨ Kind.name nm = .name x) := by
    refine fun nm v hl => ⟨fun x hx => ⟨v, ?_⟩, fun x hx => ?_⟩
    · cases hx; rw [lookup_append_of_none hl]; simp
    · exact (List.mem_append.mp hx).imp_right fun hx => by rw [List.mem_singleton.mp hx]
  cases h with
  | skip | bad => exact ⟨nofun, fun _ => Or.inl⟩
  | auto | num => rw [noteSlot_capnames, noteSlot_capnamelist]; exact ⟨nofun, fun _ => Or.inl⟩
  | again hl => exact ⟨fun x hx => ⟨_, by cases hx; exact hl⟩, fun _ => Or.inl⟩
  | freshOrd hl => rw [noteSlot_capnames, noteSlot_capnamelist]; exact new _ _ hl
  | fresh hl => exact new _ _ hl

theorem scanEvents_mono {cfg : Cfg} (evs : List Event) {s s' : PState} (h : scanEvents cfg evs s = some s') :
    (∀ c ∈ s.caps, c ∈ s'.caps) ∧
    (∀ nm k, (s.capnames.getD []).lookup nm = some k → (s'.capnames.getD []).lookup nm = some k) := by
  induction evs generalizing s with
  | nil => injection h with h; subst h; exact ⟨fun _ => id, fun _ _ => id⟩
  | cons e es ih =>
    obtain ⟨s1, h1, h2⟩ := scanEvents_cons h
    exact ⟨fun c hc => (ih h2).1 c (h1.mono.1 c hc), fun nm k hk => (ih h2).2 nm k (h1.mono.2 nm k hk)⟩

theorem scanEvents_names {cfg : Cfg} (evs : List Event) {s s' : PState} (h : scanEvents cfg evs s = some s') :
    (∀ nm, Event.named nm ∈ evs → ∃ k, (s'.capnames.getD []).lookup nm = some k) ∧
    (∀ x ∈ s'.capnamelist, x ∈ s.capnamelist ∨ ∃ e ∈ evs, kind cfg e = .name x) := by
  induction evs generalizing s with
  | nil => injection h with h; subst h; exact ⟨nofun, fun _ => Or.inl⟩
  | cons e es ih =>
    obtain ⟨s1, h1, h2⟩ := scanEvents_cons h
    obtain ⟨a3, a4⟩ := h1.names
    obtain ⟨b3, b4⟩ := ih h2
    refine ⟨fun nm hm => ?_, fun x hx => ?_⟩
    · rcases List.mem_cons.mp hm with rfl | hm
      · obtain ⟨k, hk⟩ := a3 nm rfl; exact ⟨k, (scanEvents_mono es h2).2 nm k hk⟩
      · exact b3 nm hm
    · rcases b4 x hx with hx | ⟨e', he', hb⟩
      · exact (a4 x hx).imp_right fun hb => ⟨e, List.mem_cons_self .., hb⟩
      · exact .inr ⟨e', List.mem_cons_of_mem _ he', hb⟩

theorem kind_name {cfg : Cfg} {e : Event} {x : String} (h : kind cfg e = .name x) :
    e = .named x ∨ (cfg.ord = true ∧ ∃ k, e = .numbered k ∨ e = .numbered0 k) := by
  have num : ∀ k, (if cfg.ecma then Kind.bad else if cfg.ord then .name (itoa k) else .num k) = .name x → cfg.ord = true := by
    intro k h
    split at h
    · cases h
    · split at h
      · assumption
      · cases h
  cases e with
  | noncap => cases h
  | unnamed => simp only [kind] at h; split at h <;> cases h
  | named nm => cases h; exact .inl rfl
  | numbered k => exact .inr ⟨num k h, k, .inl rfl⟩
  | numbered0 k => exact .inr ⟨num k h, k, .inr rfl⟩

theorem scanEvents_goodNames {cfg : Cfg} {evs : List Event} {s : PState} (h : scanEvents cfg evs initState = some s)
    (hg : GoodNames evs) (hno : NoOrdNumbered cfg evs) :
    ∀ nm ∈ s.capnamelist, nm ≠ "" ∧ ∀ k : Nat, nm ≠ itoa k := by
  intro nm hnm
  rcases (scanEvents_names evs h).2 nm hnm with h0 | ⟨e, he, hk⟩
  · cases h0
  · rcases kind_name hk with rfl | ⟨ho, k, rfl | rfl⟩
    · exact hg nm he
    · exact absurd he (hno ho k).1
    · exact absurd he (hno ho k).2

/-! the pre-scan in default order: a closed form of what it leaves -/

/-- in default order: what one more `(` in front adds to the counting functions of the statements, by its kind -/
theorem default_cons {cfg : Cfg} (ho : cfg.ord = false) (e : Event) (es : List Event) (acc : List String) :
    match kind cfg e with
    | .skip => (if cfg.explicitCapture then 0 else countUnnamed (e :: es)) = (if cfg.explicitCapture then 0 else countUnnamed es) ∧
        explicitNumbers (e :: es) = explicitNumbers es ∧ namesInOrderFrom acc (e :: es) = namesInOrderFrom acc es
    | .auto => cfg.explicitCapture = false ∧ countUnnamed (e :: es) = countUnnamed es + 1 ∧
        explicitNumbers (e :: es) = explicitNumbers es ∧ namesInOrderFrom acc (e :: es) = namesInOrderFrom acc es
    | .name nm => countUnnamed (e :: es) = countUnnamed es ∧ explicitNumbers (e :: es) = explicitNumbers es ∧
        namesInOrderFrom acc (e :: es) = if nm ∈ acc then namesInOrderFrom acc es else namesInOrderFrom (acc ++ [nm]) es
    | .num k => countUnnamed (e :: es) = countUnnamed es ∧ explicitNumbers (e :: es) = k :: explicitNumbers es ∧
        namesInOrderFrom acc (e :: es) = namesInOrderFrom acc es
    | .bad => False := by
  cases e with
  | noncap => exact ⟨rfl, rfl, rfl⟩
  | unnamed =>
    simp only [kind]
    by_cases hx : cfg.explicitCapture = true
    · rw [if_pos hx]; exact ⟨by rw [if_pos hx, if_pos hx], rfl, rfl⟩
    · rw [if_neg hx]; exact ⟨by simpa using hx, rfl, rfl, rfl⟩
  | named nm => exact ⟨rfl, rfl, rfl⟩
  | numbered k | numbered0 k =>
    simp only [kind, ecma_of_ord ho, ho, Bool.false_eq_true, if_false]
    exact ⟨rfl, rfl, rfl⟩

/-- the pre-scan without pattern-order bookkeeping: the unnamed groups take the numbers from
    `autocap` on, the names are collected in order of first appearance, and the slot table gains
    exactly those numbers and the explicit ones -/
theorem scanEvents_default {cfg : Cfg} (ho : cfg.ord = false) : ∀ (evs : List Event) {s s' : PState},
    scanEvents cfg evs s = some s' → CapsInv s → NamesInv s →
    s'.autocap = s.autocap + (if cfg.explicitCapture then 0 else countUnnamed evs) ∧
    s'.capnamelist = namesInOrderFrom s.capnamelist evs ∧
    ∀ c, c ∈ s'.caps ↔ c ∈ s.caps ∨ (s.autocap ≤ c ∧ c < s'.autocap) ∨ c ∈ explicitNumbers evs := by
  intro evs
  induction evs with
  | nil =>
    intro s _ h _ _
    injection h with h; subst h
    exact ⟨by split <;> rfl, rfl, fun c => ⟨.inl, fun h => h.elim id fun h => h.elim (by omega) nofun⟩⟩
  | cons e es ih =>
    intro s s' h hc hn
    obtain ⟨s1, h1, h2⟩ := scanEvents_cons h
    obtain ⟨hc1, hn1⟩ := h1.inv hc hn
    obtain ⟨i1, i2, i3⟩ := ih h2 hc1 hn1
    have hd := default_cons ho e es s.capnamelist
    generalize kind cfg e = kd at h1 hd
    cases h1 with
    | bad => cases hd
    | skip => rw [hd.1, hd.2.1, hd.2.2]; exact ⟨i1, i2, i3⟩
    | auto =>
      obtain ⟨hx, d1, d2, d3⟩ := hd
      simp only [hx, Bool.false_eq_true, if_false, noteSlot_autocap, noteSlot_capnamelist] at i1 i2 ⊢
      refine ⟨by omega, by rw [d3, i2], fun c => ?_⟩
      have : s.autocap ≤ c ∧ c < s'.autocap ↔ c = s.autocap ∨ (s.autocap + 1 ≤ c ∧ c < s'.autocap) := by omega
      rw [i3, noteSlot_caps_mem, noteSlot_autocap, this, d2]
      exact or_assoc.trans (or_congr_right or_assoc.symm)
    | num =>
      rw [hd.1, hd.2.1, hd.2.2]
      simp only [noteSlot_autocap, noteSlot_capnamelist] at i1 i2
      refine ⟨i1, i2, fun c => ?_⟩
      rw [i3, noteSlot_caps_mem, noteSlot_autocap, List.mem_cons]
      simp only [or_assoc, or_left_comm, or_comm]
    | again hl => rw [hd.1, hd.2.1, hd.2.2, if_pos (hn.mem hl)]; exact ⟨i1, i2, i3⟩
    | freshOrd _ ho' => rw [ho] at ho'; cases ho'
    | fresh hl => rw [hd.1, hd.2.1, hd.2.2, if_neg (hn.not_mem hl)]; exact ⟨i1, i2, i3⟩

/-! ### `assignNameSlots` (no MaintainCaptureOrder) -/

theorem nextFree_spec (caps : List Nat) (top : Nat) (hb : ∀ c ∈ caps, c < top) :
    ∀ (f a : Nat), top ≤ f + a →
      nextFree caps f a ∉ caps ∧ a ≤ nextFree caps f a ∧ ∀ b, a ≤ b → b < nextFree caps f a → b ∈ caps := by
  intro f
  induction f with
  | zero => exact fun a h => ⟨fun hm => by have := hb a hm; omega, Nat.le_refl _, fun b h1 h2 => by simp only [nextFree] at h2; omega⟩
  | succ f ih =>
    intro a h
    simp only [nextFree]
    split
    · next ha =>
      obtain ⟨h1, h2, h3⟩ := ih (a + 1) (by omega)
      refine ⟨h1, by omega, fun b hb1 hb2 => ?_⟩
      rcases Nat.eq_or_lt_of_le hb1 with rfl | hlt
      · exact ha
      · exact h3 b hlt hb2
    · next ha => exact ⟨ha, Nat.le_refl _, fun b h1 h2 => by omega⟩

/-- the number the next name gets: the first free one from `autocap` on -/
def freeSlot (s : PState) : Nat := nextFree s.caps (s.captop - s.autocap) s.autocap

theorem freeSlot_spec {s : PState} (hc : CapsInv s) :
    freeSlot s ∉ s.caps ∧ s.autocap ≤ freeSlot s ∧ ∀ b, s.autocap ≤ b → b < freeSlot s → b ∈ s.caps :=
  nextFree_spec s.caps s.captop hc.bound _ _ (by omega)

/-- one round of the first loop of `assignNameSlots` -/
def assignStep (name : String) (s : PState) : PState :=
  noteSlot (freeSlot s)
    { s with autocap := freeSlot s + 1, capnames := some (setKey name (freeSlot s) (s.capnames.getD [])) }

theorem noteSlot_set_autocap (i a : Nat) (s : PState) :
    { noteSlot i s with autocap := a } = noteSlot i { s with autocap := a } := by
  by_cases h : i ∈ s.caps
  · rw [noteSlot_of_mem h, noteSlot_of_mem (s := { s with autocap := a }) h]
  · rw [noteSlot_of_not_mem h, noteSlot_of_not_mem (s := { s with autocap := a }) h]

theorem assignLoop_cons (name : String) (rest : List String) (s : PState) :
    assignLoop (name :: rest) s = assignLoop rest (assignStep name s) :=
  congrArg (assignLoop rest) (noteSlot_set_autocap _ _ _)

theorem assignStep_capsInv (name : String) {s : PState} (hc : CapsInv s) : CapsInv (assignStep name s) := by
  obtain ⟨_, h2, h3⟩ := freeSlot_spec hc
  refine hc.note _ rfl rfl fun j (hj : j < freeSlot s + 1) => ?_
  by_cases hj1 : j < s.autocap
  · exact .inl (hc.below j hj1)
  · by_cases hj2 : j = freeSlot s
    · exact .inr hj2
    · exact .inl (h3 j (by omega) (by omega))

theorem ChainRule.congr {lk lk' : String → Option Nat} {E : Nat → Prop} : ∀ (ns : List String) (prev : Nat),
    (∀ nm ∈ ns, lk nm = lk' nm) → ChainRule lk E prev ns → ChainRule lk' E prev ns
  | [], _, _, _ => trivial
  | nm :: rest, _, heq, ⟨k, h1, h2, h3, h4, h5⟩ =>
    ⟨k, heq nm (List.mem_cons_self ..) ▸ h1, h2, h3, h4,
      ChainRule.congr rest k (fun x hx => heq x (List.mem_cons_of_mem _ hx)) h5⟩

/-- Induction over the names.  The chain is stated for any set `E` of reserved numbers that the slot table contains
    and that accounts for every slot from `autocap` on: one round (`assignStep`) takes the first free number, which
    is then below the new `autocap`, so the two conditions on `E` hold again for the rest of the names. -/
theorem assignLoop_spec : ∀ (ns : List String) (s : PState) (cn : List (String × Nat)),
    s.capnames = some cn → CapsInv s → (∀ nm ∈ ns, nm ∈ cn.map Prod.fst) → ns.Nodup →
    ∃ cn', (assignLoop ns s).capnames = some cn' ∧ CapsInv (assignLoop ns s) ∧
      (assignLoop ns s).capnamelist = s.capnamelist ∧ cn'.map Prod.fst = cn.map Prod.fst ∧
      (∀ nm, nm ∉ ns → cn'.lookup nm = cn.lookup nm) ∧
      (∀ nm ∈ ns, ∃ k, cn'.lookup nm = some k ∧ k ∈ (assignLoop ns s).caps) ∧
      (∀ c ∈ s.caps, c ∈ (assignLoop ns s).caps) ∧
      ∀ E : Nat → Prop, (∀ c, E c → c ∈ s.caps) → (∀ c ∈ s.caps, c < s.autocap ∨ E c) → 1 ≤ s.autocap →
        ChainRule (fun nm => cn'.lookup nm) E (s.autocap - 1) ns := by
  intro ns
  induction ns with
  | nil => exact fun s cn hcn hc _ _ => ⟨cn, hcn, hc, rfl, rfl, fun _ _ => rfl, nofun, fun _ => id, fun _ _ _ _ => trivial⟩
  | cons name rest ih =>
    intro s cn hcn hc hk hnd
    rw [assignLoop_cons]
    rw [List.nodup_cons] at hnd
    have hkeys : (setKey name (freeSlot s) cn).map Prod.fst = cn.map Prod.fst :=
      keys_setKey_of_mem (hk name (List.mem_cons_self ..))
    obtain ⟨cn', h1, h2, h3, h4, h5, h6, h7, h8⟩ := ih (assignStep name s) (setKey name (freeSlot s) cn)
      (by simp [assignStep, hcn]) (assignStep_capsInv name hc)
      (fun nm hm => hkeys ▸ hk nm (List.mem_cons_of_mem _ hm)) hnd.2
    have hself : cn'.lookup name = some (freeSlot s) := by rw [h5 name hnd.1, lookup_setKey_self]
    refine ⟨cn', h1, h2, by simpa [assignStep] using h3, h4.trans hkeys, fun nm hnm => ?_, fun nm hnm => ?_,
      fun c hcm => h7 c (noteSlot_caps_mem.mpr (.inl hcm)), fun E hE1 hE2 hpos => ?_⟩
    · rw [List.mem_cons, not_or] at hnm
      rw [h5 nm hnm.2, lookup_setKey_ne hnm.1]
    · rcases List.mem_cons.mp hnm with rfl | hr
      · exact ⟨freeSlot s, hself, h7 _ (noteSlot_caps_mem.mpr (.inr rfl))⟩
      · exact h6 nm hr
    · obtain ⟨hnot, hge, hbetween⟩ := freeSlot_spec hc
      have ha : (assignStep name s).autocap = freeSlot s + 1 := noteSlot_autocap _ _
      have := h8 E (fun c hc' => noteSlot_caps_mem.mpr (.inl (hE1 c hc')))
        (fun c hc' => (noteSlot_caps_mem.mp hc').elim
          (fun h => (hE2 c h).imp_left fun h' => by omega) fun h => .inl (by omega)) (by omega)
      rw [ha] at this
      exact ⟨freeSlot s, hself, by omega, fun he => hnot (hE1 _ he),
        fun n h1 h2 => (hE2 n (hbetween n (by omega) h2)).resolve_left (by omega), this⟩

/-- The loop merges the ascending numbers `js` with the old names, whose numbers ascend along the list: `next` is
    the number of the first old name left, so at `j` either that name is due or slot `j` is unnamed and gets
    `Itoa(j)`.  A written name is no decimal string (`hold`), hence `setKey (itoa j)` never disturbs one. -/
theorem mergeNames_spec : ∀ (js : List Nat) (old : List String) (next : Option Nat) (cn : List (String × Nat)),
    js.Nodup → (∀ nm ∈ old, nm ≠ "" ∧ ∀ k : Nat, nm ≠ itoa k) →
    next = old.head?.bind (fun n => cn.lookup n) →
    (mergeNames js old next cn).1.length = js.length ∧
    (∀ (i : Nat) (nm : String), (mergeNames js old next cn).1[i]? = some nm → (mergeNames js old next cn).2.lookup nm = js[i]?) ∧
    (∀ nm, (∀ j ∈ js, nm ≠ itoa j) → (mergeNames js old next cn).2.lookup nm = cn.lookup nm) ∧
    (∀ nm k, (mergeNames js old next cn).2.lookup nm = some k → cn.lookup nm = some k ∨ k ∈ js) ∧
    "" ∉ (mergeNames js old next cn).1 := by
  intro js
  induction js with
  | nil => intro old next cn _ _ _; simp [mergeNames]
  | cons j js ih =>
    intro old next cn hnd hold hnext
    rw [List.nodup_cons] at hnd
    -- both branches emit one name `x` with number `j` and go on with the rest
    have emit : ∀ (x : String) (r : List String × List (String × Nat)), x ≠ "" → r.1.length = js.length →
        (∀ (i : Nat) (nm : String), r.1[i]? = some nm → r.2.lookup nm = js[i]?) → "" ∉ r.1 → r.2.lookup x = some j →
        (x :: r.1).length = (j :: js).length ∧
        (∀ (i : Nat) (nm : String), (x :: r.1)[i]? = some nm → r.2.lookup nm = (j :: js)[i]?) ∧ "" ∉ x :: r.1 := by
      intro x r hx h1 h2 h5 hj
      refine ⟨by simp [h1], fun i nm hi => ?_, by simpa [Ne.symm hx] using h5⟩
      cases i with
      | zero => injection hi with hi; exact hi ▸ hj
      | succ i => exact h2 i nm hi
    by_cases hn : next = some j
    · match old, hnext with
      | [], hnext => cases hn.symm.trans hnext
      | nm :: old', hnext =>
        have hnm := hold nm (List.mem_cons_self ..)
        obtain ⟨h1, h2, h3, h4, h5⟩ := ih old' (old'.head?.bind (fun n => cn.lookup n)) cn hnd.2
          (fun x hx => hold x (List.mem_cons_of_mem _ hx)) rfl
        simp only [mergeNames, hn, if_true]
        obtain ⟨e1, e2, e3⟩ := emit nm _ hnm.1 h1 h2 h5 (by rw [h3 nm fun j' _ => hnm.2 j', ← hn, hnext]; rfl)
        exact ⟨e1, e2, fun x hx => h3 x fun j' hj' => hx j' (List.mem_cons_of_mem _ hj'),
          fun x k hxk => (h4 x k hxk).imp_right (List.mem_cons_of_mem _), e3⟩
    · have hnext' : next = old.head?.bind (fun n => (setKey (itoa j) j cn).lookup n) := by
        rw [hnext]
        cases old with
        | nil => rfl
        | cons x xs => exact (lookup_setKey_ne ((hold x (List.mem_cons_self ..)).2 j) j cn).symm
      obtain ⟨h1, h2, h3, h4, h5⟩ := ih old next (setKey (itoa j) j cn) hnd.2 hold hnext'
      simp only [mergeNames, hn, if_false]
      obtain ⟨e1, e2, e3⟩ := emit (itoa j) _ (itoa_ne_empty j) h1 h2 h5
        (by rw [h3 (itoa j) fun j' hj' e => hnd.1 (itoa_inj e ▸ hj'), lookup_setKey_self])
      refine ⟨e1, e2, fun x hx => ?_, fun x k hxk => ?_, e3⟩
      · rw [h3 x fun j' hj' => hx j' (List.mem_cons_of_mem _ hj'), lookup_setKey_ne (hx j (List.mem_cons_self ..))]
      · rcases h4 x k hxk with h | h
        · by_cases hxj : x = itoa j
          · rw [hxj, lookup_setKey_self] at h
            injection h with h; exact .inr (h ▸ List.mem_cons_self ..)
          · rw [lookup_setKey_ne hxj] at h; exact .inl h
        · exact .inr (List.mem_cons_of_mem _ h)

/-- the numbers in use, ascending: `capnumlist` when there is a gap, else `0 … capcount-1` -/
def usedNumbers (caps : List Nat) (captop : Nat) : List Nat :=
  if caps.length < captop then isort caps else List.range caps.length

/-- without a gap the noted numbers are `0 … capcount-1` in some order, so in both cases
    `usedNumbers` is the sorted slot table -/
theorem usedNumbers_eq_isort {caps : List Nat} {captop : Nat} (hnd : caps.Nodup) (hb : ∀ c ∈ caps, c < captop) :
    usedNumbers caps captop = isort caps ∧ caps.length ≤ captop := by
  have hs := pairwise_isort hnd
  have hle := length_le_of_pairwise_lt hs (a := 0) (b := captop) fun x hx => ⟨Nat.zero_le _, hb x (mem_isort.mp hx)⟩
  rw [length_isort] at hle
  refine ⟨?_, hle⟩
  unfold usedNumbers
  split
  · rfl
  · have hlen : (isort caps).length = captop := by rw [length_isort]; omega
    rw [← length_isort, ← sorted_full_eq_range _ hs fun x hx => hlen ▸ hb x (mem_isort.mp hx)]

theorem usedNumbers_spec {caps : List Nat} {captop : Nat} (hnd : caps.Nodup) (hb : ∀ c ∈ caps, c < captop) :
    (usedNumbers caps captop).Pairwise (· < ·) ∧ (usedNumbers caps captop).length = caps.length ∧
    (∀ k, k ∈ usedNumbers caps captop ↔ k ∈ caps) ∧
    (¬ caps.length < captop → caps.length = captop) := by
  obtain ⟨he, hle⟩ := usedNumbers_eq_isort hnd hb
  rw [he]
  exact ⟨pairwise_isort hnd, length_isort _, fun _ => mem_isort, fun h => by omega⟩

/-- consistency of the tables the pre-scan hands over -/
structure TInv (good : Prop) (ecma : Bool) (t : Tables) : Prop where
  nodup : t.caps.Nodup
  zero : 0 ∈ t.caps
  bound : ∀ c ∈ t.caps, c < t.captop
  cnl : t.capnumlist = if t.caps.length < t.captop then some (isort t.caps) else none
  both : t.caplist = none ↔ t.capnames = none
  dense_of_none : t.caplist = none → t.capnumlist = none
  len : ∀ cl, t.caplist = some cl → cl.length = t.caps.length
  /-- (`good`: no written name is a decimal number — fails only for `(?<k>…)` in pattern-order mode) -/
  name_num : good → ∀ cl cn, t.caplist = some cl → t.capnames = some cn → ∀ (i : Nat) (nm : String),
      cl[i]? = some nm → nm ≠ "" → cn.lookup nm = (usedNumbers t.caps t.captop)[i]?
  nonempty : good → ecma = false → ∀ cl, t.caplist = some cl → "" ∉ cl
  values : ∀ cn, t.capnames = some cn → ∀ nm k, cn.lookup nm = some k → k ∈ t.caps

theorem TInv.imp {g g' : Prop} {e : Bool} {t : Tables} (h : g' → g) (ht : TInv g e t) : TInv g' e t :=
  { ht with name_num := fun hg => ht.name_num (h hg), nonempty := fun hg => ht.nonempty (h hg) }

theorem TInv.of_some {good : Prop} {ecma : Bool} {caps : List Nat} {captop : Nat} {cnl : Option (List Nat)}
    {cn : List (String × Nat)} {cl : List String} (hnd : caps.Nodup) (h0 : 0 ∈ caps) (hb : ∀ c ∈ caps, c < captop)
    (hcnl : cnl = if caps.length < captop then some (isort caps) else none) (hlen : cl.length = caps.length)
    (hnum : good → ∀ (i : Nat) (nm : String), cl[i]? = some nm → nm ≠ "" → cn.lookup nm = (usedNumbers caps captop)[i]?)
    (hne : good → ecma = false → "" ∉ cl) (hv : ∀ nm k, cn.lookup nm = some k → k ∈ caps) :
    TInv good ecma { caps := caps, capnumlist := cnl, captop := captop, capnames := some cn, caplist := some cl } :=
  ⟨hnd, h0, hb, hcnl, ⟨nofun, nofun⟩, nofun, fun _ h => Option.some.inj h ▸ hlen,
    fun hg _ _ h1 h2 => Option.some.inj h1 ▸ Option.some.inj h2 ▸ hnum hg,
    fun hg he _ h => Option.some.inj h ▸ hne hg he, fun _ h => Option.some.inj h ▸ hv⟩

theorem TInv.of_none {good : Prop} {ecma : Bool} {caps : List Nat} {captop : Nat} (hnd : caps.Nodup) (h0 : 0 ∈ caps)
    (hb : ∀ c ∈ caps, c < captop) (hcnl : none = if caps.length < captop then some (isort caps) else none) :
    TInv good ecma { caps := caps, capnumlist := none, captop := captop, capnames := none, caplist := none } :=
  ⟨hnd, h0, hb, hcnl, ⟨fun _ => rfl, fun _ => rfl⟩, fun _ => rfl, nofun, nofun, nofun, nofun⟩

theorem capnumlistOf_getD (s : PState) :
    (capnumlistOf s).getD (List.range s.caps.length) = usedNumbers s.caps s.captop := by
  unfold capnumlistOf usedNumbers
  split <;> rfl

theorem finishNames_inv (s : PState) (hc : CapsInv s) (hn : NamesInv s)
    (hgood : ∀ nm ∈ s.capnamelist, nm ≠ "" ∧ ∀ k : Nat, nm ≠ itoa k)
    (hvals : ∀ nm k, (s.capnames.getD []).lookup nm = some k → k ∈ s.caps) :
    TInv True false (finishNames s) ∧ (finishNames s).caps = s.caps ∧
    ∀ nm ∈ s.capnamelist, ((finishNames s).capnames.bind fun c => c.lookup nm) = (s.capnames.getD []).lookup nm := by
  obtain ⟨hu1, hu2, hu3, _⟩ := usedNumbers_spec hc.nodup hc.bound
  unfold finishNames
  simp only
  split
  · have hold : (if s.capnames.isSome = true then s.capnamelist else []) = s.capnamelist := by
      cases hcn : s.capnames with
      | none => have := hn.keys; rw [hcn] at this; exact this
      | some cn => rfl
    rw [hold, capnumlistOf_getD]
    obtain ⟨m1, m2, m3, m4, m5⟩ := mergeNames_spec (usedNumbers s.caps s.captop) s.capnamelist
      (s.capnamelist.head?.bind fun n => (s.capnames.getD []).lookup n) (s.capnames.getD [])
      (nodup_of_pairwise_lt hu1) hgood rfl
    exact ⟨.of_some hc.nodup hc.zero hc.bound rfl (m1.trans hu2) (fun _ i nm hi _ => m2 i nm hi) (fun _ _ => m5)
      fun nm k hk => (m4 nm k hk).elim (hvals nm k) (hu3 k).mp, rfl, fun nm hnm => m3 nm fun j _ => (hgood nm hnm).2 j⟩
  · next hcond =>
    simp only [Bool.or_eq_true, not_or, Bool.not_eq_true, Option.isSome_eq_false_iff, Option.isNone_iff_eq_none] at hcond
    refine ⟨hcond.2 ▸ .of_none hc.nodup hc.zero hc.bound (hcond.2.symm.trans rfl), rfl, fun nm hnm => ?_⟩
    rw [← hn.keys, hcond.1] at hnm; cases hnm

/-- `assignNameSlots` is its loop over the names (`assignLoop_spec`: each name takes the next free number; slots,
    lookups and the chain rule are carried along) followed by `finishNames` (`finishNames_inv`: the name list, and
    `TInv`); without names only the second runs.  The conjuncts: the tables are consistent, keep the slots of the
    pre-scan, give every name a slot, and number the names by `ChainRule`. -/
theorem assignNameSlots_inv (s0 : PState) (hc : CapsInv s0) (hn : NamesInv s0)
    (hgood : ∀ nm ∈ s0.capnamelist, nm ≠ "" ∧ ∀ k : Nat, nm ≠ itoa k) :
    TInv True false (assignNameSlots s0) ∧ (∀ c ∈ s0.caps, c ∈ (assignNameSlots s0).caps) ∧
    (∀ nm ∈ s0.capnamelist, ∃ k, ((assignNameSlots s0).capnames.bind fun c => c.lookup nm) = some k ∧
        k ∈ (assignNameSlots s0).caps) ∧
    ∀ E : Nat → Prop, (∀ c, E c → c ∈ s0.caps) → (∀ c ∈ s0.caps, c < s0.autocap ∨ E c) → 1 ≤ s0.autocap →
      ChainRule (fun nm => (assignNameSlots s0).capnames.bind fun c => c.lookup nm) E (s0.autocap - 1) s0.capnamelist := by
  unfold assignNameSlots
  cases hcn : s0.capnames with
  | none =>
    have hnil : s0.capnamelist = [] := by rw [← hn.keys, hcn]; rfl
    obtain ⟨h1, h2, _⟩ := finishNames_inv s0 hc hn hgood (by simp [hcn])
    exact ⟨h1, fun c hcm => h2 ▸ hcm, by simp [hnil], fun _ _ _ _ => hnil ▸ trivial⟩
  | some cn0 =>
    simp only [Option.isSome_some, if_true]
    have hkeys : cn0.map Prod.fst = s0.capnamelist := by rw [← hn.keys, hcn]; rfl
    obtain ⟨cn', a1, a2, a3, a4, _, a6, a7, a8⟩ := assignLoop_spec s0.capnamelist s0 cn0 hcn hc
      (fun nm hm => hkeys ▸ hm) hn.nodup
    have hn' : NamesInv (assignLoop s0.capnamelist s0) :=
      ⟨by rw [a1, a3]; exact a4.trans hkeys, by rw [a3]; exact hn.nodup⟩
    obtain ⟨h1, h2, h4⟩ := finishNames_inv _ a2 hn' (by rw [a3]; exact hgood) (by
      intro nm k hk
      obtain ⟨k', hk', hc'⟩ := a6 nm (by rw [← a3]; exact hn'.mem hk)
      rw [a1] at hk
      exact Option.some.inj (hk.symm.trans hk') ▸ hc')
    have hlk : ∀ nm ∈ s0.capnamelist, cn'.lookup nm =
        ((finishNames (assignLoop s0.capnamelist s0)).capnames.bind fun c => c.lookup nm) :=
      fun nm hnm => by rw [h4 nm (by rw [a3]; exact hnm), a1]; rfl
    refine ⟨h1, fun c hcm => h2 ▸ a7 c hcm, fun nm hnm => ?_,
      fun E hE1 hE2 hpos => ChainRule.congr _ _ hlk (a8 E hE1 hE2 hpos)⟩
    obtain ⟨k, hk1, hk2⟩ := a6 nm hnm
    exact ⟨k, (hlk nm hnm).symm.trans hk1, h2 ▸ hk2⟩

/-! ### `assignOrderedNameSlots` (MaintainCaptureOrder, ECMAScript) -/

/-- first loop of `assignOrderedNameSlots` (no gaps): a non-empty entry sits at the slot of its name -/
theorem placeNames_spec (cn : List (String × Nat)) : ∀ (names : List String) (cl : List String),
    (∀ nm ∈ names, (cn.lookup nm).isSome) →
    (∀ (i : Nat) (nm : String), cl[i]? = some nm → nm ≠ "" → cn.lookup nm = some i) →
    (placeNames none cn names cl).length = cl.length ∧
    (∀ (i : Nat) (nm : String), (placeNames none cn names cl)[i]? = some nm → nm ≠ "" → cn.lookup nm = some i) := by
  intro names
  induction names with
  | nil => exact fun cl _ h => ⟨rfl, h⟩
  | cons name rest ih =>
    intro cl hk h
    obtain ⟨slot, hslot⟩ := Option.isSome_iff_exists.mp (hk name (List.mem_cons_self ..))
    have := ih (cl.set slot name) (fun nm hm => hk nm (List.mem_cons_of_mem _ hm)) (by
      intro i nm hi hne
      rw [List.getElem?_set] at hi
      split at hi
      · next hsi =>
        split at hi
        · injection hi with hi; exact hi ▸ hsi ▸ hslot
        · cases hi
      · exact h i nm hi hne)
    simp only [placeNames, hslot, Option.getD_some]
    exact ⟨by simpa using this.1, this.2⟩

/-- what the second loop does to the map, whatever the names are -/
theorem fillNames_basic : ∀ (slots : List Nat) (cl : List String) (cn : List (String × Nat)),
    slots.length = cl.length →
    (fillNames slots cl cn).1.length = cl.length ∧
    (∀ nm k, cn.lookup nm = some k → (fillNames slots cl cn).2.lookup nm = some k) ∧
    (∀ nm k, (fillNames slots cl cn).2.lookup nm = some k → cn.lookup nm = some k ∨ k ∈ slots) := by
  intro slots
  induction slots with
  | nil => intro cl cn hl; cases cl with
    | nil => exact ⟨rfl, fun _ _ => id, fun _ _ => .inl⟩
    | cons _ _ => cases hl
  | cons slot slots ih =>
    intro cl cn hl
    cases cl with
    | nil => cases hl
    | cons nm cl =>
      simp only [fillNames]
      generalize (if nm = "" then itoa slot else nm) = nm'
      obtain ⟨r1, r4, r5⟩ := ih cl (if (cn.lookup nm').isSome then cn else cn ++ [(nm', slot)])
        (Nat.succ.inj hl)
      refine ⟨by simp [r1], fun x k hk => r4 x k ?_, fun x k hk => ?_⟩
      · split
        · exact hk
        · exact lookup_append_of_some hk
      · rcases r5 x k hk with h | h
        · split at h
          · exact .inl h
          · exact (lookup_snoc h).imp_right fun ⟨_, _, hk⟩ => hk ▸ List.mem_cons_self ..
        · exact .inr (List.mem_cons_of_mem _ h)

/-- second loop of `assignOrderedNameSlots`: an unnamed slot `j` gets the name `itoa j`, which must not be in the map yet
    (last hypothesis; from `GoodNames`: no written name is a decimal number) -/
theorem fillNames_spec : ∀ (slots : List Nat) (cl : List String) (cn : List (String × Nat)),
    slots.length = cl.length → slots.Nodup →
    (∀ (i : Nat) (nm : String), cl[i]? = some nm → nm ≠ "" → cn.lookup nm = slots[i]?) →
    (∀ j ∈ slots, cn.lookup (itoa j) = none) →
    (fillNames slots cl cn).1.length = cl.length ∧
    (∀ (i : Nat) (nm : String), (fillNames slots cl cn).1[i]? = some nm → (fillNames slots cl cn).2.lookup nm = slots[i]?) ∧
    "" ∉ (fillNames slots cl cn).1 ∧
    (∀ nm k, cn.lookup nm = some k → (fillNames slots cl cn).2.lookup nm = some k) ∧
    (∀ nm k, (fillNames slots cl cn).2.lookup nm = some k → cn.lookup nm = some k ∨ k ∈ slots) := by
  intro slots
  induction slots with
  | nil => intro cl cn hl; cases cl with
    | nil => intros; simp [fillNames]
    | cons _ _ => cases hl
  | cons slot slots ih =>
    intro cl cn hl hnd hA hB
    cases cl with
    | nil => cases hl
    | cons nm cl =>
      obtain ⟨b1, b4, b5⟩ := fillNames_basic (slot :: slots) (nm :: cl) cn hl
      suffices h : (∀ (i : Nat) (x : String), (fillNames (slot :: slots) (nm :: cl) cn).1[i]? = some x →
          (fillNames (slot :: slots) (nm :: cl) cn).2.lookup x = (slot :: slots)[i]?) ∧
          "" ∉ (fillNames (slot :: slots) (nm :: cl) cn).1 from ⟨b1, h.1, h.2, b4, b5⟩
      rw [List.nodup_cons] at hnd
      have hl' : slots.length = cl.length := by simpa using hl
      simp only [fillNames]
      -- the name of this slot, the map after it, and what the rest of the loop needs of that map
      have key : ∀ (nm' : String) (cn' : List (String × Nat)), nm' ≠ "" → cn'.lookup nm' = some slot →
          (∀ (i : Nat) (x : String), cl[i]? = some x → x ≠ "" → cn'.lookup x = slots[i]?) →
          (∀ j ∈ slots, cn'.lookup (itoa j) = none) →
          (∀ (i : Nat) (x : String), (nm' :: (fillNames slots cl cn').1)[i]? = some x →
            (fillNames slots cl cn').2.lookup x = (slot :: slots)[i]?) ∧ "" ∉ nm' :: (fillNames slots cl cn').1 := by
        intro nm' cn' hne hself hA' hB'
        obtain ⟨_, r2, r3, r4, _⟩ := ih cl cn' hl' hnd.2 hA' hB'
        refine ⟨fun i x hx => ?_, by simpa [Ne.symm hne] using r3⟩
        cases i with
        | zero => injection hx with hx; exact hx ▸ r4 _ _ hself
        | succ i => exact r2 i x hx
      by_cases hnm : nm = ""
      · -- unnamed slot: gets its decimal number, which is new in the map
        have hnone : cn.lookup (itoa slot) = none := hB slot (List.mem_cons_self ..)
        simp only [hnm, if_true, hnone, Option.isSome_none, Bool.false_eq_true, if_false]
        refine key (itoa slot) (cn ++ [(itoa slot, slot)]) (itoa_ne_empty slot)
          (by rw [lookup_append_of_none hnone]; simp) (fun i x hx hne => ?_)
          fun j hj => ?_
        · have := hA (i + 1) x hx hne
          obtain ⟨v, hv⟩ : ∃ v, slots[i]? = some v :=
            ⟨slots[i]'(hl' ▸ (List.getElem?_eq_some_iff.mp hx).1), List.getElem?_eq_getElem _⟩
          rw [List.getElem?_cons_succ, hv] at this
          rw [hv]; exact lookup_append_of_some this
        · rw [lookup_append_of_none (hB j (List.mem_cons_of_mem _ hj))]
          have hne : itoa j ≠ itoa slot := fun e => hnd.1 (itoa_inj e ▸ hj)
          simp [List.lookup_cons, beq_false_of_ne hne]
      · -- named slot: its name is in the map already
        have hlk : cn.lookup nm = some slot := hA 0 nm rfl hnm
        simp only [hnm, if_false, hlk, Option.isSome_some, if_true]
        exact key _ _ hnm hlk (fun i x hx hne => hA (i + 1) x hx hne) fun j hj => hB j (List.mem_cons_of_mem _ hj)

/-- In pattern order the slots are `0 … autocap-1` (`OrdInv`), so `capnumlist` is nil, the index of a slot is the
    slot, and `TInv` is read off `placeNames_spec` followed by `fillNames_spec`. -/
theorem assignOrderedNameSlots_inv (cfg : Cfg) (s : PState) (hc : CapsInv s) (hn : NamesInv s) (ho : OrdInv s) :
    TInv (∀ nm ∈ s.capnamelist, nm ≠ "" ∧ ∀ k : Nat, nm ≠ itoa k) cfg.ecma (assignOrderedNameSlots cfg s) ∧
    (assignOrderedNameSlots cfg s).caps = s.caps ∧
    (∀ nm ∈ s.capnamelist, ((assignOrderedNameSlots cfg s).capnames.bind fun c => c.lookup nm) =
        (s.capnames.getD []).lookup nm) := by
  have hlen : s.caps.length = s.captop := by rw [ho.caps, ho.captop, List.length_range]
  have hcnl : capnumlistOf s = none := if_neg (by omega)
  have hcnl' : none = if s.caps.length < s.captop then some (isort s.caps) else none := hcnl.symm
  have hused : usedNumbers s.caps s.captop = List.range s.caps.length := if_neg (by omega)
  have hvals : ∀ nm k, (s.capnames.getD []).lookup nm = some k → k ∈ s.caps :=
    fun nm k hk => ho.mem_caps.mpr (ho.lookup_lt hk)
  unfold assignOrderedNameSlots
  split
  · next hearly =>
    have hnone : s.capnames = none := by simp at hearly; exact hearly.1.2
    have hnil : s.capnamelist = [] := by rw [← hn.keys, hnone]; rfl
    exact ⟨.of_none hc.nodup hc.zero hc.bound hcnl', rfl, by simp [hnil]⟩
  · simp only [hcnl, Option.getD_none]
    have hkeys : ∀ nm ∈ s.capnamelist, ((s.capnames.getD []).lookup nm).isSome :=
      fun nm hnm => lookup_isSome_iff_mem_keys.mpr (hn.keys ▸ hnm)
    obtain ⟨p1, p2⟩ := placeNames_spec (s.capnames.getD []) s.capnamelist (List.replicate s.caps.length "") hkeys
      (by intro i nm hi hne
          rw [List.getElem?_replicate] at hi
          split at hi
          · injection hi with hi; exact absurd hi.symm hne
          · cases hi)
    rw [List.length_replicate] at p1
    have p2' : ∀ (i : Nat) (nm : String),
        (placeNames none (s.capnames.getD []) s.capnamelist (List.replicate s.caps.length ""))[i]? = some nm →
        nm ≠ "" → (s.capnames.getD []).lookup nm = (List.range s.caps.length)[i]? := by
      intro i nm hi hne
      rw [p2 i nm hi hne, List.getElem?_range (p1 ▸ (List.getElem?_eq_some_iff.mp hi).1)]
    split
    · next he =>
      exact ⟨.of_some hc.nodup hc.zero hc.bound hcnl' p1 (fun _ => hused ▸ p2') (by simp [he]) hvals, rfl, fun nm _ => rfl⟩
    · have hp1 : (List.range s.caps.length).length =
          (placeNames none (s.capnames.getD []) s.capnamelist (List.replicate s.caps.length "")).length := by
        rw [p1, List.length_range]
      obtain ⟨f1, f4, f5⟩ := fillNames_basic _ _ (s.capnames.getD []) hp1
      have hspec := fun (hgood : ∀ nm ∈ s.capnamelist, nm ≠ "" ∧ ∀ k : Nat, nm ≠ itoa k) =>
        fillNames_spec _ _ (s.capnames.getD []) hp1 List.nodup_range p2' fun j _ =>
          Option.eq_none_iff_forall_ne_some.mpr fun v hv => (hgood _ (hn.mem hv)).2 j rfl
      refine ⟨.of_some hc.nodup hc.zero hc.bound hcnl' (f1.trans p1)
        (fun hgood i nm hi _ => hused ▸ (hspec hgood).2.1 i nm hi) (fun hgood _ => (hspec hgood).2.2.1)
        fun nm k hk => (f5 nm k hk).elim (hvals nm k) fun h =>
          ho.mem_caps.mpr (by rw [← ho.captop, ← hlen]; exact List.mem_range.mp h), rfl, fun nm hnm => ?_⟩
      obtain ⟨k, hk⟩ := Option.isSome_iff_exists.mp (hkeys nm hnm)
      rw [hk]; exact f4 nm k hk

/-! ### every compiled pattern has consistent tables -/

theorem countCaptures_state {cfg : Cfg} {evs : List Event} {t : Tables} (h : countCaptures cfg evs = some t) :
    ∃ s, scanEvents cfg evs initState = some s ∧ CapsInv s ∧ NamesInv s ∧
      t = if cfg.ord then assignOrderedNameSlots cfg s else assignNameSlots s := by
  obtain ⟨s, hs, ht⟩ := Option.map_eq_some_iff.mp h
  obtain ⟨hc, hn⟩ := scanEvents_inv evs hs capsInv_init namesInv_init
  exact ⟨s, hs, hc, hn, ht.symm⟩

theorem countCaptures_inv {cfg : Cfg} {evs : List Event} {t : Tables} (h : countCaptures cfg evs = some t)
    (hg : GoodNames evs) :
    TInv (NoOrdNumbered cfg evs) cfg.ecma t ∧
    (∀ nm, Event.named nm ∈ evs → ∃ k, (t.capnames.bind fun c => c.lookup nm) = some k ∧ k ∈ t.caps) := by
  obtain ⟨s, hs, hc, hn, rfl⟩ := countCaptures_state h
  have hnamed := (scanEvents_names evs hs).1
  by_cases ho : cfg.ord = true
  · rw [if_pos ho]
    have hoi := scanEvents_ordInv ho evs hs ordInv_init
    obtain ⟨t1, t2, t3⟩ := assignOrderedNameSlots_inv cfg s hc hn hoi
    refine ⟨t1.imp (scanEvents_goodNames hs hg), fun nm hnm => ?_⟩
    obtain ⟨k, hk⟩ := hnamed nm hnm
    exact ⟨k, by rw [t3 nm (hn.mem hk), hk], t2 ▸ hoi.mem_caps.mpr (hoi.lookup_lt hk)⟩
  · rw [if_neg ho]
    have ho : cfg.ord = false := by simpa using ho
    have hno : NoOrdNumbered cfg evs := fun h' => by rw [ho] at h'; cases h'
    obtain ⟨t1, _, t3, _⟩ := assignNameSlots_inv s hc hn (scanEvents_goodNames hs hg hno)
    refine ⟨ecma_of_ord ho ▸ t1.imp fun _ => trivial, fun nm hnm => ?_⟩
    obtain ⟨k, hk⟩ := hnamed nm hnm
    exact t3 nm (hn.mem hk)

def Maps.tables (m : Maps) : Tables :=
  { caps := m.caps, capnumlist := m.capnumlist, captop := m.captop, capnames := m.capnames, caplist := m.caplist }

/-- the maps of a compiled regex: the parser's tables are consistent (`TInv`), and the writer's `Code.Caps` /
    `Capsize` are `capnumlist` and the number of slots -/
structure MInv (good : Prop) (m : Maps) : Prop where
  t : TInv good m.ecma m.tables
  code : m.codeCaps = m.capnumlist
  size : m.capsize = m.caps.length

theorem assign_tables {evs : List Event} {cfg : Cfg} {m : Maps} (h : assign evs cfg = some m) :
    ∃ t, countCaptures cfg evs = some t ∧ m.tables = t ∧ m.ecma = cfg.ecma ∧
      groupNumbers cfg t evs 1 = some m.evNums ∧ (m.codeCaps, m.capsize) = writerCaps t := by
  obtain ⟨t, ht, h⟩ := Option.bind_eq_some_iff.mp h
  obtain ⟨ns, hns, h⟩ := Option.map_eq_some_iff.mp h
  subst h
  exact ⟨t, ht, rfl, rfl, hns, rfl⟩

/-- the writer remaps exactly when the parser built `capnumlist` -/
theorem writerCaps_eq {g : Prop} {e : Bool} {t : Tables} (ht : TInv g e t) :
    writerCaps t = (t.capnumlist, t.caps.length) := by
  have hlen := (usedNumbers_eq_isort ht.nodup ht.bound).2
  unfold writerCaps
  rw [ht.cnl]
  by_cases hlt : t.caps.length < t.captop
  · simp only [if_pos hlt, length_isort, if_neg (Nat.ne_of_gt hlt)]
  · simp only [if_neg hlt]
    exact congrArg (Prod.mk none) (by omega)

theorem assign_inv {evs : List Event} {cfg : Cfg} {m : Maps} (h : assign evs cfg = some m)
    (hg : GoodNames evs) :
    MInv (NoOrdNumbered cfg evs) m ∧ (∀ nm, Event.named nm ∈ evs → ∃ k, (m.capnames.bind fun c => c.lookup nm) = some k ∧ k ∈ m.caps) := by
  obtain ⟨t, ht, rfl, hme, _, hw⟩ := assign_tables h
  obtain ⟨hti, hnames⟩ := countCaptures_inv ht hg
  rw [writerCaps_eq hti] at hw
  exact ⟨⟨hme ▸ hti, (Prod.mk.inj hw).1, (Prod.mk.inj hw).2⟩, hnames⟩

/-! the lookup functions on consistent tables -/

theorem MInv.nums_eq {good : Prop} {m : Maps} (hm : MInv good m) : getGroupNumbers m = usedNumbers m.caps m.captop := by
  have hc : m.capnumlist = if m.caps.length < m.captop then some (isort m.caps) else none := hm.t.cnl
  unfold getGroupNumbers usedNumbers
  rw [hm.code, hc, hm.size]
  by_cases hlt : m.caps.length < m.captop <;> simp only [hlt, if_true, if_false]

theorem MInv.nums_sorted {good : Prop} {m : Maps} (hm : MInv good m) : (getGroupNumbers m).Pairwise (· < ·) := by
  rw [hm.nums_eq]; exact (usedNumbers_spec hm.t.nodup hm.t.bound).1

theorem MInv.nums_length {good : Prop} {m : Maps} (hm : MInv good m) : (getGroupNumbers m).length = m.capsize := by
  rw [hm.nums_eq, hm.size]; exact (usedNumbers_spec hm.t.nodup hm.t.bound).2.1

theorem MInv.mem_nums {good : Prop} {m : Maps} (hm : MInv good m) {k : Nat} : k ∈ getGroupNumbers m ↔ k ∈ m.caps := by
  rw [hm.nums_eq]; exact (usedNumbers_spec hm.t.nodup hm.t.bound).2.2.1 k

theorem MInv.lt_capsize {good : Prop} {m : Maps} (hm : MInv good m) {i n : Nat}
    (h : (getGroupNumbers m)[i]? = some n) : i < m.capsize :=
  hm.nums_length ▸ (List.getElem?_eq_some_iff.mp h).1

/-- `Match.GroupByNumber` and `$N` (`scanDollar` + `NewReplacerData`) read the position of the number in
    `GetGroupNumbers()` -/
theorem groupByNumberSlot_eq (m : Maps) (n : Nat) : groupByNumberSlot m n = idxOf? n (getGroupNumbers m) := by
  unfold groupByNumberSlot getGroupNumbers
  cases m.codeCaps with
  | none => exact (idxOf?_range n m.capsize).symm
  | some l => rfl

theorem replSlot_eq (m : Maps) (n : Nat) : replSlot m n = groupByNumberSlot m n := rfl

/-- `mapCapnum` too reads the position in `GetGroupNumbers()`, for a number that is one (it does not check the range) -/
theorem slotOf_eq {m : Maps} {n : Nat} (h : n ∈ getGroupNumbers m) : slotOf m n = idxOf? n (getGroupNumbers m) := by
  unfold slotOf getGroupNumbers at *
  cases hc : m.codeCaps with
  | none => rw [hc] at h; exact (if_pos (List.mem_range.mp h)).symm.trans (idxOf?_range n m.capsize).symm
  | some l => rfl

theorem replNameSlot_eq (m : Maps) (nm : String) : replNameSlot m nm = backrefNameSlot m nm := by
  unfold replNameSlot backrefNameSlot slotOf
  cases m.codeCaps <;> rfl

theorem MInv.slotOf_getElem {good : Prop} {m : Maps} (hm : MInv good m) {i n : Nat} (h : (getGroupNumbers m)[i]? = some n) :
    slotOf m n = some i :=
  (slotOf_eq (List.mem_of_getElem? h)).trans (idxOf?_getElem (nodup_of_pairwise_lt hm.nums_sorted) h)

theorem MInv.names_len {good : Prop} {m : Maps} (hm : MInv good m) : (getGroupNames m).length = m.capsize := by
  unfold getGroupNames
  split
  · simp
  · next cl hc => exact (hm.t.len cl hc).trans hm.size.symm

theorem MInv.dense_of_no_names {good : Prop} {m : Maps} (hm : MInv good m) (h : m.caplist = none) : m.codeCaps = none :=
  hm.code.trans (hm.t.dense_of_none h)

theorem MInv.names_getElem? {good : Prop} {m : Maps} (hm : MInv good m) {s : Nat} (h : s < m.capsize) :
    (getGroupNames m)[s]? = some (groupNameFromSlot m s) := by
  have hlen := hm.names_len
  unfold getGroupNames groupNameFromSlot at *
  cases hc : m.caplist with
  | none => simp [h]
  | some cl =>
    rw [hc] at hlen
    simp only at hlen ⊢
    rw [List.getD_eq_getElem?_getD, List.getElem?_eq_getElem (by omega)]; rfl

theorem MInv.groupNameFromNumber_eq {good : Prop} {m : Maps} (hm : MInv good m) {n s : Nat} (hs : slotOf m n = some s) :
    groupNameFromNumber m n = groupNameFromSlot m s := by
  unfold groupNameFromNumber groupNameFromSlot
  unfold slotOf at hs
  cases hcl : m.caplist with
  | none => rw [hm.dense_of_no_names hcl] at hs; cases hs; rfl
  | some cl =>
    cases hcc : m.codeCaps with
    | none => rw [hcc] at hs; cases hs; rfl
    | some l => rw [hcc] at hs; simp only [hs]

theorem MInv.aligned {good : Prop} {m : Maps} (hm : MInv good m) {i n : Nat} (h : (getGroupNumbers m)[i]? = some n) :
    (getGroupNames m)[i]? = some (groupNameFromNumber m n) :=
  (hm.names_getElem? (hm.lt_capsize h)).trans (congrArg some (hm.groupNameFromNumber_eq (hm.slotOf_getElem h)).symm)

/-- without a name table, a canonical decimal string names the group of that number -/
theorem groupNumberFromName_itoa {m : Maps} (hcn : m.capnames = none) (i : Nat) :
    groupNumberFromName m (itoa i) = if i < m.capsize then some i else none := by
  unfold groupNumberFromName
  rw [hcn]
  have hd := itoa_digits i
  have ho := ofDigitChars_itoa i
  cases hl : (itoa i).toList with
  | nil => exact absurd ((itoa_toList i).symm.trans hl) Nat.toDigits_ne_nil
  | cons c rest =>
    have hcan : ¬ ((c = '0' && !rest.isEmpty) = true) := by
      intro hc
      simp only [Bool.and_eq_true, decide_eq_true_eq, Bool.not_eq_true', List.isEmpty_eq_false_iff] at hc
      exact itoa_canonical i c rest hl hc.2 hc.1
    rw [hl] at hd ho
    simp only [if_neg hcan, if_pos hd, ho]

theorem MInv.number_of_listed_name {good : Prop} {m : Maps} (hm : MInv good m) {i : Nat} {nm : String}
    (hgood : good) (h : (getGroupNames m)[i]? = some nm) (hne : nm ≠ "") :
    groupNumberFromName m nm = (getGroupNumbers m)[i]? := by
  have hlt : i < m.capsize := hm.names_len ▸ (List.getElem?_eq_some_iff.mp h).1
  unfold getGroupNames at h
  cases hcl : m.caplist with
  | none =>
    rw [hcl] at h
    simp only [List.getElem?_map, List.getElem?_range hlt, Option.map_some, Option.some.injEq] at h
    rw [← h, groupNumberFromName_itoa (hm.t.both.mp hcl), if_pos hlt]
    unfold getGroupNumbers
    rw [hm.dense_of_no_names hcl]
    exact (List.getElem?_range hlt).symm
  | some cl =>
    rw [hcl] at h
    cases hcn : m.capnames with
    | none => cases hcl.symm.trans (hm.t.both.mpr hcn)
    | some cn =>
      unfold groupNumberFromName
      rw [hcn, hm.nums_eq]
      exact hm.t.name_num hgood cl cn hcl hcn i nm h hne

/-! ### the main parse (`scanGroupOpen`), one `(` at a time -/

/-- one group of the main parse: the number `x` it captures into and the next value of `autocap` -/
inductive GStep (cfg : Cfg) (t : Tables) (a : Nat) : Kind → Option Nat → Nat → Prop
  | skip : GStep cfg t a .skip none a
  | auto : GStep cfg t a .auto (some a) (a + 1)
  | name {nm c} : (t.capnames.bind fun cn => cn.lookup nm) = some c →
      GStep cfg t a (.name nm) (some c) (if cfg.ord && c = a then a + 1 else a)
  | num {k} : k ∈ t.caps → k ≠ 0 → GStep cfg t a (.num k) (some k) a

theorem groupNumbers_cons {cfg : Cfg} {t : Tables} {e : Event} {es : List Event} {a : Nat} {ns : List (Option Nat)}
    (h : groupNumbers cfg t (e :: es) a = some ns) :
    ∃ x a' ns', GStep cfg t a (kind cfg e) x a' ∧ groupNumbers cfg t es a' = some ns' ∧ ns = x :: ns' := by
  have num : ∀ k,
      (match explicitNumber cfg t k with
        | some c => (groupNumbers cfg t es (if cfg.ord && c = a then a + 1 else a)).map (some c :: ·)
        | none => none) = some ns →
      ∃ x a' ns', GStep cfg t a (if cfg.ecma then .bad else if cfg.ord then .name (itoa k) else .num k) x a' ∧
        groupNumbers cfg t es a' = some ns' ∧ ns = x :: ns' := by
    intro k h
    split at h
    · next c hx =>
      obtain ⟨ns', hr, rfl⟩ := Option.map_eq_some_iff.mp h
      unfold explicitNumber at hx
      split at hx
      · cases hx
      · next h0 =>
        simp only [Bool.or_eq_true, decide_eq_true_eq, not_or, Bool.not_eq_true] at h0
        rw [if_neg (by simp [h0.1])]
        split at hx
        · next ho => rw [if_pos ho]; exact ⟨_, _, ns', .name hx, hr, rfl⟩
        · next ho =>
          rw [if_neg ho]
          split at hx
          · next hm =>
            injection hx with hx; subst hx
            simp only [show cfg.ord = false by simpa using ho, Bool.false_and, Bool.false_eq_true, if_false] at hr
            exact ⟨_, _, ns', .num hm h0.2, hr, rfl⟩
          · cases hx
    · cases h
  cases e with
  | noncap =>
    obtain ⟨ns', hr, rfl⟩ := Option.map_eq_some_iff.mp h
    exact ⟨_, _, ns', .skip, hr, rfl⟩
  | unnamed =>
    simp only [groupNumbers, kind] at h ⊢
    split at h <;> obtain ⟨ns', hr, rfl⟩ := Option.map_eq_some_iff.mp h
    · next hx => rw [if_pos hx]; exact ⟨_, _, ns', .skip, hr, rfl⟩
    · next hx => rw [if_neg hx]; exact ⟨_, _, ns', .auto, hr, rfl⟩
  | named nm =>
    simp only [groupNumbers] at h
    split at h
    · next k hk =>
      obtain ⟨ns', hr, rfl⟩ := Option.map_eq_some_iff.mp h
      exact ⟨_, _, ns', .name hk, hr, rfl⟩
    · cases h
  | numbered k => exact num k h
  | numbered0 k => exact num k h

theorem GStep.count {cfg : Cfg} {t : Tables} {a a' : Nat} {e : Event} {x : Option Nat} (h : GStep cfg t a (kind cfg e) x a')
    (ho : cfg.ord = false) (hx : cfg.explicitCapture = false) (es : List Event) :
    a' + countUnnamed es = a + countUnnamed (e :: es) := by
  have hd := default_cons ho e es []
  generalize kind cfg e = kd at h hd
  cases h with
  | skip => have := hd.1; simp only [hx, Bool.false_eq_true, if_false] at this; rw [this]
  | auto => rw [hd.2.1]; omega
  | name => simp only [ho, Bool.false_and, Bool.false_eq_true, if_false, hd.1]
  | num => rw [hd.1]

/-- Induction over the events; `GStep.count` keeps `autocap` equal to `a` plus the unnamed groups passed, which is
    the number an unnamed group gets. -/
theorem groupNumbers_spec {cfg : Cfg} {t : Tables} (ho : cfg.ord = false) : ∀ (evs : List Event) (a : Nat)
    (ns : List (Option Nat)), groupNumbers cfg t evs a = some ns →
    ns.length = evs.length ∧
    ∀ (i : Nat) (e : Event), evs[i]? = some e →
      match e with
      | .noncap => ns[i]? = some none
      | .unnamed => ns[i]? = some (if cfg.explicitCapture then none else some (a + countUnnamed (evs.take i)))
      | .named nm => ∃ k, (t.capnames.bind fun c => c.lookup nm) = some k ∧ ns[i]? = some (some k)
      | .numbered k => ns[i]? = some (some k) ∧ k ∈ t.caps ∧ k ≠ 0
      | .numbered0 k => ns[i]? = some (some k) ∧ k ∈ t.caps ∧ k ≠ 0 := by
  intro evs
  induction evs with
  | nil => intro a ns h; injection h with h; subst h; exact ⟨rfl, nofun⟩
  | cons e es ih =>
    intro a ns h
    obtain ⟨x, a', ns', hstep, hrec, rfl⟩ := groupNumbers_cons h
    obtain ⟨hl, hr⟩ := ih a' ns' hrec
    refine ⟨by simp [hl], fun i e' hi => ?_⟩
    cases i with
    | zero =>
      injection hi with hi; subst hi
      have num : ∀ k, GStep cfg t a (if cfg.ecma then .bad else if cfg.ord then .name (itoa k) else .num k) x a' →
          (x :: ns')[0]? = some (some k) ∧ k ∈ t.caps ∧ k ≠ 0 := by
        intro k hk
        simp only [ecma_of_ord ho, ho, Bool.false_eq_true, if_false] at hk
        cases hk with
        | num hm h0 => exact ⟨rfl, hm, h0⟩
      cases e with
      | noncap => cases hstep; rfl
      | unnamed =>
        simp only [kind] at hstep
        split at hstep <;> cases hstep
        · next hx => simp [hx]
        · next hx => simp [hx, countUnnamed]
      | named nm => cases hstep with | name hc => exact ⟨_, hc, rfl⟩
      | numbered k => exact num k hstep
      | numbered0 k => exact num k hstep
    | succ i =>
      have := hr i e' hi
      cases e' with
      | unnamed =>
        simp only [List.getElem?_cons_succ, List.take_succ_cons, this]
        split
        · rfl
        · next hx => rw [hstep.count ho (by simpa using hx)]
      | _ => exact this

/-! the main parse hands out numbers the pre-scan reserved; in pattern-order mode those of the one-pass rule -/

theorem forall_getElem?_cons {P : Nat → Prop} {x : Option Nat} {ns : List (Option Nat)} (hx : ∀ k, x = some k → P k)
    (h : ∀ (i k : Nat), ns[i]? = some (some k) → P k) : ∀ (i k : Nat), (x :: ns)[i]? = some (some k) → P k
  | 0, k, hi => hx k (Option.some.inj hi)
  | i + 1, k, hi => h i k hi

theorem orderSpec_cons (cfg : Cfg) (e : Event) (es : List Event) (seen : List (String × Nat)) (a : Nat) :
    orderSpec cfg.explicitCapture (e :: es) seen a =
      match kind cfg e with
      | .skip => none :: orderSpec cfg.explicitCapture es seen a
      | .auto => some a :: orderSpec cfg.explicitCapture es seen (a + 1)
      | .name nm =>
        (match seen.lookup nm with
         | some k => some k :: orderSpec cfg.explicitCapture es seen a
         | none => some a :: orderSpec cfg.explicitCapture es (seen ++ [(nm, a)]) (a + 1))
      | _ => orderSpec cfg.explicitCapture (e :: es) seen a := by
  cases e with
  | noncap | named => rfl
  | unnamed => simp only [orderSpec, kind]; split <;> rfl
  | numbered k | numbered0 k =>
    simp only [kind]
    by_cases he : cfg.ecma = true
    · rw [if_pos he]
    · rw [if_neg he]
      by_cases ho : cfg.ord = true
      · rw [if_pos ho]; rfl
      · rw [if_neg ho]

/-- the two passes step in pairs of the same kind, in either mode: every number the main parse hands out was noted by
    the pre-scan at the same `(` or is what the tables give for a name; in pattern order the numbers are those of the
    one-pass rule.  `sfin` is the state the pre-scan ends in, `t` the tables made from it: they keep `sfin`'s numbers
    for names (`hL`, pattern order) and its slots (`hC`), and give only slots for names (`hV`). -/
theorem groupNumbers_sync {cfg : Cfg} (t : Tables) (sfin : PState)
    (hL : cfg.ord = true → ∀ nm k, (sfin.capnames.getD []).lookup nm = some k → (t.capnames.bind fun c => c.lookup nm) = some k)
    (hV : ∀ nm k, (t.capnames.bind fun c => c.lookup nm) = some k → k ∈ t.caps) (hC : ∀ c ∈ sfin.caps, c ∈ t.caps) :
    ∀ (post : List Event) (s : PState), scanEvents cfg post s = some sfin → (cfg.ord = true → OrdInv s) →
      ∀ ns, groupNumbers cfg t post s.autocap = some ns →
      (cfg.ord = true → ns = orderSpec cfg.explicitCapture post (s.capnames.getD []) s.autocap) ∧
      ∀ (i k : Nat), ns[i]? = some (some k) → k ∈ t.caps := by
  intro post
  induction post with
  | nil => intro s h _ ns hg; injection hg with hg; subst hg; exact ⟨fun _ => rfl, nofun⟩
  | cons e es ih =>
    intro s h hoi ns hg
    obtain ⟨s1, hs, h2⟩ := scanEvents_cons h
    obtain ⟨x, a', ns', hk, hr, rfl⟩ := groupNumbers_cons hg
    have ih := ih s1 h2 fun ho => hs.ordInv ho (hoi ho)
    obtain ⟨hcaps, hlook⟩ := scanEvents_mono es h2
    -- a number the pre-scan notes at this `(` is in the tables
    have noted : ∀ k (u : PState), s1 = noteSlot k u → ∀ k', some k = some k' → k' ∈ t.caps :=
      fun k u hu k' hk' => Option.some.inj hk' ▸ hC _ (hcaps _ (hu ▸ noteSlot_caps_mem.mpr (.inr rfl)))
    rw [orderSpec_cons]
    generalize kind cfg e = kd at hs hk
    cases hs with
    | bad => cases hk
    | skip =>
      cases hk
      obtain ⟨i1, i2⟩ := ih ns' hr
      exact ⟨fun ho => congrArg _ (i1 ho), forall_getElem?_cons nofun i2⟩
    | auto =>
      cases hk
      rw [noteSlot_capnames, noteSlot_autocap] at ih
      obtain ⟨i1, i2⟩ := ih ns' hr
      exact ⟨fun ho => congrArg _ (i1 ho), forall_getElem?_cons (noted _ _ rfl) i2⟩
    | num ho' =>
      cases hk
      rw [noteSlot_capnames, noteSlot_autocap] at ih
      obtain ⟨_, i2⟩ := ih ns' hr
      exact ⟨fun ho => absurd (ho.symm.trans ho') nofun, forall_getElem?_cons (noted _ _ rfl) i2⟩
    | fresh hl ho' =>
      cases hk with
      | name hc =>
      simp only [ho', Bool.false_and, Bool.false_eq_true, if_false] at hr
      obtain ⟨_, i2⟩ := ih ns' hr
      exact ⟨fun ho => absurd (ho.symm.trans ho') nofun, forall_getElem?_cons (fun k hk => hV _ k (Option.some.inj hk ▸ hc)) i2⟩
    | again hl =>
      cases hk with
      | @name _ c hc =>
      have hx : ∀ k, some c = some k → k ∈ t.caps := fun k hk => hV _ k (Option.some.inj hk ▸ hc)
      cases ho : cfg.ord with
      | false =>
        simp only [ho, Bool.false_and, Bool.false_eq_true, if_false] at hr
        exact ⟨nofun, forall_getElem?_cons hx (ih ns' hr).2⟩
      | true =>
        cases Option.some.inj (hc.symm.trans (hL ho _ _ (hlook _ _ hl)))
        simp only [ho, Bool.true_and, decide_eq_true_eq, if_neg (Nat.ne_of_lt ((hoi ho).lookup_lt hl))] at hr
        obtain ⟨i1, i2⟩ := ih ns' hr
        exact ⟨fun _ => by simp only [hl]; exact congrArg _ (i1 ho), forall_getElem?_cons hx i2⟩
    | freshOrd hl ho =>
      cases hk with
      | name hc =>
      cases Option.some.inj (hc.symm.trans (hL ho _ _ (hlook _ s.autocap (by simp [lookup_append_of_none hl]))))
      simp only [ho, Bool.true_and, decide_eq_true_eq, if_true] at hr
      rw [noteSlot_capnames, noteSlot_autocap] at ih
      obtain ⟨i1, i2⟩ := ih ns' hr
      exact ⟨fun _ => by simp only [hl]; exact congrArg _ (i1 ho), forall_getElem?_cons (noted _ _ rfl) i2⟩

theorem assign_ord_spec {evs : List Event} {cfg : Cfg} {m : Maps} (h : assign evs cfg = some m)
    (ho : cfg.ord = true) :
    m.evNums = orderSpec cfg.explicitCapture evs [] 1 ∧
    ∀ (i k : Nat), m.evNums[i]? = some (some k) → k ∈ m.caps := by
  obtain ⟨t, ht, rfl, _, hgn, _⟩ := assign_tables h
  obtain ⟨s, hs, hc, hn, ht⟩ := countCaptures_state ht
  rw [if_pos ho] at ht
  obtain ⟨t1, t2, t3⟩ := assignOrderedNameSlots_inv cfg s hc hn (scanEvents_ordInv ho evs hs ordInv_init)
  rw [← ht] at t1 t2 t3
  obtain ⟨g1, g2⟩ := groupNumbers_sync m.tables s (fun _ nm k hk => (t3 nm (hn.mem hk)).trans hk)
    (fun nm k hk => by obtain ⟨cn, hcn, hk⟩ := Option.bind_eq_some_iff.mp hk; exact t1.values cn hcn nm k hk)
    (fun c hc' => t2 ▸ hc') evs initState hs (fun _ => ordInv_init) m.evNums hgn
  exact ⟨g1 ho, g2⟩

theorem evNums_mem_caps {evs : List Event} {cfg : Cfg} {m : Maps} (h : assign evs cfg = some m)
    (ho : cfg.ord = false) (hg : GoodNames evs) :
    ∀ (i n : Nat), m.evNums[i]? = some (some n) → n ∈ m.caps := by
  obtain ⟨t, ht, rfl, _, hgn, _⟩ := assign_tables h
  obtain ⟨s, hs, hc, hn, ht⟩ := countCaptures_state ht
  have hno : NoOrdNumbered cfg evs := fun h' => by rw [ho] at h'; cases h'
  obtain ⟨hti, hcaps, _⟩ := assignNameSlots_inv s hc hn (scanEvents_goodNames hs hg hno)
  simp only [ho, Bool.false_eq_true, if_false] at ht
  rw [← ht] at hti hcaps
  exact (groupNumbers_sync m.tables s (fun ho' => absurd (ho'.symm.trans ho) nofun)
    (fun nm k hk => by obtain ⟨cn, hcn, hk⟩ := Option.bind_eq_some_iff.mp hk; exact hti.values cn hcn nm k hk)
    hcaps evs initState hs (fun ho' => absurd (ho'.symm.trans ho) nofun) m.evNums hgn).2

theorem groupNumbers_named {cfg : Cfg} {t : Tables} {nm : String} : ∀ (es : List Event) (a : Nat) (ns : List (Option Nat)),
    groupNumbers cfg t es a = some ns → ∀ (i : Nat), es[i]? = some (Event.named nm) →
    ns[i]? = some (t.capnames.bind fun c => c.lookup nm) := by
  intro es
  induction es with
  | nil => intro _ _ _ i hi; simp at hi
  | cons e es ih =>
    intro a ns h i hi
    obtain ⟨x, a', ns', hstep, hr, rfl⟩ := groupNumbers_cons h
    cases i with
    | zero =>
      injection hi with hi; subst hi
      cases hstep with | name hc => exact congrArg some hc.symm
    | succ i => exact ih a' ns' hr i hi

/-! which numbers the names get (default order) -/

theorem groupNumberFromName_of_bind {m : Maps} {nm : String} {k : Nat}
    (h : (m.capnames.bind fun c => c.lookup nm) = some k) : groupNumberFromName m nm = some k := by
  obtain ⟨cn, hcn, hk⟩ := Option.bind_eq_some_iff.mp h
  unfold groupNumberFromName
  rw [hcn]; exact hk

theorem assign_named_rule {evs : List Event} {cfg : Cfg} {m : Maps} (h : assign evs cfg = some m)
    (ho : cfg.ord = false) (hg : GoodNames evs) :
    ChainRule (groupNumberFromName m) (fun c => c ∈ explicitNumbers evs)
      (if cfg.explicitCapture then 0 else countUnnamed evs) (namesInOrder evs) := by
  obtain ⟨t, ht, rfl, _, _, _⟩ := assign_tables h
  obtain ⟨s, hs, hc, hn, ht⟩ := countCaptures_state ht
  rw [if_neg (by simp [ho])] at ht
  have hno : NoOrdNumbered cfg evs := fun h' => by rw [ho] at h'; cases h'
  obtain ⟨hauto, hlist, hcaps⟩ := scanEvents_default ho evs hs capsInv_init namesInv_init
  obtain ⟨_, _, hnames, hchain⟩ := assignNameSlots_inv s hc hn (scanEvents_goodNames hs hg hno)
  rw [← ht] at hnames hchain
  have h1 : 1 ≤ s.autocap := by rw [hauto]; simp [initState]
  show ChainRule _ _ _ (namesInOrderFrom initState.capnamelist evs)
  rw [← hlist, show (if cfg.explicitCapture then 0 else countUnnamed evs) = s.autocap - 1 by rw [hauto]; simp [initState]]
  refine ChainRule.congr _ _ (fun nm hnm => ?_) (hchain _ (fun c hc' => (hcaps c).mpr (.inr (.inr hc')))
    (fun c hc' => ((hcaps c).mp hc').elim (fun h0 => .inl (by simp [initState] at h0; omega)) fun h' => h'.imp (·.2) id) h1)
  obtain ⟨k, hk, _⟩ := hnames nm hnm
  exact hk.trans (groupNumberFromName_of_bind hk).symm

end RegexVerif.Groups
