/-
Positions in a direction (`rtl`/`d = true`: leftwards), shared by the scan loop, the published facts and the
compiler's correctness proof.  The file has no namespace of its own: `Fwd` and `span` stand in `RegexVerif.Facts`
with their first users, `dist` in `RegexVerif.Lemmas.Scan`, where the statement of `scanLoop_eq_naiveFrom` names it.
-/
namespace RegexVerif.Facts

/-- position `b` is reached from `a` by moving in the direction (`rtl`: leftwards) -/
def Fwd (rtl : Bool) (a b : Nat) : Prop := if rtl then b ≤ a else a ≤ b

/-- number of characters between the start `a` and the end `b` of a match in direction `rtl` -/
def span (rtl : Bool) (a b : Nat) : Nat := if rtl then a - b else b - a

theorem Fwd.refl (rtl : Bool) (a : Nat) : Fwd rtl a a := by cases rtl <;> exact Nat.le_refl a

theorem Fwd.trans {rtl : Bool} {a b c : Nat} (h1 : Fwd rtl a b) (h2 : Fwd rtl b c) : Fwd rtl a c := by
  cases rtl
  · exact Nat.le_trans h1 h2
  · exact Nat.le_trans h2 h1

theorem span_self (rtl : Bool) (a : Nat) : span rtl a a = 0 := by cases rtl <;> exact Nat.sub_self a

theorem span_add {rtl : Bool} {a b c : Nat} (h1 : Fwd rtl a b) (h2 : Fwd rtl b c) :
    span rtl a c = span rtl a b + span rtl b c := by
  cases rtl
  · exact ((Nat.add_comm _ _).trans (Nat.sub_add_sub_cancel h2 h1)).symm
  · exact (Nat.sub_add_sub_cancel h1 h2).symm

end RegexVerif.Facts

namespace RegexVerif.Lemmas.Scan
open RegexVerif.Facts (Fwd)

/-- number of scan positions strictly ahead of `pos` -/
def dist (rtl : Bool) (n pos : Nat) : Nat := if rtl then pos else n - pos

theorem dist_le (rtl : Bool) {n i : Nat} (h : i ≤ n) : dist rtl n i ≤ n := by
  cases rtl
  · exact Nat.sub_le n i
  · exact h

theorem dist_lt {rtl : Bool} {n i j : Nat} (h : Fwd rtl i j) (hne : j ≠ i) (hi : i ≤ n) (hj : j ≤ n) :
    dist rtl n j + 1 ≤ dist rtl n i := by
  cases rtl <;> simp only [dist, Fwd, Bool.false_eq_true, if_false, if_true] at * <;> omega

end RegexVerif.Lemmas.Scan
