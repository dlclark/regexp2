/-
`Cap` is for the CAPTURE arrays, not capacity; `CapOk` is not the model's slot test `VM.capOk`.

The capture arrays along a run of the interpreter model: every builder the interpreter reaches is `Props.C08.Reach`
(only intervals inside the text are added, only matched groups are balanced, only what was added is removed), and the
crawl stack records exactly the slots whose counts it will decrement.  Consequence: a backreference reads an interval
inside the text (no `capRange`).
-/
import RegexVerif.Props.C08

namespace RegexVerif.Lemmas.StackTypingCap
open RegexVerif RegexVerif.MatchBuilder RegexVerif.Lemmas.MatchBuilder RegexVerif.Props.C08

/-- the capture state of a run on a text of length `N` with `k` capture slots -/
def CapOk (N : Int) (k : Nat) (r : Runner) : Prop :=
  Reach N k r.m ∧ (∀ c ∈ r.crawl, c < k) ∧ ∀ c, r.crawl.count c ≤ cnt r.m c

theorem capOk_init (N : Int) (k : Nat) : CapOk N k { m := newMatch k, crawl := [] } :=
  ⟨Reach.init, by intro c h; simp at h, by intro c; simp⟩

theorem cnt_addMatch (b : Builder) (c : Nat) (s l : Int) (hc : c < b.matchcount.length) (c' : Nat) :
    cnt (addMatch b c s l) c' = cnt b c' + (if c' = c then 1 else 0) := by
  simp only [addMatch, cnt, getD_set, hc, and_true]
  by_cases h : c = c'
  · subst h; simp
  · have : ¬ c' = c := fun e => h e.symm
    simp [h, this]

theorem cnt_balanceMatch (b : Builder) (c : Nat) (hc : c < b.matchcount.length) (c' : Nat) :
    cnt (balanceMatch b c) c' = cnt b c' + (if c' = c then 1 else 0) := by
  rw [balanceMatch_eq]
  exact cnt_addMatch { b with balancing := true } c _ _ hc c'

theorem cnt_removeMatch (b : Builder) (c : Nat) (hc : c < b.matchcount.length) (c' : Nat) :
    cnt (removeMatch b c) c' = cnt b c' - (if c' = c then 1 else 0) := by
  simp only [removeMatch, cnt, getD_set, hc, and_true]
  by_cases h : c = c'
  · subst h; simp
  · have : ¬ c' = c := fun e => h e.symm
    simp [h, this]

theorem reach_len {N : Int} {k : Nat} {b : Builder} (h : Reach N k b) : b.matchcount.length = k :=
  (reach_inv N k b h).2.1

/-- core `List.count_cons`, the test spelled as in `cnt_addMatch` -/
theorem count_cons' (c x : Nat) (l : List Nat) : (x :: l).count c = l.count c + (if c = x then 1 else 0) := by
  simp only [List.count_cons, beq_iff_eq, eq_comm (a := x)]

/-- `Runner.Capture` with both ends inside the text -/
theorem capOk_capture {N : Int} {k : Nat} {r : Runner} (h : CapOk N k r) (c : Nat) (hc : c < k) (s e : Int)
    (hs : 0 ≤ s) (hsN : s ≤ N) (he : 0 ≤ e) (heN : e ≤ N) : CapOk N k (capture r c s e) := by
  obtain ⟨h1, h2, h3⟩ := h
  have hcr : (capture r c s e).crawl = c :: r.crawl := by unfold capture; split <;> rfl
  refine ⟨capture_reach N k r h1 c hc s e hs hsN he heN, ?_, ?_⟩
  · intro c' hc'
    rw [hcr] at hc'
    rcases List.mem_cons.mp hc' with rfl | h'
    · exact hc
    · exact h2 _ h'
  · intro c'
    have hm : cnt (capture r c s e).m c' = cnt r.m c' + (if c' = c then 1 else 0) := by
      unfold capture; split <;> exact cnt_addMatch _ _ _ _ (by rw [reach_len h1]; exact hc) _
    rw [hcr, hm, count_cons']
    have := h3 c'
    omega

theorem transferCapture_swap (r : Runner) (c0 : Int) (c1 : Nat) (s e : Int) (h : e < s) :
    transferCapture r c0 c1 s e = transferCapture r c0 c1 e s := by
  unfold transferCapture
  have h' : ¬ s < e := by omega
  simp only [h, h', ite_true, ite_false]

/-- `Runner.transferCapture` for `(?<c0-c1>…)` / `(?<-c1>…)` with `c1` matched and both ends inside the text -/
theorem capOk_transfer {N : Int} {k : Nat} {r : Runner} (h : CapOk N k r) (c0 : Int) (c1 : Nat)
    (hc0 : c0 = -1 ∨ (0 ≤ c0 ∧ c0.toNat < k)) (hc1 : c1 < k) (hm : isMatched r.m c1 = true) (s e : Int)
    (hs : 0 ≤ s) (hsN : s ≤ N) (he : 0 ≤ e) (heN : e ≤ N) : CapOk N k (transferCapture r c0 c1 s e) := by
  -- order the ends
  have key : ∀ s e : Int, 0 ≤ s → s ≤ e → e ≤ N → CapOk N k (transferCapture r c0 c1 s e) := by
    intro s e hs hse he
    obtain ⟨h1, h2, h3⟩ := h
    have hk := reach_len h1
    rcases hc0 with rfl | ⟨h0, h0k⟩
    · have hcr : (transferCapture r (-1) c1 s e).crawl = c1 :: r.crawl := by unfold transferCapture; simp
      refine ⟨transferCapture_pop_reach N k r h1 c1 hc1 hm s e, ?_, ?_⟩
      · intro c' hc'; rw [hcr] at hc'
        rcases List.mem_cons.mp hc' with rfl | h'
        · exact hc1
        · exact h2 _ h'
      · intro c'
        have hm' : cnt (transferCapture r (-1) c1 s e).m c' = cnt r.m c' + (if c' = c1 then 1 else 0) := by
          unfold transferCapture; simp only [ne_eq, not_true_eq_false, ite_false]
          exact cnt_balanceMatch _ _ (by rw [hk]; exact hc1) _
        rw [hcr, hm', count_cons']
        have := h3 c'; omega
    · have hcast : c0 = ((c0.toNat : Nat) : Int) := by omega
      have hr := transferCapture_reach N k r h1 c0.toNat c1 h0k hc1 hm s e hs hse he
      rw [← hcast] at hr
      have hne : c0 ≠ -1 := by omega
      have hcr : (transferCapture r c0 c1 s e).crawl = c0.toNat :: c1 :: r.crawl := by
        unfold transferCapture; simp [hne]
      refine ⟨hr, ?_, ?_⟩
      · intro c' hc'; rw [hcr] at hc'
        rcases List.mem_cons.mp hc' with rfl | h'
        · exact h0k
        · rcases List.mem_cons.mp h' with rfl | h''
          · exact hc1
          · exact h2 _ h''
      · intro c'
        have hm' : cnt (transferCapture r c0 c1 s e).m c' =
            cnt r.m c' + (if c' = c1 then 1 else 0) + (if c' = c0.toNat then 1 else 0) := by
          unfold transferCapture
          simp only [hne, ne_eq, not_false_eq_true, ite_true]
          rw [cnt_addMatch _ _ _ _ (by
            have : (balanceMatch r.m c1).matchcount.length = k :=
              reach_len (Reach.bal _ c1 h1 hc1 hm)
            rw [this]; exact h0k), cnt_balanceMatch _ _ (by rw [hk]; exact hc1)]
        rw [hcr, hm', count_cons', count_cons']
        have := h3 c'; omega
  by_cases hlt : e < s
  · rw [transferCapture_swap r c0 c1 s e hlt]; exact key e s he (by omega) hsN
  · exact key s e hs (by omega) heN

/-- `Runner.uncapture` on a non-empty crawl stack -/
theorem capOk_uncapture {N : Int} {k : Nat} {r : Runner} (h : CapOk N k r) (hne : r.crawl ≠ []) :
    CapOk N k (uncapture r) := by
  obtain ⟨h1, h2, h3⟩ := h
  cases hcr : r.crawl with
  | nil => exact absurd hcr hne
  | cons x rest =>
    have hx : x < k := h2 x (by rw [hcr]; simp)
    have hpos : 0 < cnt r.m x := by have := h3 x; rw [hcr] at this; simp at this; omega
    have hu : uncapture r = { m := removeMatch r.m x, crawl := rest } := by simp [uncapture, hcr]
    rw [hu]
    refine ⟨Reach.rem _ x h1 hx hpos, ?_, ?_⟩
    · intro c hc; exact h2 c (by rw [hcr]; exact List.mem_cons_of_mem _ hc)
    · intro c
      show rest.count c ≤ cnt (removeMatch r.m x) c
      rw [cnt_removeMatch _ _ (by rw [reach_len h1]; exact hx)]
      have := h3 c
      rw [hcr, count_cons'] at this
      by_cases hcx : c = x
      · subst hcx; simp only [ite_true] at this ⊢; omega
      · simp only [hcx, ite_false] at this ⊢; omega

/-- **what a backreference reads**: the innermost live capture of a matched group is an interval inside the text -/
theorem capOk_ref {N : Int} {k : Nat} {r : Runner} (h : CapOk N k r) (c : Nat) (hc : c < k)
    (hm : isMatched r.m c = true) :
    0 ≤ matchIndex r.m c ∧ 0 ≤ matchLength r.m c ∧ matchIndex r.m c + matchLength r.m c ≤ N := by
  obtain ⟨h1, _, _⟩ := h
  obtain ⟨hb, hk, _⟩ := reach_inv N k r.m h1
  have hc' : c < r.m.matchcount.length := by omega
  have hne := (isMatched_iff_live r.m hb c hc').mp hm
  obtain ⟨xs, p, hxs⟩ : ∃ xs p, absOf r.m c = xs ++ [p] := by
    cases hrev : (absOf r.m c).reverse with
    | nil => simp at hrev; exact absurd hrev hne
    | cons p t => exact ⟨t.reverse, p, by have := congrArg List.reverse hrev; simpa using this⟩
  obtain ⟨s2, l2⟩ := p
  obtain ⟨hmi, hml⟩ := matchIndex_matchLength_top r.m hb c hc' xs s2 l2 hxs
  have hbd := (captures_in_bounds N k r.m h1 c hc).1 (s2, l2) (by rw [hxs]; simp)
  rw [hmi, hml]
  exact hbd

end RegexVerif.Lemmas.StackTypingCap
