/-
"The search returns the first hit": the form in which every search is specified.  `First P r` / `Last P r` say it
for an `Option Nat` answer (the finder models, the Boyer-Moore scan, the landmark search, the byte-level filters),
`FirstIdx P r` / `LastIdx P r` for Go's answer with `-1` for "none" (`helpers/indexof.go`); `firstIdx_toInt` /
`lastIdx_toInt` lead from the first to the second.  A window is part of the test `P`.  `First.unique` makes two
searches that meet the same specification equal; `First.skip` is the step of every skipping loop; `First.mirror`
turns a search of the reversed data into the search for the last hit.

The namespace is `Lemmas.IndexOf` because the property statements name `First`, `FirstIdx`, `LastIdx` under it.
-/
namespace RegexVerif.Lemmas.IndexOf

def First (P : Nat → Prop) (r : Option Nat) : Prop :=
  (∀ i, r = some i → P i ∧ ∀ j, j < i → ¬ P j) ∧ (r = none → ∀ j, ¬ P j)

def Last (P : Nat → Prop) (r : Option Nat) : Prop :=
  (∀ i, r = some i → P i ∧ ∀ j, i < j → ¬ P j) ∧ (r = none → ∀ j, ¬ P j)

theorem First.congr {P Q : Nat → Prop} {r : Option Nat} (h : ∀ i, P i ↔ Q i) (hr : First P r) : First Q r :=
  (funext fun i => propext (h i) : P = Q) ▸ hr

theorem first_none {P : Nat → Prop} (h : ∀ j, ¬ P j) : First P none :=
  ⟨nofun, fun _ => h⟩

theorem first_some {P : Nat → Prop} {i : Nat} (hi : P i) (h : ∀ j, j < i → ¬ P j) : First P (some i) :=
  ⟨fun _ e => Option.some.inj e ▸ ⟨hi, h⟩, nofun⟩

theorem Last.congr {P Q : Nat → Prop} {r : Option Nat} (h : ∀ i, P i ↔ Q i) (hr : Last P r) : Last Q r :=
  (funext fun i => propext (h i) : P = Q) ▸ hr

theorem last_none {P : Nat → Prop} (h : ∀ j, ¬ P j) : Last P none :=
  ⟨nofun, fun _ => h⟩

theorem last_some {P : Nat → Prop} {i : Nat} (hi : P i) (h : ∀ j, i < j → ¬ P j) : Last P (some i) :=
  ⟨fun _ e => Option.some.inj e ▸ ⟨hi, h⟩, nofun⟩

theorem First.unique {P : Nat → Prop} {r r' : Option Nat} (h : First P r) (h' : First P r') : r = r' := by
  cases r with
  | none =>
    cases r' with
    | none => rfl
    | some i' => exact absurd (h'.1 i' rfl).1 (h.2 rfl i')
  | some i =>
    cases r' with
    | none => exact absurd (h.1 i rfl).1 (h'.2 rfl i)
    | some i' =>
      obtain ⟨x1, x2⟩ := h.1 i rfl
      obtain ⟨y1, y2⟩ := h'.1 i' rfl
      have h1 : ¬ i' < i := fun hl => x2 i' hl y1
      have h2 : ¬ i < i' := fun hl => y2 i hl x1
      rw [show i = i' by omega]

theorem Last.unique {P : Nat → Prop} {r r' : Option Nat} (h : Last P r) (h' : Last P r') : r = r' := by
  cases r with
  | none =>
    cases r' with
    | none => rfl
    | some i' => exact absurd (h'.1 i' rfl).1 (h.2 rfl i')
  | some i =>
    cases r' with
    | none => exact absurd (h.1 i rfl).1 (h'.2 rfl i)
    | some i' =>
      obtain ⟨x1, x2⟩ := h.1 i rfl
      obtain ⟨y1, y2⟩ := h'.1 i' rfl
      have h1 : ¬ i' < i := fun hl => y2 i hl x1
      have h2 : ¬ i < i' := fun hl => x2 i' hl y1
      rw [show i = i' by omega]

theorem First.skip {P : Nat → Prop} {lo lo' : Nat} {r : Option Nat} (h : First (fun j => lo' ≤ j ∧ P j) r)
    (hskip : ∀ j, lo ≤ j → j < lo' → ¬ P j) (hle : lo ≤ lo') : First (fun j => lo ≤ j ∧ P j) r :=
  ⟨fun i hi => let ⟨⟨x1, x2⟩, x3⟩ := h.1 i hi
    ⟨⟨Nat.le_trans hle x1, x2⟩, fun j hj hp =>
      if hl : j < lo' then hskip j hp.1 hl hp.2 else x3 j hj ⟨Nat.le_of_not_lt hl, hp.2⟩⟩,
   fun hr j hp => if hl : j < lo' then hskip j hp.1 hl hp.2 else h.2 hr j ⟨Nat.le_of_not_lt hl, hp.2⟩⟩

theorem First.here {P : Nat → Prop} {lo : Nat} (h : P lo) : First (fun j => lo ≤ j ∧ P j) (some lo) :=
  first_some (P := fun j => lo ≤ j ∧ P j) ⟨Nat.le_refl _, h⟩ fun _ hj hp => absurd hp.1 (Nat.not_le.mpr hj)

/-- reflection at `n` turns the first hit into the last (`x' + x = n`: stated without subtraction) -/
theorem First.mirror {P : Nat → Prop} {r : Option Nat} (n : Nat) (h : First P r) (hn : ∀ i, P i → i ≤ n) :
    Last (fun x => ∃ x', x' + x = n ∧ P x') (r.map (n - ·)) := by
  cases r with
  | none => exact last_none fun j ⟨j', _, hj⟩ => h.2 rfl j' hj
  | some i =>
    obtain ⟨x1, x2⟩ := h.1 i rfl
    have := hn i x1
    show Last _ (some (n - i))
    exact last_some ⟨i, Nat.add_sub_cancel' this, x1⟩ fun j hj ⟨j', hj', hp⟩ => x2 j' (by omega) hp

/-- Go's encoding of "index or not found" -/
def toInt : Option Nat → Int
  | some q => (q : Int)
  | none => -1

/-- `r` is the FIRST index at which `P` holds, `-1` exactly when there is none -/
def FirstIdx (P : Nat → Prop) (r : Int) : Prop :=
  (r = -1 ∧ ∀ i, ¬ P i) ∨ ∃ i : Nat, r = (i : Int) ∧ P i ∧ ∀ j, j < i → ¬ P j

/-- `r` is the LAST index at which `P` holds, `-1` exactly when there is none -/
def LastIdx (P : Nat → Prop) (r : Int) : Prop :=
  (r = -1 ∧ ∀ i, ¬ P i) ∨ ∃ i : Nat, r = (i : Int) ∧ P i ∧ ∀ j, i < j → ¬ P j

theorem firstIdx_toInt {P : Nat → Prop} {r : Option Nat} (h : First P r) : FirstIdx P (toInt r) := by
  cases r with
  | none => exact Or.inl ⟨rfl, h.2 rfl⟩
  | some q => exact Or.inr ⟨q, rfl, h.1 q rfl⟩

theorem lastIdx_toInt {P : Nat → Prop} {r : Option Nat} (h : Last P r) : LastIdx P (toInt r) := by
  cases r with
  | none => exact Or.inl ⟨rfl, h.2 rfl⟩
  | some q => exact Or.inr ⟨q, rfl, h.1 q rfl⟩

theorem FirstIdx.congr {P Q : Nat → Prop} {r : Int} (h : ∀ i, P i ↔ Q i) (hr : FirstIdx P r) : FirstIdx Q r :=
  (funext fun i => propext (h i) : P = Q) ▸ hr

theorem LastIdx.congr {P Q : Nat → Prop} {r : Int} (h : ∀ i, P i ↔ Q i) (hr : LastIdx P r) : LastIdx Q r :=
  (funext fun i => propext (h i) : P = Q) ▸ hr

end RegexVerif.Lemmas.IndexOf
