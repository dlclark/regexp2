/-
Lemmas about the adapter model `RegexVerif.Model.Compat` (C06, method by method):
* `off`: byte offsets of rune indices, and the adapter's conversions of one capture in terms of them;
* `dropAbutting`, `delivered`: the matches both find-all loops of the adapter hand on (`forEachLoop_eq`,
  `r2FindAllLoop_eq`), and the standard library's `allMatches` under `Walk` (`allLoop_step`, `allLoop_walk`);
* the closed forms `*_closed` of the methods: a rendering of `delivered …` or of the first match;
* the bridge to `Model/Scan.lean` (C07): `delivered` is `Scan.compatForEach` when the sequence is the `iterate` of a
  `Scan.Engine` (`delivered_eq_scan`).  `Lemmas/Scan.lean` has the same loops over an `Engine`, in rune positions
  (`stdLoop_*`); here they run over a match sequence in byte positions, as the method theorems need;
  `prevEndOf`/`dropAbutting` are `Scan.prevEndOf`/`Scan.keepNonAdjacent` on `RMatch` (`dropAbutting_hits`).
The example data of `Props/C06.lean` stands at the end, with the proof that its hypothesis can be met.

The offset conversions are the theorems of C08 (`Props/C08.lean`): `byteRange_is_span`,
`stringByteMapper_eq`, `bytesToRunes_offsets_eq`, `readRunes_offsets_eq`.
-/
import RegexVerif.Model.Compat
import RegexVerif.Lemmas.Scan
import RegexVerif.Props.C08

namespace RegexVerif.Lemmas.Compat
open RegexVerif.Utf8 RegexVerif.Compat RegexVerif.Lemmas.Utf8
open RegexVerif.Scan (takeK)
open RegexVerif.Lemmas.Scan (takeK_nil takeK_zero takeK_cons CntRel cntRel_deliver cntRel_skip)

/-! ### `Res`, byte offsets `off`, slices, and the adapter's conversions of one capture -/

@[simp] theorem bind_ok {α β : Type} (a : α) (f : α → Res β) : (Res.ok a).bind f = f a := rfl
@[simp] theorem bind_panic {α β : Type} (f : α → Res β) : (Res.panic : Res α).bind f = Res.panic := rfl
@[simp] theorem map_ok {α β : Type} (a : α) (f : α → β) : (Res.ok a).map f = Res.ok (f a) := rfl
@[simp] theorem map_panic {α β : Type} (f : α → β) : (Res.panic : Res α).map f = Res.panic := rfl

theorem ok_ne_panic {α : Type} {r : Res α} {v : α} (h : r = .ok v) : r ≠ .panic := h ▸ nofun

theorem mapM_map_ok {α β γ : Type} (f : α → Res β) (h : γ → α) (g : γ → β) (l : List γ)
    (H : ∀ x ∈ l, f (h x) = .ok (g x)) : Res.mapM f (l.map h) = .ok (l.map g) := by
  induction l with
  | nil => rfl
  | cons x xs ih =>
    obtain ⟨hx, hxs⟩ := List.forall_mem_cons.mp H
    rw [List.map_cons, Res.mapM, hx, bind_ok, ih hxs, map_ok, List.map_cons]

theorem mapM_ok {α β : Type} (f : α → Res β) (g : α → β) (l : List α) (h : ∀ x ∈ l, f x = .ok (g x)) :
    Res.mapM f l = .ok (l.map g) := by
  have := mapM_map_ok f id g l h
  rwa [List.map_id] at this

theorem off_zero (d : List (Int × Nat)) : off d 0 = 0 := rfl

theorem off_add (d : List (Int × Nat)) (i k : Nat) : off d (i + k) = off d i + (((widths d).drop i).take k).sum :=
  sum_take_add _ _ _

theorem off_mono (d : List (Int × Nat)) (i j : Nat) (h : i ≤ j) : off d i ≤ off d j :=
  sum_take_mono _ i j h

theorem off_of_length_le (d : List (Int × Nat)) (i : Nat) (h : d.length ≤ i) : off d i = byteLen d :=
  congrArg List.sum (List.take_of_length_le (by rw [widths, List.length_map]; exact h))

theorem off_length (d : List (Int × Nat)) : off d d.length = byteLen d :=
  off_of_length_le d _ (Nat.le_refl _)

theorem off_le_byteLen (d : List (Int × Nat)) (i : Nat) : off d i ≤ byteLen d :=
  sum_take_le_sum _ i

theorem widths_pos (d : List (Int × Nat)) (hw : ∀ s ∈ d, 1 ≤ s.2) : ∀ w ∈ widths d, 1 ≤ w := by
  intro w hw'
  obtain ⟨s, hs, rfl⟩ := List.mem_map.mp hw'
  exact hw s hs

theorem off_strictMono (d : List (Int × Nat)) (hw : ∀ s ∈ d, 1 ≤ s.2) (i j : Nat) (hij : i < j) (hj : j ≤ d.length) :
    off d i < off d j :=
  sum_take_lt _ (widths_pos d hw) i j hij (by rw [widths, List.length_map]; exact hj)

theorem off_inj (d : List (Int × Nat)) (hw : ∀ s ∈ d, 1 ≤ s.2) (i j : Nat) (hi : i ≤ d.length) (hj : j ≤ d.length)
    (h : off d i = off d j) : i = j :=
  sum_take_inj _ (widths_pos d hw) i j (by rw [widths, List.length_map]; exact hi)
    (by rw [widths, List.length_map]; exact hj) h

theorem off_cons_succ (s : Int × Nat) (rest : List (Int × Nat)) (i : Nat) :
    off (s :: rest) (i + 1) = s.2 + off rest i := by
  simp [off, byteOffsetSpec, widths]

theorem byteLen_cons (s : Int × Nat) (rest : List (Int × Nat)) : byteLen (s :: rest) = s.2 + byteLen rest := by
  simp [byteLen, widths]

theorem off_succ (d : List (Int × Nat)) (i : Nat) : off d (i + 1) = off d i + (widths d).getD i 0 :=
  sum_take_succ _ i

theorem stepWidth_off (d : List (Int × Nat)) (hw : ∀ s ∈ d, 1 ≤ s.2) (i : Nat) :
    Std.stepWidth d (off d i) = (widths d).getD i 0 := by
  induction d generalizing i with
  | nil => rfl
  | cons s rest ih =>
    obtain ⟨hs, hrest⟩ := List.forall_mem_cons.mp hw
    cases i with
    | zero => rfl
    | succ i =>
      rw [off_cons_succ, Std.stepWidth, if_neg (by omega), if_neg (by omega), Nat.add_sub_cancel_left]
      exact ih hrest i

theorem width_getD_pos (d : List (Int × Nat)) (hw : ∀ s ∈ d, 1 ≤ s.2) (i : Nat) :
    0 < (widths d).getD i 0 ↔ i < d.length := by
  by_cases hi : i < d.length
  · simp only [widths, List.getD_eq_getElem?_getD, List.getElem?_map, List.getElem?_eq_getElem hi, Option.map_some,
      Option.getD_some, hi, iff_true]
    exact hw _ (List.getElem_mem hi)
  · rw [List.getD_eq_getElem?_getD, List.getElem?_eq_none (by rw [widths, List.length_map]; exact Nat.le_of_not_lt hi)]
    exact iff_of_false (Nat.lt_irrefl 0) hi

theorem bytesOf_length (segs : List (Int × List Nat)) : (bytesOf segs).length = byteLen (decoded segs) := by
  induction segs with
  | nil => rfl
  | cons s rest ih =>
    rw [bytesOf, List.flatMap_cons, List.length_append, ← bytesOf, ih]
    exact (byteLen_cons (s.1, s.2.length) (decoded rest)).symm

theorem decoded_length (segs : List (Int × List Nat)) : (decoded segs).length = segs.length :=
  List.length_map _

theorem bytesOfB_getD (b : Option (List (Int × List Nat))) : (bytesOfB b).getD [] = bytesOf (segsOf b) := by
  cases b <;> rfl

theorem sliceStr_eq (s : List Nat) (lo hi : Nat) (h1 : lo ≤ hi) (h2 : hi ≤ s.length) :
    sliceStr s (lo : Int) (hi : Int) = .ok (Std.textS s lo hi) :=
  if_pos ⟨Int.natCast_nonneg _, Int.ofNat_le.mpr h1, Int.ofNat_le.mpr h2⟩

theorem sliceBytes_eq (b : Option (List Nat)) (lo hi : Nat) (h1 : lo ≤ hi) (h2 : hi ≤ (b.getD []).length) :
    sliceBytes b (lo : Int) (hi : Int) = .ok (Std.textB b lo hi) :=
  if_pos ⟨Int.natCast_nonneg _, Int.ofNat_le.mpr h1, Int.ofNat_le.mpr h2⟩

theorem bytesOf_append (a b : List (Int × List Nat)) : bytesOf (a ++ b) = bytesOf a ++ bytesOf b :=
  List.flatMap_append

theorem bytesOf_take_length (segs : List (Int × List Nat)) (i : Nat) :
    (bytesOf (segs.take i)).length = off (decoded segs) i := by
  rw [bytesOf_length]
  simp [byteLen, off, byteOffsetSpec, decoded, widths, List.map_take]

theorem textS_span (segs : List (Int × List Nat)) (i l : Nat) :
    Std.textS (bytesOf segs) (off (decoded segs) i) (off (decoded segs) (i + l)) = bytesOf ((segs.drop i).take l) := by
  have hsum : off (decoded segs) (i + l) = off (decoded segs) i + off (decoded (segs.drop i)) l := by
    rw [off_add]
    simp [off, byteOffsetSpec, decoded, widths, List.map_drop]
  have e1 : bytesOf segs = bytesOf (segs.take i) ++ bytesOf (segs.drop i) := by
    rw [← bytesOf_append, List.take_append_drop]
  have e2 : bytesOf (segs.drop i) = bytesOf ((segs.drop i).take l) ++ bytesOf ((segs.drop i).drop l) := by
    rw [← bytesOf_append, List.take_append_drop]
  rw [Std.textS, e1, List.drop_left' (bytesOf_take_length segs i), e2, hsum, Nat.add_sub_cancel_left,
    List.take_left' (bytesOf_take_length (segs.drop i) l)]

theorem captureIndex_eq (d : List (Int × Nat)) (hwf : WF d) (c : Nat × Nat) (h : c.1 + c.2 ≤ d.length) :
    captureIndex d c = .ok [(off d c.1 : Int), (off d (c.1 + c.2) : Int)] := by
  rw [captureIndex, Props.C08.byteRange_is_span d hwf c.1 c.2 h, off_add]
  rfl

theorem captureString_eq (segs : List (Int × List Nat)) (hwf : WF (decoded segs)) (c : Nat × Nat)
    (h : c.1 + c.2 ≤ segs.length) :
    captureString segs c =
      .ok (Std.textS (bytesOf segs) (off (decoded segs) c.1) (off (decoded segs) (c.1 + c.2))) := by
  rw [captureString, Props.C08.byteRange_is_span (decoded segs) hwf c.1 c.2 (by rw [decoded_length]; exact h)]
  dsimp only
  rw [show byteOffsetSpec (decoded segs) c.1 + _ = off (decoded segs) (c.1 + c.2) from (off_add _ _ _).symm]
  exact sliceStr_eq _ _ _ (off_mono _ _ _ (Nat.le_add_right _ _)) (by rw [bytesOf_length]; exact off_le_byteLen _ _)

theorem runeCaptureIndex_eq (items : List (Int × Nat)) (c : Nat × Nat) (h : c.1 + c.2 ≤ items.length) :
    runeCaptureIndex (readRunes items).2 c = .ok [(off items c.1 : Int), (off items (c.1 + c.2) : Int)] := by
  unfold runeCaptureIndex tableAt
  rw [(Props.C08.readRunes_offsets_eq items c.1 (Nat.le_trans (Nat.le_add_right _ _) h)).2,
    (Props.C08.readRunes_offsets_eq items (c.1 + c.2) h).2]
  rfl

/-- the flat index slice of a list of groups given as byte pairs -/
def locOfGroups (gs : List (Option (Nat × Nat))) : List Int :=
  gs.flatMap fun g =>
    match g with
    | none => [-1, -1]
    | some (s, e) => [(s : Int), (e : Int)]

/-- a rune group list seen in byte offsets -/
def groupsB (d : List (Int × Nat)) (gs : List (Option (Nat × Nat))) : List (Option (Nat × Nat)) :=
  gs.map fun g => g.map fun c => (off d c.1, off d (c.1 + c.2))

theorem groupsOf_toStd (d : List (Int × Nat)) (m : RMatch) : Std.groupsOf (toStd d m) = groupsB d m.groups := rfl

theorem groupIndexes_eq (d : List (Int × Nat)) (conv : Nat × Nat → Res (List Int)) (gs : List (Option (Nat × Nat)))
    (h : ∀ g ∈ gs, ∀ c, g = some c → conv c = .ok [(off d c.1 : Int), (off d (c.1 + c.2) : Int)]) :
    groupIndexes conv gs = .ok (locOfGroups (groupsB d gs)) := by
  induction gs with
  | nil => rfl
  | cons g gs ih =>
    obtain ⟨hg, hgs⟩ := List.forall_mem_cons.mp h
    cases g with
    | none => rw [groupIndexes, ih hgs]; rfl
    | some c => rw [groupIndexes, hg c rfl, bind_ok]; dsimp only; rw [ih hgs]; rfl

theorem valid_groups (n : Nat) (m : RMatch) (hv : m.Valid n) : ∀ g ∈ m.groups, ∀ c, g = some c → c.1 + c.2 ≤ n :=
  List.forall_mem_cons.mpr ⟨fun _ hc => Option.some.inj hc ▸ hv.1, hv.2⟩

theorem matchIndexes_eq (d : List (Int × Nat)) (hwf : WF d) (m : RMatch) (hv : m.Valid d.length) :
    matchIndexes d m = .ok (Std.locOf (toStd d m)) :=
  groupIndexes_eq d _ _ fun g hg c hc => captureIndex_eq d hwf c (valid_groups _ m hv g hg c hc)

theorem matchRuneIndexes_eq (items : List (Int × Nat)) (m : RMatch) (hv : m.Valid items.length) :
    matchRuneIndexes (readRunes items).2 m = .ok (Std.locOf (toStd items m)) :=
  groupIndexes_eq items _ _ fun g hg c hc => runeCaptureIndex_eq items c (valid_groups _ m hv g hg c hc)

theorem matchStrings_eq (segs : List (Int × List Nat)) (hwf : WF (decoded segs)) (m : RMatch)
    (hv : m.Valid segs.length) :
    matchStrings segs m = .ok (Std.submatchS (bytesOf segs) (toStd (decoded segs) m)) := by
  rw [Std.submatchS, groupsOf_toStd, groupsB, List.map_map]
  refine mapM_ok _ _ _ ?_
  rintro (_ | _) hg
  · rfl
  · exact captureString_eq segs hwf _ (valid_groups _ m hv _ hg _ rfl)

/-- the byte-slice loop of `FindSubmatch` / `FindAllSubmatch` on an index slice whose pairs lie
    inside `b` -/
theorem submatchSlices_eq (b : Option (List Nat)) (gs : List (Option (Nat × Nat)))
    (h : ∀ g ∈ gs, ∀ s e, g = some (s, e) → s ≤ e ∧ e ≤ (b.getD []).length) :
    submatchSlices b (locOfGroups gs) =
      .ok (gs.map fun g => match g with
        | none => none
        | some (s, e) => Std.textB b s e) := by
  induction gs with
  | nil => rfl
  | cons g gs ih =>
    obtain ⟨hg, hgs⟩ := List.forall_mem_cons.mp h
    rcases g with _ | ⟨s, e⟩
    · show submatchSlices b ((-1) :: (-1) :: locOfGroups gs) = _
      rw [submatchSlices, ih hgs]; rfl
    · obtain ⟨h1, h2⟩ := hg s e rfl
      show submatchSlices b ((s : Int) :: (e : Int) :: locOfGroups gs) = _
      rw [submatchSlices, ih hgs, if_pos (Int.natCast_nonneg s), sliceBytes_eq b s e h1 h2]; rfl

theorem groupsB_bounds (d : List (Int × Nat)) (gs : List (Option (Nat × Nat))) :
    ∀ g ∈ groupsB d gs, ∀ s e, g = some (s, e) → s ≤ e ∧ e ≤ byteLen d := by
  intro g hg s e hse
  obtain ⟨g0, _, rfl⟩ := List.mem_map.mp hg
  cases g0 with
  | none => cases hse
  | some c =>
    cases hse
    exact ⟨off_mono d _ _ (Nat.le_add_right _ _), off_le_byteLen d _⟩

/-! ### the find-all loops of the adapter and of regexp2 over the match sequence -/

/-- where the match before ended in scan direction; `-1` when there is none.  `prevEndOf rtl (some m)` is the model's
    `keptEnd rtl m` (by `rfl`): the loops of `Model/Compat.lean` carry the number, the lemmas here the match before. -/
def prevEndOf (rtl : Bool) : Option RMatch → Int
  | none => -1
  | some p => keptEnd rtl p

/-- the sequence minus every empty match that lies exactly where the match before it (in the
    sequence) ended in scan direction: "empty matches abutting a preceding match are ignored" -/
def dropAbutting (rtl : Bool) : Option RMatch → List RMatch → List RMatch
  | _, [] => []
  | prev, m :: rest =>
    if m.len = 0 ∧ (m.index : Int) = prevEndOf rtl prev then dropAbutting rtl (some m) rest
    else m :: dropAbutting rtl (some m) rest

theorem prevEndOf_of_dropped (rtl : Bool) (prev : Option RMatch) (m : RMatch)
    (h : m.len = 0 ∧ (m.index : Int) = prevEndOf rtl prev) : prevEndOf rtl prev = prevEndOf rtl (some m) := by
  rw [← h.2]
  cases rtl <;> simp [prevEndOf, keptEnd, h.1]

theorem mem_dropAbutting (rtl : Bool) (prev : Option RMatch) (ms : List RMatch) (x : RMatch)
    (h : x ∈ dropAbutting rtl prev ms) : x ∈ ms := by
  induction ms generalizing prev with
  | nil => cases h
  | cons m rest ih =>
    rw [dropAbutting] at h
    split at h
    · exact List.mem_cons_of_mem _ (ih _ h)
    · rcases List.mem_cons.mp h with rfl | h
      · exact List.mem_cons_self
      · exact List.mem_cons_of_mem _ (ih _ h)

theorem mem_takeK {α : Type} (k : Int) (l : List α) (x : α) (h : x ∈ takeK k l) : x ∈ l := by
  unfold takeK at h
  split at h
  · exact h
  · exact List.mem_of_mem_take h

/-- the loops' test "not an empty match where the match before ended" -/
theorem deliverTest_iff (rtl : Bool) (prev : Option RMatch) (m : RMatch) :
    (m.len ≠ 0 ∨ (m.index : Int) ≠ prevEndOf rtl prev) ↔ ¬ (m.len = 0 ∧ (m.index : Int) = prevEndOf rtl prev) :=
  Decidable.not_and_iff_not_or_not.symm

theorem forEachLoop_eq {β : Type} (rtl : Bool) (f : RMatch → Res β) :
    ∀ (ms : List RMatch) (prev : Option RMatch) (k : Int),
      forEachLoop rtl f false ms (prevEndOf rtl prev) k = Res.mapM f (takeK k (dropAbutting rtl prev ms)) := by
  intro ms
  induction ms with
  | nil => intro prev k; rw [dropAbutting, takeK_nil]; rfl
  | cons m rest ih =>
    intro prev k
    rw [forEachLoop]
    by_cases hk : k = 0
    · rw [if_pos hk, hk, takeK_zero]; rfl
    · rw [if_neg hk, dropAbutting]
      by_cases hd : m.len = 0 ∧ (m.index : Int) = prevEndOf rtl prev
      · rw [if_neg (fun h => (deliverTest_iff rtl prev m).mp h hd), if_pos hd, prevEndOf_of_dropped rtl prev m hd, ih]
      · rw [if_pos ((deliverTest_iff rtl prev m).mpr hd), if_neg hd, takeK_cons _ _ _ hk, Res.mapM]
        congr 1
        funext x
        have hke : keptEnd rtl m = prevEndOf rtl (some m) := rfl
        by_cases hpos : k > 0
        · rw [if_pos hpos, if_pos hpos]
          by_cases h1 : k - 1 = 0
          · rw [if_pos h1, h1, takeK_zero]; rfl
          · rw [if_neg h1, hke, ih]
        · rw [if_neg hpos, if_neg hpos, hke, ih]

theorem r2FindAllLoop_eq (rtl : Bool) (mk : Nat → Nat → Nat × Nat) :
    ∀ (ms : List RMatch) (prev : Option RMatch) (k : Int),
      r2FindAllLoop rtl mk false ms (prevEndOf rtl prev) k =
        .val ((takeK k (dropAbutting rtl prev ms)).map fun m => mk m.index m.len) := by
  intro ms
  induction ms with
  | nil => intro prev k; rw [r2FindAllLoop, dropAbutting, takeK_nil]; split <;> rfl
  | cons m rest ih =>
    intro prev k
    rw [r2FindAllLoop]
    by_cases hk : k = 0
    · rw [if_pos hk, hk, takeK_zero]; rfl
    · rw [if_neg hk, dropAbutting]
      by_cases hd : m.len = 0 ∧ (m.index : Int) = prevEndOf rtl prev
      · rw [if_neg (fun h => (deliverTest_iff rtl prev m).mp h hd), if_pos hd, prevEndOf_of_dropped rtl prev m hd, ih]
      · have hke : keptEnd rtl m = prevEndOf rtl (some m) := rfl
        rw [if_pos ((deliverTest_iff rtl prev m).mpr hd), if_neg hd, takeK_cons _ _ _ hk, hke, ih]
        rfl

/-- the matches the find-all methods deliver for limit `k` -/
def delivered (rtl : Bool) (ms : List RMatch) (k : Int) : List RMatch := takeK k (dropAbutting rtl none ms)

theorem delivered_zero (rtl : Bool) (ms : List RMatch) : delivered rtl ms 0 = [] := takeK_zero _

theorem mem_delivered (rtl : Bool) (ms : List RMatch) (k : Int) (x : RMatch) (h : x ∈ delivered rtl ms k) : x ∈ ms :=
  mem_dropAbutting rtl none ms x (mem_takeK k _ x h)

/-! ### the standard library's `allMatches` under `Walk` -/

/-- `prevMatchEnd` (a byte offset) after the match `prev` -/
def prevMatchEndB (d : List (Int × Nat)) : Option RMatch → Int
  | none => -1
  | some p => ((off d (p.index + p.len) : Nat) : Int)

theorem abut_iff (d : List (Int × Nat)) (hw : ∀ s ∈ d, 1 ≤ s.2) (prev : Option RMatch) (m : RMatch)
    (hm : m.index ≤ d.length) (hp : ∀ p, prev = some p → p.index + p.len ≤ d.length) :
    ((off d m.index : Nat) : Int) = prevMatchEndB d prev ↔ (m.index : Int) = prevEndOf false prev := by
  cases prev with
  | none => show ((off d m.index : Nat) : Int) = -1 ↔ (m.index : Int) = -1; omega
  | some p =>
    show ((off d m.index : Nat) : Int) = ((off d (p.index + p.len) : Nat) : Int) ↔ (m.index : Int) = ((p.index + p.len : Nat) : Int)
    rw [Int.ofNat_inj, Int.ofNat_inj]
    exact ⟨off_inj d hw _ _ hm (hp p rfl), congrArg _⟩

theorem allLoop_stop (ff : Nat → Option SMatch) (d : List (Int × Nat)) (endp cap g pos i : Nat) (pe : Int)
    (h : ¬ (i < cap ∧ pos ≤ endp)) : Std.allLoop ff d endp cap g pos i pe = [] := by
  cases g with
  | zero => rfl
  | succ g => rw [Std.allLoop, if_neg h]

theorem allLoop_found (ff : Nat → Option SMatch) (d : List (Int × Nat)) (endp cap g pos i : Nat) (pe : Int)
    (sm : SMatch) (hi : i < cap) (hp : pos ≤ endp) (hf : ff pos = some sm) (hne : sm.hi ≠ pos) :
    Std.allLoop ff d endp cap (g + 1) pos i pe = sm :: Std.allLoop ff d endp cap g sm.hi (i + 1) sm.hi := by
  rw [Std.allLoop, if_pos ⟨hi, hp⟩, hf]
  exact if_neg hne

theorem nextPos_empty (d : List (Int × Nat)) (m : RMatch) (hl : m.len = 0) :
    nextPos d m = if m.index < d.length then off d (m.index + 1) else byteLen d + 1 := by
  rw [nextPos, if_neg (not_not_intro hl)]

theorem nextPos_nonempty (d : List (Int × Nat)) (m : RMatch) (hl : m.len ≠ 0) :
    nextPos d m = off d (m.index + m.len) := if_pos hl

theorem lt_nextPos (d : List (Int × Nat)) (hw : ∀ s ∈ d, 1 ≤ s.2) (m : RMatch) (hv : m.index + m.len ≤ d.length) :
    off d m.index < nextPos d m ∧ off d (m.index + m.len) ≤ nextPos d m := by
  by_cases hl : m.len = 0
  · have h : off d m.index < nextPos d m := by
      rw [nextPos_empty d m hl]
      split
      · exact off_strictMono d hw _ _ (Nat.lt_succ_self _) (by omega)
      · exact Nat.lt_succ_of_le (off_le_byteLen d _)
    rw [hl]
    exact ⟨h, Nat.le_of_lt h⟩
  · rw [nextPos_nonempty d m hl]
    exact ⟨off_strictMono d hw _ _ (by omega) hv, Nat.le_refl _⟩

theorem allLoop_empty (d : List (Int × Nat)) (hw : ∀ s ∈ d, 1 ≤ s.2) (ff : Nat → Option SMatch) (cap : Nat)
    (m : RMatch) (hl : m.len = 0) (hff : ff (off d m.index) = some (toStd d m))
    (fuel i : Nat) (pme : Int) (hi : i < cap) :
    Std.allLoop ff d (byteLen d) cap (fuel + 1) (off d m.index) i pme =
      if ((off d m.index : Nat) : Int) = pme then Std.allLoop ff d (byteLen d) cap fuel (nextPos d m) i (prevMatchEndB d (some m))
      else toStd d m :: Std.allLoop ff d (byteLen d) cap fuel (nextPos d m) (i + 1) (prevMatchEndB d (some m)) := by
  have hhi : (toStd d m).hi = off d m.index := by rw [toStd, hl]; rfl
  rw [Std.allLoop, if_pos ⟨hi, off_le_byteLen d _⟩, hff]
  dsimp only
  rw [if_pos hhi, stepWidth_off d hw, ← off_succ]
  simp only [gt_iff_lt, width_getD_pos d hw]
  rw [← nextPos_empty d m hl]
  rfl

/-! the fuel `byteLen d + 2` that `allMatches` gives `allLoop` is enough: `pos` grows with every iteration and stays
    within `0 … byteLen d + 1` (`endp + 1` is where it goes behind an empty match at the end), so
    `byteLen d + 2 - pos` iterations suffice from `pos` -/

theorem fuel_succ {B pos fuel : Nat} (h : B + 2 - pos ≤ fuel) (hp : pos ≤ B) : ∃ f, fuel = f + 1 :=
  ⟨fuel - 1, by omega⟩

theorem fuel_step {B pos pos' fuel : Nat} (h : B + 2 - pos ≤ fuel + 1) (hlt : pos < pos') : B + 2 - pos' ≤ fuel := by
  omega

theorem allLoop_step (d : List (Int × Nat)) (hw : ∀ s ∈ d, 1 ≤ s.2) (ff : Nat → Option SMatch) (cap : Nat)
    (m : RMatch) (hv : m.index + m.len ≤ d.length) (pos fuel i : Nat) (pme : Int) (hle : pos ≤ off d m.index)
    (hff : ∀ q, pos ≤ q → q ≤ off d m.index → ff q = some (toStd d m))
    (hfuel : byteLen d + 2 - pos ≤ fuel) (hpme : pme ≤ (pos : Int)) (hi : i < cap) :
    ∃ fuel', byteLen d + 2 - nextPos d m ≤ fuel' ∧
      Std.allLoop ff d (byteLen d) cap fuel pos i pme =
        if m.len = 0 ∧ ((off d m.index : Nat) : Int) = pme then
          Std.allLoop ff d (byteLen d) cap fuel' (nextPos d m) i (prevMatchEndB d (some m))
        else toStd d m :: Std.allLoop ff d (byteLen d) cap fuel' (nextPos d m) (i + 1) (prevMatchEndB d (some m)) := by
  have hmi : m.index ≤ d.length := Nat.le_trans (Nat.le_add_right _ _) hv
  have hB := off_le_byteLen d m.index
  obtain ⟨hnp, _⟩ := lt_nextPos d hw m hv
  obtain ⟨f, rfl⟩ := fuel_succ hfuel (Nat.le_trans hle hB)
  by_cases hl : m.len = 0
  · by_cases he : off d m.index = pos
    · -- found at its own position
      subst he
      refine ⟨f, fuel_step hfuel hnp, ?_⟩
      rw [allLoop_empty d hw ff cap m hl (hff _ (Nat.le_refl _) (Nat.le_refl _)) f i pme hi]
      simp only [hl, true_and]
    · -- found from before its position: delivered there, found again at its own position and ignored
      have hlt : pos < off d m.index := Nat.lt_of_le_of_ne hle (Ne.symm he)
      have hf := fuel_step hfuel (Nat.lt_succ_self pos)
      obtain ⟨f', rfl⟩ := fuel_succ hf (Nat.le_trans hlt hB)
      have hhi : (toStd d m).hi = off d m.index := by rw [toStd, hl]; rfl
      refine ⟨f', fuel_step hf (Nat.lt_of_le_of_lt hlt hnp), ?_⟩
      have hkeep : ¬ (m.len = 0 ∧ ((off d m.index : Nat) : Int) = pme) :=
        fun h => Nat.not_le_of_lt hlt (Int.ofNat_le.mp (h.2 ▸ hpme))
      rw [if_neg hkeep, allLoop_found ff d _ cap _ pos i pme _ hi (Nat.le_trans hle hB) (hff pos (Nat.le_refl _) hle)
        (hhi ▸ he), hhi]
      congr 1
      by_cases hi' : i + 1 < cap
      · rw [allLoop_empty d hw ff cap m hl (hff _ hle (Nat.le_refl _)) f' (i + 1) _ hi', if_pos rfl]
      · rw [allLoop_stop _ _ _ _ _ _ _ _ (fun h => hi' h.1), allLoop_stop _ _ _ _ _ _ _ _ (fun h => hi' h.1)]
  · have hlt : off d m.index < off d (m.index + m.len) :=
      off_strictMono d hw _ _ (Nat.lt_add_of_pos_right (Nat.pos_of_ne_zero hl)) hv
    rw [nextPos_nonempty d m hl] at hnp ⊢
    refine ⟨f, fuel_step hfuel (Nat.lt_of_le_of_lt hle hnp), ?_⟩
    rw [if_neg (fun h => hl h.1)]
    exact allLoop_found ff d _ cap f pos i pme _ hi (Nat.le_trans hle hB) (hff pos (Nat.le_refl _) hle)
      (Nat.ne_of_gt (Nat.lt_of_le_of_lt hle hlt))

theorem cntRel_zero_iff {n cap i pos : Nat} {k : Int} (h : CntRel n cap i pos k) (hp : pos ≤ n) : k = 0 ↔ ¬ i < cap := by
  unfold CntRel at h; omega

/-- Induction over regexp2's sequence with the standard library's loop state alongside: `pos` is where its next
    search starts (`Walk` says it finds the next regexp2 match from there), `prevMatchEnd` is `prevMatchEndB d prev`,
    and its counter `i` against `cap` is tied to the adapter's count-down `k` by `CntRel`.  `allLoop_step` does one
    match; a match is dropped on one side exactly when it is on the other (`abut_iff`), and the fuel never runs out
    because `pos` grows with every match (`lt_nextPos`). -/
theorem allLoop_walk (d : List (Int × Nat)) (hw : ∀ s ∈ d, 1 ≤ s.2) (ff : Nat → Option SMatch) (cap : Nat) :
    ∀ (ms : List RMatch) (pos fuel i : Nat) (prev : Option RMatch) (k : Int),
      Walk d ff pos ms → (∀ m ∈ ms, m.Valid d.length) → (∀ p, prev = some p → p.index + p.len ≤ d.length) →
      byteLen d + 2 - pos ≤ fuel → prevMatchEndB d prev ≤ (pos : Int) → CntRel (byteLen d) cap i pos k →
      Std.allLoop ff d (byteLen d) cap fuel pos i (prevMatchEndB d prev) =
        (takeK k (dropAbutting false prev ms)).map (toStd d) := by
  intro ms
  induction ms with
  | nil =>
    intro pos fuel i prev k hwalk _ _ _ _ _
    cases hwalk with
    | stop _ hnone =>
      rw [dropAbutting, takeK_nil]
      by_cases hc : i < cap ∧ pos ≤ byteLen d
      · cases fuel with
        | zero => rfl
        | succ f => rw [Std.allLoop, if_pos hc, hnone hc.2]; rfl
      · exact allLoop_stop _ _ _ _ _ _ _ _ hc
  | cons m rest ih =>
    intro pos fuel i prev k hwalk hval hprev hfuel hpme hcnt
    cases hwalk with
    | step _ _ _ hle hff hrest =>
    obtain ⟨hv, hvr⟩ := List.forall_mem_cons.mp hval
    have hposB : pos ≤ byteLen d := Nat.le_trans hle (off_le_byteLen d _)
    by_cases hi : i < cap
    case neg =>
      rw [allLoop_stop _ _ _ _ _ _ _ _ (fun h => hi h.1), (cntRel_zero_iff hcnt hposB).mpr hi, takeK_zero]; rfl
    have hk : k ≠ 0 := fun h => (cntRel_zero_iff hcnt hposB).mp h hi
    obtain ⟨hnp, hnp'⟩ := lt_nextPos d hw m hv.1
    obtain ⟨fuel', hf', heq⟩ := allLoop_step d hw ff cap m hv.1 pos fuel i _ hle hff hfuel hpme hi
    have hprev' : ∀ p, some m = some p → p.index + p.len ≤ d.length := fun p hp => Option.some.inj hp ▸ hv.1
    have hiff := abut_iff d hw prev m (Nat.le_trans (Nat.le_add_right _ _) hv.1) hprev
    rw [heq, dropAbutting]
    by_cases hd : m.len = 0 ∧ (m.index : Int) = prevEndOf false prev
    · rw [if_pos ⟨hd.1, hiff.mpr hd.2⟩, if_pos hd]
      exact ih _ _ _ _ _ hrest hvr hprev' hf' (Int.ofNat_le.mpr hnp') (cntRel_skip hcnt _ (Nat.le_of_lt (Nat.lt_of_le_of_lt hle hnp)))
    · rw [if_neg (fun h => hd ⟨h.1, hiff.mp h.2⟩), if_neg hd, takeK_cons _ _ _ hk, List.map_cons,
        ih _ _ _ _ _ hrest hvr hprev' hf' (Int.ofNat_le.mpr hnp') (cntRel_deliver hcnt hi hposB _ (Nat.lt_of_le_of_lt hle hnp))]


theorem allMatches_eq (d : List (Int × Nat)) (hwf : WF d) (a : Ans) (ff : Nat → Option SMatch)
    (h : EnginesAgree d a ff) (n : Int) :
    Std.allMatches ff d n = (delivered false a.ms n).map (toStd d) := by
  refine allLoop_walk d (fun s hs => (width_pos s (hwf s hs)).1) ff _ a.ms 0 (byteLen d + 2) 0 none n h.walk h.valid nofun (Nat.le_refl _)
    (show (-1 : Int) ≤ 0 by decide) ?_
  by_cases hn : n < 0
  · exact .inr ⟨hn, by rw [if_pos hn]; omega⟩
  · exact .inl ⟨Int.not_lt.mp hn, by rw [if_neg hn]; omega⟩

theorem allMatches_map {β : Type} (d : List (Int × Nat)) (hwf : WF d) (a : Ans) (ff : Nat → Option SMatch)
    (h : EnginesAgree d a ff) (n : Int) (g : SMatch → β) :
    (Std.allMatches ff d n).map g = (delivered a.rtl a.ms n).map fun m => g (toStd d m) := by
  rw [allMatches_eq d hwf a ff h n, h.ltr, List.map_map]; rfl

/-! ### closed forms of the adapter's methods (any direction; no engine error; matches inside the input) -/

theorem nilIfEmpty_map {α β : Type} (g : α → β) (l : List α) : (nilIfEmpty l).map (List.map g) = nilIfEmpty (l.map g) := by
  cases l <;> rfl

theorem nilIfEmpty_nil {α : Type} : nilIfEmpty ([] : List α) = none := rfl

theorem nilIfEmpty_map_cons {α β : Type} (f : α → β) (x : α) (xs : List α) :
    nilIfEmpty ((x :: xs).map f) = some ((x :: xs).map f) := rfl

theorem findFirst_eq (a : Ans) (he : a.err = false) : findFirst a = .ok a.ms.head? := by
  unfold findFirst nextCall
  cases a.ms with
  | nil => rw [he]; rfl
  | cons m rest => rfl

theorem isMatch_eq (a : Ans) (he : a.err = false) : must (r2IsMatch a) = .ok a.ms.head?.isSome := by
  unfold r2IsMatch nextCall
  cases a.ms with
  | nil => rw [he]; rfl
  | cons m rest => rfl

theorem forEach_closed {β : Type} (a : Ans) (he : a.err = false) (n : Int) (f : RMatch → Res β) (g : RMatch → β)
    (hf : ∀ m ∈ a.ms, f m = .ok (g m)) :
    forEachStringMatch a n f = .ok ((delivered a.rtl a.ms n).map g) := by
  rw [forEachStringMatch, he]
  exact (forEachLoop_eq a.rtl f a.ms none n).trans (mapM_ok f g _ fun m hm => hf m (mem_delivered _ _ _ m hm))

theorem forEachAll_closed {β : Type} (a : Ans) (he : a.err = false) (n : Int) (f : RMatch → Res β) (g : RMatch → β)
    (hf : ∀ m ∈ a.ms, f m = .ok (g m)) :
    (if n = 0 then Res.ok none else (forEachStringMatch a n f).map nilIfEmpty) =
      .ok (nilIfEmpty ((delivered a.rtl a.ms n).map g)) := by
  by_cases hn : n = 0
  · rw [if_pos hn, hn, delivered_zero]; rfl
  · rw [if_neg hn, forEach_closed a he n f g hf]; rfl

theorem r2FindAll_closed (a : Ans) (he : a.err = false) (mk : Nat → Nat → Nat × Nat) (n : Int) :
    must (r2FindAll a mk n) = .ok (nilIfEmpty ((delivered a.rtl a.ms n).map fun m => mk m.index m.len)) := by
  unfold r2FindAll
  by_cases hn : n = 0
  · rw [if_pos hn, hn, delivered_zero]; rfl
  · rw [if_neg hn, he]
    exact congrArg (fun c => must (c.map nilIfEmpty)) (r2FindAllLoop_eq a.rtl mk a.ms none n)

theorem FindAllStringSubmatchIndex_closed (a : Ans) (segs : List (Int × List Nat)) (hwf : WF (decoded segs))
    (he : a.err = false) (hv : ∀ m ∈ a.ms, m.Valid segs.length) (n : Int) :
    FindAllStringSubmatchIndex a segs n =
      .ok (nilIfEmpty ((delivered a.rtl a.ms n).map fun m => Std.locOf (toStd (decoded segs) m))) :=
  forEachAll_closed a he n _ _ fun m hm => matchIndexes_eq _ hwf m (by rw [decoded_length]; exact hv m hm)

theorem FindAllString_closed (a : Ans) (segs : List (Int × List Nat)) (hwf : WF (decoded segs))
    (he : a.err = false) (hv : ∀ m ∈ a.ms, m.Valid segs.length) (n : Int) :
    FindAllString a segs n =
      .ok (nilIfEmpty ((delivered a.rtl a.ms n).map fun m =>
        Std.textS (bytesOf segs) (off (decoded segs) m.index) (off (decoded segs) (m.index + m.len)))) :=
  forEachAll_closed a he n _ _ fun m hm => captureString_eq segs hwf (m.index, m.len) (hv m hm).1

theorem FindAllStringSubmatch_closed (a : Ans) (segs : List (Int × List Nat)) (hwf : WF (decoded segs))
    (he : a.err = false) (hv : ∀ m ∈ a.ms, m.Valid segs.length) (n : Int) :
    FindAllStringSubmatch a segs n =
      .ok (nilIfEmpty ((delivered a.rtl a.ms n).map fun m => Std.submatchS (bytesOf segs) (toStd (decoded segs) m))) :=
  forEachAll_closed a he n _ _ fun m hm => matchStrings_eq segs hwf m (hv m hm)

/-- the overall span of a match as a byte pair: `[lo, hi]` of `toStd d m`, by unfolding -/
def spanB (d : List (Int × Nat)) (m : RMatch) : List Int := [(off d m.index : Int), (off d (m.index + m.len) : Int)]

theorem FindAllStringIndex_closed (a : Ans) (segs : List (Int × List Nat)) (hwf : WF (decoded segs))
    (he : a.err = false) (hv : ∀ m ∈ a.ms, m.Valid segs.length) (n : Int) :
    FindAllStringIndex a segs n = .ok (nilIfEmpty ((delivered a.rtl a.ms n).map (spanB (decoded segs)))) := by
  unfold FindAllStringIndex r2FindAllStringIndex
  dsimp only
  rw [r2FindAll_closed a he, map_ok, nilIfEmpty_map, List.map_map]
  refine congrArg (fun l => Res.ok (nilIfEmpty l)) (List.map_congr_left fun m hm => ?_)
  have hvm : m.index + m.len ≤ (decoded segs).length := by
    rw [decoded_length]; exact (hv m (mem_delivered _ _ _ m hm)).1
  simp only [Function.comp, spanB, off]
  rw [Props.C08.stringByteMapper_eq _ hwf m.index (Nat.le_trans (Nat.le_add_right _ _) hvm),
    Props.C08.stringByteMapper_eq _ hwf (m.index + m.len) hvm]

theorem FindAllIndex_closed (a : Ans) (b : Option (List (Int × List Nat))) (he : a.err = false)
    (hv : ∀ m ∈ a.ms, m.Valid (segsOf b).length) (n : Int) :
    FindAllIndex a b n = .ok (nilIfEmpty ((delivered a.rtl a.ms n).map (spanB (decoded (segsOf b))))) := by
  unfold FindAllIndex r2FindAllRunesIndex
  dsimp only
  rw [r2FindAll_closed a he, bind_ok]
  have key : ∀ m ∈ delivered a.rtl a.ms n, ∀ i, i ≤ m.index + m.len →
      offsetAt (bytesToRunesAndOffsets (decoded (segsOf b))).2 i = some (off (decoded (segsOf b)) i) := by
    intro m hm i hi
    refine (Props.C08.bytesToRunes_offsets_eq _ i (Nat.le_trans hi ?_)).2
    rw [decoded_length]; exact (hv m (mem_delivered _ _ _ m hm)).1
  generalize delivered a.rtl a.ms n = l at key
  cases hbo : (bytesToRunesAndOffsets (decoded (segsOf b))).2 with
  | none =>
    rw [hbo] at key
    cases l with
    | nil => rfl
    | cons m0 l0 =>
      refine congrArg (fun l => Res.ok (some l)) ((List.map_map ..).trans (List.map_congr_left fun m hm => ?_))
      rw [Function.comp, spanB, ← Option.some.inj (key m hm m.index (Nat.le_add_right _ _)),
        ← Option.some.inj (key m hm _ (Nat.le_refl _))]
  | some t =>
    rw [hbo] at key
    simp only [offsetAt] at key
    cases l with
    | nil => rfl
    | cons m0 l0 =>
      rw [nilIfEmpty_map_cons, nilIfEmpty_map_cons]
      dsimp only
      rw [mapM_map_ok _ _ (spanB (decoded (segsOf b))) _ fun m hm => ?_]
      · rfl
      · simp only [tableAt, key m hm m.index (Nat.le_add_right _ _), key m hm _ (Nat.le_refl _), bind_ok, map_ok, spanB]

theorem span_in_bytes (b : Option (List (Int × List Nat))) (i l : Nat) :
    off (decoded (segsOf b)) i ≤ off (decoded (segsOf b)) (i + l) ∧
    off (decoded (segsOf b)) (i + l) ≤ ((bytesOfB b).getD []).length := by
  refine ⟨off_mono _ _ _ (Nat.le_add_right _ _), ?_⟩
  rw [bytesOfB_getD, bytesOf_length]; exact off_le_byteLen _ _

theorem FindAll_closed (a : Ans) (b : Option (List (Int × List Nat))) (he : a.err = false)
    (hv : ∀ m ∈ a.ms, m.Valid (segsOf b).length) (n : Int) :
    FindAll a b n = .ok (nilIfEmpty ((delivered a.rtl a.ms n).map fun m =>
      Std.textB (bytesOfB b) (off (decoded (segsOf b)) m.index) (off (decoded (segsOf b)) (m.index + m.len)))) := by
  rw [FindAll, FindAllIndex_closed a b he hv n, bind_ok]
  cases delivered a.rtl a.ms n with
  | nil => rfl
  | cons m0 l0 =>
    rw [nilIfEmpty_map_cons, nilIfEmpty_map_cons]
    dsimp only
    rw [mapM_map_ok _ _ _ _ fun m _ => ?_]
    · rfl
    · obtain ⟨h1, h2⟩ := span_in_bytes b m.index m.len
      exact sliceBytes_eq _ _ _ h1 h2

theorem submatchSlices_toStd (b : Option (List (Int × List Nat))) (m : RMatch) :
    submatchSlices (bytesOfB b) (Std.locOf (toStd (decoded (segsOf b)) m)) =
      .ok (Std.submatchB (bytesOfB b) (toStd (decoded (segsOf b)) m)) := by
  refine submatchSlices_eq _ (groupsB _ m.groups) fun g hg s e hse => ?_
  rw [bytesOfB_getD, bytesOf_length]
  exact groupsB_bounds _ _ g hg s e hse

theorem FindAllSubmatch_closed (a : Ans) (b : Option (List (Int × List Nat))) (hwf : WF (decoded (segsOf b)))
    (he : a.err = false) (hv : ∀ m ∈ a.ms, m.Valid (segsOf b).length) (n : Int) :
    FindAllSubmatch a b n = .ok (nilIfEmpty ((delivered a.rtl a.ms n).map fun m =>
      Std.submatchB (bytesOfB b) (toStd (decoded (segsOf b)) m))) := by
  rw [FindAllSubmatch, FindAllSubmatchIndex, FindAllStringSubmatchIndex_closed a _ hwf he hv n, bind_ok]
  cases delivered a.rtl a.ms n with
  | nil => rfl
  | cons m0 l0 =>
    rw [nilIfEmpty_map_cons, nilIfEmpty_map_cons]
    dsimp only
    rw [mapM_map_ok _ _ _ _ fun m _ => submatchSlices_toStd b m]
    rfl

/-! ### the single-match methods: the first match, under `Walk` and in closed form -/

theorem walk_head (d : List (Int × Nat)) (ff : Nat → Option SMatch) (ms : List RMatch) (h : Walk d ff 0 ms) :
    ff 0 = ms.head?.map (toStd d) := by
  cases h with
  | stop _ hn => exact hn (Nat.zero_le _)
  | step _ m rest hle hff _ => exact hff 0 (Nat.le_refl _) (Nat.zero_le _)

theorem valid_of_agree {segs : List (Int × List Nat)} {a : Ans} {ff : Nat → Option SMatch}
    (h : EnginesAgree (decoded segs) a ff) : ∀ m ∈ a.ms, m.Valid segs.length :=
  decoded_length segs ▸ h.valid

theorem head_std {β : Type} {d : List (Int × Nat)} {a : Ans} {ff : Nat → Option SMatch} (h : EnginesAgree d a ff)
    (g : SMatch → β) : (a.ms.head?.map fun m => g (toStd d m)) = (ff 0).map g := by
  rw [walk_head d ff a.ms h.walk, Option.map_map]; rfl

theorem first_closed {β : Type} (a : Ans) (he : a.err = false) (f : RMatch → Res β) (g : RMatch → β)
    (hf : ∀ m ∈ a.ms, f m = .ok (g m)) :
    ((findFirst a).bind fun m => match m with
      | none => .ok none
      | some m => (f m).map some) = .ok (a.ms.head?.map g) := by
  rw [findFirst_eq a he, bind_ok]
  cases hh : a.ms.head? with
  | none => rfl
  | some m => dsimp only; rw [hf m (List.mem_of_mem_head? hh)]; rfl

theorem FindStringIndex_closed (a : Ans) (segs : List (Int × List Nat)) (hwf : WF (decoded segs))
    (he : a.err = false) (hv : ∀ m ∈ a.ms, m.Valid segs.length) :
    FindStringIndex a segs = .ok (a.ms.head?.map (spanB (decoded segs))) :=
  first_closed a he _ _ fun m hm => captureIndex_eq _ hwf (m.index, m.len) (by rw [decoded_length]; exact (hv m hm).1)

theorem FindString_closed (a : Ans) (segs : List (Int × List Nat)) (hwf : WF (decoded segs))
    (he : a.err = false) (hv : ∀ m ∈ a.ms, m.Valid segs.length) :
    FindString a segs = .ok (match a.ms.head? with
      | none => []
      | some m => Std.textS (bytesOf segs) (off (decoded segs) m.index) (off (decoded segs) (m.index + m.len))) := by
  rw [FindString, findFirst_eq a he, bind_ok]
  cases hh : a.ms.head? with
  | none => rfl
  | some m => exact captureString_eq segs hwf (m.index, m.len) (hv m (List.mem_of_mem_head? hh)).1

theorem Find_closed (a : Ans) (b : Option (List (Int × List Nat))) (hwf : WF (decoded (segsOf b)))
    (he : a.err = false) (hv : ∀ m ∈ a.ms, m.Valid (segsOf b).length) :
    Find a b = .ok (match a.ms.head? with
      | none => none
      | some m => Std.textB (bytesOfB b) (off (decoded (segsOf b)) m.index) (off (decoded (segsOf b)) (m.index + m.len))) := by
  rw [Find, FindIndex, FindStringIndex_closed a _ hwf he hv, bind_ok]
  cases a.ms.head? with
  | none => rfl
  | some m =>
    obtain ⟨h1, h2⟩ := span_in_bytes b m.index m.len
    exact sliceBytes_eq _ _ _ h1 h2

theorem FindStringSubmatchIndex_closed (a : Ans) (segs : List (Int × List Nat)) (hwf : WF (decoded segs))
    (he : a.err = false) (hv : ∀ m ∈ a.ms, m.Valid segs.length) :
    FindStringSubmatchIndex a segs = .ok (a.ms.head?.map fun m => Std.locOf (toStd (decoded segs) m)) :=
  first_closed a he _ _ fun m hm => matchIndexes_eq _ hwf m (by rw [decoded_length]; exact hv m hm)

theorem FindStringSubmatch_closed (a : Ans) (segs : List (Int × List Nat)) (hwf : WF (decoded segs))
    (he : a.err = false) (hv : ∀ m ∈ a.ms, m.Valid segs.length) :
    FindStringSubmatch a segs = .ok (a.ms.head?.map fun m => Std.submatchS (bytesOf segs) (toStd (decoded segs) m)) :=
  first_closed a he _ _ fun m hm => matchStrings_eq segs hwf m (hv m hm)

theorem FindSubmatch_closed (a : Ans) (b : Option (List (Int × List Nat))) (hwf : WF (decoded (segsOf b)))
    (he : a.err = false) (hv : ∀ m ∈ a.ms, m.Valid (segsOf b).length) :
    FindSubmatch a b = .ok (a.ms.head?.map fun m => Std.submatchB (bytesOfB b) (toStd (decoded (segsOf b)) m)) := by
  rw [FindSubmatch, FindSubmatchIndex, FindStringSubmatchIndex_closed a _ hwf he hv, bind_ok]
  cases a.ms.head? with
  | none => rfl
  | some m =>
    dsimp only [Option.map_some]
    rw [submatchSlices_toStd b m]
    rfl

theorem readRunesR_eq (r : Reader) : must (readRunesR r) = .ok (readRunes r.items) := rfl

theorem FindReaderIndex_closed (a : Ans) (r : Reader) (he : a.err = false) (hv : ∀ m ∈ a.ms, m.Valid r.items.length) :
    FindReaderIndex a r = .ok (a.ms.head?.map (spanB r.items)) :=
  first_closed a he _ _ fun m hm => runeCaptureIndex_eq r.items (m.index, m.len) (hv m hm).1

theorem FindReaderSubmatchIndex_closed (a : Ans) (r : Reader) (he : a.err = false)
    (hv : ∀ m ∈ a.ms, m.Valid r.items.length) :
    FindReaderSubmatchIndex a r = .ok (a.ms.head?.map fun m => Std.locOf (toStd r.items m)) :=
  first_closed a he _ _ fun m hm => matchRuneIndexes_eq r.items m (hv m hm)

theorem MatchReader_closed (a : Ans) (r : Reader) (he : a.err = false) :
    MatchReader a r = .ok a.ms.head?.isSome := by
  rw [MatchReader, readRunesR_eq, bind_ok, isMatch_eq a he]

/-! ### bridge to the `Engine` machinery of `Model/Scan.lean` (C07) -/

/-- a match of the sequence as a `Hit` of `Model/Scan.lean`: span and resume position -/
def hitOf (rtl : Bool) (m : RMatch) : Scan.Hit := ⟨m.index, m.len, Scan.scanEnd rtl (m.index, m.len)⟩

theorem prevEndOf_hit (rtl : Bool) (prev : Option RMatch) :
    Scan.prevEndOf rtl (prev.map (hitOf rtl)) = prevEndOf rtl prev := by
  cases prev with
  | none => rfl
  | some p => cases rtl <;> rfl

theorem dropAbutting_hits (rtl : Bool) (prev : Option RMatch) (ms : List RMatch) :
    (dropAbutting rtl prev ms).map (hitOf rtl) =
      Scan.keepNonAdjacent rtl (prev.map (hitOf rtl)) (ms.map (hitOf rtl)) := by
  induction ms generalizing prev with
  | nil => rfl
  | cons m rest ih =>
    rw [dropAbutting, List.map_cons, Scan.keepNonAdjacent, prevEndOf_hit]
    by_cases hd : m.len = 0 ∧ (m.index : Int) = prevEndOf rtl prev
    · rw [if_pos hd, if_pos (by exact hd)]; exact ih (some m)
    · rw [if_neg hd, if_neg (by exact hd), List.map_cons]; exact congrArg _ (ih (some m))

theorem takeK_map {α β : Type} (f : α → β) (k : Int) (l : List α) : (takeK k l).map f = takeK k (l.map f) := by
  unfold takeK
  split
  · rfl
  · exact List.map_take

/-- the matches the adapter's loops deliver are those of `Scan.compatForEach` whenever the sequence is the `iterate`
    of a `Scan.Engine` (`Props.C06.find_all_loops_eq_scan_model` goes on to `Scan.compatAll` and `Scan.findAll`) -/
theorem delivered_eq_scan (E : Scan.Engine) (rtl : Bool) (n : Nat) (ms : List RMatch)
    (h : ms.map (hitOf rtl) = Scan.iterate E rtl n) (k : Int) :
    (delivered rtl ms k).map (hitOf rtl) = Scan.compatForEach E rtl n k := by
  rw [delivered, takeK_map, dropAbutting_hits, h]
  exact (Lemmas.Scan.compatLoop_eq E rtl n (n + 2) (Scan.firstMatch E rtl n) none k).symm

/-! ### example data for the `example`s of `Props/C06.lean`: `a(.)|(é)|y*` on "xa\xffé" (x, a, an invalid byte,
    a 2-byte rune), with a proof that the hypothesis `EnginesAgree` can be met -/

/-- the input "xa\xffé" as decoding steps -/
def exSegs : List (Int × List Nat) := [(120, [120]), (97, [97]), (0xFFFD, [255]), (233, [195, 169])]

/-- regexp2's sequence, rune indices: empty at 0, "a\xff" with group 1 = "\xff", "é" with group 2, empty at 4
    (`Ans` is ⟨rtl, ms, err⟩, an `RMatch` ⟨index, len, the captures of groups 1, 2, …⟩) -/
def exAns : Ans :=
  ⟨false, [⟨0, 0, [none, none]⟩, ⟨1, 2, [some (2, 1), none]⟩, ⟨3, 1, [none, some (3, 1)]⟩, ⟨4, 0, [none, none]⟩], false⟩

/-- the standard library's searches from the byte positions 0, 1, 2, 3, 5 (4 is inside "é") -/
def exFF : Nat → Option SMatch
  | 0 => some ⟨0, 0, [none, none]⟩
  | 1 => some ⟨1, 3, [some (2, 3), none]⟩
  | 2 => some ⟨2, 2, [none, none]⟩
  | 3 => some ⟨3, 5, [none, some (3, 5)]⟩
  | 5 => some ⟨5, 5, [none, none]⟩
  | _ => none

theorem exSegs_wf : WF (decoded exSegs) := by decide

theorem exAgree : EnginesAgree (decoded exSegs) exAns exFF where
  noErr := rfl
  ltr := rfl
  valid := by decide
  walk := by
    -- each match starts where the search for it starts: the only position `q` to look at is that one
    have one : ∀ (p : Nat) (m : SMatch), exFF p = some m → ∀ q, p ≤ q → q ≤ p → exFF q = some m :=
      fun p m h q h1 h2 => Nat.le_antisymm h2 h1 ▸ h
    exact .step _ _ _ (Nat.le_refl _) (one 0 _ rfl) <| .step _ _ _ (Nat.le_refl _) (one 1 _ rfl) <|
      .step _ _ _ (Nat.le_refl _) (one 3 _ rfl) <| .step _ _ _ (Nat.le_refl _) (one 5 _ rfl) <|
      .stop _ fun h => absurd h (by decide)

end RegexVerif.Lemmas.Compat
