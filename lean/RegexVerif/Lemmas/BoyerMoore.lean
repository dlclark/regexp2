/-
Lemmas about the Boyer-Moore model (Model/BoyerMoore.lean): the table invariants
(`positive[m]` never exceeds a shift that a later occurrence could need after a mismatch at `m`;
the negative entry of a rune never exceeds its distance from the tail) and the induction over `Scan`'s
outer loop that turns them into "no occurrence is skipped".  Throughout, `last` is the index of the tail
character (`pat.length = last + 1`): stated that way the arithmetic has no subtraction.
-/
import RegexVerif.Model.BoyerMoore
import RegexVerif.Lemmas.First

namespace RegexVerif.Lemmas.BoyerMoore
open RegexVerif.BoyerMoore RegexVerif.Lemmas.IndexOf

/-! ### PART I: the positive table -/

/-- the inner loop of PART I keeps the distance `match - scan`, stops at a disagreement or at the head, and
    everything it walked over agrees with the copy of the pattern shifted by that distance -/
theorem extend_spec (pat : List Nat) : ∀ (s1 mt : Nat) (r : Nat × Nat), s1 ≤ mt → extend pat mt s1 = r →
    r.1 ≤ mt ∧ r.1 + s1 = mt + r.2 ∧
    (∀ j k, r.1 < j → j ≤ mt → k + (mt + 1) = j + s1 → pat[j]? = pat[k]?) ∧
    (r.2 = 0 ∨ pat[r.1]? ≠ pat[r.2 - 1]?) := by
  intro s1
  induction s1 with
  | zero => intro mt r _ hr; cases hr; exact ⟨Nat.le_refl _, rfl, fun j k h1 h2 => by omega, Or.inl rfl⟩
  | succ s ih =>
    intro mt r h hr
    obtain ⟨m', rfl⟩ : ∃ m', mt = m' + 1 := ⟨mt - 1, by omega⟩
    rw [extend] at hr
    split at hr
    · rename_i hne
      cases hr
      exact ⟨Nat.le_refl _, rfl, fun j k h1 h2 => by omega, Or.inr (bne_iff_ne.mp hne)⟩
    · rename_i hne
      have heq : pat[m' + 1]? = pat[s]? := by rwa [bne_iff_ne, Decidable.not_not] at hne
      rw [Nat.add_sub_cancel] at hr
      obtain ⟨h1, h2, h3, h4⟩ := ih m' r (Nat.le_of_succ_le_succ h) hr
      refine ⟨Nat.le_succ_of_le h1, by omega, fun j k hj1 hj2 hk => ?_, h4⟩
      by_cases hjm : j = m' + 1
      · rw [hjm, show k = s by omega]; exact heq
      · exact h3 j k hj1 (by omega) (by omega)

/-- the update `if positive[match] == 0 { positive[match] = d }`: where the new table's entries come from, that
    non-zero entries stay, and what stands at `m` -/
theorem setIfZero_spec (pos : List Nat) (m d : Nat) (hm : m < pos.length) :
    (∀ i w : Nat, (if pos[m]? == some 0 then pos.set m d else pos)[i]? = some w → pos[i]? = some w ∨ (i = m ∧ w = d)) ∧
    (∀ i w : Nat, pos[i]? = some w → w ≠ 0 → (if pos[m]? == some 0 then pos.set m d else pos)[i]? = some w) ∧
    ∃ w, (if pos[m]? == some 0 then pos.set m d else pos)[m]? = some w ∧ (w = d ∨ (w ≠ 0 ∧ pos[m]? = some w)) := by
  split
  · rename_i hz
    have hz : pos[m]? = some 0 := eq_of_beq hz
    refine ⟨fun i w h => ?_, fun i w h hw => ?_, d, List.getElem?_set_self hm, Or.inl rfl⟩
    · by_cases hi : m = i
      · rw [← hi, List.getElem?_set_self hm] at h
        exact Or.inr ⟨hi.symm, (Option.some.inj h).symm⟩
      · rw [List.getElem?_set_ne hi] at h; exact Or.inl h
    · have hne : m ≠ i := fun hi => hw (by rw [← hi, hz] at h; exact (Option.some.inj h).symm)
      rw [List.getElem?_set_ne hne]; exact h
  · rename_i hz
    refine ⟨fun i w h => Or.inl h, fun i w h _ => h, pos[m], List.getElem?_eq_getElem hm, Or.inr ⟨fun h0 => hz ?_, List.getElem?_eq_getElem hm⟩⟩
    rw [List.getElem?_eq_getElem hm, h0]; rfl

/-- the invariant of `Outerloop` before `examine = e1 - 1` is looked at:
    * `len`: one entry per pattern index;
    * `le_index`: no entry exceeds its index plus one;
    * `le_shift`: an entry is still 0, the initial 1, or a shift `last - e` of an `e ≥ e1` already looked at;
    * `written`: for every `e ≥ e1` that carries the tail character, the entry where its match ended is written,
      with a shift of at most `last - e` -/
structure PosInv (pat : List Nat) (last ch e1 : Nat) (pos : List Nat) : Prop where
  len : pos.length = last + 1
  le_index : ∀ (i v : Nat), pos[i]? = some v → v ≤ i + 1
  le_shift : ∀ (i v : Nat), pos[i]? = some v → v ≤ 1 ∨ v + e1 ≤ last
  written : ∀ (e : Nat) (r : Nat × Nat), e1 ≤ e → e < last → pat[e]? = some ch → extend pat last (e + 1) = r →
    ∃ v, pos[r.1]? = some v ∧ 1 ≤ v ∧ v + e ≤ last

theorem PosInv.skip {pat : List Nat} {last ch e : Nat} {pos : List Nat} (h : PosInv pat last ch (e + 1) pos)
    (hch : pat[e]? ≠ some ch) : PosInv pat last ch e pos :=
  ⟨h.len, h.le_index, fun i v hv => (h.le_shift i v hv).imp_right fun h => by omega, fun e' r h1 h2 h3 =>
    h.written e' r (Nat.lt_of_le_of_ne h1 fun he => hch (he ▸ h3)) h2 h3⟩

theorem posInv_step (pat : List Nat) (last ch e : Nat) (pos : List Nat) (he : e < last)
    (h : PosInv pat last ch (e + 1) pos) :
    PosInv pat last ch e
      (if pos[(extend pat last (e + 1)).1]? == some 0 then
        pos.set (extend pat last (e + 1)).1 ((extend pat last (e + 1)).1 + 1 - (extend pat last (e + 1)).2) else pos) := by
  generalize hr : extend pat last (e + 1) = r
  obtain ⟨x1, x2, _, _⟩ := extend_spec pat (e + 1) last r (by omega) hr
  -- the value written is the shift `last - e`
  obtain ⟨d, hd, hde⟩ : ∃ d, r.1 + 1 - r.2 = d ∧ d + e = last := ⟨_, rfl, by omega⟩
  rw [hd]
  clear hd
  obtain ⟨s1, s2, w, s3, s4⟩ := setIfZero_spec pos r.1 d (by rw [h.len]; omega)
  refine ⟨?_, fun i v hv => ?_, fun i v hv => ?_, fun e' r' h1 h2 h3 hr' => ?_⟩
  · split
    · rw [List.length_set]; exact h.len
    · exact h.len
  · rcases s1 i v hv with hv | ⟨rfl, rfl⟩
    · exact h.le_index i v hv
    · omega
  · rcases s1 i v hv with hv | ⟨rfl, rfl⟩
    · exact (h.le_shift i v hv).imp_right fun h => by omega
    · exact Or.inr (by omega)
  · by_cases hee : e' = e
    · rw [hee, hr] at hr'
      rw [← hr']
      refine ⟨w, s3, ?_⟩
      rcases s4 with rfl | ⟨hw, hv⟩
      · omega
      · have := h.le_shift r.1 w hv; omega
    · obtain ⟨v, hv1, hv2, hv3⟩ := h.written e' r' (by omega) h2 h3 hr'
      exact ⟨v, s2 _ v hv1 (by omega), hv2, hv3⟩

theorem posLoop_inv (pat : List Nat) (last ch : Nat) : ∀ (e1 : Nat) (pos : List Nat), e1 ≤ last →
    PosInv pat last ch e1 pos → PosInv pat last ch 0 (posLoop pat last ch e1 pos) := by
  intro e1
  induction e1 with
  | zero => intro pos _ h; exact h
  | succ e ih =>
    intro pos he h
    rw [posLoop]
    split
    · exact ih _ (by omega) (posInv_step pat last ch e pos he h)
    · rename_i hch
      exact ih _ (by omega) (h.skip fun hc => hch (by rw [hc]; exact beq_self_eq_true _))

/-- **the positive table.**  For a non-empty pattern: one entry per pattern index; every entry is at least
    1 and at most `index + 1`; and if, after a mismatch at `mt` with the suffix behind it matched, the
    pattern shifted by `d ≥ 1` is compatible with what was seen (agrees with the matched suffix where it
    overlaps it, and differs from `pattern[mt]` where it overlaps the mismatch), then `positive[mt] ≤ d`. -/
theorem positive_spec (pat : List Nat) {last : Nat} (hlen : pat.length = last + 1) :
    (positiveLtr pat).length = pat.length ∧
    (∀ i, i < pat.length → ∃ v, (positiveLtr pat)[i]? = some v ∧ 1 ≤ v ∧ v ≤ i + 1) ∧
    (∀ mt d, mt < last → 1 ≤ d →
      (∀ j k, mt < j → j ≤ last → k + d = j → pat[j]? = pat[k]?) →
      (∀ k, k + d = mt → pat[mt]? ≠ pat[k]?) →
      ∃ v, (positiveLtr pat)[mt]? = some v ∧ 1 ≤ v ∧ v ≤ d) := by
  have hl1 : pat.length - 1 = last := by omega
  obtain ⟨ch, hlast⟩ : ∃ ch, pat[last]? = some ch := ⟨_, List.getElem?_eq_getElem (show last < pat.length by omega)⟩
  unfold positiveLtr
  simp only [hl1, hlast]
  clear hl1
  -- the raw table (before the entries still 0 are filled with `bump`)
  have hinv : PosInv pat last ch 0 (posLoop pat last ch last ((List.replicate pat.length 0).set last 1)) := by
    refine posLoop_inv pat last ch last _ (Nat.le_refl _) ⟨?_, ?_, ?_, fun e r h1 h2 _ => by omega⟩
    · rw [List.length_set, List.length_replicate, hlen]
    all_goals
      intro i v hv
      rw [List.getElem?_set] at hv
      split at hv
      · split at hv
        · cases hv; omega
        · cases hv
      · rw [List.getElem?_replicate] at hv
        split at hv <;> cases hv
        omega
  generalize posLoop pat last ch last ((List.replicate pat.length 0).set last 1) = P at hinv
  have hP : P.length = pat.length := by rw [hinv.len, hlen]
  -- entry `i` of the table: entry `w` of the raw table, 1 if that is still 0
  have hfill : ∀ i, i < pat.length → ∃ w v, P[i]? = some w ∧
      (P.map fun v => if v == 0 then 1 else v)[i]? = some v ∧ 1 ≤ v ∧ (v = w ∨ v = 1) := by
    intro i hi
    obtain ⟨w, hw⟩ : ∃ w, P[i]? = some w := ⟨_, List.getElem?_eq_getElem (hP ▸ hi)⟩
    refine ⟨w, if w == 0 then 1 else w, hw, by rw [List.getElem?_map, hw]; rfl, ?_⟩
    split
    · exact ⟨Nat.le_refl 1, Or.inr rfl⟩
    · rename_i hz
      exact ⟨Nat.pos_of_ne_zero fun h0 => hz (by rw [h0]; rfl), Or.inl rfl⟩
  refine ⟨by rw [List.length_map, hP], fun i hi => ?_, fun mt d hmt hd hagree hdis => ?_⟩
  · obtain ⟨w, v, hw, hv, h1, h2⟩ := hfill i hi
    have := hinv.le_index i w hw
    exact ⟨v, hv, h1, by omega⟩
  · obtain ⟨w, v, hw, hv, h1, h2⟩ := hfill mt (by omega)
    refine ⟨v, hv, h1, ?_⟩
    have hva := hinv.le_index mt w hw
    by_cases hdm : mt + 1 ≤ d
    · omega
    · -- `examine = e = last - d` carries the tail character and its match ends exactly at `mt = k0 + d`
      have hdm : d ≤ mt := Nat.le_of_lt_succ (Nat.lt_of_not_le hdm)
      obtain ⟨k0, hk0⟩ : ∃ k0, k0 + d = mt := ⟨mt - d, Nat.sub_add_cancel hdm⟩
      obtain ⟨e, he⟩ : ∃ e, e + d = last := ⟨last - d, Nat.sub_add_cancel (by omega)⟩
      generalize hr : extend pat last (e + 1) = r
      obtain ⟨x1, x2, x3, x4⟩ := extend_spec pat (e + 1) last r (by omega) hr
      have hmt : r.1 = mt := by
        by_cases hgt : mt < r.1
        · rcases x4 with h0 | hne'
          · omega
          · exact absurd (hagree r.1 (r.2 - 1) hgt x1 (by omega)) hne'
        · by_cases hlt : r.1 < mt
          · exact absurd (x3 mt k0 hlt (by omega) (by omega)) (hdis k0 hk0)
          · omega
      obtain ⟨u, hu1, hu2, hu3⟩ := hinv.written e r (Nat.zero_le _) (by omega)
        ((hagree last e (by omega) (Nat.le_refl _) he).symm.trans hlast) hr
      rw [hmt, hw] at hu1
      cases hu1
      omega

/-! ### PART II: the negative table -/

/-- PART II walks from the tail to the head and keeps the FIRST value written for a rune.  Invariant before index
    `e1 - 1` is looked at: every rune at an index `j ≥ e1` has an entry, at most its distance `last - j` from the
    tail, and every entry is such a distance -/
theorem negLoop_spec (pat : List Nat) (last : Nat) : ∀ (e1 : Nat) (tb : List (Nat × Nat)),
    (∀ j c, e1 ≤ j → pat[j]? = some c → ∃ v, tb.lookup c = some v ∧ v ≤ last - j) →
    (∀ c v, tb.lookup c = some v → ∃ j, e1 ≤ j ∧ pat[j]? = some c ∧ v = last - j) →
    (∀ j c, pat[j]? = some c → ∃ v, (negLoop pat last e1 tb).lookup c = some v ∧ v ≤ last - j) ∧
    (∀ c v, (negLoop pat last e1 tb).lookup c = some v → ∃ j, pat[j]? = some c ∧ v = last - j) := by
  intro e1
  induction e1 with
  | zero =>
    intro tb h1 h2
    exact ⟨fun j c hc => h1 j c (Nat.zero_le _) hc, fun c v hv => let ⟨j, _, hj⟩ := h2 c v hv; ⟨j, hj⟩⟩
  | succ e ih =>
    intro tb h1 h2
    rw [negLoop]
    -- what is known from `e + 1` on is known from `e` on unless `j = e`
    have h2' : ∀ {tb' : List (Nat × Nat)}, (∀ c v, tb'.lookup c = some v → tb.lookup c = some v ∨ (pat[e]? = some c ∧ v = last - e)) →
        ∀ c v, tb'.lookup c = some v → ∃ j, e ≤ j ∧ pat[j]? = some c ∧ v = last - j := by
      intro tb' h c v hv
      rcases h c v hv with hv | ⟨hc, hv⟩
      · obtain ⟨j, hj1, hj2⟩ := h2 c v hv
        exact ⟨j, Nat.le_of_succ_le hj1, hj2⟩
      · exact ⟨e, Nat.le_refl _, hc, hv⟩
    cases hp : pat[e]? with
    | none =>
      refine ih tb (fun j c hj hc => h1 j c (Nat.lt_of_le_of_ne hj fun he => ?_) hc) (h2' fun c v hv => Or.inl hv)
      rw [← he, hp] at hc; cases hc
    | some ch =>
      simp only
      split
      · -- first sighting of `ch`
        rename_i hl
        have hl : tb.lookup ch = none := Option.isNone_iff_eq_none.mp hl
        have hlk : ∀ c, ((ch, last - e) :: tb).lookup c = if c = ch then some (last - e) else tb.lookup c := by
          intro c
          rw [List.lookup_cons]
          by_cases hc : c = ch
          · rw [if_pos hc, hc, beq_self_eq_true]
          · rw [if_neg hc, beq_false_of_ne hc]
        refine ih _ (fun j c hj hc => ?_) (h2' fun c v hv => ?_)
        · rw [hlk]
          by_cases hje : j = e
          · rw [hje, hp] at hc
            cases hc
            exact ⟨last - e, if_pos rfl, hje ▸ Nat.le_refl _⟩
          · obtain ⟨v, hv1, hv2⟩ := h1 j c (by omega) hc
            have : c ≠ ch := fun h => by rw [h, hl] at hv1; cases hv1
            exact ⟨v, by rw [if_neg this]; exact hv1, hv2⟩
        · rw [hlk] at hv
          split at hv
          · rename_i hc
            cases hv
            exact Or.inr ⟨hc ▸ hp, rfl⟩
          · exact Or.inl hv
      · rename_i hl
        refine ih tb (fun j c hj hc => ?_) (h2' fun c v hv => Or.inl hv)
        by_cases hje : j = e
        · rw [hje, hp] at hc
          cases hc
          cases hv : tb.lookup ch with
          | none => rw [hv] at hl; exact absurd rfl hl
          | some v =>
            obtain ⟨j', hj1, _, hj3⟩ := h2 ch v hv
            exact ⟨v, rfl, by omega⟩
        · exact h1 j c (by omega) hc

theorem neg_spec (pat : List Nat) :
    (∀ j c, pat[j]? = some c → ∃ v, (buildLtr pat).neg.lookup c = some v ∧ v ≤ pat.length - 1 - j) ∧
    (∀ c v, (buildLtr pat).neg.lookup c = some v → ∃ j, pat[j]? = some c ∧ v = pat.length - 1 - j) := by
  refine negLoop_spec pat (pat.length - 1) pat.length [] (fun j c hj hc => ?_) nofun
  have := (List.getElem?_eq_some_iff.mp hc).1
  omega

/-- **`Scan`'s table lookup.**  A consulted entry is at most the pattern length, at most the distance from
    the tail of every occurrence of the rune in the pattern, and 0 only for the tail rune; when no table
    is consulted the rune does not occur in the pattern. -/
theorem lookup_spec (pat : List Nat) {last : Nat} (hlen : pat.length = last + 1) (hbmp : ∀ c, c ∈ pat → c ≤ 0xffff)
    (ch : Nat) :
    (∀ v, (buildLtr pat).lookup false ch = some v →
      v ≤ pat.length ∧ (∀ j : Nat, pat[j]? = some ch → v ≤ last - j) ∧ (v = 0 → pat[last]? = some ch)) ∧
    ((buildLtr pat).lookup false ch = none → ∀ j : Nat, pat[j]? ≠ some ch) := by
  obtain ⟨n1, n2⟩ := neg_spec pat
  rw [show pat.length - 1 = last by omega] at n1 n2
  have htab : ∀ v, (match (buildLtr pat).neg.lookup ch with | some v => v | none => pat.length) = v →
      v ≤ pat.length ∧ (∀ j : Nat, pat[j]? = some ch → v ≤ last - j) ∧ (v = 0 → pat[last]? = some ch) := by
    intro v hv
    cases hl : (buildLtr pat).neg.lookup ch with
    | none =>
      rw [hl] at hv
      simp only at hv
      subst hv
      refine ⟨Nat.le_refl _, fun j hj => ?_, fun h => by omega⟩
      obtain ⟨w, hw, _⟩ := n1 j ch hj
      rw [hl] at hw; cases hw
    | some w =>
      rw [hl] at hv
      simp only at hv
      subst hv
      obtain ⟨j0, hj0, hw⟩ := n2 ch _ hl
      refine ⟨by omega, fun j hj => ?_, fun h0 => ?_⟩
      · obtain ⟨w', hw1, hw2⟩ := n1 j ch hj
        rw [hl] at hw1; cases hw1; exact hw2
      · have := (List.getElem?_eq_some_iff.mp hj0).1
        rw [show last = j0 by omega]; exact hj0
  unfold Core.lookup
  simp only [show (buildLtr pat).pattern = pat from rfl, Bool.false_eq_true, if_false]
  constructor
  · intro v hv
    split at hv
    · exact htab v (Option.some.inj hv)
    · split at hv
      · split at hv
        · exact htab v (Option.some.inj hv)
        · cases hv
      · cases hv
  · intro hnone j hj
    have hmem : ch ∈ pat := List.mem_of_getElem? hj
    have hle := hbmp ch hmem
    split at hnone
    · cases hnone
    · rename_i h128
      have hU : (buildLtr pat).hasUnicode = true :=
        List.any_eq_true.mpr ⟨ch, hmem, decide_eq_true (Nat.le_of_not_lt h128)⟩
      have hPg : (buildLtr pat).hasPage (ch / 256) = true :=
        List.any_eq_true.mpr ⟨ch, hmem, by rw [decide_eq_true (Nat.le_of_not_lt h128), beq_self_eq_true]; rfl⟩
      rw [hU, hPg, decide_eq_true hle] at hnone
      cases hnone

/-! ### `Scan` -/

/-- the pattern occurs at `s` in the text as `Scan` reads it (`T i` = `text[i]`, lower-cased when
    case-insensitive) -/
def Occ (pat : List Nat) (T : Nat → Option Nat) (s : Nat) : Prop :=
  ∀ j, j < pat.length → T (s + j) = pat[j]?

/-- the inner loop of `Scan`: either everything down to the head matched, or it stopped at the first
    disagreement `m` (from the tail) with the text character `ch` there -/
theorem inner_spec (pat : List Nat) (T : Nat → Option Nat) : ∀ (mt t2 : Nat), mt ≤ t2 →
    match inner pat T mt t2 with
    | .found r => r + mt = t2 ∧ ∀ j i, j < mt → i + mt = t2 + j → T i = pat[j]?
    | .mismatch m ch => m < mt ∧ (∀ j i, m < j → j < mt → i + mt = t2 + j → T i = pat[j]?) ∧
        (∀ i, i + mt = t2 + m → T i = some ch) ∧ some ch ≠ pat[m]?
    | .panic => ∃ i, i < t2 ∧ T i = none := by
  intro mt
  induction mt with
  | zero => intro t2 _; exact ⟨rfl, fun j i h => absurd h (Nat.not_lt_zero j)⟩
  | succ mt ih =>
    intro t2 h
    obtain ⟨t, rfl⟩ : ∃ t, t2 = t + 1 := ⟨t2 - 1, by omega⟩
    rw [inner, Nat.add_sub_cancel]
    cases hT : T t with
    | none => exact ⟨t, Nat.lt_succ_self t, hT⟩
    | some ch =>
      simp only
      by_cases hne : (some ch != pat[mt]?) = true
      · rw [if_pos hne]
        exact ⟨Nat.lt_succ_self mt, fun j i h1 h2 _ => by omega,
          fun i hi => by rw [show i = t by omega]; exact hT, bne_iff_ne.mp hne⟩
      · rw [if_neg hne]
        have heq : some ch = pat[mt]? := by rwa [bne_iff_ne, Decidable.not_not] at hne
        -- the character just compared: index `mt` of the pattern under text position `t`
        have here : ∀ j i, i + (mt + 1) = t + 1 + j → ¬ j < mt → j < mt + 1 → T i = pat[j]? := fun j i hi h1 h2 => by
          rw [show i = t by omega, show j = mt by omega, hT]; exact heq
        have := ih t (Nat.le_of_succ_le_succ h)
        cases hin : inner pat T mt t with
        | found r =>
          rw [hin] at this
          exact ⟨by omega, fun j i hj hi => if hjm : j < mt then this.2 j i hjm (by omega) else here j i hi hjm hj⟩
        | mismatch m c2 =>
          rw [hin] at this
          obtain ⟨h1, h2, h3, h4⟩ := this
          exact ⟨by omega, fun j i hj1 hj2 hi => if hjm : j < mt then h2 j i hj1 hjm (by omega) else here j i hi hjm hj2,
            fun i hi => h3 i (by omega), h4⟩
        | panic =>
          rw [hin] at this
          obtain ⟨i, hi1, hi2⟩ := this
          exact ⟨i, by omega, hi2⟩

/-- the bad-character rule: with `ch` under the tail at `test`, an occurrence whose tail is less than `a` further
    on would have `ch` less than `a` before its tail -/
theorem badChar_skip {pat : List Nat} {T : Nat → Option Nat} {last test ch a : Nat} (hlen : pat.length = last + 1)
    (hT : T test = some ch) (ha1 : a ≤ last + 1) (ha : ∀ j : Nat, pat[j]? = some ch → a + j ≤ last) :
    ∀ s', test ≤ s' + last → s' + last < test + a → ¬ Occ pat T s' := by
  intro s' h1 h2 hocc
  obtain ⟨j, hj⟩ : ∃ j, s' + j = test := ⟨test - s', by omega⟩
  have := hocc j (by omega)
  rw [hj, hT] at this
  have := ha j this.symm
  omega

/-- after a mismatch at `mt` (text character `ch`) behind a matched suffix, with the pattern's head at `base`: the
    shift `d` of a later occurrence is at least the good-suffix entry `p` of `mt` (the occurrence agrees with the
    matched suffix and not with `pattern[mt]`) and the bad-character advance for `ch` (it has `ch` at `mt - d`) -/
theorem mismatch_advance (pat : List Nat) (hbmp : ∀ c, c ∈ pat → c ≤ 0xffff) {T : Nat → Option Nat}
    {last base mt ch p d : Nat} (hlen : pat.length = last + 1)
    (hmt : mt < last) (hsuf : ∀ j, mt < j → j ≤ last → T (base + j) = pat[j]?) (hmis : T (base + mt) = some ch)
    (hne' : some ch ≠ pat[mt]?) (hp : (positiveLtr pat)[mt]? = some p) (hocc : Occ pat T (base + d)) :
    1 ≤ d ∧ p ≤ d ∧ ∀ v, (buildLtr pat).lookup false ch = some v → mt + v - last ≤ d := by
  have hk : ∀ k j, k + d = j → j ≤ last → T (base + j) = pat[k]? := fun k j hkj hj => by
    rw [← hocc k (by omega), ← hkj, Nat.add_assoc, Nat.add_comm d k]
  have d1 : 1 ≤ d := Nat.pos_of_ne_zero fun h0 => hne' (by rw [← hmis, hk mt mt (by omega) (by omega)])
  obtain ⟨v, hv1, _, hv3⟩ := (positive_spec pat hlen).2.2 mt d hmt d1
    (fun j k hj1 hj2 hk' => by rw [← hsuf j hj1 hj2, hk k j hk' hj2])
    (fun k hk' h => hne' (by rw [h, ← hmis, hk k mt hk' (by omega)]))
  cases hp.symm.trans hv1
  refine ⟨d1, hv3, fun v hv => ?_⟩
  obtain ⟨x1, x2, _⟩ := (lookup_spec pat hlen hbmp ch).1 v hv
  by_cases hd : d ≤ mt
  · have := x2 (mt - d) (by rw [← hk (mt - d) mt (Nat.sub_add_cancel hd) (by omega), hmis])
    omega
  · omega

/-- the outer loop of `Scan`, indexed by the start `base` of the occurrence under test (its tail, the loop's `test`,
    is `base + last`) -/
theorem scanLoop_first (pat : List Nat) (hbmp : ∀ c, c ∈ pat → c ≤ 0xffff)
    (T : Nat → Option Nat) (beglimit endlimit last : Nat) (hlen : pat.length = last + 1)
    (hT : ∀ i, i < endlimit → T i ≠ none) :
    ∀ (fuel base : Nat), endlimit < base + last + fuel → beglimit ≤ base + last →
      First (fun s => base ≤ s ∧ s + last < endlimit ∧ Occ pat T s)
        (scanLoop (buildLtr pat) false T beglimit endlimit fuel (base + last)) := by
  have hpos := (positive_spec pat hlen).2.1
  intro fuel
  induction fuel with
  | zero => intro base h _; exact first_none fun s hs => by omega
  | succ fuel ih =>
    intro base hfuel hbeg
    rw [scanLoop]
    simp only [show (buildLtr pat).pattern = pat from rfl, show (buildLtr pat).positive = positiveLtr pat from rfl]
    split
    · rename_i hout
      rw [Bool.or_eq_true, decide_eq_true_eq, decide_eq_true_eq] at hout
      exact first_none fun s hs => by omega
    rename_i hout
    rw [Bool.or_eq_true, decide_eq_true_eq, decide_eq_true_eq, not_or, Nat.not_le, Nat.not_lt] at hout
    rw [show pat.length - 1 = last by omega]
    -- whatever the advance `a ≥ 1` is: the recursive call answers from `base + a`
    have step : ∀ a, 1 ≤ a → (∀ s', base + last ≤ s' + last → s' + last < base + last + a → ¬ Occ pat T s') →
        First (fun s => base ≤ s ∧ s + last < endlimit ∧ Occ pat T s)
          (scanLoop (buildLtr pat) false T beglimit endlimit fuel (base + last + a)) := fun a ha hskip => by
      rw [Nat.add_right_comm]
      exact (ih (base + a) (by omega) (by omega)).skip (P := fun s => s + last < endlimit ∧ Occ pat T s)
        (fun j h1 h2 hp => hskip j (by omega) (by omega) hp.2) (Nat.le_add_right _ _)
    cases hTt : T (base + last) with
    | none => exact absurd hTt (hT _ hout.1)
    | some chTest =>
      simp only
      split
      · -- the bad-character advance
        rename_i hne1
        obtain ⟨hl1', hl2⟩ := lookup_spec pat hlen hbmp chTest
        cases hl : (buildLtr pat).lookup false chTest with
        | none => exact step pat.length (by omega) (badChar_skip hlen hTt (by omega) fun j hj => absurd hj (hl2 hl j))
        | some v =>
          obtain ⟨x1, x2, x3⟩ := hl1' v hl
          refine step v (Nat.pos_of_ne_zero fun h0 => bne_iff_ne.mp hne1 (x3 h0).symm)
            (badChar_skip hlen hTt (by omega) fun j hj => ?_)
          have := x2 j hj
          have := (List.getElem?_eq_some_iff.mp hj).1
          omega
      · rename_i heq1
        have heq1 : some chTest = pat[last]? := by rwa [bne_iff_ne, Decidable.not_not] at heq1
        have hin := inner_spec pat T last (base + last) (Nat.le_add_left _ _)
        cases hi : inner pat T last (base + last) with
        | found r =>
          rw [hi] at hin
          obtain ⟨h1, h2⟩ := hin
          cases Nat.add_right_cancel h1
          refine First.here (P := fun s => s + last < endlimit ∧ Occ pat T s) ⟨hout.1, fun j hj => ?_⟩
          by_cases hjl : j = last
          · rw [hjl, hTt]; exact heq1
          · exact h2 j (base + j) (by omega) (by omega)
        | panic =>
          rw [hi] at hin
          obtain ⟨i, hi1, hi2⟩ := hin
          exact absurd hi2 (hT i (by omega))
        | mismatch mt ch =>
          rw [hi] at hin
          obtain ⟨hm1, hm2, hm3, hm4⟩ := hin
          obtain ⟨p, hp1, hp2, hp3⟩ := hpos mt (by omega)
          simp only [hp1]
          have hkey : ∀ d, Occ pat T (base + d) → 1 ≤ d ∧ p ≤ d ∧
              ∀ v, (buildLtr pat).lookup false ch = some v → mt + v - last ≤ d :=
            fun d => mismatch_advance pat hbmp hlen hm1
              (fun j j1 j2 => if hjl : j = last then by rw [hjl, hTt]; exact heq1 else hm2 j _ j1 (by omega) (by omega))
              (hm3 _ (by omega)) hm4 hp1
          have hskip : ∀ a, (∀ d, Occ pat T (base + d) → a ≤ d) →
              ∀ s', base + last ≤ s' + last → s' + last < base + last + a → ¬ Occ pat T s' := by
            intro a ha s' h1 h2 hocc
            obtain ⟨d, rfl⟩ : ∃ d, s' = base + d := ⟨s' - base, by omega⟩
            have := ha d hocc
            omega
          cases hl : (buildLtr pat).lookup false ch with
          | none => exact step p hp2 (hskip p fun d hocc => (hkey d hocc).2.1)
          | some v =>
            refine step _ (Nat.le_trans hp2 (Nat.le_max_left _ _)) (hskip _ fun d hocc => ?_)
            obtain ⟨_, k1, k2⟩ := hkey d hocc
            exact Nat.max_le.mpr ⟨k1, k2 v hl⟩

theorem scanLtr_first (pat : List Nat) (hne : pat ≠ []) (hbmp : ∀ c, c ∈ pat → c ≤ 0xffff)
    (T : Nat → Option Nat) (index beglimit endlimit : Nat) (hT : ∀ i, i < endlimit → T i ≠ none)
    (hbeg : beglimit ≤ index) :
    First (fun s => index ≤ s ∧ s + pat.length ≤ endlimit ∧ Occ pat T s)
      (scanLtr (buildLtr pat) false T index beglimit endlimit) := by
  obtain ⟨last, hlen⟩ : ∃ last, pat.length = last + 1 := ⟨pat.length - 1, by have := List.length_pos_iff.mpr hne; omega⟩
  unfold scanLtr
  rw [show (buildLtr pat).pattern = pat from rfl, hlen]
  exact scanLoop_first pat hbmp T beglimit endlimit last hlen hT (endlimit + 1) index (by omega) (by omega)

end RegexVerif.Lemmas.BoyerMoore
