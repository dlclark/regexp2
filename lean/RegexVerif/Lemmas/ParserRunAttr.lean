import Lean

/-- the rules of the position calculus of `Lemmas/ParserRun.lean` -/
register_simp_attr run_rules
