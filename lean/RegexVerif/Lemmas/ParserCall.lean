/-
The rules for calling a scanner of each specification form inside a bare `wp` goal, a tactic that rewrites with the `wp`
equations (`wp_simp3`) and one that closes the side goals of such a call (`adv`): what the syntax-directed tactic of
`Lemmas/ParserTac.lean` applies.  The proofs of the
development make their calls in the position calculus (`Lemmas/ParserRun.lean`, `run_call`) and use neither.
-/
import RegexVerif.Lemmas.Parser

namespace RegexVerif.Parser

variable {α : Type}

section
variable (E : Env)

/-- what the continuation of a call started in `s` is told about the state after it: at or after `p`, inside the
    pattern, frame and names kept (one hypothesis each, for the continuation to use) -/
def After (p : Nat) (s : PS) (P : PS → Prop) : Prop :=
  ∀ s', p ≤ s'.pos → s'.pos ≤ E.pat.length → s'.frame = s.frame → (NamesOK s.g → NamesOK s'.g) → P s'

theorem wp_callF {m : M α} {a k p : Nat} (h : ScansF E a k p m) {Q : α → PS → Prop} {R : PS → Prop} {s : PS}
    (ha : a ≤ s.pos) (hk : s.pos + k ≤ E.pat.length) (hq : ∀ x, After E p s (Q x)) (hr : After E p s R) :
    wp m Q R s :=
  wp_mono (h s ha hk) (fun a s' h' => hq a s' h'.floor h'.inside h'.frame h'.names)
    (fun s' h' => hr s' h'.floor h'.inside h'.frame h'.names)

theorem wp_call {m : M α} (h : Scans E m) {Q : α → PS → Prop} {R : PS → Prop} {s : PS}
    (hs : s.pos ≤ E.pat.length) (hq : ∀ a, After E s.pos s (Q a)) (hr : After E s.pos s R) : wp m Q R s :=
  wp_callF E (Scans.toF E h s.pos) (Nat.le_refl _) hs hq hr

theorem wp_call_lt {m : M α} (h : ScansLt E m) {Q : α → PS → Prop} {R : PS → Prop} {s : PS}
    (hs : s.pos < E.pat.length) (hq : ∀ a, After E s.pos s (Q a)) (hr : After E s.pos s R) : wp m Q R s :=
  wp_callF E (ScansLt.toF E h s.pos) (Nat.le_refl _) hs hq hr

theorem wp_call_k {m : M α} {k : Nat} (h : ScansK E k m) {Q : α → PS → Prop} {R : PS → Prop} {s : PS}
    (hs : s.pos + k ≤ E.pat.length) (hq : ∀ a, After E s.pos s (Q a)) (hr : After E s.pos s R) : wp m Q R s :=
  wp_callF E (ScansK.toF E h s.pos) (Nat.le_refl _) hs hq hr

theorem wp_call_back {m : M α} (h : ScansBack E m) {Q : α → PS → Prop} {R : PS → Prop} {s : PS}
    (h1 : 1 ≤ s.pos) (hs : s.pos ≤ E.pat.length) (hq : ∀ a, After E (s.pos - 1) s (Q a))
    (hr : After E (s.pos - 1) s R) : wp m Q R s :=
  wp_callF E (ScansBack.toF E h h1) (Nat.le_refl _) hs hq hr

end

/-- rewrite with the `wp` equations: the monad, the derived operations (`andM`, `rcIs`, …), the primitives, the
    operations of the main loop -/
syntax "wp_simp3" : tactic
macro_rules
  | `(tactic| wp_simp3) => `(tactic| simp only [andM, orM, andMM, rcIs, rcNe, getIs, nextIs, wp_bind, wp_pure, wp_ite,
      wp_moveRightGetChar, wp_moveLeft, wp_textpos, wp_opts, wp_charsRight, wp_rest, wp_moveRight, wp_throw, wp_textto,
      wp_rightChar, wp_charAt, wp_get, wp_modify, wp_fault, wp_setOpts, wp_isCaptureSlot, wp_captureSlotFromName,
      wp_hasCapnames, wp_consumeAutocap, wp_emptyOptionsStack, wp_pushOptions, Bool.false_eq_true, if_false, if_true,
      wp_isTrueQuantifier, wp_setUnit, wp_addConcatenate, wp_addConcatenate3, wp_popOptions, wp_popKeepOptions,
      pushGroup, startGroup])

/-- close an `Adv` goal, one of its components, or a bound on a position from the facts in the context (the last
    resort is not tried on a `wp` goal: a program that is stuck is left to the caller) -/
syntax "adv" : tactic
macro_rules
  | `(tactic| adv) => `(tactic| first
      | omega
      | (dsimp only at *; omega)
      | (constructor <;> (try dsimp only [PS.frame] at *) <;> (try simp_all) <;> (try omega) <;> done)
      | ((fail_if_success with_reducible apply wp_mono); (try dsimp only [PS.frame] at *); (try simp_all); (try omega); done))

end RegexVerif.Parser
