/-
Case analysis of an `if` without `split`.
-/

namespace RegexVerif

/-- A property of `if c then a else b` from its two branches.  `split` first simplifies the whole goal, which is
    slow on the long `if … else if …` chains of the models (`reduce`, `elim`, `escapeRune`, the normal forms of
    `canonicalize`); applying this only unifies, so a chain is walked with `refine ite_cases (fun h => …) fun h => ?_`.
    Unification finds `P` when the `if` is the argument of the property itself; where it stands deeper `P` is written
    out. -/
theorem ite_cases {α : Sort _} {P : α → Prop} {c : Prop} [Decidable c] {a b : α} (ha : c → P a) (hb : ¬c → P b) :
    P (if c then a else b) := by
  split
  · exact ha ‹_›
  · exact hb ‹_›

/-- `ite_cases` for goals `f (if …) = true`: `okN`, `capN`, `capR`, `capsOk` along the chains of `toR`, `goOf`, `payload` -/
theorem ite_cases_true {α : Sort _} {f : α → Bool} {c : Prop} [Decidable c] {a b : α} (ha : c → f a = true)
    (hb : ¬c → f b = true) : f (if c then a else b) = true :=
  ite_cases (P := fun x => f x = true) ha hb

/-- The same for a hypothesis: the two ways `if c then a else b` takes the value `r`. -/
theorem ite_eq_cases {α : Type} {c : Prop} [Decidable c] {a b r : α} (h : (if c then a else b) = r) :
    (c ∧ a = r) ∨ (¬ c ∧ b = r) :=
  if hc : c then Or.inl ⟨hc, (if_pos hc).symm.trans h⟩ else Or.inr ⟨hc, (if_neg hc).symm.trans h⟩

/-- a bound on an `if`, as bounds on its branches -/
theorem ite_le_iff (p : Prop) [Decidable p] (a b c : Nat) : (if p then a else b) ≤ c ↔ (p → a ≤ c) ∧ (¬ p → b ≤ c) := by
  split <;> simp [*]

theorem le_ite_iff (p : Prop) [Decidable p] (a b c : Nat) : c ≤ (if p then a else b) ↔ (p → c ≤ a) ∧ (¬ p → c ≤ b) := by
  split <;> simp [*]

/-- an `if` takes its `else` value unless its condition, and with it `q`, holds -/
theorem ite_eq_or {α : Type} {c : Prop} [Decidable c] {a b : α} {q : Prop} (h : c → q) :
    (if c then a else b) = b ∨ q := by
  split
  · exact Or.inr (h ‹c›)
  · exact Or.inl rfl

end RegexVerif
