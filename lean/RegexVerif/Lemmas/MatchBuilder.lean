/-
The capture arrays of `RegexVerif.Model.MatchBuilder` (match.go), slot by slot.

"Live" is said of two things.  The live PREFIX `live b c` is the first `2 * matchcount[c]` entries of the flat array
of slot `c`, cancelled captures and back-pointers included.  The live CAPTURES of group `c` are `absOf b c` (oldest
first; `vals st`, innermost first, for the stack `st` of `Rep`): what is left when every cancellation has removed
the capture it cancels.  `Rep (live b c) st` gives `absOf b c = (vals st).reverse` (`absOf_eq`, `rep_live`).

`Rep P st` is the representation invariant of one slot: the live prefix `P` was produced by pushes (`addMatch` of a
well-formed interval) and cancellations (`balanceMatch`), and `st` is the resulting stack of live captures, top
first, each with the array position it is stored at; against it the back-pointer arithmetic of `balanceMatch`,
`isMatched`, `matchIndex` is checked.  `Inv b`: every slot of a builder has room for its entries (`SlotOK`) and is
represented.

Entry points: `addMatch_appends` and `balanceMatch_appends` (one pair is appended to a live prefix and `Inv` holds
again; `live_addMatch` for numbers that break `Inv`), `appends_abs` (what the pair does to the live captures),
`appends_remove` (`removeMatch` undoes it), `tidy_slot` (`tidy` leaves the live captures flattened).  `Bounded`: the
real entries of a prefix, live or cancelled, are intervals inside the text.
-/
import RegexVerif.Model.MatchBuilder

namespace RegexVerif.Lemmas.MatchBuilder
open RegexVerif.MatchBuilder

theorem geti_append_left (P X : List Int) (i : Nat) (h : i < P.length) : geti (P ++ X) i = geti P i := by
  simp [geti, List.getD, List.getElem?_append_left h]

theorem geti_append_right (P X : List Int) (i : Nat) : geti (P ++ X) (P.length + i) = geti X i := by
  simp [geti, List.getD, List.getElem?_append_right]

theorem geti_take (a : List Int) (n i : Nat) (h : i < n) : geti (a.take n) i = geti a i := by
  simp [geti, List.getD, h]

theorem take_set_set (a : List Int) (k : Nat) (x y : Int) (h : k + 2 ≤ a.length) :
    ((a.set k x).set (k + 1) y).take (k + 2) = a.take k ++ [x, y] := by
  induction k generalizing a with
  | zero =>
    match a, h with
    | a0 :: a1 :: rest, _ => rfl
  | succ k ih =>
    match a, h with
    | a0 :: rest, h => exact congrArg (a0 :: ·) (ih rest (Nat.le_of_succ_le_succ h))

theorem length_set_set (a : List Int) (i j : Nat) (x y : Int) : ((a.set i x).set j y).length = a.length := by simp

theorem pairs_induction {motive : List Int → Prop} (nil : motive [])
    (cons : ∀ a b rest, motive rest → motive (a :: b :: rest)) : ∀ P : List Int, P.length % 2 = 0 → motive P
  | [], _ => nil
  | [_], h => by simp at h
  | a :: b :: rest, h => cons a b rest (pairs_induction nil cons rest (by simp only [List.length_cons] at h; omega))

/-! ### one slot: the representation invariant `Rep` -/

/-- the live captures of one slot, innermost first: `(p, s, l)` is the capture `(index s, length l)`
    stored at positions `p`, `p + 1` of the slot's array -/
abbrev Stk := List (Nat × Int × Int)

/-- array position of the innermost live capture; `-2` when there is none, so that the entry written
    for it below is `(-1, -2)`, the pair `isMatched` tests for (`-3 + 1`) -/
def topPos : Stk → Int
  | [] => -2
  | (p, _, _) :: _ => (p : Int)

theorem topPos_ge (st : Stk) : -2 ≤ topPos st := by
  cases st with
  | nil => simp [topPos]
  | cons e t => simp only [topPos]; omega

theorem topPos_eq_neg2 (st : Stk) : topPos st = -2 ↔ st = [] := by
  cases st with
  | nil => simp [topPos]
  | cons e t => obtain ⟨p, s, l⟩ := e; simp [topPos]

/-- `Rep P st`: the flat prefix `P` was written by `addMatch` of well-formed intervals (`push`) and by
    `balanceMatch` (`bal`), and `st` are the captures live after it.

    A balancing entry cancels the innermost live capture and is a back-pointer: match.go stores
    `(-3 - t, -4 - t)` where `t` is the array position of the capture that is innermost *afterwards*
    (`target` in `balanceMatch`; when the entry before is itself a back-pointer it is copied, which
    is the same pair).  Both numbers are negative, which is how readers tell it from a capture, and
    `matchIndex` / `matchLength` recover the positions `t`, `t + 1` as `-3 - i` from either. -/
inductive Rep : List Int → Stk → Prop
  | nil : Rep [] []
  | push (P : List Int) (st : Stk) (s l : Int) : Rep P st → 0 ≤ s → 0 ≤ l → Rep (P ++ [s, l]) ((P.length, s, l) :: st)
  | bal (P : List Int) (c : Nat × Int × Int) (st : Stk) : Rep P (c :: st) → Rep (P ++ [-3 - topPos st, -4 - topPos st]) st

theorem rep_even {P : List Int} {st : Stk} (h : Rep P st) : P.length % 2 = 0 := by
  induction h with
  | nil => rfl
  | push P st s l _ _ _ ih => simp; omega
  | bal P c st _ ih => simp; omega

theorem append_pair_inj {P Q : List Int} {a b c d : Int} (h : P ++ [a, b] = Q ++ [c, d]) : P = Q ∧ a = c ∧ b = d := by
  simpa using List.append_inj' h rfl

theorem rep_last {P : List Int} {st : Stk} (h : Rep P st) :
    (P = [] ∧ st = []) ∨
    ∃ P' x y, P = P' ++ [x, y] ∧
      ((0 ≤ x ∧ 0 ≤ y ∧ ∃ st', Rep P' st' ∧ st = (P'.length, x, y) :: st') ∨
       (x = -3 - topPos st ∧ y = -4 - topPos st ∧ ∃ c, Rep P' (c :: st))) := by
  cases h with
  | nil => exact .inl ⟨rfl, rfl⟩
  | push P st s l h hs hl => exact .inr ⟨P, s, l, rfl, .inl ⟨hs, hl, st, h, rfl⟩⟩
  | bal P c st h => exact .inr ⟨P, _, _, rfl, .inr ⟨rfl, rfl, c, h⟩⟩

theorem rep_nil_inv {st : Stk} (h : Rep [] st) : st = [] :=
  (rep_last h).elim (·.2) fun ⟨_, _, _, h, _⟩ => absurd h (List.ne_nil_of_length_pos (by simp)).symm

theorem rep_dropLast {P : List Int} {x y : Int} {st : Stk} (h : Rep (P ++ [x, y]) st) : ∃ st', Rep P st' := by
  rcases rep_last h with ⟨h1, _⟩ | ⟨P', x', y', heq, h2⟩
  · simp at h1
  · obtain ⟨rfl, _, _⟩ := append_pair_inj heq
    rcases h2 with ⟨_, _, st', h, _⟩ | ⟨_, _, c, h⟩
    · exact ⟨st', h⟩
    · exact ⟨_, h⟩

theorem rep_vals {P : List Int} {st : Stk} (h : Rep P st) :
    ∀ e ∈ st, e.1 + 2 ≤ P.length ∧ geti P e.1 = e.2.1 ∧ geti P (e.1 + 1) = e.2.2 ∧ 0 ≤ e.2.1 ∧ 0 ≤ e.2.2 := by
  -- an entry keeps its place when the prefix grows
  have grow : ∀ (P X : List Int) (e : Nat × Int × Int),
      (e.1 + 2 ≤ P.length ∧ geti P e.1 = e.2.1 ∧ geti P (e.1 + 1) = e.2.2 ∧ 0 ≤ e.2.1 ∧ 0 ≤ e.2.2) →
      e.1 + 2 ≤ (P ++ X).length ∧ geti (P ++ X) e.1 = e.2.1 ∧ geti (P ++ X) (e.1 + 1) = e.2.2 ∧ 0 ≤ e.2.1 ∧ 0 ≤ e.2.2 :=
    fun P X e ⟨h1, h2, h3, h4, h5⟩ => ⟨Nat.le_trans h1 (List.length_append ▸ Nat.le_add_right ..),
      (geti_append_left _ _ _ (Nat.lt_of_succ_lt h1)).trans h2, (geti_append_left _ _ _ h1).trans h3, h4, h5⟩
  induction h with
  | nil => nofun
  | push P st s l _ hs hl ih =>
    intro e he
    rcases List.mem_cons.mp he with rfl | he
    · exact ⟨Nat.le_of_eq (List.length_append (as := P) (bs := [s, l])).symm, geti_append_right P [s, l] 0, geti_append_right P [s, l] 1, hs, hl⟩
    · exact grow _ _ e (ih e he)
  | bal P c st _ ih => exact fun e he => grow _ _ e (ih e (List.mem_cons_of_mem _ he))

/-- below a live capture stored at position `q` lies a represented prefix of length `q`: the state
    of the slot just before that capture was pushed -/
theorem rep_below {P : List Int} {st : Stk} (h : Rep P st) :
    ∀ (pre : Stk) (q : Nat) (s l : Int) (st' : Stk), st = pre ++ (q, s, l) :: st' → Rep (P.take q) st' := by
  induction h with
  | nil => intro pre q s l st' h; simp at h
  | push P st s l hr _ _ ih =>
    intro pre q s' l' st' h
    match pre, h with
    | [], h => cases h; simpa using hr
    | _ :: pre, h =>
      injection h with _ h
      have := (rep_vals hr (q, s', l') (h ▸ List.mem_append_right _ (List.mem_cons_self ..))).1
      rw [List.take_append_of_le_length (by omega)]
      exact ih pre q s' l' st' h
  | bal P c st hr ih =>
    intro pre q s l st' h
    have := (rep_vals hr (q, s, l) (h ▸ List.mem_cons_of_mem _ (List.mem_append_right _ (List.mem_cons_self ..)))).1
    rw [List.take_append_of_le_length (by omega)]
    exact ih (c :: pre) q s l st' (by rw [h]; rfl)

/-! ### one slot: what `addMatch` and `balanceMatch` write -/

/-- array `a` has room for its `n` entries and is either nil or at least the two cells `addMatch`
    allocates first -/
def SlotOK (a : List Int) (n : Nat) : Prop := 2 * n ≤ a.length ∧ (a = [] ∨ 2 ≤ a.length)

/-- the array part of `addMatch` -/
def addSlot (a : List Int) (n : Nat) (s l : Int) : List Int :=
  let a := if a.isEmpty then [0, 0] else a
  let a := if n * 2 + 2 > a.length then a.take (n * 2) ++ List.replicate (n * 8 - n * 2) 0 else a
  (a.set (n * 2) s).set (n * 2 + 1) l

theorem addMatch_eq (b : Builder) (c : Nat) (s l : Int) :
    addMatch b c s l = { b with arrays := b.arrays.set c (addSlot (arr b c) (cnt b c) s l),
                                matchcount := b.matchcount.set c (cnt b c + 1) } := rfl

theorem addSlot_spec (a : List Int) (n : Nat) (s l : Int) (h : SlotOK a n) :
    (addSlot a n s l).take (2 * (n + 1)) = a.take (2 * n) ++ [s, l] ∧ SlotOK (addSlot a n s l) (n + 1) := by
  obtain ⟨h1, h2⟩ := h
  unfold addSlot
  -- the array after the nil check and the growth step
  have key : ∀ a' : List Int, n * 2 + 2 ≤ a'.length → a'.take (n * 2) = a.take (2 * n) →
      ((a'.set (n * 2) s).set (n * 2 + 1) l).take (2 * (n + 1)) = a.take (2 * n) ++ [s, l] ∧
      SlotOK ((a'.set (n * 2) s).set (n * 2 + 1) l) (n + 1) := fun a' hl ht =>
    ⟨by rw [show 2 * (n + 1) = n * 2 + 2 by omega, take_set_set _ _ _ _ hl, ht],
      by rw [SlotOK, length_set_set]; omega⟩
  rcases h2 with rfl | h2
  · obtain rfl : n = 0 := by simp at h1; omega
    exact key [0, 0] (Nat.le_refl _) rfl
  · have hne : a.isEmpty = false := by cases a <;> simp at h2 ⊢
    simp only [hne, Bool.false_eq_true, ite_false]
    split
    · next hg =>
      -- growth: the `n * 2` live entries are copied, the new length `n * 8` has room for one more pair
      have hlen : (a.take (n * 2)).length = n * 2 := by rw [List.length_take, Nat.min_eq_left (by omega)]
      refine key _ (by rw [List.length_append, hlen, List.length_replicate]; omega) ?_
      rw [List.take_append_of_le_length (Nat.le_of_eq hlen.symm), List.take_take, Nat.min_self, Nat.mul_comm]
    · next hg => exact key a (by omega) (by rw [Nat.mul_comm])

theorem toNat_two_mul_sub (n : Nat) : ((n : Int) * 2 - 2).toNat = 2 * n - 2 := by omega

theorem toNat_sub_two (q : Nat) : ((q : Int) - 2).toNat = q - 2 := by omega

theorem toNat_backptr (q : Nat) : (-3 - (-3 - (q : Int))).toNat = q ∧ (-3 - (-4 - (q : Int))).toNat = q + 1 := by omega

/-- the entry `balanceMatch` appends -/
def balEntry (a : List Int) (n : Nat) : Int × Int :=
  let target : Int := (n : Int) * 2 - 2
  let target : Int := if geti a target.toNat < 0 then -3 - geti a target.toNat else target
  let target : Int := target - 2
  if target ≥ 0 ∧ geti a target.toNat < 0 then (geti a target.toNat, geti a (target.toNat + 1))
  else (-3 - target, -4 - target)

theorem ite_pair {β : Type} (p : Prop) [Decidable p] (x1 y1 x2 y2 : Int) (f : Int → Int → β) :
    (if p then f x1 y1 else f x2 y2) =
      f (if p then (x1, y1) else (x2, y2)).1 (if p then (x1, y1) else (x2, y2)).2 := by
  split <;> rfl

/-- `balanceMatch` is `addMatch` of the entry `balEntry` on the builder with `balancing` set.  The interpreter calls
    it only on a matched group (runner.go, `Capturemark`: `isMatched(uncapnum)` is tested before `transferCapture`);
    on a slot without entries match.go would index `matches[c][-2]` and panic, where the model clamps the index to 0
    (`Int.toNat`): the model is not meant for that call. -/
theorem balanceMatch_eq (b : Builder) (c : Nat) :
    balanceMatch b c =
      addMatch { b with balancing := true } c (balEntry (arr b c) (cnt b c)).1 (balEntry (arr b c) (cnt b c)).2 := by
  unfold balanceMatch balEntry
  exact ite_pair _ _ _ _ _ _

/-- the last entry of a non-empty prefix: what `isMatched`/`matchIndex`/`balanceMatch` read of the live one -/
theorem last_geti (a : List Int) (m : Nat) (hlen : m ≤ a.length) (P' : List Int) (x y : Int)
    (h : a.take m = P' ++ [x, y]) : P'.length + 2 = m ∧ geti a (m - 2) = x ∧ geti a (m - 1) = y := by
  obtain rfl : P'.length + 2 = m := by
    have := congrArg List.length h; simp [List.length_take] at this; omega
  have e : ∀ i, i < 2 → geti a (P'.length + i) = geti [x, y] i := fun i hi =>
    (geti_take a (P'.length + 2) _ (by omega)).symm.trans (h ▸ geti_append_right P' [x, y] i)
  exact ⟨rfl, e 0 (by decide), e 1 (by decide)⟩

/-- position of the innermost live capture, as `balanceMatch`/`matchIndex` find it from the last entry -/
theorem last_entry_cases (a : List Int) (n : Nat) (hlen : 2 * n ≤ a.length) (q : Nat) (s l : Int) (st' : Stk)
    (h : Rep (a.take (2 * n)) ((q, s, l) :: st')) :
    1 ≤ n ∧ q + 2 ≤ 2 * n ∧ geti a q = s ∧ geti a (q + 1) = l ∧ 0 ≤ s ∧ 0 ≤ l ∧
    ((q = 2 * n - 2 ∧ geti a (2 * n - 2) = s ∧ geti a (2 * n - 1) = l) ∨
     (geti a (2 * n - 2) = -3 - (q : Int) ∧ geti a (2 * n - 1) = -4 - (q : Int))) := by
  obtain ⟨v1, v2, v3, v4, v5⟩ := rep_vals h (q, s, l) (List.mem_cons_self ..)
  rw [List.length_take, Nat.min_eq_left hlen] at v1
  rw [geti_take _ _ _ (by omega)] at v2 v3
  refine ⟨by omega, v1, v2, v3, v4, v5, ?_⟩
  rcases rep_last h with ⟨_, h0⟩ | ⟨P', x, y, heq, hc⟩
  · cases h0
  · obtain ⟨hP', gx, gy⟩ := last_geti a (2 * n) hlen P' x y heq
    rcases hc with ⟨_, _, st'', _, hst⟩ | ⟨hx, hy, _⟩
    · cases hst; exact .inl ⟨by omega, gx, gy⟩
    · exact .inr ⟨gx.trans hx, gy.trans hy⟩

theorem balEntry_spec (a : List Int) (n : Nat) (hlen : 2 * n ≤ a.length) (q : Nat) (s l : Int) (st' : Stk)
    (h : Rep (a.take (2 * n)) ((q, s, l) :: st')) :
    balEntry a n = (-3 - topPos st', -4 - topPos st') := by
  obtain ⟨hn, hq, _, _, hs, _, hlast⟩ := last_entry_cases a n hlen q s l st' h
  -- the first two steps find `q`
  have htarget : (if geti a ((n : Int) * 2 - 2).toNat < 0 then -3 - geti a ((n : Int) * 2 - 2).toNat else (n : Int) * 2 - 2) = (q : Int) := by
    rw [toNat_two_mul_sub]
    rcases hlast with ⟨hq', hg, _⟩ | ⟨hg, _⟩
    · rw [hg, if_neg (Int.not_lt.mpr hs)]; omega
    · rw [hg, if_pos (by omega)]; omega
  unfold balEntry
  simp only [htarget]
  -- what is stored just before `q` is the last entry of the prefix that represents `st'`
  have hbelow := rep_below h [] q s l st' rfl
  rw [List.take_take, Nat.min_eq_left (by omega)] at hbelow
  rcases rep_last hbelow with ⟨h0, rfl⟩ | ⟨P', x, y, heq, hc⟩
  · obtain rfl : q = 0 := by
      have := congrArg List.length h0
      rw [List.length_take, Nat.min_eq_left (by omega)] at this; exact this
    rfl
  · obtain ⟨hP', gx, gy⟩ := last_geti a q (by omega) P' x y heq
    rw [toNat_sub_two, show q - 2 + 1 = q - 1 by omega, gx, gy]
    rcases hc with ⟨hx, _, st'', _, rfl⟩ | ⟨hx, hy, _⟩
    · rw [if_neg (by omega)]; simp only [topPos]; rw [← hP']; simp
    · have := topPos_ge st'
      rw [if_pos ⟨by omega, by omega⟩, hx, hy]

/-! ### the live captures of a represented prefix -/

theorem liveStack_append_pair (P : List Int) (x y : Int) (acc : List (Int × Int)) (he : P.length % 2 = 0) :
    liveStack (P ++ [x, y]) acc = if x < 0 then (liveStack P acc).tail else (x, y) :: liveStack P acc := by
  revert acc
  refine pairs_induction (motive := fun P => ∀ acc, liveStack (P ++ [x, y]) acc =
    if x < 0 then (liveStack P acc).tail else (x, y) :: liveStack P acc) (fun acc => ?_) (fun a b rest ih acc => ?_) P he
  · simp only [List.nil_append, liveStack]
  · simp only [List.cons_append, liveStack]; split <;> exact ih _

def vals (st : Stk) : List (Int × Int) := st.map (fun e => (e.2.1, e.2.2))

theorem rep_live {P : List Int} {st : Stk} (h : Rep P st) : liveStack P [] = vals st := by
  induction h with
  | nil => rfl
  | push P st s l hr hs _ ih => rw [liveStack_append_pair _ _ _ _ (rep_even hr), ih, if_neg (by omega)]; rfl
  | bal P c st hr ih =>
    have := topPos_ge st
    rw [liveStack_append_pair _ _ _ _ (rep_even hr), ih, if_pos (by omega)]; rfl

/-! ### the builder: `Inv`, and `addMatch`, `balanceMatch` as `Appends` -/

def live (b : Builder) (c : Nat) : List Int := (arr b c).take (2 * cnt b c)

theorem absOf_eq (b : Builder) (c : Nat) : absOf b c = (liveStack (live b c) []).reverse := rfl

/-- the builder invariant: one array per count, every slot well sized and its live prefix represented;
    as long as `balanceMatch` has not run no entry is negative (what `tidy` relies on to skip) -/
structure Inv (b : Builder) : Prop where
  len : b.arrays.length = b.matchcount.length
  slot : ∀ c, c < b.matchcount.length → SlotOK (arr b c) (cnt b c) ∧ ∃ st, Rep (live b c) st
  nobal : b.balancing = false → ∀ c, c < b.matchcount.length → ∀ x ∈ live b c, 0 ≤ x

theorem getD_set {α : Type} (l : List α) (i j : Nat) (x d : α) :
    (l.set i x).getD j d = if i = j ∧ i < l.length then x else l.getD j d := by
  simp only [List.getD_eq_getElem?_getD, List.getElem?_set]
  by_cases h : i = j
  · subst h
    by_cases h2 : i < l.length
    · simp [h2]
    · simp [h2]
  · simp [h]

theorem arr_update (b : Builder) (c : Nat) (A : List Int) (N : Nat) (bal : Bool) (hc : c < b.matchcount.length)
    (hlen : b.arrays.length = b.matchcount.length) (c' : Nat) :
    arr { arrays := b.arrays.set c A, matchcount := b.matchcount.set c N, balancing := bal } c' = (if c' = c then A else arr b c') ∧
    cnt { arrays := b.arrays.set c A, matchcount := b.matchcount.set c N, balancing := bal } c' = (if c' = c then N else cnt b c') := by
  simp only [arr, cnt, getD_set]
  by_cases h : c = c'
  · subst h; simp [hc, hlen]
  · simp [h, Ne.symm h]

theorem inv_update (b : Builder) (hb : Inv b) (c : Nat) (hc : c < b.matchcount.length) (A : List Int) (N : Nat)
    (bal : Bool) (hs : SlotOK A N) (hr : ∃ st, Rep (A.take (2 * N)) st)
    (hbal : bal = false → b.balancing = false ∧ ∀ x ∈ A.take (2 * N), 0 ≤ x) :
    Inv { arrays := b.arrays.set c A, matchcount := b.matchcount.set c N, balancing := bal } := by
  have key := arr_update b c A N bal hc hb.len
  refine ⟨by simp [hb.len], fun c' hc' => ?_, fun hf c' hc' => ?_⟩
  · rw [List.length_set] at hc'
    simp only [live, (key c').1, (key c').2]
    split
    · exact ⟨hs, hr⟩
    · exact hb.slot c' hc'
  · rw [List.length_set] at hc'
    simp only [live, (key c').1, (key c').2]
    split
    · exact (hbal hf).2
    · exact hb.nobal (hbal hf).1 c' hc'

theorem cnt_newMatch (k c : Nat) : cnt (newMatch k) c = 0 := by
  simp only [cnt, newMatch, List.getD_eq_getElem?_getD, List.getElem?_replicate]; split <;> rfl

theorem live_newMatch (k c : Nat) : live (newMatch k) c = [] := by
  rw [live, cnt_newMatch]; rfl

theorem newMatch_inv (k : Nat) : Inv (newMatch k) := by
  refine ⟨by simp [newMatch], fun c _ => ⟨?_, [], live_newMatch k c ▸ Rep.nil⟩,
    fun _ c _ x hx => by rw [live_newMatch] at hx; cases hx⟩
  have harr : arr (newMatch k) c = [] ∨ arr (newMatch k) c = [0, 0] := by
    simp only [arr, newMatch, getD_set]
    split
    · exact .inr rfl
    · left; simp only [List.getD_eq_getElem?_getD, List.getElem?_replicate]; split <;> rfl
  rw [cnt_newMatch]
  rcases harr with h | h <;> rw [h] <;> simp [SlotOK]

/-- effect of `addMatch` on the live prefixes, whatever the numbers stored -/
theorem live_addMatch (b : Builder) (hb : Inv b) (c : Nat) (hc : c < b.matchcount.length) (s l : Int) (c' : Nat) :
    live (addMatch b c s l) c' = (if c' = c then live b c ++ [s, l] else live b c') ∧
    cnt (addMatch b c s l) c' = (if c' = c then cnt b c + 1 else cnt b c') := by
  rw [addMatch_eq]
  obtain ⟨h1, h2⟩ := arr_update b c (addSlot (arr b c) (cnt b c) s l) (cnt b c + 1) b.balancing hc hb.len c'
  refine ⟨?_, h2⟩
  simp only [live, h1, h2]
  split
  · exact (addSlot_spec (arr b c) (cnt b c) s l (hb.slot c hc).1).1
  · rfl

theorem length_addMatch (b : Builder) (c : Nat) (s l : Int) :
    (addMatch b c s l).matchcount.length = b.matchcount.length :=
  List.length_set ..

theorem addMatch_inv (b : Builder) (hb : Inv b) (c : Nat) (hc : c < b.matchcount.length) (s l : Int)
    (hs : 0 ≤ s) (hl : 0 ≤ l) : Inv (addMatch b c s l) := by
  obtain ⟨st, hst⟩ := (hb.slot c hc).2
  obtain ⟨h1, h2⟩ := addSlot_spec (arr b c) (cnt b c) s l (hb.slot c hc).1
  refine inv_update b hb c hc (addSlot (arr b c) (cnt b c) s l) (cnt b c + 1) b.balancing h2
    ⟨_, h1 ▸ Rep.push _ _ s l hst hs hl⟩ fun hbal => ⟨hbal, fun x hx => ?_⟩
  rw [h1] at hx
  rcases List.mem_append.mp hx with hx | hx
  · exact hb.nobal hbal c hc x hx
  · rcases List.mem_cons.mp hx with rfl | hx
    · exact hs
    · exact List.mem_singleton.mp hx ▸ hl

theorem live_length (b : Builder) (hb : Inv b) (c : Nat) (hc : c < b.matchcount.length) :
    (live b c).length = 2 * cnt b c := by
  rw [live, List.length_take, Nat.min_eq_left (hb.slot c hc).1.1]

/-- a slot with a positive count: its live prefix ends in a pair, `removeMatch` exposes what lies before it, and the
    pair is either the innermost live capture or the back-pointer of a cancellation (`rep_last` without the empty case) -/
theorem live_last (b : Builder) (hb : Inv b) (c : Nat) (hc : c < b.matchcount.length) (hpos : 0 < cnt b c) {st : Stk}
    (hst : Rep (live b c) st) :
    ∃ P' x y, live b c = P' ++ [x, y] ∧ (live b c).take (2 * (cnt b c - 1)) = P' ∧ P'.length + 2 = 2 * cnt b c ∧
      ((0 ≤ x ∧ 0 ≤ y ∧ ∃ st', Rep P' st' ∧ st = (P'.length, x, y) :: st') ∨
       (x = -3 - topPos st ∧ y = -4 - topPos st ∧ ∃ e, Rep P' (e :: st))) := by
  have hlen := live_length b hb c hc
  rcases rep_last hst with ⟨h0, _⟩ | ⟨P', x, y, heq, hcase⟩
  · rw [h0] at hlen; simp at hlen; omega
  · have hP' : P'.length + 2 = 2 * cnt b c := by
      have := congrArg List.length heq; rw [hlen] at this; simp at this; omega
    exact ⟨P', x, y, heq, by rw [heq, List.take_append_of_le_length (by omega), List.take_of_length_le (by omega)], hP', hcase⟩

theorem isMatched_iff (b : Builder) (hb : Inv b) (c : Nat) (hc : c < b.matchcount.length) (st : Stk)
    (hst : Rep (live b c) st) : isMatched b c = true ↔ st ≠ [] := by
  have hlen := (hb.slot c hc).1.1
  unfold isMatched
  simp only [hc, decide_true, Bool.true_and, Bool.and_eq_true, decide_eq_true_eq]
  rw [Nat.mul_comm (cnt b c) 2]
  cases st with
  | nil =>
    simp only [ne_eq, not_true_eq_false, iff_false, not_and]
    intro hpos
    obtain ⟨P', x, y, heq, _, _, hcase⟩ := live_last b hb c hc hpos hst
    obtain ⟨_, _, gy⟩ := last_geti (arr b c) _ hlen P' x y heq
    rcases hcase with ⟨_, _, st', _, hcontra⟩ | ⟨_, hy, _⟩
    · cases hcontra
    · rw [gy, hy]; simp [topPos]
  | cons e st' =>
    obtain ⟨q, s, l⟩ := e
    obtain ⟨hn, _, _, _, _, hl, hlast⟩ := last_entry_cases (arr b c) (cnt b c) hlen q s l st' hst
    simp only [ne_eq, reduceCtorEq, not_false_eq_true, iff_true]
    refine ⟨by omega, ?_⟩
    rcases hlast with ⟨_, _, g⟩ | ⟨_, g⟩ <;> rw [g] <;> omega

theorem matchIndex_matchLength (b : Builder) (hb : Inv b) (c : Nat) (hc : c < b.matchcount.length)
    (q : Nat) (s l : Int) (st' : Stk) (hst : Rep (live b c) ((q, s, l) :: st')) :
    matchIndex b c = s ∧ matchLength b c = l := by
  obtain ⟨hn, hq, gs, gl, hs, hl, hlast⟩ := last_entry_cases (arr b c) (cnt b c) (hb.slot c hc).1.1 q s l st' hst
  unfold matchIndex matchLength
  rw [Nat.mul_comm (cnt b c) 2]
  rcases hlast with ⟨_, g1, g2⟩ | ⟨g1, g2⟩
  · rw [g1, g2]; simp [hs, hl]
  · rw [g1, g2]
    rw [if_neg (by omega), if_neg (by omega), (toNat_backptr q).1, (toNat_backptr q).2]
    exact ⟨gs, gl⟩

/-- match.go resets `balancing` only in `tidy`: `removeMatch` after a balance leaves it `true`, which `Inv` allows
    (`nobal` speaks of `balancing = false` only) and which costs `tidy` a pass it does not need. -/
theorem inv_setBal (b : Builder) (hb : Inv b) : Inv { b with balancing := true } :=
  ⟨hb.len, hb.slot, nofun⟩

/-- `b'` is `b` with the pair `x, y` appended to the live prefix of slot `c`, and `b'` satisfies the invariant again:
    what `addMatch` of a well-formed interval and `balanceMatch` on a matched group do.  (For other numbers
    `addMatch` still appends — `live_addMatch` — but the result need not satisfy `Inv`.) -/
structure Appends (b : Builder) (c : Nat) (x y : Int) (b' : Builder) : Prop where
  inv : Inv b'
  len : b'.matchcount.length = b.matchcount.length
  live_eq : ∀ c', live b' c' = if c' = c then live b c ++ [x, y] else live b c'
  cnt_eq : ∀ c', cnt b' c' = if c' = c then cnt b c + 1 else cnt b c'

theorem addMatch_appends (b : Builder) (hb : Inv b) (c : Nat) (hc : c < b.matchcount.length) (s l : Int)
    (hs : 0 ≤ s) (hl : 0 ≤ l) : Appends b c s l (addMatch b c s l) :=
  have key := live_addMatch b hb c hc s l
  ⟨addMatch_inv b hb c hc s l hs hl, length_addMatch b c s l, fun c' => (key c').1, fun c' => (key c').2⟩

/-- on a matched group `balanceMatch` appends a pair whose first number is negative (it is the back-pointer of
    `balEntry_spec`; the users need no more than the sign) -/
theorem balanceMatch_appends (b : Builder) (hb : Inv b) (c : Nat) (hc : c < b.matchcount.length)
    (hm : isMatched b c = true) : ∃ x y, x < 0 ∧ Appends b c x y (balanceMatch b c) := by
  obtain ⟨st, hst⟩ := (hb.slot c hc).2
  match st, hst, (isMatched_iff b hb c hc st hst).mp hm with
  | (q, s, l) :: st', hst, _ =>
    have := topPos_ge st'
    have key := live_addMatch _ (inv_setBal b hb) c hc (-3 - topPos st') (-4 - topPos st')
    obtain ⟨h1, h2⟩ := addSlot_spec (arr b c) (cnt b c) (-3 - topPos st') (-4 - topPos st') (hb.slot c hc).1
    refine ⟨-3 - topPos st', -4 - topPos st', by omega, ?_⟩
    rw [balanceMatch_eq, balEntry_spec (arr b c) (cnt b c) (hb.slot c hc).1.1 q s l st' hst]
    refine ⟨?_, length_addMatch .., fun c' => (key c').1, fun c' => (key c').2⟩
    rw [addMatch_eq]
    exact inv_update _ (inv_setBal b hb) c hc _ _ true h2 ⟨_, h1 ▸ Rep.bal _ _ _ hst⟩ nofun

theorem appends_abs {b b' : Builder} {c : Nat} {x y : Int} (h : Appends b c x y b') (hb : Inv b)
    (hc : c < b.matchcount.length) (c' : Nat) :
    absOf b' c' = if c' = c then (if x < 0 then (absOf b c).dropLast else absOf b c ++ [(x, y)]) else absOf b c' := by
  rw [absOf_eq, h.live_eq]
  split
  · rw [liveStack_append_pair _ _ _ _ (by rw [live_length b hb c hc]; omega), absOf_eq]
    split
    · rw [← List.dropLast_reverse]
    · rw [List.reverse_cons]
  · rfl

/-! ### `removeMatch` lowers a count -/

theorem live_removeMatch (b : Builder) (c : Nat) (hc : c < b.matchcount.length) (c' : Nat) :
    live (removeMatch b c) c' = (if c' = c then (live b c).take (2 * (cnt b c - 1)) else live b c') ∧
    cnt (removeMatch b c) c' = (if c' = c then cnt b c - 1 else cnt b c') ∧
    arr (removeMatch b c) c' = arr b c' := by
  have hcnt : cnt (removeMatch b c) c' = (if c' = c then cnt b c - 1 else cnt b c') := by
    simp only [removeMatch, cnt, getD_set, hc, and_true, @eq_comm _ c c']
  refine ⟨?_, hcnt, rfl⟩
  simp only [live, show arr (removeMatch b c) c' = arr b c' from rfl, hcnt]
  split
  · next h => rw [h, List.take_take, Nat.min_eq_left (by omega)]
  · rfl

theorem length_removeMatch (b : Builder) (c : Nat) : (removeMatch b c).matchcount.length = b.matchcount.length :=
  List.length_set ..

theorem removeMatch_inv (b : Builder) (hb : Inv b) (c : Nat) (hc : c < b.matchcount.length) (hpos : 0 < cnt b c) :
    Inv (removeMatch b c) := by
  have key := live_removeMatch b c hc
  have hmc := length_removeMatch b c
  refine ⟨hb.len.trans hmc.symm, fun c' hc' => ?_, fun hbal c' hc' x hx => ?_⟩
  · rw [hmc] at hc'
    obtain ⟨⟨s1, s2⟩, st, hst⟩ := hb.slot c' hc'
    rw [(key c').1, (key c').2.1, (key c').2.2]
    split
    · next h =>
      subst h
      refine ⟨⟨by omega, s2⟩, ?_⟩
      obtain ⟨P', x, y, heq, htake, _⟩ := live_last b hb c' hc' hpos hst
      rw [htake]
      exact rep_dropLast (heq ▸ hst)
    · exact ⟨⟨s1, s2⟩, st, hst⟩
  · rw [hmc] at hc'
    rw [(key c').1] at hx
    split at hx
    · next h => exact hb.nobal hbal c' hc' x (h ▸ List.mem_of_mem_take hx)
    · exact hb.nobal hbal c' hc' x hx

/-- `removeMatch` right after a pair was appended to the live prefix of slot `c` restores the live captures and the
    count of every slot, whatever the pair (no invariant of `b2` is needed) -/
theorem remove_after_append {b b2 : Builder} {c : Nat} {x y : Int} (hb : Inv b) (hc : c < b.matchcount.length)
    (hlen : b2.matchcount.length = b.matchcount.length)
    (hlive : ∀ c', live b2 c' = if c' = c then live b c ++ [x, y] else live b c')
    (hcnt : ∀ c', cnt b2 c' = if c' = c then cnt b c + 1 else cnt b c') (c' : Nat) :
    absOf (removeMatch b2 c) c' = absOf b c' ∧ cnt (removeMatch b2 c) c' = cnt b c' := by
  obtain ⟨h1, h2, _⟩ := live_removeMatch b2 c (hlen ▸ hc) c'
  rw [absOf_eq, absOf_eq, h1, h2, hlive c', hcnt c', hlive c, hcnt c]
  split
  · next h =>
    subst h
    have := live_length b hb c' hc
    simp only [if_true, Nat.add_sub_cancel, and_true]
    rw [List.take_append_of_le_length (by omega), List.take_of_length_le (by omega)]
  · exact ⟨rfl, rfl⟩

theorem appends_remove {b b2 : Builder} {c : Nat} {x y : Int} (h : Appends b c x y b2) (hb : Inv b)
    (hc : c < b.matchcount.length) :
    Inv (removeMatch b2 c) ∧
    ∀ c', absOf (removeMatch b2 c) c' = absOf b c' ∧ cnt (removeMatch b2 c) c' = cnt b c' :=
  ⟨removeMatch_inv b2 h.inv c (h.len ▸ hc) (by rw [h.cnt_eq, if_pos rfl]; omega),
    remove_after_append hb hc h.len h.live_eq h.cnt_eq⟩

/-! ### `tidy` against the entry-wise reading `stepE` -/

/-- the entry-wise reading `tidy` performs: a negative entry drops the last kept entry, any other
    entry is kept -/
def stepE (acc : List Int) (x : Int) : List Int := if x < 0 then acc.dropLast else acc ++ [x]

def flat (L : List (Int × Int)) : List Int := L.flatMap (fun p => [p.1, p.2])

theorem flat_append (L M : List (Int × Int)) : flat (L ++ M) = flat L ++ flat M := List.flatMap_append

theorem flat_length (L : List (Int × Int)) : (flat L).length = 2 * L.length := by
  induction L with
  | nil => rfl
  | cons p L ih => simp [flat] at ih ⊢; omega

theorem foldl_stepE_nonneg (L acc : List Int) (h : ∀ x ∈ L, 0 ≤ x) : L.foldl stepE acc = acc ++ L := by
  induction L generalizing acc with
  | nil => simp
  | cons x L ih =>
    have hx := h x (List.mem_cons_self ..)
    rw [List.foldl_cons, stepE, if_neg (by omega), ih _ fun y hy => h y (List.mem_cons_of_mem _ hy)]; simp

theorem rep_fold {P : List Int} {st : Stk} (h : Rep P st) : P.foldl stepE [] = flat (vals st).reverse := by
  induction h with
  | nil => rfl
  | push P st s l _ hs hl ih =>
    simp [List.foldl_append, ih, stepE, show ¬ s < 0 by omega, show ¬ l < 0 by omega, vals, flat]
  | bal P c st _ ih =>
    have := topPos_ge st
    simp only [List.foldl_append, ih, List.foldl_cons, List.foldl_nil, stepE, show -3 - topPos st < 0 by omega,
      show -4 - topPos st < 0 by omega, ite_true, vals, List.map_cons, List.reverse_cons, flat_append]
    simp [flat]

theorem geti_eq_getElem (a : List Int) (i : Nat) (h : i < a.length) : geti a i = a[i] := by
  simp [geti, List.getD, List.getElem?_eq_getElem h]

/-- The in-place loop against the list reading `stepE`: the kept entries `a.take j` are the accumulator, `i` runs
    ahead of `j` (`j ≤ i`), so writing position `j` never touches an entry still to be read, and a negative entry
    gives up the last kept one by moving `j` back. -/
theorem compactLoop_spec : ∀ (k : Nat) (a : List Int) (i j : Nat), j ≤ i → i + k ≤ a.length →
    (compactLoop k a i j).1.take (compactLoop k a i j).2 = ((a.drop i).take k).foldl stepE (a.take j) ∧
    (compactLoop k a i j).2 = (((a.drop i).take k).foldl stepE (a.take j)).length ∧
    (compactLoop k a i j).1.length = a.length := by
  intro k
  induction k with
  | zero => intro a i j hji hlen; simp [compactLoop, List.length_take]; omega
  | succ k ih =>
    intro a i j hji hlen
    have hi : i < a.length := by omega
    rw [List.drop_eq_getElem_cons hi, List.take_succ_cons, List.foldl_cons, stepE, ← geti_eq_getElem a i hi]
    unfold compactLoop
    split
    · rw [List.dropLast_take (by omega)]
      exact ih a (i + 1) (j - 1) (by omega) (by omega)
    · have hset : (if i ≠ j then a.set j (geti a i) else a) = a.set j (geti a i) := by
        split
        · rfl
        · next hij => rw [Decidable.not_not.mp hij, geti_eq_getElem a j (by omega), List.set_getElem_self]
      have := ih (a.set j (geti a i)) (i + 1) (j + 1) (by omega) (by simp; omega)
      rw [List.take_succ_eq_append_getElem (by simp; omega), List.take_set_of_le (Nat.le_refl _),
        List.getElem_set_self, List.drop_set_of_lt (by omega), List.length_set] at this
      rw [hset]; exact this

theorem firstNeg_spec (a : List Int) : ∀ (k i : Nat),
    i ≤ firstNeg a k i ∧ firstNeg a k i ≤ i + k ∧ ∀ t, i ≤ t → t < firstNeg a k i → 0 ≤ geti a t := by
  intro k
  induction k with
  | zero => exact fun i => ⟨Nat.le_refl _, Nat.le_refl _, fun t h1 h2 => by simp only [firstNeg] at h2; omega⟩
  | succ k ih =>
    intro i
    unfold firstNeg
    split
    · exact ⟨Nat.le_refl _, by omega, fun t h1 h2 => by omega⟩
    · obtain ⟨h1, h2, h3⟩ := ih (i + 1)
      refine ⟨by omega, by omega, fun t ht1 ht2 => ?_⟩
      rcases Nat.eq_or_lt_of_le ht1 with rfl | hlt
      · omega
      · exact h3 t hlt ht2

theorem tidySlot_spec (a : List Int) (n : Nat) (hlen : 2 * n ≤ a.length) :
    (tidySlot a n).1.take ((a.take (2 * n)).foldl stepE []).length = (a.take (2 * n)).foldl stepE [] ∧
    (tidySlot a n).2 = ((a.take (2 * n)).foldl stepE []).length / 2 ∧
    (tidySlot a n).1.length = a.length := by
  obtain ⟨_, hi0, hnn⟩ := firstNeg_spec a (n * 2) 0
  obtain ⟨f, hf⟩ : ∃ f, firstNeg a (n * 2) 0 = f := ⟨_, rfl⟩
  rw [hf] at hi0 hnn
  -- up to the first negative entry nothing moves
  have hpre : ∀ x ∈ a.take f, 0 ≤ x := by
    intro x hx
    obtain ⟨t, ht, rfl⟩ := List.mem_iff_getElem.mp hx
    rw [List.length_take] at ht
    rw [List.getElem_take, ← geti_eq_getElem a t (by omega)]
    exact hnn t (Nat.zero_le _) (by omega)
  have hfold : (a.take (2 * n)).foldl stepE [] = ((a.drop f).take (n * 2 - f)).foldl stepE (a.take f) := by
    rw [show 2 * n = f + (n * 2 - f) by omega, List.take_add, List.foldl_append, foldl_stepE_nonneg _ _ hpre,
      List.nil_append]
  obtain ⟨c1, c2, c3⟩ := compactLoop_spec (n * 2 - f) a f f (Nat.le_refl _) (by omega)
  unfold tidySlot
  simp only [hf]
  rw [hfold, ← c2]
  exact ⟨c1, rfl, c3⟩

theorem tidySlots_eq_zipWith : ∀ (as : List (List Int)) (ns : List Nat), tidySlots as ns = List.zipWith tidySlot as ns
  | [], _ => by simp [tidySlots]
  | _ :: _, [] => by simp [tidySlots]
  | a :: as, n :: ns => by simp [tidySlots, tidySlots_eq_zipWith as ns]

theorem tidySlots_getD (as : List (List Int)) (ns : List Nat) (h : as.length = ns.length) (c : Nat) (hc : c < as.length) :
    ((tidySlots as ns).map (·.1)).getD c [] = (tidySlot (as.getD c []) (ns.getD c 0)).1 ∧
    ((tidySlots as ns).map (·.2)).getD c 0 = (tidySlot (as.getD c []) (ns.getD c 0)).2 ∧
    (tidySlots as ns).length = as.length := by
  have hc' : c < ns.length := h ▸ hc
  simp [tidySlots_eq_zipWith, List.getD_eq_getElem?_getD, List.getElem?_zipWith, List.getElem?_eq_getElem hc,
    List.getElem?_eq_getElem hc', h]

theorem rep_of_pairs (L : List (Int × Int)) (hL : ∀ p ∈ L, 0 ≤ p.1 ∧ 0 ≤ p.2) (P0 : List Int) (st0 : Stk) (h0 : Rep P0 st0) :
    ∃ st, Rep (P0 ++ flat L) st ∧ vals st = L.reverse ++ vals st0 := by
  induction L generalizing P0 st0 with
  | nil => exact ⟨st0, by simpa [flat] using h0, by simp⟩
  | cons p L ih =>
    have hp := hL p (List.mem_cons_self ..)
    obtain ⟨st, h1, h2⟩ := ih (fun q hq => hL q (List.mem_cons_of_mem _ hq)) (P0 ++ [p.1, p.2]) _
      (Rep.push P0 st0 p.1 p.2 h0 hp.1 hp.2)
    exact ⟨st, by simpa [flat] using h1, by rw [h2]; simp [vals]⟩

theorem vals_nonneg {P : List Int} {st : Stk} (h : Rep P st) : ∀ p ∈ (vals st).reverse, 0 ≤ p.1 ∧ 0 ≤ p.2 := by
  intro p hp
  obtain ⟨e, he, rfl⟩ := List.mem_map.mp (List.mem_reverse.mp hp)
  exact (rep_vals h e he).2.2.2

theorem tidy_length (b : Builder) (hb : Inv b) :
    (tidy b).matchcount.length = b.matchcount.length ∧ (tidy b).arrays.length = b.matchcount.length := by
  unfold tidy
  split
  · simp [tidySlots_eq_zipWith, hb.len]
  · exact ⟨rfl, hb.len⟩

/-- `tidy` on one represented slot: its live prefix becomes the live captures, flattened, oldest first.  `rep_fold`
    reads the entry-wise pass `stepE` off `Rep`; with `balancing` set the in-place loop computes that pass
    (`tidySlot_spec`), otherwise no entry is negative (`nobal`) and the pass changes nothing. -/
theorem tidy_slot (b : Builder) (hb : Inv b) (c : Nat) (hc : c < b.matchcount.length) (st : Stk)
    (hst : Rep (live b c) st) :
    live (tidy b) c = flat (vals st).reverse ∧ cnt (tidy b) c = st.length ∧
    (arr (tidy b) c).length = (arr b c).length ∧
    (∃ st2, Rep (live (tidy b) c) st2 ∧ vals st2 = vals st) ∧ ∀ x ∈ live (tidy b) c, 0 ≤ x := by
  have hF : (List.take (2 * cnt b c) (arr b c)).foldl stepE [] = flat (vals st).reverse := rep_fold hst
  have hFl : (flat (vals st).reverse).length = 2 * st.length := by rw [flat_length]; simp [vals]
  have hnn := vals_nonneg hst
  suffices h : live (tidy b) c = flat (vals st).reverse ∧ cnt (tidy b) c = st.length ∧
      (arr (tidy b) c).length = (arr b c).length by
    obtain ⟨st2, h1, h2⟩ := rep_of_pairs _ hnn [] [] Rep.nil
    refine ⟨h.1, h.2.1, h.2.2, ⟨st2, h.1 ▸ h1, by simpa [vals] using h2⟩, fun x hx => ?_⟩
    obtain ⟨p, hp, hx⟩ := List.mem_flatMap.mp (h.1 ▸ hx)
    rcases List.mem_cons.mp hx with rfl | hx
    · exact (hnn p hp).1
    · exact List.mem_singleton.mp hx ▸ (hnn p hp).2
  unfold tidy
  split
  · obtain ⟨g1, g2, _⟩ := tidySlots_getD b.arrays b.matchcount hb.len c (hb.len ▸ hc)
    obtain ⟨t1, t2, t3⟩ := tidySlot_spec (arr b c) (cnt b c) (hb.slot c hc).1.1
    rw [hF, hFl] at t1 t2
    simp only [live, arr, cnt, g1, g2] at t1 t2 t3 ⊢
    exact ⟨by rw [t2, show 2 * (2 * st.length / 2) = 2 * st.length by omega]; exact t1, by omega, t3⟩
  · next hbal =>
    have : live b c = flat (vals st).reverse :=
      ((foldl_stepE_nonneg _ _ (hb.nobal (by simpa using hbal) c hc)).symm.trans hF)
    have h1 := live_length b hb c hc
    rw [this, hFl] at h1
    exact ⟨this, by omega, rfl⟩

/-! ### `Groups()` on a tidied slot -/

theorem geti_flat (L : List (Int × Int)) (i : Nat) (h : i < L.length) :
    geti (flat L) (i * 2) = L[i].1 ∧ geti (flat L) (i * 2 + 1) = L[i].2 := by
  induction L generalizing i with
  | nil => simp at h
  | cons p L ih =>
    cases i with
    | zero => exact ⟨rfl, rfl⟩
    | succ i =>
      have hf : flat (p :: L) = [p.1, p.2] ++ flat L := rfl
      rw [hf, show (i + 1) * 2 + 1 = [p.1, p.2].length + (i * 2 + 1) by simp; omega,
        show (i + 1) * 2 = [p.1, p.2].length + i * 2 by simp; omega, geti_append_right, geti_append_right]
      exact ih i (Nat.lt_of_succ_lt_succ h)

theorem newGroup_of_flat (caps : List Int) (L : List (Int × Int)) (h : caps.take (2 * L.length) = flat L) :
    newGroup caps L.length = (L.getLast?.getD (0, 0), L) := by
  have hg : ∀ i (hi : i < L.length), (geti caps (i * 2), geti caps (i * 2 + 1)) = L[i] := by
    intro i hi
    have := geti_flat L i hi
    rw [← h, geti_take _ _ _ (by omega), geti_take _ _ _ (by omega)] at this
    exact Prod.ext this.1 this.2
  unfold newGroup
  have hcaps : (List.range L.length).map (fun i => (geti caps (i * 2), geti caps (i * 2 + 1))) = L :=
    List.ext_getElem (by simp) fun i h1 h2 => by rw [List.getElem_map, List.getElem_range]; exact hg i h2
  rw [hcaps]
  split
  · next hpos =>
    rw [show L.length * 2 - 1 = (L.length - 1) * 2 + 1 by omega, hg (L.length - 1) (by omega),
      List.getLast?_eq_getElem?, List.getElem?_eq_getElem (by omega)]; rfl
  · next hpos => rw [show L = [] from List.length_eq_zero_iff.mp (by omega)]; rfl

/-! ### real entries stay inside the text -/

/-- every real (non-negative) entry pair of a flat prefix is a well-formed interval inside `[0, N]` -/
def Bounded (N : Int) (P : List Int) : Prop := ∀ p ∈ pairsOf P, 0 ≤ p.1 → 0 ≤ p.2 ∧ p.1 + p.2 ≤ N

theorem pairsOf_append_pair (P : List Int) (x y : Int) (he : P.length % 2 = 0) :
    pairsOf (P ++ [x, y]) = pairsOf P ++ [(x, y)] :=
  pairs_induction (motive := fun P => pairsOf (P ++ [x, y]) = pairsOf P ++ [(x, y)]) rfl
    (fun a b rest ih => by simp only [List.cons_append, pairsOf, ih]) P he

theorem Bounded.append {N : Int} {P : List Int} (h : Bounded N P) (he : P.length % 2 = 0) {x y : Int}
    (hxy : 0 ≤ x → 0 ≤ y ∧ x + y ≤ N) : Bounded N (P ++ [x, y]) := by
  intro p hp hp0
  rw [pairsOf_append_pair _ _ _ he] at hp
  rcases List.mem_append.mp hp with hp | hp
  · exact h p hp hp0
  · cases List.mem_singleton.mp hp; exact hxy hp0

theorem Bounded.of_append {N : Int} {P : List Int} {x y : Int} (h : Bounded N (P ++ [x, y])) (he : P.length % 2 = 0) :
    Bounded N P :=
  fun p hp => h p (by rw [pairsOf_append_pair _ _ _ he]; exact List.mem_append_left _ hp)

theorem appends_bounded {b b' : Builder} {c : Nat} {x y : Int} (h : Appends b c x y b') (hb : Inv b)
    (hc : c < b.matchcount.length) {N : Int} (hxy : 0 ≤ x → 0 ≤ y ∧ x + y ≤ N) {k : Nat} (hk : c < k)
    (hB : ∀ c', c' < k → Bounded N (live b c')) (c' : Nat) (hc' : c' < k) : Bounded N (live b' c') := by
  rw [h.live_eq]
  split
  · exact (hB c hk).append (by rw [live_length b hb c hc]; omega) hxy
  · exact hB c' hc'

theorem rep_mem_pairs {P : List Int} {st : Stk} (h : Rep P st) : ∀ p ∈ vals st, p ∈ pairsOf P := by
  induction h with
  | nil => nofun
  | push P st s l hr _ _ ih =>
    intro p hp
    rw [pairsOf_append_pair _ _ _ (rep_even hr)]
    rcases List.mem_cons.mp hp with rfl | hp
    · simp
    · exact List.mem_append_left _ (ih p hp)
  | bal P c st hr ih =>
    intro p hp
    rw [pairsOf_append_pair _ _ _ (rep_even hr)]
    exact List.mem_append_left _ (ih p (List.mem_cons_of_mem _ hp))

end RegexVerif.Lemmas.MatchBuilder
