/-
`charInSlow`, `CharIn` and the ASCII bitmap compute the set algebra `memAlg` on a class whose range lists are sorted
with non-decreasing ends (`RangesOk`) and whose bitmaps are truthful (`BitmapOk`).
-/
import RegexVerif.Model.Class

namespace RegexVerif.Class

/-! ## what is asked of a range list — from the weakest: `SortedFirst`, `LookupOk`, `Canon`; `Flat.Wf` — of a class, of its bitmaps -/

/-- sorted by `First`: all that `sort.Sort` guarantees, and all that the two searches of `charInSlow` use -/
def SortedFirst (rs : List (Nat × Nat)) : Prop := rs.Pairwise (fun a b => a.1 ≤ b.1)

/-- what the lookup of `charInSlow` needs of a range list: `First`s and `Last`s non-decreasing -/
def LookupOk (rs : List (Nat × Nat)) : Prop := rs.Pairwise (fun a b => a.1 ≤ b.1 ∧ a.2 ≤ b.2)

/-- canonical range list: sorted, pairwise neither overlapping nor abutting, every range non-empty -/
def Canon (rs : List (Nat × Nat)) : Prop :=
  rs.Pairwise (fun a b => a.2 + 1 < b.1) ∧ ∀ r ∈ rs, r.1 ≤ r.2

theorem Canon.lookupOk {rs : List (Nat × Nat)} (h : Canon rs) : LookupOk rs :=
  h.1.imp_of_mem fun {a b} ha hb hab => by
    have := h.2 a ha
    have := h.2 b hb
    exact ⟨by omega, by omega⟩

def Flat.Wf (f : Flat) : Prop := ∀ r ∈ f.ranges, r.1 ≤ r.2

def Class.RangesOk : Class → Prop
  | .leaf f => RegexVerif.Class.LookupOk f.ranges
  | .minus f s => RegexVerif.Class.LookupOk f.ranges ∧ Class.RangesOk s

def FlatBitmapOk (ascii : Option (Nat × Nat)) (slow : Nat → Bool) : Prop :=
  ∀ bm, ascii = some bm → ∀ ch, ch < 128 → bitTest bm ch = slow ch

def BitmapOk (cat : Nat → Nat → Bool) : Class → Prop
  | .leaf f => FlatBitmapOk f.ascii (charInSlow cat (.leaf f))
  | .minus f s => BitmapOk cat s ∧ FlatBitmapOk f.ascii (charInSlow cat (.minus f s))

@[simp] theorem inRange_iff (r : Nat × Nat) (ch : Nat) : inRange r ch = true ↔ r.1 ≤ ch ∧ ch ≤ r.2 := by
  simp [inRange]

theorem inRanges_iff (rs : List (Nat × Nat)) (ch : Nat) :
    inRanges rs ch = true ↔ ∃ r ∈ rs, r.1 ≤ ch ∧ ch ≤ r.2 := by
  simp [inRanges, List.any_eq_true]

@[simp] theorem inRanges_nil (ch : Nat) : inRanges [] ch = false := rfl

@[simp] theorem inRanges_cons (r : Nat × Nat) (rs : List (Nat × Nat)) (ch : Nat) :
    inRanges (r :: rs) ch = (inRange r ch || inRanges rs ch) := rfl

@[simp] theorem inRanges_append (xs ys : List (Nat × Nat)) (ch : Nat) :
    inRanges (xs ++ ys) ch = (inRanges xs ch || inRanges ys ch) := List.any_append

@[simp] theorem inCats_nil (cat : Nat → Nat → Bool) (ch : Nat) : inCats cat [] ch = false := rfl

@[simp] theorem inCats_cons (cat : Nat → Nat → Bool) (c : Nat × Bool) (cs : List (Nat × Bool)) (ch : Nat) :
    inCats cat (c :: cs) ch = (catAccepts cat c ch || inCats cat cs ch) := rfl

@[simp] theorem inCats_append (cat : Nat → Nat → Bool) (xs ys : List (Nat × Bool)) (ch : Nat) :
    inCats cat (xs ++ ys) ch = (inCats cat xs ch || inCats cat ys ch) := List.any_append

/-! ## The category loop -/

theorem catLoop_eq_inCats (cat : Nat → Nat → Bool) (cs : List (Nat × Bool)) (ch : Nat) :
    catLoop cat cs ch = inCats cat cs ch := by
  induction cs with
  | nil => rfl
  | cons c rest ih =>
    obtain ⟨id, ng⟩ := c
    simp only [catLoop, inCats_cons, catAccepts, ih]
    cases cat id ch <;> cases ng <;> simp

/-! ## The range lookup -/

theorem scanLinear_eq (rs : List (Nat × Nat)) (ch : Nat)
    (hs : SortedFirst rs) : scanLinear rs ch = inRanges rs ch := by
  induction rs with
  | nil => rfl
  | cons r rs ih =>
    rw [SortedFirst, List.pairwise_cons] at hs
    rw [scanLinear]
    by_cases h1 : ch < r.1
    · -- every range from here on starts above `ch`
      rw [if_pos h1]
      refine (Bool.eq_false_iff.mpr fun h => ?_).symm
      obtain ⟨b, hb, h2, _⟩ := (inRanges_iff _ ch).mp h
      have : r.1 ≤ b.1 := (List.mem_cons.mp hb).elim (fun e => e ▸ Nat.le_refl _) (hs.1 b)
      omega
    · rw [if_neg h1, inRanges_cons, ← ih hs.2, inRange, decide_eq_true (Nat.le_of_not_lt h1), Bool.true_and]
      by_cases h2 : ch ≤ r.2
      · rw [if_pos h2, decide_eq_true h2]; rfl
      · rw [if_neg h2, decide_eq_false h2]; rfl

/-- the loop invariant of the binary search: it ends with `lo` = number of ranges whose `First ≤ ch` -/
theorem bsLoop_spec (rs : List (Nat × Nat)) (ch : Nat) (hs : SortedFirst rs) :
    ∀ (fuel lo hi : Nat), lo ≤ hi → hi ≤ rs.length → hi - lo ≤ fuel →
      (∀ k (h : k < rs.length), k < lo → rs[k].1 ≤ ch) →
      (∀ k (h : k < rs.length), hi ≤ k → ch < rs[k].1) →
      bsLoop rs ch fuel lo hi ≤ rs.length ∧
      (∀ k (h : k < rs.length), k < bsLoop rs ch fuel lo hi → rs[k].1 ≤ ch) ∧
      (∀ k (h : k < rs.length), bsLoop rs ch fuel lo hi ≤ k → ch < rs[k].1) := by
  rw [SortedFirst, List.pairwise_iff_getElem] at hs
  intro fuel
  induction fuel with
  | zero =>
    intro lo hi hle hlen hf hlo hhi
    obtain rfl : lo = hi := by omega
    exact ⟨hlen, hlo, hhi⟩
  | succ fuel ih =>
    intro lo hi hle hlen hf hlo hhi
    rw [bsLoop]
    by_cases hlt : lo < hi
    · rw [if_pos hlt]
      -- all that is needed of the midpoint
      have hm : lo ≤ (lo + hi) / 2 ∧ (lo + hi) / 2 < hi := by omega
      dsimp only
      generalize (lo + hi) / 2 = mid at hm ⊢
      have hmid : mid < rs.length := by omega
      rw [List.getElem?_eq_getElem hmid]
      dsimp only
      by_cases hc : rs[mid].1 ≤ ch
      · rw [if_pos hc]
        refine ih _ _ (by omega) hlen (by omega) (fun k hk hk2 => ?_) hhi
        rcases Nat.lt_succ_iff_lt_or_eq.mp hk2 with h | rfl
        · exact Nat.le_trans (hs k mid hk hmid h) hc
        · exact hc
      · rw [if_neg hc]
        refine ih _ _ (by omega) (by omega) (by omega) hlo (fun k hk hk2 => ?_)
        rcases Nat.lt_or_eq_of_le hk2 with h | rfl
        · exact Nat.lt_of_lt_of_le (Nat.lt_of_not_le hc) (hs mid k hmid hk h)
        · exact Nat.lt_of_not_le hc
    · rw [if_neg hlt]
      obtain rfl : lo = hi := by omega
      exact ⟨hlen, hlo, hhi⟩

theorem rangeLookup_eq (rs : List (Nat × Nat)) (ch : Nat) (hs : LookupOk rs) :
    rangeLookup rs ch = inRanges rs ch := by
  have hfirst : SortedFirst rs := hs.imp (fun h => h.1)
  unfold rangeLookup
  dsimp only
  by_cases h0 : rs.length = 0
  · rw [if_pos h0, List.eq_nil_of_length_eq_zero h0]; rfl
  by_cases h4 : rs.length ≤ 4
  · rw [if_neg h0, if_pos h4]; exact scanLinear_eq rs ch hfirst
  rw [if_neg h0, if_neg h4]
  obtain ⟨hlen, hlo, hhi⟩ := bsLoop_spec rs ch hfirst rs.length 0 rs.length (Nat.zero_le _) (Nat.le_refl _)
    (Nat.le_of_eq (Nat.sub_zero _)) (fun k _ hk => absurd hk (Nat.not_lt_zero k)) (fun k h hk => absurd h (Nat.not_lt.mpr hk))
  generalize bsLoop rs ch rs.length 0 rs.length = lo at hlen hlo hhi
  rw [LookupOk, List.pairwise_iff_getElem] at hs
  apply Bool.eq_iff_iff.mpr
  rw [inRanges_iff]
  by_cases hpos : lo > 0
  · have hl1 : lo - 1 < rs.length := by omega
    rw [if_pos hpos, List.getElem?_eq_getElem hl1]
    dsimp only
    rw [decide_eq_true_eq]
    refine ⟨fun hle => ⟨rs[lo - 1], List.getElem_mem hl1, hlo _ hl1 (by omega), hle⟩, ?_⟩
    rintro ⟨r, hr, h1, h2⟩
    obtain ⟨k, hk, rfl⟩ := List.mem_iff_getElem.mp hr
    -- `rs[k]` starts at or below `ch`, so `k < lo`, and it ends no later than `rs[lo - 1]`
    have hklo : k < lo := Nat.lt_of_not_le fun hn => absurd h1 (Nat.not_le.mpr (hhi k hk hn))
    rcases Nat.lt_or_eq_of_le (Nat.le_sub_one_of_lt hklo) with h | h
    · exact Nat.le_trans h2 (hs k (lo - 1) hk hl1 h).2
    · exact h ▸ h2
  · rw [if_neg hpos]
    refine ⟨fun h => Bool.noConfusion h, ?_⟩
    rintro ⟨r, hr, h1, h2⟩
    obtain ⟨k, hk, rfl⟩ := List.mem_iff_getElem.mp hr
    exact absurd h1 (Nat.not_le.mpr (hhi k hk (by omega)))

/-! ## `charInSlow` of one level -/

theorem Flat.head_eq (cat : Nat → Nat → Bool) (f : Flat) (ch : Nat) (hs : LookupOk f.ranges) :
    f.head cat ch = f.memAlg cat ch := by
  unfold Flat.head Flat.memAlg Flat.pos
  simp only [rangeLookup_eq _ _ hs, catLoop_eq_inCats]
  cases hr : inRanges f.ranges ch <;> cases hn : f.neg <;> cases hc : f.cats with
  | nil => simp
  | cons c cs => simp

/-! ## Bitmaps -/

theorem bitTest_bitSet (bm : Nat × Nat) (i ch : Nat) (hi : i < 128) (hch : ch < 128) :
    bitTest (bitSet bm i) ch = (bitTest bm ch || decide (i = ch)) := by
  -- `i = ch` iff same word and same bit
  have hd : decide (i = ch) = (decide (i / 64 = ch / 64) && decide (i % 64 = ch % 64)) := by
    rw [← Bool.decide_and]
    exact decide_eq_decide.mpr ⟨fun h => h ▸ ⟨rfl, rfl⟩,
      fun ⟨h1, h2⟩ => by rw [← Nat.div_add_mod i 64, ← Nat.div_add_mod ch 64, h1, h2]⟩
  have hi2 : i / 64 < 2 := Nat.div_lt_of_lt_mul hi
  have hc2 : ch / 64 < 2 := Nat.div_lt_of_lt_mul hch
  rw [hd, bitSet, bitTest, bitTest]
  generalize i / 64 = wi, ch / 64 = wc, i % 64 = bi, ch % 64 = bc at *
  by_cases h1 : wi = 0 <;> by_cases h2 : wc = 0 <;> simp only [h1, h2, if_true, if_false, Nat.testBit_or, Nat.one_shiftLeft, Nat.testBit_two_pow]
  · simp
  · simp [Ne.symm h2]
  · simp
  · have : wi = wc := by omega
    simp [this]

theorem foldBitmap_spec (slow : Nat → Bool) (l : List Nat) (hl : ∀ i ∈ l, i < 128) (bm : Nat × Nat)
    (ch : Nat) (hch : ch < 128) :
    bitTest (l.foldl (fun bm i => if slow i then bitSet bm i else bm) bm) ch
      = (bitTest bm ch || (decide (ch ∈ l) && slow ch)) := by
  induction l generalizing bm with
  | nil => simp
  | cons i l ih =>
    have hbit : bitTest (if slow i = true then bitSet bm i else bm) ch = (bitTest bm ch || (slow i && decide (i = ch))) := by
      cases slow i
      · simp
      · simp [bitTest_bitSet bm i ch (hl i (List.mem_cons_self ..)) hch]
    rw [List.foldl_cons, ih (fun j hj => hl j (List.mem_cons_of_mem _ hj)), hbit, Bool.or_assoc]
    congr 1
    by_cases he : i = ch
    · subst he; simp
    · simp [he, Ne.symm he]

theorem buildBitmap_spec (slow : Nat → Bool) (ch : Nat) (hch : ch < 128) :
    bitTest (buildBitmap slow) ch = slow ch := by
  unfold buildBitmap
  rw [foldBitmap_spec slow (List.range 128) (fun i hi => List.mem_range.mp hi) (0, 0) ch hch]
  simp [bitTest, List.mem_range, hch]

theorem viaBitmap_ok (ascii : Option (Nat × Nat)) (slow : Nat → Bool) (h : FlatBitmapOk ascii slow) (ch : Nat) :
    viaBitmap ascii ch (slow ch) = slow ch := by
  unfold viaBitmap
  by_cases hc : ch < 128
  · simp only [hc, if_true]
    cases ha : ascii with
    | none => rfl
    | some bm => exact h bm ha ch hc
  · simp [hc]

theorem BitmapOk.top {cat : Nat → Nat → Bool} : ∀ {c : Class}, BitmapOk cat c → FlatBitmapOk c.flat.ascii (charInSlow cat c)
  | .leaf _, h => h
  | .minus _ _, h => h.2

/-- of `hb` the induction reads only the subtractors' bitmaps: the head level never consults its own -/
theorem charInSlow_eq_memAlg (cat : Nat → Nat → Bool) (c : Class) (ch : Nat)
    (hl : Class.RangesOk c) (hb : BitmapOk cat c) : charInSlow cat c ch = memAlg cat c ch := by
  induction c with
  | leaf f => exact Flat.head_eq cat f ch hl
  | minus f s ih =>
    rw [charInSlow, memAlg, viaBitmap_ok _ _ hb.1.top ch, ih hl.2 hb.1, Flat.head_eq cat f ch hl.1]
    cases f.memAlg cat ch <;> rfl

theorem charIn_eq_charInSlow (cat : Nat → Nat → Bool) (c : Class) (ch : Nat) (hb : BitmapOk cat c) :
    charIn cat c ch = charInSlow cat c ch :=
  viaBitmap_ok _ _ hb.top ch

/-- the head level of `charInSlow` does not read its own bitmap -/
theorem charInSlow_leaf_ascii (cat : Nat → Nat → Bool) (f : Flat) (a : Option (Nat × Nat)) (ch : Nat) :
    charInSlow cat (.leaf { f with ascii := a }) ch = charInSlow cat (.leaf f) ch := rfl

theorem charInSlow_minus_ascii (cat : Nat → Nat → Bool) (f : Flat) (s : Class) (a : Option (Nat × Nat)) (ch : Nat) :
    charInSlow cat (.minus { f with ascii := a } s) ch = charInSlow cat (.minus f s) ch := rfl

theorem flatBitmapOk_build (slow : Nat → Bool) : FlatBitmapOk (some (buildBitmap slow)) slow :=
  fun _ h ch hch => Option.some.inj h ▸ buildBitmap_spec slow ch hch

theorem prepare_spec (cat : Nat → Nat → Bool) (c : Class) (hb : BitmapOk cat c) :
    BitmapOk cat (prepare cat c) ∧ (∀ ch, charInSlow cat (prepare cat c) ch = charInSlow cat c ch) ∧
      (prepare cat c).flat.ascii ≠ none := by
  induction c with
  | leaf f =>
    unfold prepare
    split
    · next bm ha => exact ⟨hb, fun _ => rfl, by simp [Class.flat, ha]⟩
    · exact ⟨flatBitmapOk_build _, fun _ => rfl, by simp [Class.flat]⟩
  | minus f s ih =>
    obtain ⟨ih1, ih2, _⟩ := ih hb.1
    unfold prepare
    split
    · next bm ha => exact ⟨hb, fun _ => rfl, by simp [Class.flat, ha]⟩
    · -- preparing the subtractor does not change what `charInSlow` of this level reads from it
      have hslow : ∀ ch, charInSlow cat (.minus f (prepare cat s)) ch = charInSlow cat (.minus f s) ch := fun ch => by
        rw [charInSlow, charInSlow, viaBitmap_ok _ _ ih1.top ch, viaBitmap_ok _ _ hb.1.top ch, ih2]
      exact ⟨⟨ih1, flatBitmapOk_build _⟩, hslow, by simp [Class.flat]⟩

theorem bitmapOk_strip (cat : Nat → Nat → Bool) (c : Class) : BitmapOk cat (strip c) := by
  induction c with
  | leaf f => intro bm h; simp at h
  | minus f s ih => exact ⟨ih, by intro bm h; simp at h⟩

theorem memAlg_strip (cat : Nat → Nat → Bool) (c : Class) (ch : Nat) : memAlg cat (strip c) ch = memAlg cat c ch := by
  induction c with
  | leaf f => rfl
  | minus f s ih => simp only [strip, memAlg, ih]; rfl

theorem rangesOk_strip (c : Class) (hl : Class.RangesOk c) : Class.RangesOk (strip c) := by
  induction c with
  | leaf f => exact hl
  | minus f s ih => exact ⟨hl.1, ih hl.2⟩

end RegexVerif.Class
