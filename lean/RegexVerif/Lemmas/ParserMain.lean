/-
The main loop of the parser (`scanRegex`) is total: every turn consumes at least one rune or leaves the loop; the unit is
nil at the head of every turn; the options stack and the group stack have the same depth (so neither `popOptions` nor
`popGroup` meets an empty stack); the `{`-fallback of the quantifier scan (`textto(startpos-1)`) is dead after
`isTrueQuantifier`.  The same turn keeps the group at the bottom of the group stack (`bottomGroup`), which gives the root
of the tree (`Lemmas/ParserRoot.lean`).  The pieces that only move the position are specified by where they may end;
those that build the unit and the concatenation are run in the position calculus; `(`, `)`, `|` and the switch speak of
the stacks and are done with the `wp` equations.
-/
import RegexVerif.Lemmas.ParserCharSet
import RegexVerif.Lemmas.ParserGroup

namespace RegexVerif.Parser
open RegexVerif.EscapeParse (isSpecialCh isQuantCh isDigitCh isTrueQuant isTrueBrace dropDigits)

variable (E : Env)

/-! ## The scanners that only move the position: where they may end -/

/-- where the run of ordinary characters ends: the end of the pattern, or a stopper that is not a `{`
    without quantifier syntax -/
def StopAt (s : PS) : Prop :=
  s.pos = E.pat.length ∨
  ∃ c, E.pat[s.pos]? = some c ∧ (if s.options.x then isStopperXCh c else isSpecialCh c) = true ∧
    (c = 123 → TQb E s.pos = true)

theorem wp_skipOrdinary (s : PS) (hs : s.pos ≤ E.pat.length) (n : Nat) (hn : E.pat.length - s.pos < n)
    (Q : Unit → PS → Prop)
    (hq : ∀ p', s.pos ≤ p' → p' ≤ E.pat.length → StopAt E { s with pos := p' } → Q () { s with pos := p' }) :
    wp (skipOrdinary E n) Q (fun _ => True) s := by
  unfold skipOrdinary
  refine wp_iter E _ (fun _ s' => ∃ p', s' = { s with pos := p' } ∧ s.pos ≤ p' ∧ p' ≤ E.pat.length) _ _ ?_ _ _ _ hn
    ⟨s.pos, rfl, Nat.le_refl _, hs⟩
  intro _ s1 ⟨p1, he, h1, h2⟩
  subst he
  simp only [wp_bind, wp_charsRight, wp_ite, wp_pure, wp_opts, wp_rightChar, wp_isTrueQuantifier, wp_moveRight]
  refine ⟨?_, ?_⟩
  · intro h0
    exact hq p1 h1 h2 (Or.inl (by (dsimp only at *; omega)))
  · intro h0
    refine ⟨by omega, ?_⟩
    intro c hc
    try dsimp only at hc ⊢
    refine ⟨?_, ?_⟩
    · intro hstop
      refine hq p1 h1 h2 (Or.inr ⟨c, by simpa using hc, hstop.1, ?_⟩)
      intro h123
      rcases hstop.2 with h | h
      · exact absurd h123 h
      · exact h
    · intro _
      exact ⟨⟨p1 + 1, rfl, by omega, by omega⟩, by omega⟩

/-- the head of a turn stands on the end of the pattern or on a special rune (a `{` only with
    quantifier syntax) -/
def HeadOK (s : PS) : Prop :=
  s.pos = E.pat.length ∨ ∃ c, E.pat[s.pos]? = some c ∧ isSpecialCh c = true ∧ (c = 123 → TQb E s.pos = true)

theorem HeadOK.rune {s : PS} (h : HeadOK E s) {c : Nat} (hc : E.pat[s.pos]? = some c) :
    isSpecialCh c = true ∧ (c = 123 → TQb E s.pos = true) := by
  rcases h with hend | ⟨c', hc', h⟩
  · have := (List.getElem?_eq_some_iff.mp hc).1; omega
  · rw [hc] at hc'
    cases hc'
    exact h

/-- if nothing at all was consumed the turn stands on a special rune -/
theorem wp_stepRun (s : PS) (hs : s.pos ≤ E.pat.length) (Q : Nat × Nat → PS → Prop)
    (hq : ∀ sp ep p', s.pos ≤ sp → sp ≤ ep → ep ≤ p' → p' ≤ E.pat.length → (p' = s.pos → HeadOK E s) →
      Q (sp, ep) { s with pos := p' }) :
    wp (stepRun E) Q (fun _ => True) s := by
  unfold stepRun
  simp only [wp_bind, wp_textpos, wp_charsRight, wp_pure]
  refine wp_scanBlank_moves E s hs _ _ fun p1 h1 h1' hb1 => ⟨?_, trivial⟩
  apply wp_skipOrdinary E _ (by (dsimp only at *; omega)) _ (by (dsimp only at *; omega))
  intro p2 h2 h2' hstop
  refine wp_scanBlank_moves E _ (by (dsimp only at *; omega)) _ _ fun p3 h3 h3' hb3 => ⟨?_, trivial⟩
  dsimp only at h2 h3 hb3 hstop ⊢
  refine hq p1 p2 p3 h1 h2 h3 h3' ?_
  intro he
  have e1 : p1 = s.pos := by omega
  have e2 : p2 = s.pos := by omega
  subst e1
  rw [e2] at hstop
  rcases hstop with hend | ⟨c, hc, hst, htq⟩
  · exact Or.inl hend
  · dsimp only at hc hst htq
    refine Or.inr ⟨c, hc, ?_, htq⟩
    by_cases hx : s.options.x = true
    · simp only [hx, if_true, isStopperXCh, Bool.or_eq_true, beq_iff_eq] at hst
      rcases hst with (hsp | h35) | hspec
      · have := hb1 (Or.inl ⟨hx, c, hc, Or.inl hsp⟩); omega
      · have := hb1 (Or.inl ⟨hx, c, hc, Or.inr h35⟩); omega
      · exact hspec
    · simpa [hx] using hst

/-! ## Tree-building operations: what they need and what they leave alone -/

/-- the part of the state that the totality of the main loop depends on, apart from the unit -/
structure Keep (s s' : PS) : Prop where
  pos : s'.pos = s.pos
  os : s'.optionsStack = s.optionsStack
  st : s'.stack = s.stack

theorem Keep.refl (s : PS) : Keep s s := ⟨rfl, rfl, rfl⟩

/-- the root group while it is open: Capture 0 without children -/
def RootOK (g : RNode) : Prop := g.t = .capture ∧ g.m = 0 ∧ g.kids = []

/-- the group at the bottom of the group stack (the current group when the stack is empty) -/
def bottomGroup (s : PS) : RNode := (s.stack.map (·.group)).getLastD s.group

def RootInv (s : PS) : Prop := RootOK (bottomGroup s)

theorem bottomGroup_congr {s s' : PS} (hst : s'.stack = s.stack) (hg : s'.group = s.group) :
    bottomGroup s' = bottomGroup s := by
  unfold bottomGroup; rw [hst, hg]

theorem bottomGroup_of_stack {s s' : PS} (hst : s'.stack = s.stack) (hne : s.stack ≠ []) :
    bottomGroup s' = bottomGroup s := by
  cases h : s.stack with
  | nil => exact absurd h hne
  | cons fr st => simp only [bottomGroup, hst, h, List.map_cons, List.getLastD_cons]

theorem bottomGroup_nil {s : PS} (h : s.stack = []) : bottomGroup s = s.group := by
  simp [bottomGroup, h]

theorem bottomGroup_push {s s' : PS} {fr : Frame} (hst : s'.stack = fr :: s.stack) (hfr : fr.group = s.group) :
    bottomGroup s' = bottomGroup s := by
  simp only [bottomGroup, hst, hfr, List.map_cons, List.getLastD_cons]

theorem bottomGroup_pop {s s' : PS} {fr : Frame} {st : List Frame} (hs : s.stack = fr :: st) (hst : s'.stack = st)
    (hg : st = [] → s'.group = fr.group) : bottomGroup s' = bottomGroup s := by
  cases st with
  | nil => simp [bottomGroup, hs, hst, hg rfl]
  | cons a l => simp only [bottomGroup, hs, hst, List.map_cons, List.getLastD_cons]

theorem wp_addAlternate (Q : Unit → PS → Prop) (R : PS → Prop) (s : PS)
    (hq : ∀ s', Keep s s' → s'.unit = s.unit → (isCond s.group.t = false → s'.group = s.group) → Q () s') :
    wp addAlternate Q R s := by
  unfold addAlternate
  rw [wp_modify]
  apply hq
  · constructor <;> (dsimp only; split <;> rfl)
  · dsimp only; split <;> rfl
  · intro h; dsimp only; simp [h]

theorem wp_addGroup (Q : Unit → PS → Prop) (s : PS)
    (hq : ∀ s', Keep s s' → s'.unit.isSome = true →
      (isCond s.group.t = false → ∃ u, s'.unit = some u ∧ u.t = s.group.t ∧ u.m = s.group.m ∧
        u.kids.length = s.group.kids.length + 1) → Q () s') :
    wp addGroup Q (fun _ => True) s := by
  rw [wp_eq_resOk]
  unfold addGroup
  simp only [resOk_ite, resOk_ok, resOk_err, implies_true, true_and]
  refine ⟨fun hc _ => hq _ ⟨rfl, rfl, rfl⟩ rfl (fun h => by simp [h] at hc),
    fun hc => hq _ ⟨rfl, rfl, rfl⟩ rfl (fun _ => ⟨_, rfl, ?_, ?_, ?_⟩)⟩
  all_goals (cases hg : s.group; simp [RNode.addChild, RNode.t, RNode.m, RNode.kids])

theorem wp_popGroup (Q : Unit → PS → Prop) (s : PS) (hne : s.stack ≠ [])
    (hq : ∀ s' fr st, s.stack = fr :: st → s'.stack = st → (fr.group.t ≠ .exprCond → s'.group = fr.group) →
      s'.pos = s.pos → s'.optionsStack = s.optionsStack → Q () s') :
    wp popGroup Q (fun _ => True) s := by
  rw [wp_eq_resOk]
  unfold popGroup
  cases hst : s.stack with
  | nil => exact absurd hst hne
  | cons fr st =>
    cases hu : s.unit <;>
      simp only [resOk_ite, resOk_ok, resOk_err, implies_true, true_and] <;>
      first
        | exact fun _ => hq _ fr st hst rfl (fun _ => rfl) rfl rfl
        | exact ⟨fun hc => hq _ fr st hst rfl (fun hn => by simp [hn] at hc) rfl rfl,
            fun _ => hq _ fr st hst rfl (fun _ => rfl) rfl rfl⟩

theorem wp_addToConcatenate (pos cch : Nat) (Q : Unit → PS → Prop) (R : PS → Prop) (s : PS)
    (hb : cch = 0 ∨ pos + cch ≤ E.pat.length)
    (hq : ∀ s', Keep s s' → s'.group = s.group → s'.unit = s.unit → Q () s') :
    wp (addToConcatenate E pos cch) Q R s := by
  rw [wp_eq_resOk]
  unfold addToConcatenate
  simp only [resOk_ite, resOk_ok, resOk_fault]
  refine ⟨fun _ => hq _ (Keep.refl _) rfl rfl, fun h0 => ⟨fun h1 => by omega, fun _ => ⟨fun _ => hq _ ⟨rfl, rfl, rfl⟩ rfl rfl,
    fun _ => ⟨fun _ => hq _ ⟨rfl, rfl, rfl⟩ rfl rfl, fun _ => hq _ ⟨rfl, rfl, rfl⟩ rfl rfl⟩⟩⟩⟩

/-! ## The quantifier scan: the `{`-fallback is dead after `isTrueQuantifier` -/

theorem isTrueBrace_cases (r : List Nat) (h : isTrueBrace r = true) :
    (∃ d r', r = d :: r' ∧ isDigitCh d = true) ∧
    ((∃ t, dropDigits r = 125 :: t) ∨ (∃ r2 t, dropDigits r = 44 :: r2 ∧ dropDigits r2 = 125 :: t)) := by
  unfold isTrueBrace at h
  split at h
  · simp at h
  · rename_i d r'
    split at h
    · rename_i hd
      refine ⟨⟨d, r', rfl, hd⟩, ?_⟩
      split at h
      · rename_i t heq; exact Or.inl ⟨t, heq⟩
      · rename_i r2 heq
        split at h
        · rename_i t heq2; exact Or.inr ⟨r2, t, heq, heq2⟩
        · simp at h
      · simp at h
    · simp at h

theorem wp_quantClosed_ok (s : PS) (startpos : Nat) (t : List Nat) (hne : startpos ≠ s.pos)
    (hd : E.pat.drop s.pos = 125 :: t) (Q : Bool → PS → Prop) (R : PS → Prop)
    (hq : Q true { s with pos := s.pos + 1 }) : wp (quantClosed E startpos) Q R s := by
  obtain ⟨hlt, hc, _⟩ := drop_cons_facts E hd
  unfold quantClosed
  simp only [wp_bind, wp_textpos, wp_charsRight, wp_ite, wp_pure, wp_moveRightGetChar]
  refine ⟨fun h => ?_, fun _ => ⟨hlt, fun c hc' => ?_⟩⟩
  · rcases h with h | h
    · exact absurd h hne
    · omega
  · rw [hc] at hc'
    simp only [Option.some.injEq] at hc'
    subst hc'
    exact hq

/-- `{n` has been read.  `hd`: what stands at the position is `}`, or `,`, digits (maybe none) and `}`, the two ways
    `isTrueBrace` allows `{n` to go on; then `quantMax` ends standing on the `}` -/
theorem wp_quantMax (s : PS) (startpos mn : Nat) (hlt : startpos < s.pos)
    (hd : (∃ t, E.pat.drop s.pos = 125 :: t) ∨
          (∃ r2 t, E.pat.drop s.pos = 44 :: r2 ∧ dropDigits r2 = 125 :: t))
    (Q : Nat → PS → Prop)
    (hq : ∀ mx p' t, s.pos ≤ p' → E.pat.drop p' = 125 :: t → Q mx { s with pos := p' }) :
    wp (quantMax E startpos mn) Q (fun _ => True) s := by
  unfold quantMax
  simp only [wp_bind, wp_textpos, wp_ite, nextIs, wp_charsRight, wp_rightChar, wp_pure, wp_moveRight, orM, rcIs]
  refine ⟨fun _ => ?_, fun h => absurd hlt h⟩
  rcases hd with ⟨t, hd⟩ | ⟨r2, t, hd, hd2⟩
  · obtain ⟨hl, hc, _⟩ := drop_cons_facts E hd
    refine ⟨fun _ => ⟨by omega, fun c hc' => ?_⟩, fun h => by omega⟩
    rw [Nat.add_zero, hc] at hc'
    simp only [Option.some.injEq] at hc'
    subst hc'
    simp only [Nat.reduceBEq, Bool.false_eq_true]
    exact ⟨fun h => by simp at h, fun _ => hq mn s.pos t (Nat.le_refl _) hd⟩
  · obtain ⟨hl, hc, hrest⟩ := drop_cons_facts E hd
    refine ⟨fun _ => ⟨by omega, fun c hc' => ?_⟩, fun h => by omega⟩
    rw [Nat.add_zero, hc] at hc'
    simp only [Option.some.injEq] at hc'
    subst hc'
    refine ⟨fun _ => ?_, fun h => by simp at h⟩
    try dsimp only
    -- after the comma: `r2` starts at `pos + 1`
    cases hr2 : r2 with
    | nil => rw [hr2] at hd2; simp [dropDigits] at hd2
    | cons c2 r3 =>
      rw [hr2] at hrest
      obtain ⟨hl2, hc2, _⟩ := drop_cons_facts E hrest
      refine ⟨fun h => by simp only [decide_eq_true_eq] at h; omega, fun _ => ⟨by omega, fun c hc' => ?_⟩⟩
      rw [Nat.add_zero, hc2] at hc'
      simp only [Option.some.injEq] at hc'
      subst hc'
      refine ⟨fun h125 => ?_, fun hn125 => ?_⟩
      · have h125' : c2 = 125 := by simpa using h125
        subst h125'
        exact hq _ (s.pos + 1) r3 (by omega) hrest
      · apply wp_scanDecimal_moves
        intro v k hdec
        dsimp only at hdec ⊢
        rw [hrest, ← hr2] at hdec
        obtain ⟨_, hdd, _⟩ := decGo_some _ _ _ _ _ hdec
        refine hq v (s.pos + 1 + k) t (by omega) ?_
        rw [← List.drop_drop, hrest, ← hr2]
        rw [Nat.sub_zero] at hdd
        rw [hdd, hd2]

theorem wp_quantBrace (s : PS) (hb : isTrueBrace (E.pat.drop s.pos) = true)
    (Q : Option (Nat × Nat) → PS → Prop)
    (hq : ∀ mn mx p', s.pos ≤ p' → p' ≤ E.pat.length → Q (some (mn, mx)) { s with pos := p' }) :
    wp (quantBrace E) Q (fun _ => True) s := by
  obtain ⟨⟨d, r', hr, hd⟩, hcases⟩ := isTrueBrace_cases _ hb
  unfold quantBrace
  simp only [wp_bind, wp_textpos]
  apply wp_scanDecimal_moves
  intro v k hdec
  obtain ⟨_, hdd, hk⟩ := decGo_some _ _ _ _ _ hdec
  have hk' := hk d r' hr hd
  rw [Nat.sub_zero, List.drop_drop] at hdd
  apply wp_quantMax E _ _ _ (by dsimp only; omega)
  · dsimp only
    rw [hdd]
    exact hcases
  · intro mx p' t hp' hdp
    obtain ⟨hl, _, _⟩ := drop_cons_facts E hdp
    dsimp only at hp' ⊢
    apply wp_quantClosed_ok E _ _ t (by dsimp only; omega) hdp
    simp only [Bool.not_true, Bool.false_eq_true, if_false, wp_pure]
    exact hq v mx (p' + 1) (by omega) (by omega)

/-! ## The pieces of one turn of `scanRegex` -/

/-- the position went forward inside the pattern; both stacks and the group under construction are untouched -/
structure Fwd (s s' : PS) : Prop where
  le : s.pos ≤ s'.pos
  inside : s'.pos ≤ E.pat.length
  os : s'.optionsStack = s.optionsStack
  st : s'.stack = s.stack
  gr : s'.group = s.group

theorem run_quantApply (mn mx q : Nat) (σ : PS) (hq : q ≤ E.pat.length) (hu : σ.unit.isSome = true) :
    Run .turn E 0 (quantApply E mn mx >>= pure) q σ (fun _ s' => q ≤ s'.pos ∧ s'.unit = none) := by
  unfold quantApply
  run_steps
  run_call scans_scanBlank E
  rename_i hf
  run_peek Peek.nextIs
  all_goals
    refine Run.turn_addConcatenate3 (frame_unit hf ▸ hu) fun _ _ => ?_
    run_steps

theorem TQb_brace {p : Nat} (h1 : 1 ≤ p) (hc : E.pat[p - 1]? = some 123) (htq : TQb E (p - 1) = true) :
    isTrueBrace (E.pat.drop p) = true := by
  unfold TQb at htq
  rw [drop_eq_cons_of_getElem? hc] at htq
  have : p - 1 + 1 = p := by omega
  simpa [isTrueQuant, this] using htq

theorem run_scanQuantifier (ch q : Nat) (σ : PS) (hq : q ≤ E.pat.length) (h1 : 1 ≤ q)
    (hu : σ.unit.isSome = true) (hc : E.pat[q - 1]? = some ch) (htq : TQb E (q - 1) = true) :
    Run .turn E 0 (scanQuantifier E ch >>= pure) q σ (fun _ s' => q ≤ s'.pos ∧ s'.unit = none) := by
  have hn : σ.unit.isNone = false := by cases h : σ.unit <;> simp_all
  unfold scanQuantifier quantBounds
  simp only [M.ite_bind]
  run_steps
  · rename_i h; rw [hn] at h; cases h
  · exact run_quantApply E _ _ q σ hq hu
  · exact run_quantApply E _ _ q σ hq hu
  · exact run_quantApply E _ _ q σ hq hu
  -- `{`: the bounds are read to the closing brace
  rename_i h123
  refine Run.moves (T := fun r p' => ∃ mn mx, r = some (mn, mx) ∧ q ≤ p' ∧ p' ≤ E.pat.length) rfl
    (fun Q' h => wp_quantBrace E _ (TQb_brace E h1 (h123 ▸ hc) htq) Q' fun mn mx p' h1 h2 => h _ _ ⟨mn, mx, rfl, h1, h2⟩) ?_
  rintro _ p' ⟨mn, mx, rfl, h1, h2⟩
  exact (run_quantApply E mn mx p' σ h2 hu).mono fun _ _ h => ⟨Nat.le_trans h1 h.1, h.2⟩

theorem TQb_end {p : Nat} (h : E.pat.length ≤ p) : TQb E p = false := by
  unfold TQb
  rw [List.drop_eq_nil_of_le h]

theorem Still.isTrueQuantifierIf {q : Nat} {a : Prop} [Decidable a] {b : Bool} :
    Still q (if a then Parser.isTrueQuantifier E else Pure.pure b) (fun x => a → x = TQb E q) := by
  refine .ite (fun _ s hs => ?_) fun ha => .pure fun h => absurd h ha
  subst hs
  unfold Parser.isTrueQuantifier TQb
  cases E.pat.drop s.pos <;> exact .inl ⟨_, rfl, fun _ => rfl⟩

/-- the unit joins the concatenation (with its quantifier); without progress only when no quantifier stands there -/
theorem wp_stepAfter (b : Bool) (s : PS) (hs : s.pos ≤ E.pat.length) (hu : s.unit.isSome = true) :
    wp (stepAfter E b)
      (fun r s' => (∃ b', r = .inl b') ∧ Fwd E s s' ∧ s'.unit = none ∧ (s'.pos = s.pos → TQb E s.pos = false))
      (fun _ => True) s := by
  have h : Run .turn E 0 (stepAfter E b >>= pure) s.pos s (fun r s' =>
      (∃ b', r = .inl b') ∧ s.pos ≤ s'.pos ∧ s'.unit = none ∧ (s'.pos = s.pos → TQb E s.pos = false)) := by
    unfold stepAfter
    run_steps
    run_call scans_scanBlank E
    rename_i q1 σ1 h1 hl1 hf
    have hu1 : σ1.unit.isSome = true := frame_unit hf ▸ hu
    refine Still.run (Still.isTrueQuantifierIf E) (by omega) fun b' hb' => ?_
    run_steps
    · rename_i hq
      refine Run.turn_addConcatenate hu1 fun _ _ => ?_
      run_steps
      · exact ⟨_, rfl⟩
      · -- no progress: no quantifier stands here
        rename_i he
        subst he
        by_cases hc : E.pat.length - s.pos > 0
        · exact (hb' hc).symm.trans (hq.resolve_left (by omega))
        · exact TQb_end E (by omega)
    · rename_i hq c hc
      have htq : TQb E q1 = true := by
        have := hb' (by omega)
        cases hb : b' <;> simp_all
      refine (run_scanQuantifier E c (q1 + 1) σ1 (by omega) (by omega) hu1 hc htq).run (Nat.le_refl _) fun _ σ' hQ _ _ => ?_
      run_steps
      · exact ⟨_, rfl⟩
      · exact hQ.2
  exact wp_mono h.toFrom (fun _ _ h' => ⟨h'.2.1, ⟨h'.2.2.1, h'.1.2, h'.1.1.1, h'.1.1.2.1, h'.1.1.2.2⟩, h'.2.2.2⟩)
    (fun _ _ => trivial)

theorem wp_stepLiteral (sp ep : Nat) (isQ wp0 : Bool) (s : PS) (hep : ep ≤ E.pat.length) :
    wp (stepLiteral E sp ep isQ wp0)
      (fun _ s' => Keep s s' ∧ s'.group = s.group ∧ (isQ = false → s'.unit = s.unit)) (fun _ => True) s := by
  unfold stepLiteral
  simp only [wp_ite, wp_bind, wp_pure, wp_charAt, wp_opts, wp_setUnit]
  refine ⟨fun hlt => ⟨fun hc => ?_, fun _ => ⟨fun hq => ⟨by omega, fun c _ => ⟨⟨rfl, rfl, rfl⟩, trivial, fun h => by
    rw [hq] at h; cases h⟩⟩, fun _ => ⟨Keep.refl s, trivial, fun _ => trivial⟩⟩⟩, fun _ => ⟨Keep.refl s, trivial, fun _ => trivial⟩⟩
  apply wp_addToConcatenate E _ _ _ _ _ (Or.inr (by omega))
  intro s1 hk hg hu
  exact ⟨fun hq => ⟨by omega, fun c _ => ⟨⟨hk.pos, hk.os, hk.st⟩, hg, fun h => by rw [hq] at h; cases h⟩⟩,
    fun _ => ⟨hk, hg, fun _ => hu⟩⟩

theorem wp_stepHead (s : PS) (hs : s.pos ≤ E.pat.length) :
    wp (stepHead E)
      (fun r s' => (r = (33, false) ∧ s' = s ∧ s.pos = E.pat.length) ∨
        (r = (32, false) ∧ s' = s ∧ ∃ c, E.pat[s.pos]? = some c ∧ isSpecialCh c = false) ∨
        (∃ c, E.pat[s.pos]? = some c ∧ isSpecialCh c = true ∧ r = (c, isQuantCh c) ∧
          s' = { s with pos := s.pos + 1 }))
      (fun _ => True) s := by
  unfold stepHead
  simp only [wp_bind, wp_charsRight, wp_ite, wp_pure, wp_rightChar, wp_moveRight, Nat.add_zero]
  exact ⟨fun _ => Or.inl ⟨trivial, trivial, by omega⟩, fun _ => ⟨by omega, fun c hc =>
    ⟨fun hsp => Or.inr (Or.inr ⟨c, hc, hsp, rfl, trivial⟩),
     fun hsp => Or.inr (Or.inl ⟨trivial, trivial, c, hc, by simpa using hsp⟩)⟩⟩⟩

theorem wp_stepOpen (b : Bool) (s : PS) (hs : s.pos ≤ E.pat.length)
    (hl : s.optionsStack.length = s.stack.length) :
    wp (stepOpen E b)
      (fun r s' => (∃ b', r = .inl b') ∧ s.pos ≤ s'.pos ∧ s'.pos ≤ E.pat.length ∧
        s'.optionsStack.length = s'.stack.length ∧ s'.unit = s.unit ∧ bottomGroup s' = bottomGroup s)
      (fun _ => True) s := by
  unfold stepOpen
  simp only [wp_bind, wp_pushOptions]
  refine wp_mono (scans_scanGroupOpen E _ hs) (fun r s1 h => ?_) (fun _ _ => trivial)
  have hos : s1.optionsStack = s.options :: s.optionsStack := (frame_os h.frame :)
  have hst : s1.stack = s.stack := (frame_stack h.frame :)
  have hu : s1.unit = s.unit := (frame_unit h.frame :)
  have hlen : s1.optionsStack.tail.length = s1.stack.length := by rw [hos, hst]; exact hl
  have hbg : bottomGroup s1 = bottomGroup s := bottomGroup_congr hst (frame_group h.frame :)
  cases r with
  | none =>
    simp only [wp_bind, wp_popKeepOptions, wp_pure]
    exact ⟨by rw [hos]; exact List.cons_ne_nil _ _, ⟨_, rfl⟩, h.le, h.inside, hlen, hu, hbg⟩
  | some g =>
    simp only [pushGroup, startGroup, wp_bind, wp_modify, wp_pure]
    exact ⟨⟨_, rfl⟩, h.le, h.inside, by simp only [List.length_cons, hos, hst, hl], hu,
      (bottomGroup_push (s := s1) rfl rfl).trans hbg⟩

/-- `)`: `addGroup`, then `popGroup` (the group stack is not empty: the turn has tested it), then `popOptions` (not empty
    either: the stacks have equal depth); the group at the bottom stays because a root there is no ExprCond, the one
    kind of group `popGroup` alters -/
theorem wp_stepClose (b : Bool) (s : PS) (hs : s.pos ≤ E.pat.length)
    (hl : s.optionsStack.length = s.stack.length) :
    wp (stepClose E b)
      (fun r s' => (∃ b', r = .inl b') ∧ s.pos ≤ s'.pos ∧ s'.pos ≤ E.pat.length ∧
        s'.optionsStack.length = s'.stack.length ∧ s'.unit = none ∧ (RootInv s → bottomGroup s' = bottomGroup s))
      (fun _ => True) s := by
  unfold stepClose
  simp only [wp_bind, wp_get, wp_ite, wp_throw]
  refine ⟨fun _ => trivial, fun hne => ?_⟩
  have hne' : s.stack ≠ [] := by intro h; simp [h] at hne
  apply wp_addGroup
  intro s1 hk1 hu1 _
  apply wp_popGroup _ _ (by rw [hk1.st]; exact hne')
  intro s2 fr st hfr h2s hg2 h2p h2o
  simp only [wp_popOptions, wp_pure]
  have hne2 : s2.optionsStack ≠ [] := by
    rw [h2o, hk1.os]
    intro h
    rw [h] at hl
    exact hne' (List.eq_nil_of_length_eq_zero (by simpa using hl.symm))
  have hlen : s2.optionsStack.tail.length = s2.stack.length := by
    have := congrArg List.length hfr
    rw [hk1.st] at this
    rw [h2o, h2s, hk1.os, List.length_tail, hl, this]
    rfl
  have hbg : RootInv s → bottomGroup s2 = bottomGroup s := by
    intro hr
    have hb1 : bottomGroup s1 = bottomGroup s := bottomGroup_of_stack hk1.st hne'
    refine (bottomGroup_pop hfr h2s (fun hnil => hg2 ?_)).trans hb1
    have hr1 : RootOK (bottomGroup s1) := by rw [hb1]; exact hr
    have : bottomGroup s1 = fr.group := by unfold bottomGroup; rw [hfr, hnil]; rfl
    rw [this] at hr1
    rw [hr1.1]; decide
  have hp1 := hk1.pos
  refine ⟨hne2, ?_⟩
  intro o ho
  refine ⟨fun hun => ⟨⟨_, rfl⟩, by omega, by omega, hlen, ?_, fun hr => (bottomGroup_congr rfl rfl).trans (hbg hr)⟩,
    fun hun => ?_⟩
  · cases h : s2.unit <;> simp_all
  refine wp_mono (wp_stepAfter E b _ (by (dsimp only at *; omega)) (by cases h : s2.unit <;> simp_all)) ?_ ?_
  · intro r s3 ⟨hb, hf, hu3, _⟩
    refine ⟨hb, by have := hf.le; (dsimp only at *; omega), hf.inside, ?_, hu3, fun hr => (bottomGroup_congr hf.st hf.gr).trans (hbg hr)⟩
    rw [hf.os, hf.st]
    exact hlen
  · intros; trivial

theorem wp_stepIsPythonRef (o : Opts) (s : PS) (Q : Bool → PS → Prop) (R : PS → Prop)
    (hq : ∀ b, (b = true → s.pos + 3 ≤ E.pat.length) → Q b s) : wp (stepIsPythonRef E o) Q R s := by
  by_cases hig : s.ignoreNextParen = true
  · have : wp (stepIsPythonRef E o) Q R s = Q false s := by
      unfold wp stepIsPythonRef; simp [hig]
    rw [this]
    exact hq false (by intro h; cases h)
  · have : wp (stepIsPythonRef E o) Q R s = wp (stepIsPythonRefCore E o) Q R s := by
      unfold wp stepIsPythonRef; simp [hig]
    rw [this]
    unfold stepIsPythonRefCore
    rw [wp_bind, wp_charsRight]
    -- the guard looks at three runes that are there
    exact Peek.wp (.andM fun _ => .andMM (.rcIs (by omega)) fun _ => .andMM (.rcIs (by omega)) fun _ => .rcIs (by omega))
      fun b hb => hq b fun h => by have := (hb h).1; omega

theorem isQuantCh_iff (c : Nat) : isQuantCh c = true ↔ c = 42 ∨ c = 43 ∨ c = 63 ∨ c = 123 := by
  simp [isQuantCh]

theorem unit_none_of_not_quant {s : PS} {ch : Nat} (hu : s.unit.isSome = true → isQuantCh ch = true)
    (hq : isQuantCh ch = false) : s.unit = none := by
  cases h : s.unit with
  | none => rfl
  | some u => rw [h] at hu; simp [hq] at hu

/-- what a case of the switch on the special rune `ch` leaves, for a turn that stood in `s` after the rune: the loop goes
    on with stacks of equal depth; the unit is nil (under `P`); progress, or (a quantifier rune only) one rune back where
    no quantifier stands; the group at the bottom of the stack stays if it is the root -/
def SwitchPost (P : Prop) (ch : Nat) (s : PS) (r : Sum Bool Unit) (s' : PS) : Prop :=
  (∃ b', r = .inl b') ∧ s'.pos ≤ E.pat.length ∧ s'.optionsStack.length = s'.stack.length ∧
    (P → s'.unit = none) ∧
    (s.pos ≤ s'.pos ∨ (isQuantCh ch = true ∧ s'.pos + 1 = s.pos ∧ TQb E s'.pos = false)) ∧
    (RootInv s → bottomGroup s' = bottomGroup s)

theorem stepAfter_to_switch {P : Prop} (isQ : Bool) (ch : Nat) (s s1 : PS) (h1le : s1.pos ≤ E.pat.length)
    (hu1 : s1.unit.isSome = true) (hos : s1.optionsStack = s.optionsStack) (hst : s1.stack = s.stack)
    (hgr : s1.group = s.group) (hl : s.optionsStack.length = s.stack.length)
    (hprog : s.pos ≤ s1.pos ∨ (isQuantCh ch = true ∧ s1.pos + 1 = s.pos)) :
    wp (stepAfter E isQ) (SwitchPost E P ch s) (fun _ => True) s1 := by
  refine wp_mono (wp_stepAfter E isQ s1 h1le hu1) ?_ (fun _ _ => trivial)
  intro r s3 ⟨hb, hf, hu3, htq⟩
  refine ⟨hb, hf.inside, by rw [hf.os, hf.st, hos, hst]; exact hl, fun _ => hu3, ?_,
    fun _ => bottomGroup_congr (hf.st.trans hst) (hf.gr.trans hgr)⟩
  have := hf.le
  rcases hprog with h | ⟨hq, h⟩
  · exact Or.inl (by omega)
  · by_cases he : s3.pos = s1.pos
    · exact Or.inr ⟨hq, by omega, by rw [he]; exact htq he⟩
    · exact Or.inl (by omega)

/-- the common case of the switch: a scanner makes a node, which becomes the unit; then the quantifier -/
theorem wp_scan_unit_after {β : Type} {m : M β} {k : Nat} (hm : ScansK E k m) (g : β → RNode) (isQ : Bool) (P : Prop)
    (ch : Nat) (s : PS) (hk : s.pos + k ≤ E.pat.length) (hl : s.optionsStack.length = s.stack.length) :
    wp (do let x ← m; setUnit (some (g x)); stepAfter E isQ) (SwitchPost E P ch s) (fun _ => True) s := by
  rw [wp_bind]
  refine wp_mono (hm s hk) (fun x s1 h => ?_) (fun _ _ => trivial)
  rw [wp_bind, wp_setUnit]
  exact stepAfter_to_switch E isQ ch s _ h.inside rfl (frame_os h.frame :) (frame_stack h.frame :) (frame_group h.frame :) hl
    (Or.inl h.le)

theorem wp_stepSwitch (o : Opts) (ch : Nat) (isQ wasPrev : Bool) (s : PS) (hs : s.pos ≤ E.pat.length)
    (h1 : 1 ≤ s.pos) (hl : s.optionsStack.length = s.stack.length) (hc : E.pat[s.pos - 1]? = some ch) :
    wp (stepSwitch E o ch isQ wasPrev) (SwitchPost E (s.unit.isSome = true → isQuantCh ch = true) ch s)
      (fun _ => True) s := by
  unfold stepSwitch
  simp only [wp_ite]
  -- a node that needs no scanner
  have hnode : ∀ nd, wp (do setUnit (some nd); stepAfter E isQ)
      (SwitchPost E (s.unit.isSome = true → isQuantCh ch = true) ch s) (fun _ => True) s := fun nd =>
    wp_scan_unit_after E (k := 0) (m := pure ()) (fun s hs => (wp_pure ..).mpr ⟨Nat.le_refl _, hs, rfl, id⟩) (fun _ => nd) isQ _ ch s hs hl
  refine ⟨fun _ => wp_scan_unit_after E (k := 0) (scans_scanCharSet E _ _) _ isQ _ ch s hs hl, fun _ => ⟨fun h40 => ?_,
    fun _ => ⟨fun h124 => ?_, fun _ => ⟨fun _ => ?_, fun _ =>
      ⟨fun _ => wp_scan_unit_after E (k := 0) (scans_scanBackslash E _) _ isQ _ ch s hs hl,
        fun _ => ⟨fun _ => hnode _, fun _ => ⟨fun _ => hnode _, fun _ => ⟨fun _ => hnode _, fun _ =>
          ⟨fun hq => ?_, fun _ => (wp_throw ..).mpr trivial⟩⟩⟩⟩⟩⟩⟩⟩⟩
  -- `(`
  · rw [wp_bind]
    apply wp_stepIsPythonRef
    intro b hb
    rw [wp_ite]
    refine ⟨fun hb' => wp_scan_unit_after E (scansK_scanPythonNamedBackref E) _ isQ _ ch s (hb hb') hl, fun _ => ?_⟩
    refine wp_mono (wp_stepOpen E isQ s hs hl) ?_ (fun _ _ => trivial)
    intro r s' ⟨hb', h2, h3, h4, h5, h6⟩
    exact ⟨hb', h3, h4, fun hu => by rw [h5]; exact unit_none_of_not_quant hu (by subst h40; decide), Or.inl h2, fun _ => h6⟩
  -- `|`
  · rw [wp_bind]
    apply wp_addAlternate
    intro s' hk hu' hg
    rw [wp_pure]
    refine ⟨⟨_, rfl⟩, by rw [hk.pos]; exact hs, by rw [hk.os, hk.st]; exact hl,
      fun hu => by rw [hu']; exact unit_none_of_not_quant hu (by subst h124; decide), Or.inl (by rw [hk.pos]; exact Nat.le_refl _),
      fun hr => ?_⟩
    by_cases hnil : s.stack = []
    · refine bottomGroup_congr hk.st (hg ?_)
      have : RootOK s.group := by rw [← bottomGroup_nil hnil]; exact hr
      rw [this.1]; decide
    · exact bottomGroup_of_stack hk.st hnil
  -- `)`
  · refine wp_mono (wp_stepClose E isQ s hs hl) ?_ (fun _ _ => trivial)
    intro r s' ⟨hb', h2, h3, h4, h5, h6⟩
    exact ⟨hb', h3, h4, fun _ => h5, Or.inl h2, h6⟩
  -- a quantifier: back onto it
  · simp only [wp_bind, wp_get, wp_ite, wp_throw, wp_moveLeft]
    refine ⟨fun _ => trivial, fun hun => ⟨h1, ?_⟩⟩
    refine stepAfter_to_switch E _ _ s _ (by dsimp only; omega) ?_ rfl rfl rfl hl
      (Or.inr ⟨(isQuantCh_iff ch).mpr (by omega), by dsimp only; omega⟩)
    cases h : s.unit <;> simp_all

/-! ## One turn, the loop -/

theorem TQb_of_quant {p c : Nat} (hc : E.pat[p]? = some c) (h123 : c ≠ 123) (hq : isQuantCh c = true) :
    TQb E p = true := by
  unfold TQb
  rw [drop_eq_cons_of_getElem? hc]
  simp [isTrueQuant, h123, hq]

/-- the invariant at the head of every turn of `scanRegex` -/
def TurnInv (s : PS) : Prop :=
  s.pos ≤ E.pat.length ∧ s.unit = none ∧ s.optionsStack.length = s.stack.length

/-- started with a nil unit a turn leaves the loop or consumes at least one rune, keeping the invariant; the group at
    the bottom of the stack stays if it is the root -/
theorem wp_scanStep_root (b : Bool) (s : PS) (hs : s.pos < E.pat.length) (hl : s.optionsStack.length = s.stack.length) :
    wp (scanStep E b)
      (fun r s' => (s.unit = none → match r with
          | .inl _ => TurnInv E s' ∧ E.pat.length - s'.pos < E.pat.length - s.pos
          | .inr _ => True) ∧ (RootInv s → bottomGroup s' = bottomGroup s))
      (fun _ => True) s := by
  unfold scanStep
  simp only [wp_bind]
  apply wp_stepRun E s (by omega)
  intro sp ep p' h1 h2 h3 h4 hhead
  refine wp_mono (wp_stepHead E _ (by (dsimp only at *; omega))) ?_ (fun _ _ => trivial)
  intro r s2 hcases
  dsimp only at hcases ⊢
  rcases hcases with ⟨hr, hs2, hend⟩ | ⟨hr, hs2, c, hc, hsp⟩ | ⟨c, hc, hsp, hr, hs2⟩
  all_goals
    subst hr hs2
    refine wp_mono (wp_stepLiteral E sp ep _ b _ (by omega)) ?_ (fun _ _ => trivial)
    intro wasPrev s3 ⟨hk, hg3, hun⟩
    have hb3 : bottomGroup s3 = bottomGroup s := bottomGroup_congr hk.st hg3
    have hp3 := hk.pos
    simp only [wp_opts, wp_ite, wp_pure]
    dsimp only at hp3
  · exact ⟨fun _ => ⟨fun _ => trivial, fun _ => hb3⟩, fun h => absurd trivial h⟩
  · refine ⟨fun h => by simp at h, fun _ => ⟨fun _ => ⟨fun hu => ?_, fun _ => hb3⟩, fun h => absurd trivial h⟩⟩
    refine ⟨⟨by omega, by rw [hun rfl]; exact hu, by rw [hk.os, hk.st]; exact hl⟩, ?_⟩
    have hne : p' ≠ s.pos := fun he => by simp [((hhead he).rune E (he ▸ hc)).1] at hsp
    omega
  · have hlt := (List.getElem?_eq_some_iff.mp hc).1
    refine ⟨fun h => ?_, fun _ => ⟨fun h => ?_, fun _ => ?_⟩⟩
    · subst h; simp [isSpecialCh] at hsp
    · subst h; simp [isSpecialCh] at hsp
    refine wp_mono (wp_stepSwitch E _ c _ wasPrev s3 (by omega) (by omega)
      (by rw [hk.os, hk.st]; exact hl) (by rw [hp3]; simpa using hc)) ?_ (fun _ _ => trivial)
    intro r s' ⟨⟨b', hb'⟩, hin, hlen, hnone, hprog, hbg⟩
    subst hb'
    dsimp only
    refine ⟨fun hu => ⟨⟨hin, hnone fun hsome => ?_, hlen⟩, ?_⟩,
      fun hr => (hbg (by unfold RootInv; rw [hb3]; exact hr)).trans hb3⟩
    · cases hq : isQuantCh c with
      | true => rfl
      | false =>
        have := hun hq
        dsimp only at this
        rw [this, hu] at hsome
        simp at hsome
    rcases hprog with hge | ⟨hq, hpe, htq⟩
    · omega
    · have hne : p' ≠ s.pos := by
        intro he
        have hs' : s'.pos = s.pos := by omega
        rw [hs'] at htq
        rw [he] at hc
        by_cases hc123 : c = 123
        · rw [((hhead he).rune E hc).2 hc123] at htq; simp at htq
        · rw [TQb_of_quant E hc hc123 hq] at htq; simp at htq
      omega

theorem wp_scanStep (b : Bool) (s : PS) (hs : s.pos < E.pat.length) (hu : s.unit = none)
    (hl : s.optionsStack.length = s.stack.length) :
    wp (scanStep E b)
      (fun r s' => match r with
        | .inl _ => TurnInv E s' ∧ E.pat.length - s'.pos < E.pat.length - s.pos
        | .inr _ => True)
      (fun _ => True) s :=
  wp_mono (wp_scanStep_root E b s hs hl) (fun _ _ h => h.1 hu) (fun _ h => h)

theorem bottomGroup_scanStep (b : Bool) (s : PS) (hs : s.pos < E.pat.length)
    (hl : s.optionsStack.length = s.stack.length) (hr : RootInv s) :
    wp (scanStep E b) (fun _ s' => bottomGroup s' = bottomGroup s) (fun _ => True) s :=
  wp_mono (wp_scanStep_root E b s hs hl) (fun _ _ h => h.2 hr) (fun _ h => h)

/-- after the loop: the root group is closed, which sets the unit; with an empty group stack and the root as group the
    unit is the Capture 0 with its one child -/
syntax "fin_tac " ident ident : tactic
macro_rules
  | `(tactic| fin_tac $sc $hinv) => `(tactic| (
      try simp only [wp_bind, wp_get, wp_ite, wp_throw]
      refine ⟨fun _ => trivial, fun hemp => ?_⟩
      apply wp_addGroup
      intro s2 _ hsome hkid
      try simp only [wp_bind, wp_get]
      split
      · rename_i u hu
        simp only [wp_pure]
        intro hst
        have hnil : ($sc).stack = [] := by
          cases hh : ($sc).stack with
          | nil => rfl
          | cons a l => simp [hh] at hemp
        have hro : RootOK ($sc).group := by rw [← bottomGroup_nil hnil]; exact $hinv hst
        obtain ⟨u', hu', h1, h2, h3⟩ := hkid (by rw [hro.1]; decide)
        rw [hu] at hu'
        simp only [Option.some.injEq] at hu'
        subst hu'
        exact ⟨h1.trans hro.1, h2.trans hro.2.1, by rw [h3, hro.2.2]; rfl⟩
      · simp_all))

theorem wp_scanRegex_root (s : PS) (hs : s.pos ≤ E.pat.length) (hu : s.unit = none)
    (hl : s.optionsStack.length = s.stack.length) (n : Nat) (hn : E.pat.length - s.pos < n) :
    wp (scanRegex E n) (fun r _ => s.stack = [] → r.t = .capture ∧ r.m = 0 ∧ r.kids.length = 1) (fun _ => True) s := by
  unfold scanRegex
  simp only [wp_bind, wp_opts, startGroup, wp_modify]
  refine wp_iter E _ (fun _ s' => TurnInv E s' ∧ (s.stack = [] → RootInv s')) _ _ ?_ _ _ _ (by dsimp only; omega)
    ⟨⟨hs, hu, hl⟩, fun hst => ?_⟩
  · intro b s1 ⟨⟨h1, h2, h3⟩, hinv⟩
    simp only [wp_bind, wp_charsRight, wp_ite, wp_pure]
    refine ⟨fun _ => ?_, fun h0 => ?_⟩
    · fin_tac s1 hinv
    · refine wp_mono (wp_scanStep_root E b s1 (by omega) h3) ?_ (fun _ _ => trivial)
      intro r s2 ⟨h, hbg⟩
      have h := h h2
      have hinv2 : s.stack = [] → RootInv s2 := fun hst => by unfold RootInv; rw [hbg (hinv hst)]; exact hinv hst
      cases r with
      | inl b' => exact ⟨⟨h.1, hinv2⟩, h.2⟩
      | inr _ =>
        dsimp only
        fin_tac s2 hinv2
  · unfold RootInv
    rw [bottomGroup_nil (by dsimp only; exact hst)]
    exact ⟨rfl, rfl, rfl⟩

end RegexVerif.Parser
