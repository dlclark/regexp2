/-
Compiler correctness, the emitted code: where the instructions of a sub-tree sit in the
emitted program (`CodeAt`) and what `fetch` / `operand` read there (`InstrAt`); `Computes`, the judgment of the simulation:
an instruction list, wherever the program has it, computes a success-list function.  That opcode words pass `fetch` and
that the string / set tables only grow is read off the writer's fragment invariant.
-/
import RegexVerif.Lemmas.Compile
import RegexVerif.Lemmas.Compose

namespace RegexVerif.Compile
open RegexVerif.VM RegexVerif.Code RegexVerif.Writer RegexVerif.Generated.Opcodes RegexVerif

/-- `64 = flagMask + 1`: the opcode field of a word, below the flag bits -/
theorem decode_bits : ∀ t, t < 64 → ∀ rtl ci, t ||| bits rtl ci < 1024 ∧
    decode (t ||| bits rtl ci) = ⟨t, rtl, false, false, ci⟩ := by decide

/-- every opcode word is below 1024 (what `fetch` checks) -/
def OpsOk (c : Code) : Prop := ∀ i ∈ c, i.op < 1024

theorem OpsOk.append {x y : Code} (hx : OpsOk x) (hy : OpsOk y) : OpsOk (x ++ y) := by
  intro i hi
  rcases List.mem_append.1 hi with h | h
  · exact hx i h
  · exact hy i h

theorem frameOps_lt : ∀ w ∈ frameOps, w < 1024 := by decide
theorem leafOps_lt : ∀ t ∈ leafOps, t < 64 := by decide

theorem EmittedWord.lt {w : Nat} (h : EmittedWord w) : w < 1024 := by
  rcases h with h | ⟨t, ht, rtl, ci, rfl⟩
  · exact frameOps_lt w h
  · exact (decode_bits t (leafOps_lt t ht) rtl ci).1

theorem emitList_ops (cfg : Cfg) : ∀ (cs : List GoNode) (a : Nat) (tb : Tables), okList cs = true →
    OpsOk (emitList cfg a tb cs).1 :=
  fun cs a tb h i hi => EmittedWord.lt ((emitList_frag cfg 0 cs a tb h).words i hi)

theorem emitAlt_ops (cfg : Cfg) : ∀ (cs : List GoNode) (a fin : Nat) (tb : Tables), okList cs = true →
    OpsOk (emitAlt cfg a fin tb cs).1 :=
  fun cs a fin tb h i hi => EmittedWord.lt ((emitAlt_frag cfg 0 cs a fin tb h).words i hi)

theorem codeFromTree_ops (cfg : Cfg) (t : GoNode) (h : t.ok = true) : OpsOk (codeFromTree cfg t).1 :=
  fun i hi => EmittedWord.lt ((codeFromTree_frag cfg 0 t h).words i hi)

/-- the entry `stringCode` / `setCode` returns holds the string / set itself -/
theorem internKey_get (tbl : List (List Nat)) (x : List Nat) :
    (internKey id tbl x).2[(internKey id tbl x).1]? = some x := by
  simp only [internKey, List.map_id_fun, id_eq]
  split
  · next h =>
    have := List.idxOf_lt_length_iff.1 h
    simp only [List.getElem?_eq_getElem h, Option.some.injEq]
    exact List.getElem_idxOf h
  · next h =>
    have hle := List.idxOf_le_length (a := x) (l := tbl)
    have : tbl.idxOf x = tbl.length := by omega
    simp [this]

theorem strKey_eq : strKey = id := rfl
theorem setKey_eq : setKey = id := rfl

theorem get_of_ext {l e : List (List Nat)} {k : Nat} {x : List Nat} (h : l[k]? = some x) : (l ++ e)[k]? = some x := by
  have hlt := (List.getElem?_eq_some_iff.1 h).1
  rw [List.getElem?_append_left hlt]; exact h

theorem emitNode_ext (cfg : Cfg) (n : GoNode) (a : Nat) (tb : Tables) (h : n.ok = true) : TabExt tb (emitNode cfg a tb n).2 :=
  (emitNode_frag cfg 0 n a tb h).ext

theorem emitList_ext (cfg : Cfg) (cs : List GoNode) (a : Nat) (tb : Tables) (h : okList cs = true) :
    TabExt tb (emitList cfg a tb cs).2 := (emitList_frag cfg 0 cs a tb h).ext

theorem emitAlt_ext (cfg : Cfg) (cs : List GoNode) (a fin : Nat) (tb : Tables) (h : okList cs = true) :
    TabExt tb (emitAlt cfg a fin tb cs).2 := (emitAlt_frag cfg 0 cs a fin tb h).ext

/-- the instruction list `c` occupies the code words from offset `a` on, and an instruction follows it -/
def CodeAt (p : Prog) (a : Nat) (c : Code) : Prop :=
  ∃ pre post, p.codes = (flatten (pre ++ c ++ post)).toArray ∧ codeLen pre = a ∧ OpsOk (pre ++ c ++ post) ∧ post ≠ []

theorem CodeAt.left {p : Prog} {a : Nat} {x y : Code} (h : CodeAt p a (x ++ y)) (hy : y ≠ []) : CodeAt p a x := by
  obtain ⟨pre, post, hc, ha, ho, _⟩ := h
  exact ⟨pre, y ++ post, by rw [hc]; simp, ha, by simpa using ho, by simp [hy]⟩

theorem CodeAt.left' {p : Prog} {a : Nat} {x y : Code} (h : CodeAt p a (x ++ y)) : CodeAt p a x := by
  obtain ⟨pre, post, hc, ha, ho, hp⟩ := h
  exact ⟨pre, y ++ post, by rw [hc]; simp, ha, by simpa using ho, by simp [hp]⟩

theorem CodeAt.right {p : Prog} {a : Nat} {x y : Code} (h : CodeAt p a (x ++ y)) : CodeAt p (a + codeLen x) y := by
  obtain ⟨pre, post, hc, ha, ho, hp⟩ := h
  exact ⟨pre ++ x, post, by rw [hc]; simp, by rw [codeLen_append, ha], by simpa using ho, hp⟩

/-- what the interpreter reads at an instruction of the program -/
structure InstrAt (p : Prog) (a : Nat) (i : Instr) : Prop where
  fetch : VM.fetch p a = .ok (decode i.op)
  arg : ∀ k, k < i.args.length → p.codes[a + k + 1]? = i.args[k]?

theorem InstrAt.of_split {p : Prog} {pre post : Code} {i : Instr} (hc : p.codes = (flatten (pre ++ i :: post)).toArray)
    (hop : i.op < 1024) : InstrAt p (codeLen pre) i :=
  ⟨Holds.fetch hc hop, fun _ hk => hc ▸ (List.getElem?_toArray ..).trans (flatten_getElem_arg _ _ _ _ hk)⟩

theorem CodeAt.instr {p : Prog} {a : Nat} {i : Instr} {r : Code} (h : CodeAt p a (i :: r)) : InstrAt p a i := by
  obtain ⟨pre, post, hc, rfl, ho, _⟩ := h
  exact .of_split (post := r ++ post) (by rw [hc]; simp) (ho i (by simp))

theorem CodeAt.fetch_end {p : Prog} {a : Nat} {c : Code} (h : CodeAt p a c) :
    ∃ w, VM.fetch p (a + codeLen c) = .ok w := by
  obtain ⟨pre, post, hc, rfl, ho, hp⟩ := h
  cases post with
  | nil => exact absurd rfl hp
  | cons i post =>
    exact ⟨_, codeLen_append pre c ▸ (InstrAt.of_split (pre := pre ++ c) (by rw [hc]) (ho i (by simp))).fetch⟩

/-! `CodeAt.cons0`, `.cons1`, `.cons2`, `.app` take a code list apart from the front; the positions come out as sums with
the lengths passed so far. -/

theorem CodeAt.cons0 {p : Prog} {a op : Nat} {c : Code} (h : CodeAt p a (i0 op :: c)) :
    InstrAt p a (i0 op) ∧ CodeAt p (a + 1) c := ⟨h.instr, h.right (x := [i0 op])⟩

theorem CodeAt.cons1 {p : Prog} {a op : Nat} {x : Int} {c : Code} (h : CodeAt p a (i1 op x :: c)) :
    InstrAt p a (i1 op x) ∧ CodeAt p (a + 2) c := ⟨h.instr, h.right (x := [i1 op x])⟩

theorem CodeAt.cons2 {p : Prog} {a op : Nat} {x y : Int} {c : Code} (h : CodeAt p a (i2 op x y :: c)) :
    InstrAt p a (i2 op x y) ∧ CodeAt p (a + 3) c := ⟨h.instr, h.right (x := [i2 op x y])⟩

theorem CodeAt.app {p : Prog} {a : Nat} {x y : Code} (h : CodeAt p a (x ++ y)) : CodeAt p a x ∧ CodeAt p (a + codeLen x) y :=
  ⟨h.left', h.right⟩

theorem CodeAt.drop {p : Prog} {a b : Nat} {c y : Code} (h : CodeAt p a c) (x : Code) (hc : c = x ++ y)
    (hb : a + codeLen x = b) : CodeAt p b y := by
  subst hc hb; exact h.right

theorem CodeAt.fetch_at {p : Prog} {a b : Nat} {c y : Code} (h : CodeAt p a c) (x : Code) (hc : c = x ++ y)
    (hb : a + codeLen x = b) : ∃ w, VM.fetch p b = .ok w := by
  subst hc hb; exact h.left'.fetch_end

theorem CodeAt.fetch_start {p : Prog} {a : Nat} {c : Code} (h : CodeAt p a c) : ∃ w, VM.fetch p a = .ok w :=
  h.fetch_at [] rfl rfl

def Computes (X : Setup) (a : Nat) (c : Code) (f : Spec.St → List Spec.St) : Prop :=
  CodeAt X.p a c → Runs X a (a + codeLen c) f

theorem Computes.nil {X : Setup} {a : Nat} : Computes X a [] fun st => [st] :=
  fun _ _ _ _ v _ _ _ he => Delivers.single (v := v) (Leads.here he) rfl

theorem Computes.at {X : Setup} {a a' : Nat} {c : Code} {f : Spec.St → List Spec.St} (h : Computes X a c f) (ha : a = a') :
    Computes X a' c f := ha ▸ h

theorem Computes.to {X : Setup} {a : Nat} {c c' : Code} {f f' : Spec.St → List Spec.St} (h : Computes X a c f) (hc : c = c')
    (hf : f = f') : Computes X a c' f' := hc ▸ hf ▸ h

/-- For `f = m se p d`, `hwf` is `Spec.m_wf se p d` and the conclusion's function is `m se (.seq p q) false`
    (`Spec.m_seq_ltr` of Lemmas/Rewrites.lean); right to left the code order is `q` then `p` (`Spec.m_seq_rtl`) -/
theorem Computes.seq {X : Setup} {a : Nat} {c c' : Code} {f g : Spec.St → List Spec.St} (h1 : Computes X a c f)
    (h2 : Computes X (a + codeLen c) c' g) (hwf : ∀ st, Spec.St.wf X.se.n st → ∀ r ∈ f st, Spec.St.wf X.se.n r) :
    Computes X a (c ++ c') fun st => (f st).flatMap g := by
  intro hcode i T S v C s hst he
  refine (Delivers.bind (b := a + codeLen c + codeLen c') _ s (h1 hcode.left' i T S v C s hst he)
    fun r hr F s' v' _ he' => ?_).cast (by rw [codeLen_append, Nat.add_assoc]) rfl
  exact h2 hcode.right r.pos (F ++ T) S v' r.caps s' (hwf _ hst r hr) he'

theorem InstrAt.operand {p : Prog} {a : Nat} {i : Instr} (h : InstrAt p a i) {s : VMState} (hs : s.codepos = a)
    (k : Nat) (v : Int) (hv : i.args[k]? = some v) : VM.operand p s k = .ok v := by
  have hk : k < i.args.length := (List.getElem?_eq_some_iff.1 hv).1
  unfold VM.operand
  rw [hs, h.arg k hk, hv]

/-- the same for a state written out, as a rewrite rule -/
theorem InstrAt.operand_at {p : Prog} {a : Nat} {i : Instr} (h : InstrAt p a i) (k : Nat) (v : Int) (hv : i.args[k]? = some v)
    (w : Word) (tp : Int) (tr st : List Int) (cap : MatchBuilder.Runner) :
    VM.operand p ⟨a, w, tp, tr, st, cap⟩ k = .ok v := h.operand rfl k v hv

end RegexVerif.Compile
