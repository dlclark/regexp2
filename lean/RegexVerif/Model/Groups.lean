/-
Model of the capture-group bookkeeping of dlclark/regexp2:

* `syntax/parser.go`: the pre-scan `countCaptures` with `noteCaptureSlot`, `noteCaptureName`,
  `assignNameSlots`, `assignOrderedNameSlots` (MaintainCaptureOrder / ECMAScript), and the part of
  the main parse (`scanGroupOpen`, `consumeAutocap`, `consumeCaptureSlot`) that decides into which
  number every group captures;
* `syntax/writer.go`: the dense remap of sparse numbers (`codeFromTree`, `mapCapnum`);
* `regexp.go`: `GetGroupNames`, `GetGroupNumbers`, `GroupNameFromNumber`, `GroupNumberFromName`;
* `match.go`: `GroupByNumber`, `GroupByName`, the names `Groups()` hands out;
* the resolution of `\N`, `\k<name>` (parser) and `$N`, `${name}` (`scanDollar`, `replacerdata.go`).

Input: the group-opening events of a pattern in the order of their opening parentheses.  Go maps
are association lists in insertion order; `Code.Caps` (number ↦ dense slot) is the list `l` standing
for `l[i] ↦ i`.  Numbers are unbounded `Nat` (the `math.MaxInt32` special case of `noteCaptureSlot`
is outside the model).  The model describes the code as it is after the fixes 2bf8733, 9af4686,
4181360, 14b4ba0, 4579bd8 of /repo (design.d/C17.md, "findings, fixed").
-/
namespace RegexVerif.Groups

inductive Event where
  /-- `( … )` -/
  | unnamed
  /-- `(?<name> … )`, `(?'name' … )`, `(?P<name> … )` -/
  | named (name : String)
  /-- `(?<k> … )` with `k` written without a leading zero -/
  | numbered (k : Nat)
  /-- `(?<0k> … )`: the same number written with leading zeros (a separate event kind because the
      code used to treat it differently; since 14b4ba0 the pre-scan reserves it like `numbered k`) -/
  | numbered0 (k : Nat)
  /-- `(?: … )` and every other non-capturing construct -/
  | noncap
  deriving DecidableEq, Repr

structure Cfg where
  /-- `OptionMaintainCaptureOrder()` -/
  mco : Bool := false
  /-- `ECMAScript` -/
  ecma : Bool := false
  /-- `ExplicitCapture` as a compile option -/
  explicitCapture : Bool := false
  deriving DecidableEq, Repr

/-- `parser.maintainCaptureOrder` (set in `Parse`) -/
def Cfg.ord (c : Cfg) : Bool := c.mco || c.ecma

/-- `strconv.Itoa` -/
def itoa (n : Nat) : String := toString n

/-! ### association lists standing for Go maps -/

/-- `m[k] = v` -/
def setKey (k : String) (v : Nat) : List (String × Nat) → List (String × Nat)
  | [] => [(k, v)]
  | (k', v') :: rest => if k' = k then (k, v) :: rest else (k', v') :: setKey k v rest

/-- position of the first occurrence -/
def idxOf? (x : Nat) : List Nat → Option Nat
  | [] => none
  | y :: ys => if y = x then some 0 else (idxOf? x ys).map (· + 1)

/-- the insertion step of `isort`, which stands for `sort.Ints` -/
def insertSorted (x : Nat) : List Nat → List Nat
  | [] => [x]
  | y :: ys => if x ≤ y then x :: y :: ys else y :: insertSorted x ys

def isort : List Nat → List Nat
  | [] => []
  | x :: xs => insertSorted x (isort xs)

/-! ### the pre-scan -/

/-- the parser fields the capture bookkeeping uses -/
structure PState where
  /-- keys of `p.caps` in insertion order (`p.capcount` is its length) -/
  caps : List Nat := []
  captop : Nat := 0
  autocap : Nat := 0
  /-- `p.capnames` (`none` = nil map) -/
  capnames : Option (List (String × Nat)) := none
  capnamelist : List String := []
  deriving Repr

/-- `noteCaptureSlot` -/
def noteSlot (i : Nat) (s : PState) : PState :=
  if i ∈ s.caps then s
  else { s with caps := s.caps ++ [i], captop := if s.captop ≤ i then i + 1 else s.captop }

/-- `noteCaptureName`; `none` = `ErrDuplicateGroupName` -/
def noteName (cfg : Cfg) (name : String) (s : PState) : Option PState :=
  let names := s.capnames.getD []
  if (names.lookup name).isSome then
    if cfg.ecma then none else some { s with capnames := some names }
  else if cfg.ord then
    let slot := s.autocap
    some (noteSlot slot { s with autocap := slot + 1, capnames := some (names ++ [(name, slot)]),
                                 capnamelist := s.capnamelist ++ [name] })
  else
    -- the value stored here is a pattern position, overwritten by `assignNameSlots`
    some { s with capnames := some (names ++ [(name, 0)]), capnamelist := s.capnamelist ++ [name] }

/-- one `(` of `countCaptures` -/
def scanEvent (cfg : Cfg) (s : PState) : Event → Option PState
  | .noncap => some s
  | .unnamed =>
    if cfg.explicitCapture then some s
    else some (noteSlot s.autocap { s with autocap := s.autocap + 1 })
  | .numbered k =>
    if cfg.ecma then some s          -- a digit does not start an ECMAScript group name: nothing noted
    else if cfg.ord then noteName cfg (itoa k) s
    else some (noteSlot k s)
  | .numbered0 k =>                  -- `(ch != '0' || !useOptionE)`: scanDecimal drops the zeros
    if cfg.ecma then some s
    else if cfg.ord then noteName cfg (itoa k) s
    else some (noteSlot k s)
  | .named name => noteName cfg name s

def scanEvents (cfg : Cfg) : List Event → PState → Option PState
  | [], s => some s
  | e :: es, s => (scanEvent cfg s e).bind (scanEvents cfg es)

/-- state after `noteCaptureSlot(0, 0); autocap = 1` -/
def initState : PState := { caps := [0], captop := 1, autocap := 1 }

/-- `for p.isCaptureSlot(p.autocap) { p.autocap++ }`, with fuel (every slot is below `captop`, so
    `captop - a` steps suffice: `nextFree_spec`) -/
def nextFree (caps : List Nat) : Nat → Nat → Nat
  | 0, a => a
  | f + 1, a => if a ∈ caps then nextFree caps f (a + 1) else a

/-- first loop of `assignNameSlots`: names get the free numbers from `autocap` on -/
def assignLoop : List String → PState → PState
  | [], s => s
  | name :: rest, s =>
    let a := nextFree s.caps (s.captop - s.autocap) s.autocap
    let s1 := noteSlot a { s with autocap := a, capnames := some (setKey name a (s.capnames.getD [])) }
    assignLoop rest { s1 with autocap := a + 1 }

/-- `capnumlist`: the sorted list of used numbers, built only when there is a gap -/
def capnumlistOf (s : PState) : Option (List Nat) :=
  if s.caps.length < s.captop then some (isort s.caps) else none

/-- the merge loop of `assignNameSlots`: walks the used numbers `js` and the old name list in
    parallel; `next` is `capnames[old[k]]` as read when `k` advanced (`none` = -1).
    Returns the new `capnamelist` and the updated `capnames`. -/
def mergeNames : List Nat → List String → Option Nat → List (String × Nat) →
    List String × List (String × Nat)
  | [], _, _, cn => ([], cn)
  | j :: js, old, next, cn =>
    match (if next = some j then old else []) with
    | nm :: old' =>
      let r := mergeNames js old' (old'.head?.bind (fun n => cn.lookup n)) cn
      (nm :: r.1, r.2)
    | [] =>
      -- (`next = some j` with the old list used up cannot happen: `next` is -1 then)
      let r := mergeNames js old next (setKey (itoa j) j cn)
      (itoa j :: r.1, r.2)

/-- tables the parser hands over (`RegexTree`) -/
structure Tables where
  caps : List Nat
  capnumlist : Option (List Nat)
  captop : Nat
  capnames : Option (List (String × Nat))
  caplist : Option (List String)
  deriving Repr

/-- `assignNameSlots` after its first loop: `capnumlist` and the merge of numbers and names -/
def finishNames (s : PState) : Tables :=
  let cnl := capnumlistOf s
  if s.capnames.isSome || cnl.isSome then
    let js := cnl.getD (List.range s.caps.length)
    let cn := s.capnames.getD []
    let old := if s.capnames.isSome then s.capnamelist else []
    let r := mergeNames js old (old.head?.bind (fun n => cn.lookup n)) cn
    { caps := s.caps, capnumlist := cnl, captop := s.captop, capnames := some r.2, caplist := some r.1 }
  else
    { caps := s.caps, capnumlist := cnl, captop := s.captop, capnames := none, caplist := none }

/-- `assignNameSlots` without MaintainCaptureOrder -/
def assignNameSlots (s0 : PState) : Tables :=
  finishNames (if s0.capnames.isSome then assignLoop s0.capnamelist s0 else s0)

/-- `capnamelist[index] = name` for every name, `index` = position of its slot -/
def placeNames (cnl : Option (List Nat)) (cn : List (String × Nat)) : List String → List String → List String
  | [], cl => cl
  | name :: rest, cl =>
    let slot := (cn.lookup name).getD 0
    let index := match cnl with
      | some l => (idxOf? slot l).getD slot
      | none => slot
    placeNames cnl cn rest (cl.set index name)

/-- second loop of `assignOrderedNameSlots` (not run under ECMAScript): unnamed slots get their
    decimal number as name; a name enters `capnames` only if it is not there yet -/
def fillNames : List Nat → List String → List (String × Nat) → List String × List (String × Nat)
  | slot :: slots, nm :: cl, cn =>
    let nm' := if nm = "" then itoa slot else nm
    let cn' := if (cn.lookup nm').isSome then cn else cn ++ [(nm', slot)]
    let r := fillNames slots cl cn'
    (nm' :: r.1, r.2)
  | _, _, cn => ([], cn)

/-- `assignOrderedNameSlots` -/
def assignOrderedNameSlots (cfg : Cfg) (s : PState) : Tables :=
  if !cfg.ecma && s.capnames.isNone && s.caps.length = s.captop then
    { caps := s.caps, capnumlist := none, captop := s.captop, capnames := none, caplist := none }
  else
    let cnl := capnumlistOf s
    let cn := s.capnames.getD []
    let cl := placeNames cnl cn s.capnamelist (List.replicate s.caps.length "")
    let slots := cnl.getD (List.range s.caps.length)
    if cfg.ecma then
      { caps := s.caps, capnumlist := cnl, captop := s.captop, capnames := some cn, caplist := some cl }
    else
      let r := fillNames slots cl cn
      { caps := s.caps, capnumlist := cnl, captop := s.captop, capnames := some r.2, caplist := some r.1 }

/-- `countCaptures`: `none` = the pre-scan reports an error -/
def countCaptures (cfg : Cfg) (evs : List Event) : Option Tables :=
  (scanEvents cfg evs initState).map fun s =>
    if cfg.ord then assignOrderedNameSlots cfg s else assignNameSlots s

/-! ### the main parse: the number every group captures into -/

/-- the digit branch of `scanGroupOpen`: the capture number of `(?<k>…)`.  `none` = parse error
    (`ErrInvalidECMAGroupName`, `ErrCapNumNotZero`, `ErrUnrecognizedGrouping`).  In pattern-order
    mode the pre-scan booked the group under the name `Itoa(k)`: it captures into that slot. -/
def explicitNumber (cfg : Cfg) (t : Tables) (k : Nat) : Option Nat :=
  if cfg.ecma || k = 0 then none
  else if cfg.ord then t.capnames.bind (fun cn => cn.lookup (itoa k))
  else if k ∈ t.caps then some k else none

/-- `scanGroupOpen` for the events in order; `a` is `autocap`.  `none` = parse error
    (`ErrUnrecognizedGrouping`, `ErrCapNumNotZero`, `ErrInvalidECMAGroupName`). -/
def groupNumbers (cfg : Cfg) (t : Tables) : List Event → Nat → Option (List (Option Nat))
  | [], _ => some []
  | .noncap :: es, a => (groupNumbers cfg t es a).map (none :: ·)
  | .unnamed :: es, a =>
    if cfg.explicitCapture then (groupNumbers cfg t es a).map (none :: ·)
    else (groupNumbers cfg t es (a + 1)).map (some a :: ·)
  | .named name :: es, a =>
    match t.capnames.bind (fun cn => cn.lookup name) with
    | some k => (groupNumbers cfg t es (if cfg.ord && k = a then a + 1 else a)).map (some k :: ·)
    | none => none
  | .numbered k :: es, a =>
    match explicitNumber cfg t k with
    | some c => (groupNumbers cfg t es (if cfg.ord && c = a then a + 1 else a)).map (some c :: ·)
    | none => none
  | .numbered0 k :: es, a =>
    match explicitNumber cfg t k with
    | some c => (groupNumbers cfg t es (if cfg.ord && c = a then a + 1 else a)).map (some c :: ·)
    | none => none

/-! ### writer and the compiled regexp -/

/-- everything `Regexp`, `Match` and the replacement parser consult -/
structure Maps where
  ecma : Bool
  /-- keys of the parser's `caps` (what `isCaptureSlot` answers during the main parse) -/
  caps : List Nat
  capnumlist : Option (List Nat)
  captop : Nat
  /-- `re.capnames` -/
  capnames : Option (List (String × Nat))
  /-- `re.capslist` -/
  caplist : Option (List String)
  /-- `re.caps` = `Code.Caps`: `some l` stands for the map `l[i] ↦ i`, `none` for nil -/
  codeCaps : Option (List Nat)
  /-- `re.capsize` = `Code.Capsize` -/
  capsize : Nat
  /-- per event: the group number it captures into (`none`: not capturing) -/
  evNums : List (Option Nat)
  deriving Repr

/-- `codeFromTree`: dense remap when some numbers are unused -/
def writerCaps (t : Tables) : Option (List Nat) × Nat :=
  match t.capnumlist with
  | none => (none, t.captop)
  | some l => if t.captop = l.length then (none, t.captop) else (some l, l.length)

/-- `Parse` + `Write` as far as groups are concerned -/
def assign (evs : List Event) (cfg : Cfg) : Option Maps :=
  (countCaptures cfg evs).bind fun t =>
    (groupNumbers cfg t evs 1).map fun ns =>
      let (cc, cs) := writerCaps t
      { ecma := cfg.ecma, caps := t.caps, capnumlist := t.capnumlist, captop := t.captop,
        capnames := t.capnames, caplist := t.caplist, codeCaps := cc, capsize := cs, evNums := ns }

/-- `writer.mapCapnum` (for a number that is in the map) -/
def slotOf (m : Maps) (n : Nat) : Option Nat :=
  match m.codeCaps with
  | none => some n
  | some l => idxOf? n l

/-- `GetGroupNames` -/
def getGroupNames (m : Maps) : List String :=
  match m.caplist with
  | none => (List.range m.capsize).map itoa
  | some cl => cl

/-- `GetGroupNumbers` (`result[v] = k` over the map `l[i] ↦ i`) -/
def getGroupNumbers (m : Maps) : List Nat :=
  match m.codeCaps with
  | none => List.range m.capsize
  | some l => l

/-- `GroupNameFromNumber` -/
def groupNameFromNumber (m : Maps) (i : Nat) : String :=
  match m.caplist with
  | none => if i < m.capsize then itoa i else ""
  | some cl =>
    match m.codeCaps with
    | some l =>
      match idxOf? i l with
      | none => ""
      | some s => cl.getD s ""
    | none => cl.getD i ""

/-- `GroupNumberFromName` (`none` = -1) -/
def groupNumberFromName (m : Maps) (name : String) : Option Nat :=
  match m.capnames with
  | some cn => cn.lookup name
  | none =>
    -- the decimal string of a group number: not empty, no leading zero, digits only, in range
    -- (the early `result >= capsize` exit of the loop answers as the final range check does)
    match name.toList with
    | [] => none
    | c :: rest =>
      if c = '0' && !rest.isEmpty then none
      else if (c :: rest).all Char.isDigit then
        let r := Nat.ofDigitChars 10 (c :: rest) 0
        if r < m.capsize then some r else none
      else none

/-- `Match.GroupByNumber`: the dense slot it returns (`none` = nil) -/
def groupByNumberSlot (m : Maps) (num : Nat) : Option Nat :=
  match m.codeCaps with
  | some l => idxOf? num l                -- a number missing from the sparse map: nil
  | none => if num < m.capsize then some num else none

/-- `Match.GroupByName` -/
def groupByNameSlot (m : Maps) (name : String) : Option Nat :=
  (groupNumberFromName m name).bind (groupByNumberSlot m)

/-- `Regexp.groupNameFromSlot` -/
def groupNameFromSlot (m : Maps) (s : Nat) : String :=
  match m.caplist with
  | none => if s < m.capsize then itoa s else ""
  | some cl => cl.getD s ""

/-- `Group.Name` of `Match.Groups()[s]` (`newMatch` for group 0, `populateOtherGroups` for the rest) -/
def groupsName (m : Maps) (s : Nat) : String :=
  if s = 0 then (if m.ecma then "" else "0") else groupNameFromSlot m s

/-- `\N` / `\k<N>`: `isCaptureSlot` on the parser's table, then `mapCapnum` -/
def backrefSlot (m : Maps) (n : Nat) : Option Nat :=
  if n ∈ m.caps then slotOf m n else none

/-- `\k<name>`, `(?P=name)` -/
def backrefNameSlot (m : Maps) (name : String) : Option Nat :=
  (m.capnames.bind (fun cn => cn.lookup name)).bind (slotOf m)

/-- `$N` / `${N}`: `scanDollar` with `caps = re.caps`, `capsize = re.capsize`, then
    `slot = caps[slot]` in `NewReplacerData` -/
def replSlot (m : Maps) (n : Nat) : Option Nat :=
  match m.codeCaps with
  | some l => idxOf? n l
  | none => if n < m.capsize then some n else none

/-- `${name}` -/
def replNameSlot (m : Maps) (name : String) : Option Nat :=
  (m.capnames.bind (fun cn => cn.lookup name)).bind fun k =>
    match m.codeCaps with
    | some l => idxOf? k l
    | none => some k

/-- the dense slot the `i`-th group of the pattern writes its captures to -/
def evSlot (m : Maps) (i : Nat) : Option Nat :=
  (m.evNums[i]?).join.bind (slotOf m)

end RegexVerif.Groups
