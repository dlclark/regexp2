/-
The tree REDUCER of dlclark/regexp2 as ONE executable function: from the tree the parser builds
(`Parser.RawTree`, hook `syntax.VerifParseRaw`) to the tree the writer reads (`Writer.GoNode`), i.e.

  "`addChild` reduces every child as it is added (`RegexNode.reduce`), the root is not reduced, then
   `finalOptimize`"                                   (`syntax.VerifReduce`, = what `syntax.Parse` does)

and the composition `compilePattern = emit ∘ reduceTree ∘ parse`.

`Node` mirrors `RegexNode` with ALL its fields (numeric node type, full option word, Ch, Str, Set, M, N,
children): the Go code reads and copies full option words (`n.Options != subsequent.Options`), keeps a stale
`Ch` on a Set node that a merge made out of a One, and compares it later.

What is REUSED from `Model/RewriteDecisions.lean` (on its n-ary tree `RNode`, through the explicit total
conversions `toR` / `fromR`): `reduceAlt` (nested alternations, letter merging, both prefix extractions,
redundant empties), `reduceCat` (Nothing, adjacent loops, adjacent strings, flattening), `reduceAtomic`
(nested Atomic, `makeLoopAtomic`, the alternation block), `reduceCP` (`reduceSet`), `makeLoopAtomic`,
`placeBump`.  Their callback `red` (= `reduce()` of a node built by the rewrite) is THIS file's `reduce`.

What is added here: the `IgnoreCase` stripping at the top of `reduce()`, `reduceGroup`, `reduceRep` (nested
repeater multiplication with the overflow clamps and the "too lumpy" guards, Empty child, `min == MaxInt32`,
single-character child → One/Notone/Set loop), `reduceLookaround`, both conditional reductions,
`eliminateEndingBacktracking` in full (`elim`), `FindLastExpressionInLoopForAutoAtomic`, `canBeMadeAtomic`
line by line (`cbma`; the parent walk is a list of frames), `findAndMakeLoopsAtomic` / `processNode`
(`faml`, `processNode`), `finalOptimize`.

`toR` keeps every field `RNode` has no room for: a node of a type the reused functions never inspect
(anchors, Ref, Loop, Capture, lookarounds, Atomic as a child, conditionals, the marker) travels as
`alt tag [cat tag [payload]]` — two singleton wrappers, one of which survives `flatAlts` / `flatCats`;
`altOf [p] = p = seqOf [p]`, so the wrapper is invisible to `RewriteDecisions.toPat`.  The tag
(≥ 2⁴⁰, option words are < 2¹⁶) packs node type, option word, M, N and arity.

Unicode knowledge is an oracle (`Orc`): `CharSet.CharIn`, `CharSet.MayOverlap`, `IsWordChar`,
`IsECMAWordChar`, keyed by the structural code of a set (`encodeSet`), supplied per case by the harness.
-/
import RegexVerif.Model.Parser
import RegexVerif.Model.RewriteDecisions
import RegexVerif.Model.Writer

namespace RegexVerif.Reduce
open RegexVerif.Spec (Cls)
open RegexVerif.RewriteDecisions (RNode CP LK)

/-! ## The tree -/

/-- `RegexNode`: `T` (the Go number), `Options` (the Go mask), `Ch`, `Str`, `Set`, `M`, `N`, `Children` -/
inductive Node where
  | mk (t o ch : Nat) (str : List Nat) (set : Option Class.Class) (m n : Int) (kids : List Node)
  deriving Repr, Inhabited

namespace Node
def t : Node → Nat | mk t .. => t
def o : Node → Nat | mk _ o .. => o
def ch : Node → Nat | mk _ _ ch .. => ch
def str : Node → List Nat | mk _ _ _ str .. => str
def set : Node → Option Class.Class | mk _ _ _ _ set .. => set
def m : Node → Int | mk _ _ _ _ _ m .. => m
def n : Node → Int | mk _ _ _ _ _ _ n _ => n
def kids : Node → List Node | mk _ _ _ _ _ _ _ kids => kids
def withKids : Node → List Node → Node
  | mk t o ch str set m n _, ks => mk t o ch str set m n ks
def withT : Node → Nat → Node
  | mk _ o ch str set m n ks, t => mk t o ch str set m n ks
def withO : Node → Nat → Node
  | mk t _ ch str set m n ks, o => mk t o ch str set m n ks
def withMN : Node → Int → Int → Node
  | mk t o ch str set _ _ ks, m, n => mk t o ch str set m n ks
/-- `Options & RightToLeft` -/
def rtl (x : Node) : Bool := x.o / 64 % 2 == 1
end Node

/-- a node without payload -/
def bareNode (t o : Nat) : Node := .mk t o 0 [] none 0 0 []

def maxInt32 : Int := 2147483647

-- node type numbers (`syntax.Nt…`)
def ntOneloop := 3
def ntNotoneloop := 4
def ntSetloop := 5
def ntOnelazy := 6
def ntNotonelazy := 7
def ntSetlazy := 8
def ntOne := 9
def ntNotone := 10
def ntSet := 11
def ntMulti := 12
def ntRef := 13
def ntEol := 15
def ntBoundary := 16
def ntNonboundary := 17
def ntEndZ := 20
def ntEnd := 21
def ntNothing := 22
def ntEmpty := 23
def ntAlternate := 24
def ntConcatenate := 25
def ntLoop := 26
def ntLazyloop := 27
def ntCapture := 28
def ntGroup := 29
def ntPosLook := 30
def ntNegLook := 31
def ntAtomic := 32
def ntBackRefCond := 33
def ntExprCond := 34
def ntECMABoundary := 41
def ntNonECMABoundary := 42
def ntOneloopatomic := 43
def ntNotoneloopatomic := 44
def ntSetloopatomic := 45
def ntUpdateBumpalong := 46

def isOneFamily (t : Nat) : Bool := t == 9 || t == 3 || t == 6 || t == 43
def isNotoneFamily (t : Nat) : Bool := t == 10 || t == 4 || t == 7 || t == 44
def isSetFamily (t : Nat) : Bool := t == 11 || t == 5 || t == 8 || t == 45
def isOneloopFamily (t : Nat) : Bool := t == 3 || t == 6 || t == 43
def isNotoneloopFamily (t : Nat) : Bool := t == 4 || t == 7 || t == 44
def isSetloopFamily (t : Nat) : Bool := t == 5 || t == 8 || t == 45
/-- the nine single-character loop types -/
def isCharLoop (t : Nat) : Bool := (3 ≤ t && t ≤ 8) || (43 ≤ t && t ≤ 45)

mutual
/-- the raw tree in this file's vocabulary -/
def ofRaw : Parser.RNode → Node
  | .mk t o ch str set m n kids => .mk t.toNat o.toMask ch str set m n (ofRaws kids)
def ofRaws : List Parser.RNode → List Node
  | [] => []
  | x :: xs => ofRaw x :: ofRaws xs
end

/-! ## Sets: `Class.Class` (the parser's) ↔ `Spec.Cls` (the rewrite model's), and the structural code -/

/-- `Spec.Cls` has no field for `anything`.  `makeAnything` leaves the positive class `[0, MaxRune]` without
    categories, and a subtraction-free positive class of that shape is `anything` (`canonicalize`); the flag
    is also set on classes with a subtraction or a negation (`[\w\W-[B]]`): there it travels as a pseudo
    category at the end of the names (such classes are never merged, only compared and copied). -/
def anyMark : Nat × Bool := (4294967295, false)

def plainAnything (neg : Bool) (rs : List (Nat × Nat)) (ns : List (Nat × Bool)) : Bool :=
  !neg && ns.isEmpty && rs == [(0, Class.maxRune)]

def baseOf (f : Class.Flat) (hasSub : Bool) : Cls :=
  .base f.neg f.ranges (if f.anything && (hasSub || !plainAnything f.neg f.ranges f.cats) then f.cats ++ [anyMark] else f.cats)

def clsOf : Class.Class → Cls
  | .leaf f => baseOf f false
  | .minus f s => .diff (baseOf f true) (clsOf s)

def flatOf (neg : Bool) (rs : List (Nat × Nat)) (ns : List (Nat × Bool)) (hasSub : Bool) : Class.Flat :=
  if ns.getLast? == some anyMark then { ranges := rs, cats := ns.dropLast, neg := neg, anything := true }
  else { ranges := rs, cats := ns, neg := neg, anything := !hasSub && plainAnything neg rs ns }

def clsFlat : Cls → Class.Flat
  | .base neg rs ns => flatOf neg rs ns true
  | .diff a _ => clsFlat a

def classOf : Cls → Class.Class
  | .base neg rs ns => .leaf (flatOf neg rs ns false)
  | .diff a b => .minus (clsFlat a) (classOf b)

/-- the structural code of a set: what `mapHashFill` writes, with category ids for names
    (`[negate + 2·anything, #ranges, #categories, first, last, …, id, negated, …]`, then the subtracted set) -/
def encodeFlat (f : Class.Flat) : List Nat :=
  [(if f.neg then 1 else 0) + (if f.anything then 2 else 0), f.ranges.length, f.cats.length] ++
    f.ranges.flatMap (fun r => [r.1, r.2]) ++ f.cats.flatMap (fun c => [c.1, if c.2 then 1 else 0])

def encodeSet : Class.Class → List Nat
  | .leaf f => encodeFlat f
  | .minus f s => encodeFlat f ++ encodeSet s

def setCode (x : Node) : List Nat :=
  match x.set with
  | some c => encodeSet c
  | none => []

/-! ## The oracle -/

structure Orc where
  /-- `set.CharIn(ch)`, the set by its code -/
  charIn : List Nat → Nat → Bool
  /-- `set1.MayOverlap(set2)` -/
  overlap : List Nat → List Nat → Bool
  /-- `syntax.IsWordChar` -/
  isWord : Nat → Bool
  /-- `syntax.IsECMAWordChar` -/
  isEcmaWord : Nat → Bool

/-! ## `Node` ↔ `RNode` -/

def tagBase : Nat := 1099511627776  -- 2^40
def isTag (o : Nat) : Bool := decide (tagBase ≤ o)

def packTag (arity t o : Nat) (m n : Int) : Nat :=
  tagBase + (arity + 4 * (t + 64 * (o % 65536 + 65536 * ((m + 1).toNat % 8589934592 + 8589934592 * (n + 1).toNat))))

structure Tag where
  arity : Nat
  t : Nat
  o : Nat
  m : Int
  n : Int

def unpackTag (tag : Nat) : Tag :=
  let x := tag - tagBase
  let x1 := x / 4
  let x2 := x1 / 64
  let x3 := x2 / 65536
  { arity := x % 4, t := x1 % 64, o := x2 % 65536,
    m := ((x3 % 8589934592 : Nat) : Int) - 1, n := ((x3 / 8589934592 : Nat) : Int) - 1 }

def hiOf (n : Int) : Option Nat := if n ≥ maxInt32 then none else some n.toNat
def nOf : Option Nat → Int
  | none => maxInt32
  | some h => (h : Int)

/-- the test of a One / Notone / Set family node -/
def cpOf (x : Node) : CP :=
  if isOneFamily x.t then .one x.ch
  else if isNotoneFamily x.t then .notone x.ch
  else match x.set with
    | some c => .set (clsOf c)
    | none => .set (.base false [] [])

def kindOf (t : Nat) : LK :=
  if t ≤ 5 then .greedy else if t ≤ 8 then .lzy else .atomic

/-- the option word with the stale `Ch` of a Set-family node folded in (`RewriteDecisions.mergedOpts`) -/
def optsR (x : Node) : Nat := if isSetFamily x.t then x.o + x.ch * 65536 else x.o

/-- the anchor of a node type (the two ECMAScript boundaries have no constructor of their own; the tag keeps
    the exact type) -/
def anchorOf (t : Nat) : Spec.Anchor :=
  if t == 14 then .bol else if t == 15 then .eol else if t == 16 then .boundary else if t == 17 then .nonboundary
  else if t == 18 then .beginning else if t == 19 then .start else if t == 20 then .endz else if t == 21 then .«end»
  else if t == 41 then .boundary else .nonboundary

/-- the payload of a wrapped node: its natural `RNode` (an `RNode` constructor none of the reused functions
    looks into), so that `RewriteDecisions.toPat` of the wrapper is the node's own denotation -/
def payload (t o : Nat) (m n : Int) : List RNode → RNode
  | [] => if t == 13 then .ref m.toNat (o % 2 == 1) else if t == 46 then .bump else .anchor (anchorOf t)
  | [a] =>
    if t == 26 then .loop false m.toNat (hiOf n) a
    else if t == 27 then .loop true m.toNat (hiOf n) a
    else if t == 30 then .look (o / 64 % 2 == 1) false a
    else if t == 31 then .look (o / 64 % 2 == 1) true a
    else if t == 32 then .atomic a
    else if t == 33 then .refCond m.toNat a .empty
    else .cap m.toNat a
  | [a, b] => if t == 34 then .exprCond a b .empty else .refCond m.toNat a b
  | a :: b :: c :: _ => .exprCond a b c

mutual
/-- `Node → RNode` (total; loses nothing the reducer reads: see the header) -/
def toR : Node → RNode
  | .mk t o ch str set m n kids =>
    let x : Node := .mk t o ch str set m n []
    if t == 9 || t == 10 || t == 11 then .chr (optsR x) (cpOf x)
    else if isCharLoop t then .cloop (optsR x) (kindOf t) (cpOf x) m.toNat (hiOf n)
    else if t == 12 then .multi o str
    else if t == 23 then .empty
    else if t == 22 then .nothing
    else if t == 24 then .alt o (toRs kids)
    else if t == 25 then .cat o (toRs kids)
    else
      let tag := packTag (min kids.length 3) t o m n
      .alt tag [.cat tag [payload t o m n (toRs kids)]]
def toRs : List Node → List RNode
  | [] => []
  | x :: xs => toR x :: toRs xs
end

/-- the child counts `emitFragment` accepts for a node type (`Writer.GoNode.ok`) -/
def shapeOk (t k : Nat) : Bool :=
  if t == 24 || t == 25 then 1 ≤ k
  else if 26 ≤ t && t ≤ 32 then k == 1
  else if t == 33 then k == 1 || k == 2
  else if t == 34 then k == 2 || k == 3
  else k == 0 && ((3 ≤ t && t ≤ 23) || t == 41 || t == 42 || (43 ≤ t && t ≤ 46))

/-- a node of a shape the writer rejects becomes Empty (never happens on the trees the reducer builds: the
    reused functions return alternations / concatenations with at least two children and leave wrapped
    nodes alone; it makes `fromR` land in the writer's domain for EVERY `RNode`) -/
def fixShape (x : Node) : Node := if shapeOk x.t x.kids.length then x else bareNode 23 x.o

def cloopType (k : LK) (p : CP) : Nat :=
  (match p with | .one _ => 0 | .notone _ => 1 | .set _ => 2) +
  (match k with | .greedy => 3 | .lzy => 6 | .atomic => 43)

def cpNode (t o : Nat) (p : CP) (m n : Int) : Node :=
  match p with
  | .one c => .mk t (o % 65536) c [] none m n []
  | .notone c => .mk t (o % 65536) c [] none m n []
  | .set s => .mk t (o % 65536) (o / 65536) [] (some (classOf s)) m n []

/-- a wrapped node from its tag and the `Node` of its payload -/
def unwrap (tag : Nat) (payload : Node) : Node :=
  let g := unpackTag tag
  fixShape (.mk g.t g.o 0 [] none g.m g.n (payload.kids.take g.arity))

mutual
/-- `RNode → Node` (total; `fromR (toR x) = x` on the nodes the reducer meets) -/
def fromR : RNode → Node
  | .chr o p => cpNode (match p with | .one _ => 9 | .notone _ => 10 | .set _ => 11) o p 0 0
  | .cloop o k p lo hi => cpNode (cloopType k p) o p lo (nOf hi)
  | .multi o cs => .mk 12 (o % 65536) 0 cs none 0 0 []
  | .empty => bareNode 23 0
  | .nothing => bareNode 22 0
  | .bump => bareNode 46 0
  | .anchor _ => bareNode 23 0
  | .ref g _ => .mk 13 0 0 [] none g 0 []
  | .alt o cs =>
    if isTag o then
      match fromRs cs with
      | [x] => x
      | ks => fixShape (.mk 24 0 0 [] none 0 0 ks)
    else fixShape (.mk 24 o 0 [] none 0 0 (fromRs cs))
  | .cat o cs =>
    if isTag o then
      match fromRs cs with
      | [x] => unwrap o x
      | ks => fixShape (.mk 25 0 0 [] none 0 0 ks)
    else fixShape (.mk 25 o 0 [] none 0 0 (fromRs cs))
  | .loop lzy lo hi b => .mk (if lzy then 27 else 26) 0 0 [] none lo (nOf hi) [fromR b]
  | .cap g b => .mk 28 0 0 [] none g (-1) [fromR b]
  | .look bh ng b => .mk (if ng then 31 else 30) (if bh then 64 else 0) 0 [] none 0 0 [fromR b]
  | .atomic b => .mk 32 0 0 [] none 0 0 [fromR b]
  | .refCond g y n => .mk 33 0 0 [] none g 0 [fromR y, fromR n]
  | .exprCond c y n => .mk 34 0 0 [] none 0 0 [fromR c, fromR y, fromR n]
def fromRs : List RNode → List Node
  | [] => []
  | x :: xs => fromR x :: fromRs xs
end

/-! ## `makeLoopAtomic`, `reduceSet` (reused) -/

/-- `makeLoopAtomic` on a single-character loop (any other node is left alone) -/
def makeLoopAtomic (x : Node) : Node :=
  if isCharLoop x.t then
    match fromR (RewriteDecisions.makeLoopAtomic (toR x)) with
    | .mk t _ ch str set m n ks => .mk t x.o ch str set m n ks
  else x

/-- `reduceSet` -/
def reduceSet (x : Node) : Node :=
  match x.set with
  | none => x.withT ntNothing
  | some c =>
    match RewriteDecisions.reduceCP (.set (clsOf c)) with
    | .one a => .mk (x.t - 2) x.o a x.str none x.m x.n x.kids
    | .notone a => .mk (x.t - 1) x.o a x.str none x.m x.n x.kids
    | .set _ => x

/-! ## `canBeMadeAtomic` -/

/-- the constant classes `canBeMadeAtomic` compares a Setloop's set with in front of a word boundary
    (category ids as in `Model/Parser.lean`: 1 = "W", 2 = "Nd") -/
def wordClassCode : List Nat := [0, 0, 1, 1, 0]
def digitClassCode : List Nat := [0, 0, 1, 2, 0]
def notWordClassCode : List Nat := [1, 0, 1, 1, 0]
def notDigitClassCode : List Nat := [0, 0, 1, 2, 1]
def ecmaWordClassCode : List Nat := [0, 4, 0, 48, 57, 65, 90, 95, 95, 97, 122]
def ecmaDigitClassCode : List Nat := [0, 1, 0, 48, 57]
def notEcmaWordClassCode : List Nat := [0, 5, 0, 0, 47, 58, 64, 91, 94, 96, 96, 123, 1114111]

inductive Verdict where
  | yes | next | no
  deriving DecidableEq, Repr

/-- the three `if … else if …` blocks of `canBeMadeAtomic` after the options test and the alternation case:
    `yes` = `return true`, `next` = `goto end`, `no` = `return false` -/
def verdict (orc : Orc) (n s : Node) (allowLazy : Bool) : Verdict :=
  let st := s.t
  let s0 := s.str.head?
  if n.t == ntOneloop || (n.t == ntOnelazy && allowLazy) then
    if (st == ntOne && n.ch != s.ch) ||
       (st == ntNotone && n.ch == s.ch) ||
       (st == ntSet && !orc.charIn (setCode s) n.ch) ||
       (isOneFamily st && s.m > 0 && n.ch != s.ch) ||
       (isNotoneFamily st && s.m > 0 && n.ch == s.ch) ||
       (isSetFamily st && s.m > 0 && !orc.charIn (setCode s) n.ch) ||
       (st == ntMulti && some n.ch != s0) ||
       (st == ntEnd) ||
       (st == ntEndZ && n.ch != 10) ||
       (st == ntEol && n.ch != 10) then .yes
    else if (isOneloopFamily st && s.m == 0 && n.ch != s.ch) ||
       (isNotoneloopFamily st && s.m == 0 && n.ch == s.ch) ||
       (isSetloopFamily st && s.m == 0 && !orc.charIn (setCode s) n.ch) ||
       (st == ntBoundary && n.m > 0 && orc.isWord n.ch) ||
       (st == ntNonboundary && n.m > 0 && !orc.isWord n.ch) ||
       (st == ntECMABoundary && n.m > 0 && orc.isEcmaWord n.ch) ||
       (st == ntNonECMABoundary && n.m > 0 && !orc.isEcmaWord n.ch) then .next
    else .no
  else if n.t == ntNotoneloop || (n.t == ntNotonelazy && allowLazy) then
    if (st == ntOne && n.ch == s.ch) ||
       (isOneFamily st && s.m > 0 && n.ch == s.ch) ||
       (st == ntMulti && some n.ch == s0) ||
       (st == ntEnd) then .yes
    else if isOneloopFamily st && s.m == 0 && n.ch == s.ch then .next
    else .no
  else if n.t == ntSetloop || (n.t == ntSetlazy && allowLazy) then
    let ns := setCode n
    if (st == ntOne && !orc.charIn ns s.ch) ||
       (st == ntSet && !orc.overlap ns (setCode s)) ||
       (isOneloopFamily st && s.m > 0 && !orc.charIn ns s.ch) ||
       (isSetloopFamily st && s.m > 0 && !orc.overlap ns (setCode s)) ||
       (st == ntMulti && !(match s0 with | some c => orc.charIn ns c | none => true)) ||
       (st == ntEnd) ||
       (st == ntEndZ && !orc.charIn ns 10) ||
       (st == ntEol && !orc.charIn ns 10) then .yes
    else if (isOneloopFamily st && s.m == 0 && !orc.charIn ns s.ch) ||
       (isSetloopFamily st && s.m == 0 && !orc.overlap (setCode s) ns) ||
       (st == ntBoundary && n.m > 0 && (ns == wordClassCode || ns == digitClassCode)) ||
       (st == ntNonboundary && n.m > 0 && (ns == notWordClassCode || ns == notDigitClassCode)) ||
       (st == ntECMABoundary && n.m > 0 && (ns == ecmaWordClassCode || ns == ecmaDigitClassCode)) ||
       (st == ntNonECMABoundary && n.m > 0 && (ns == notEcmaWordClassCode || ns == notDigitClassCode)) then .next
    else .no
  else .no

/-- one step of the `Parent` chain of `subsequent`: the parent's type and the later siblings -/
abbrev Frame := Nat × List Node

/-- "skip the successor down to the closest node that's guaranteed to follow it" -/
def descend : Nat → Node → List Frame → Node × List Frame
  | 0, s, ctx => (s, ctx)
  | f + 1, s, ctx =>
    match s.kids with
    | [] => (s, ctx)
    | k :: rest =>
      if s.t == ntConcatenate || s.t == ntCapture || s.t == ntAtomic ||
         (s.t == ntPosLook && !s.rtl) || ((s.t == ntLoop || s.t == ntLazyloop) && s.m > 0) then
        descend f k ((s.t, rest) :: ctx)
      else (s, ctx)

/-- the walk up at label `end`: `none` = `return false`, `some none` = the root was reached (`return true`),
    `some (some (s, ctx))` = the next node in sequence -/
def walkUp : List Frame → Option (Option (Node × List Frame))
  | [] => some none
  | (t, rights) :: rest =>
    if t == ntAtomic || t == ntAlternate || t == ntCapture then walkUp rest
    else if t == ntConcatenate then
      match rights with
      | [] => walkUp rest
      | r :: rs => some (some (r, (ntConcatenate, rs) :: rest))
    else none

/-- `n.canBeMadeAtomic(subsequent, iterateNullableSubsequent, allowLazy)`; `ctx` = the `Parent` chain of
    `subsequent` (only read when `iterate`) -/
def cbma (orc : Orc) : Nat → Node → Node → List Frame → Bool → Bool → Bool
  | 0, _, _, _, _, _ => false
  | f + 1, n, sub0, ctx0, iterate, allowLazy =>
    let d := descend (f + 1) sub0 ctx0
    let sub := d.1
    let ctx := d.2
    if n.o != sub.o then false
    else if sub.t == ntAlternate || (sub.t == ntExprCond && sub.kids.length == 3) then
      sub.kids.all (fun k => cbma orc f n k ((sub.t, []) :: ctx) iterate false)
    else
      match verdict orc n sub allowLazy with
      | .yes => true
      | .no => false
      | .next =>
        if !iterate then false
        else
          match walkUp ctx with
          | none => false
          | some none => true
          | some (some (s, c)) => cbma orc f n s c iterate allowLazy

/-! ## `FindLastExpressionInLoopForAutoAtomic` -/

def lastOf : List Node → Option Node
  | [] => none
  | [x] => some x
  | _ :: y :: rest => lastOf (y :: rest)

def mapLast (g : Node → Node) : List Node → List Node
  | [] => []
  | [x] => [g x]
  | x :: y :: rest => x :: mapLast g (y :: rest)

/-- apply `g` to the node `FindLastExpressionInLoopForAutoAtomic` returns (the last child of the
    Concatenate under the captures of the loop body), if there is one; `none` = the Go function returns nil -/
def onLoopLast (orc : Orc) (cf : Nat) (g : Node → Node) : Nat → Node → Option Node
  | 0, _ => none
  | f + 1, body =>
    if body.t == ntCapture then
      match body.kids with
      | [k] => (onLoopLast orc cf g f k).map (fun k' => body.withKids [k'])
      | _ => none
    else if body.t == ntConcatenate then
      match body.kids, lastOf body.kids with
      | first :: _, some l =>
        if cbma orc cf l first [] false false then some (body.withKids (mapLast g body.kids)) else none
      | _, _ => none
    else none

/-! ## `reduceRep` -/

/-- `maxLessThanTwiceMin` -/
def maxLessThanTwiceMin (mx mn : Int) : Bool :=
  if mn ≤ maxInt32 / 2 then mx < mn * 2 else mx != maxInt32

/-- the multiplication of the child's bounds by the outer `min`, `max` -/
def mulBounds (u : Node) (mn mx : Int) : Node :=
  let m' := if u.m > 0 then (if (maxInt32 - 1) / u.m < mn then maxInt32 else u.m * mn) else u.m
  let n' := if u.n > 0 then (if (maxInt32 - 1) / u.n < mx then maxInt32 else u.n * mx) else u.n
  u.withMN m' n'

/-- the `for len(u.Children) > 0` loop: the node the repeater has been blurred into -/
def repWalk (t : Nat) (mn mx : Int) : Nat → Node → Node
  | 0, u => u
  | f + 1, u =>
    match u.kids with
    | [] => u
    | child :: _ =>
      let valid :=
        child.t == t ||
        (if t == ntLoop then
           child.t == ntOneloop || child.t == ntOneloopatomic || child.t == ntNotoneloop ||
           child.t == ntNotoneloopatomic || child.t == ntSetloop || child.t == ntSetloopatomic
         else child.t == ntOnelazy || child.t == ntNotonelazy || child.t == ntSetlazy)
      if !valid then u
      else if (u.m == 0 && child.m > 1) || maxLessThanTwiceMin child.n child.m then u
      else repWalk t mn mx f (mulBounds child mn mx)

/-- `reduceRep` -/
def reduceRep (fuel : Nat) (x : Node) : Node :=
  match x.kids with
  | [c] => if c.t == ntEmpty then c else go x
  | _ => go x
where
  go (x : Node) : Node :=
    let u := repWalk x.t x.m x.n fuel x
    if x.m == maxInt32 then bareNode ntNothing x.o
    else
      match u.kids with
      | [child] =>
        if child.t == ntOne || child.t == ntNotone || child.t == ntSet then
          -- `child.makeRep(NtOnelazy | NtOneloop, u.M, u.N)`
          (child.withT (if u.t == ntLazyloop then child.t - 3 else child.t - 6)).withMN u.m u.n
        else u
      | _ => u

/-- `reduceGroup` -/
def reduceGroup : Nat → Node → Node
  | 0, u => u
  | f + 1, u =>
    if u.t == ntGroup then
      match u.kids with
      | k :: _ => reduceGroup f k
      | [] => u
    else u

/-! ## `reduce()` and `eliminateEndingBacktracking` -/

/-- "Remove IgnoreCase option from everything except a Backreference" -/
def stripCi (x : Node) : Node :=
  if x.t == ntRef then x else if x.o % 2 == 1 then x.withO (x.o - 1) else x

/-- the innermost of directly nested Atomic nodes (`for child.T == NtAtomic`) -/
def innerAtomic : Nat → Node → Node
  | 0, a => a
  | f + 1, a =>
    match a.kids with
    | [c] => if c.t == ntAtomic then innerAtomic f c else a
    | _ => a

def isWrappable (t : Nat) : Bool :=
  t == ntAlternate || t == ntBackRefCond || t == ntExprCond || t == ntLoop || t == ntLazyloop

def mapTail (g : Node → Node) : List Node → List Node
  | [] => []
  | x :: xs => x :: xs.map g

mutual
/-- `n.reduce()` for a node whose children are reduced; `pa` = `n.Parent.T == NtAtomic`;
    `on` = `!syntax.VerifDisableRewrites` -/
def reduce (orc : Orc) (on : Bool) : Nat → Bool → Node → Node
  | 0, _, x => x
  | fuel + 1, pa, x0 =>
    let x := stripCi x0
    let red : Bool → RNode → RNode := fun pa' r => toR (reduce orc on fuel pa' (fromR r))
    if x.t == ntAlternate then
      fromR (RewriteDecisions.reduceAlt red true false on pa x.rtl x.o (toRs x.kids))
    else if x.t == ntConcatenate then
      fromR (RewriteDecisions.reduceCat true x.rtl x.o (toRs x.kids))
    else if x.t == ntAtomic then
      let atomic := innerAtomic (fuel + 1) x
      match atomic.kids with
      | [child] =>
        match RewriteDecisions.reduceAtomic red true on x.rtl (.atomic (toR child)) with
        | .atomic c' =>
          let c := fromR c'
          -- (the alternation block returns before the ending walk when the rewrites are off)
          if child.t == ntAlternate && !on then atomic.withKids [c]
          else atomic.withKids [elim orc on fuel true c]
        | r => fromR r
      | _ => x
    else if x.t == ntGroup then reduceGroup (fuel + 1) x
    else if x.t == ntLoop || x.t == ntLazyloop then reduceRep (fuel + 1) x
    else if x.t == ntPosLook || x.t == ntNegLook then
      let x1 := elim orc on fuel pa x
      match x1.kids with
      | [c] =>
        if c.t == ntEmpty then
          .mk (if x1.t == ntPosLook then ntEmpty else ntNothing) x1.o x1.ch x1.str x1.set x1.m x1.n []
        else x1
      | _ => x1
    else if x.t == ntSet || x.t == ntSetloop || x.t == ntSetlazy || x.t == ntSetloopatomic then reduceSet x
    else if x.t == ntExprCond then
      let ks := if x.kids.length == 2 then x.kids ++ [bareNode ntEmpty x.o] else x.kids
      match ks with
      | cond :: rest =>
        let cond1 :=
          if cond.t == ntPosLook && !cond.rtl then
            match cond.kids with
            | [c] => reduce orc on fuel false c
            | _ => cond
          else cond
        x.withKids (elim orc on fuel false cond1 :: rest)
      | [] => x
    else if x.t == ntBackRefCond then
      if x.kids.length == 1 then x.withKids (x.kids ++ [bareNode ntEmpty x.o]) else x
    else x

/-- `node.eliminateEndingBacktracking()`; `pa` = `node.Parent` is an Atomic node.  The walk of the Go loop
    is the recursion; where the Go code wraps the last child in a new Atomic node (`addChild` +
    `ReplaceChild`: two reductions) and goes on from the OLD child, the model goes on from the reduced
    wrapper (the second visit of the same nodes changes nothing). -/
def elim (orc : Orc) (on : Bool) : Nat → Bool → Node → Node
  | 0, _, x => x
  | fuel + 1, pa, x =>
    if !on || x.rtl then x
    else if 3 ≤ x.t && x.t ≤ 8 then makeLoopAtomic x
    else if x.t == ntAtomic || x.t == ntPosLook || x.t == ntNegLook then
      match x.kids with
      | [c] => x.withKids [elim orc on fuel (x.t == ntAtomic) c]
      | _ => x
    else if x.t == ntCapture || x.t == ntConcatenate then
      x.withKids (mapLast (fun existing =>
        if isWrappable existing.t && !pa then
          let inner := reduce orc on fuel true existing
          let wrapped := reduce orc on fuel false (.mk ntAtomic existing.o 0 [] none 0 0 [inner])
          elim orc on fuel false wrapped
        else elim orc on fuel false existing) x.kids)
    else if x.t == ntAlternate || x.t == ntBackRefCond then
      x.withKids (x.kids.map (fun k => elim orc on fuel false k))
    else if x.t == ntExprCond then
      x.withKids (mapTail (fun k => elim orc on fuel false k) x.kids)
    else if x.t == ntLoop || x.t == ntLazyloop then
      let x1 := if x.t == ntLazyloop then x.withMN x.m x.m else x
      match x1.kids with
      | [body] =>
        if x1.n == 1 then x1.withKids [elim orc on fuel false body]
        else
          match onLoopLast orc (fuel + 1) (fun l => elim orc on fuel false l) (fuel + 1) body with
          | some body' => x1.withKids [body']
          | none => x1
      | _ => x1
    else x
end

/-! ## `finalOptimize` -/

/-- `node.processNode(subsequent)`; `ctx` = the `Parent` chain of `subsequent` -/
def processNode (orc : Orc) (cf : Nat) (sub : Node) (ctx : List Frame) : Nat → Node → Node
  | 0, x => x
  | f + 1, x =>
    if x.t == ntCapture || x.t == ntConcatenate then x.withKids (mapLast (fun k => processNode orc cf sub ctx f k) x.kids)
    else
      let viaLoop : Option Node :=
        if x.t == ntLoop then
          match x.kids with
          | [body] => (onLoopLast orc cf (fun l => processNode orc cf sub ctx f l) cf body).map (fun b => x.withKids [b])
          | _ => none
        else none
      match viaLoop with
      | some r => r
      | none =>
        if x.t == ntOneloop || x.t == ntNotoneloop || x.t == ntSetloop then
          if cbma orc cf x sub ctx true false then makeLoopAtomic x else x
        else if x.t == ntOnelazy || x.t == ntNotonelazy || x.t == ntSetlazy then
          if cbma orc cf x sub ctx false true then makeLoopAtomic (x.withT (x.t - 3)) else x
        else if x.t == ntAlternate || x.t == ntBackRefCond then
          x.withKids (x.kids.map (fun k => processNode orc cf sub ctx f k))
        else if x.t == ntExprCond then
          x.withKids (mapTail (fun k => processNode orc cf sub ctx f k) x.kids)
        else x

/-- the pairs loop of `findAndMakeLoopsAtomic` over the children of a Concatenate -/
def processPairs (orc : Orc) (cf : Nat) (ctx : List Frame) : List Node → List Node
  | [] => []
  | [x] => [x]
  | x :: y :: rest =>
    processNode orc cf y ((ntConcatenate, rest) :: ctx) cf x :: processPairs orc cf ctx (y :: rest)

mutual
/-- `n.findAndMakeLoopsAtomic()`; `ctx` = the `Parent` chain of `n`.  (What `canBeMadeAtomic` reads of a
    node — family, `M`, `Ch`, `Set`, `Str` — is not changed by making a loop atomic, so the later siblings
    are taken as they were.) -/
def faml (orc : Orc) (cf : Nat) : Nat → List Frame → Node → Node
  | 0, _, x => x
  | f + 1, ctx, x =>
    if x.rtl then x
    else
      let ks := famlKids orc cf f ctx x.t x.kids
      if x.t == ntConcatenate then x.withKids (processPairs orc cf ctx ks) else x.withKids ks
def famlKids (orc : Orc) (cf : Nat) : Nat → List Frame → Nat → List Node → List Node
  | 0, _, _, ks => ks
  | _ + 1, _, _, [] => []
  | f + 1, ctx, t, k :: rest => faml orc cf f ((t, rest) :: ctx) k :: famlKids orc cf f ctx t rest
end

/-- `Node → RNode` along the path the marker walk follows (Atomic nodes, first children of Concatenates) -/
def toRSpine : Nat → Node → RNode
  | 0, x => toR x
  | f + 1, x =>
    if x.t == ntAtomic then
      match x.kids with
      | [c] => .atomic (toRSpine f c)
      | _ => toR x
    else if x.t == ntConcatenate then
      match x.kids with
      | c :: cs => .cat x.o (toRSpine f c :: toRs cs)
      | [] => toR x
    else toR x

/-- the `UpdateBumpalong` placement of `finalOptimize` (reused: `RewriteDecisions.placeBump`) -/
def placeBump (fuel : Nat) (x : Node) : Node :=
  fromR (RewriteDecisions.placeBump false true (toRSpine fuel x))

/-- `root.finalOptimize()` -/
def finalOptimize (orc : Orc) (on : Bool) (fuel : Nat) (root : Node) : Node :=
  if root.rtl || !on then root
  else
    let r1 := faml orc fuel fuel [] root
    let r2 := elim orc on fuel false r1
    match r2.kids with
    | c :: rest => r2.withKids (placeBump fuel c :: rest)
    | [] => r2

/-! ## The bottom-up pass -/

mutual
def nodeSize : Node → Nat
  | .mk _ _ _ str _ _ _ kids => 1 + str.length + nodeSizes kids
def nodeSizes : List Node → Nat
  | [] => 0
  | x :: xs => nodeSize x + nodeSizes xs
end

mutual
/-- `walk` of `syntax.VerifReduce`: the children first, each reduced when it is added to its parent -/
def reduceKids (orc : Orc) (on : Bool) (fuel : Nat) : Node → Node
  | .mk t o ch str set m n kids =>
    .mk t o ch str set m n (reduceList orc on fuel (t == ntAtomic) kids)
def reduceList (orc : Orc) (on : Bool) (fuel : Nat) (pa : Bool) : List Node → List Node
  | [] => []
  | k :: ks => reduce orc on fuel pa (reduceKids orc on fuel k) :: reduceList orc on fuel pa ks
end

def fuelFor (x : Node) : Nat := 6 * nodeSize x + 64

/-- the reduced tree as a `Node`: every child reduced as it is added, the root not reduced, `finalOptimize` -/
def reduceRoot (orc : Orc) (on : Bool) (root : Node) : Node :=
  let fuel := fuelFor root
  finalOptimize orc on fuel (reduceKids orc on fuel root)

/-! ## Well-formedness of a `Node` tree (what `emitFragment` accepts) -/

mutual
/-- known node types with the child counts the writer expects, everywhere in the tree -/
def okN : Node → Bool
  | .mk t _ _ _ _ _ _ kids => shapeOk t kids.length && okNs kids
def okNs : List Node → Bool
  | [] => true
  | x :: xs => okN x && okNs xs
end

mutual
/-- the shape of a RAW tree: as `okN`, but a Concatenate / Alternate may be childless (`(?:)`, `()`: the
    parser's empty Concatenate, which `reduceConcatenation` turns into Empty) -/
def okRaw : Node → Bool
  | .mk t _ _ _ _ _ _ kids => (shapeOk t kids.length || ((t == 24 || t == 25) && kids.length == 0)) && okRaws kids
def okRaws : List Node → Bool
  | [] => true
  | x :: xs => okRaw x && okRaws xs
end

/-- a raw tree the reducer accepts: `okRaw` everywhere, and the root itself has its children -/
def okRawTree (root : Node) : Bool := okRaw root && shapeOk root.t root.kids.length

/-! ## To the writer's tree -/

/-- what the writer reads of a node whose children have been converted (as leg Wr serialises `RegexNode`);
    a set travels as its structural code -/
def goOf (t o ch : Nat) (str : List Nat) (set : Option Class.Class) (m n : Int) (gs : List Writer.GoNode) :
    Writer.GoNode :=
  let rtl := o / 64 % 2 == 1
  let ci := o % 2 == 1
  let code := match set with | some c => encodeSet c | none => []
  if t == 25 then .concat gs
  else if t == 24 then .alt gs
  else
    match gs with
    | [] =>
      if t == 23 then .empty
      else if t == 22 || (14 ≤ t && t ≤ 21) || t == 41 || t == 42 || t == 46 then .bare t
      else if t == 9 || t == 10 then .char t rtl ci ch
      else if t == 11 then .set rtl ci code
      else if t == 12 then .multi rtl ci str
      else if t == 13 then .ref rtl ci m
      else if t == 3 || t == 4 || t == 6 || t == 7 || t == 43 || t == 44 then .charloop t rtl ci ch m n
      else if t == 5 || t == 8 || t == 45 then .setloop t rtl ci code m n
      else .other t
    | [k] =>
      if t == 26 then .loop false m n k
      else if t == 27 then .loop true m n k
      else if t == 28 then .capture m n k
      else if t == 29 then .group k
      else if t == 30 then .poslook k
      else if t == 31 then .neglook k
      else if t == 32 then .atomic k
      else if t == 33 then .backrefcond1 m k
      else .other t
    | [k, k2] =>
      if t == 33 then .backrefcond2 m k k2
      else if t == 34 then .exprcond2 k k2
      else .other t
    | [k, k2, k3] => if t == 34 then .exprcond3 k k2 k3 else .other t
    | _ => .other t

mutual
def toGo : Node → Writer.GoNode
  | .mk t o ch str set m n kids => goOf t o ch str set m n (toGos kids)
def toGos : List Node → List Writer.GoNode
  | [] => []
  | x :: xs => toGo x :: toGos xs
end

/-- **the reducer**: the parser's raw tree ↦ the tree the writer sees -/
def reduceTree (orc : Orc) (on : Bool) (t : Parser.RawTree) : Writer.GoNode :=
  toGo (reduceRoot orc on (ofRaw t.root))

/-- what `codeFromTree` reads of the `RegexTree` besides the root.  (`Caps` values before `Write` are
    pattern positions that `Write` overwrites for every key of `Capnumlist`; `Capnumlist` lists every key.) -/
def treeInfo (rtl : Bool) (t : Parser.RawTree) : Writer.TreeInfo :=
  { captop := ((t.tables.captop : Nat) : Int),
    capnumlist := t.tables.capnumlist.map (fun l => l.map (fun (k : Nat) => (k : Int))),
    caps := (Groups.isort t.tables.caps).map (fun (k : Nat) => ((k : Int), (0 : Int))),
    rtl := rtl }

/-! ## The compiler -/

inductive CompileErr where
  /-- the parser's `ErrorCode` -/
  | parse (c : Parser.ErrCode)
  /-- a Go panic of the parser made explicit (unreachable: leg Pr, `Props.C10`) -/
  | fault (f : Parser.Fault)
  /-- parser fuel (unreachable) -/
  | fuel
  /-- `emitFragment` reports "unexpected opcode" (unreachable for reduced trees: `Props.C01.reduceTree_wf_partial`) -/
  | write
  deriving Repr

/-- the stages of the compiler, kept for the stage-by-stage comparison of leg Pl -/
structure Compiled where
  raw : Parser.RawTree
  tree : Writer.GoNode
  info : Writer.TreeInfo
  written : Writer.Written

/-- `regexp2.Compile` up to the program: `syntax.Parse` (= `reduceTree ∘ parse`) then `syntax.Write` -/
def compileStages (orc : Orc) (on : Bool) (E : Parser.Env) : Except CompileErr Compiled :=
  match Parser.parse E with
  | .ok t =>
    let tree := reduceTree orc on t
    let info := treeInfo E.opts.r t
    match Writer.write info tree with
    | some w => .ok { raw := t, tree := tree, info := info, written := w }
    | none => .error .write
  | .error c => .error (.parse c)
  | .fault f => .error (.fault f)
  | .fuel => .error .fuel

/-- **the compiler**: pattern text ↦ program (`emit ∘ reduceTree ∘ parse`) -/
def compilePattern (orc : Orc) (E : Parser.Env) : Except CompileErr Code.Prog :=
  (compileStages orc true E).map (fun c => c.written.prog)

/-- the bool-only program (`emitQuick ∘ reduceTree ∘ parse`; `none` = `QuickCodes == nil`) -/
def compilePatternQuick (orc : Orc) (E : Parser.Env) : Except CompileErr (Option Code.Prog) :=
  (compileStages orc true E).map (fun c => Writer.emitQuick c.info c.tree)

end RegexVerif.Reduce
