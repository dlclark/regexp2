/-
Small-step model of the bytecode interpreter `executeDefault` of /repo/runner.go.

One call of `step` is one iteration of the Go loop `for { switch r.operator { … } … }`: the body of the
`case` selected by `r.operator` followed by the way the case leaves — `r.advance(i); continue`,
`r.goTo(t); continue`, `break`/`goto BreakBackward` (then `r.backtrack()`), or `return nil`.
The state at the start of an iteration is exactly what the hook `VerifAttemptTrace` reports
(`codepos`, `operator`, `Runtextpos`, used slots of `runtrack`/`runstack`/`runcrawl`); leg W compares
that sequence step by step.

What is a value here and what is a fault:
 * `runtrack`, `runstack`, `runcrawl` are modelled by their *used part*, top first.  Their capacity is
   not in the state: `step` reports whether the iteration passed through `ensureStorage` (the checks
   inside `goTo` and `backtrack`), and the capacity argument (Props/C13, section `VMRefinement`) is a layer on top.
 * every Go slice access that can be out of range is an explicit `Outcome.fault`, never a default value:
   `Codes[…]` (`codeIndex`), `Strings[…]` (`stringIndex`), `Sets[…]` (`setIndex`), `Runtext[…]` (`textIndex`),
   the peeks after `trackPop/trackPopN` (`trackUnderflow`), `backtrack()` on an empty stack (`trackEmpty`),
   capture numbers outside the capture arrays (`capSlot`), `popcrawl` on an empty crawl stack
   (`crawlUnderflow`).  An operator without a `case` is `unknownOp` (Go returns an error there, it does
   not panic).
 * four faults are raised *early*, at the instruction that leaves the envelope in which the used-part
   view of the stacks is faithful; Go itself would go on with stale or foreign slots and panic (or
   compute garbage) later: `stackUnderflow` (a `stackPop` below the bottom — Go panics at the next peek or
   push), `tracktoRange` (`trackto(n)` with `n` above the current depth, negative, not at a frame
   boundary, or 0 — which would drop the frame of the `Lazybranch` at code position 0 that every
   compiled program keeps at the bottom), `textposRange` (`textto(v)` of a grouping-stack value outside
   `[0, len(text)]`), and `unknownOp` for a code word that is negative or ≥ 1024 at the moment it is fetched.
   `capRange` is a real Go panic (a backreference reads a captured interval that is not inside the text)
   but is classed with these because excluding it needs the capture bounds of C08, which in turn need the
   marks on the grouping stack to be text positions.
   None of them occurs in a run of a compiled program explored by leg W (the leg would report a
   difference, since Go returns a result there).
 * the capture arrays are `MatchBuilder.Builder` (model of match.go, property C08) with its own in-bounds
   theorems; the interpreter-level checks (`capSlot`) guard the slot numbers it is called with.

Unicode knowledge is a parameter (`Env`): set membership, `unicode.ToLower`, word characters.
Operands that Go converts with `rune(…)` are compared as integers (`Prog.wf` bounds them).
-/
import RegexVerif.Model.Code
import RegexVerif.Model.MatchBuilder
import RegexVerif.Model.Capacity

namespace RegexVerif.VM
open RegexVerif.Code RegexVerif.Generated.Opcodes RegexVerif

/-! ## opcodes -/

/-- the opcodes of syntax/code.go as an inductive type (numbering: `Generated/Opcodes.lean`) -/
inductive Op where
  | onerep | notonerep | setrep | oneloop | notoneloop | setloop | onelazy | notonelazy | setlazy
  | one | notone | set | multi | ref | bol | eol | boundary | nonboundary | beginning | start
  | endz | end_ | nothing | lazybranch | branchmark | lazybranchmark | nullcount | setcount
  | branchcount | lazybranchcount | nullmark | setmark | capturemark | getmark | setjump | backjump
  | forejump | testref | goto | prune | stop | ecmaboundary | nonecmaboundary | oneloopatomic
  | notoneloopatomic | setloopatomic | updatebumpalong
  deriving DecidableEq, Repr, Inhabited

/-- opcode number ↦ opcode, built from the regenerated constants -/
def opTable : List (Nat × Op) :=
  [(opOnerep, .onerep), (opNotonerep, .notonerep), (opSetrep, .setrep), (opOneloop, .oneloop),
   (opNotoneloop, .notoneloop), (opSetloop, .setloop), (opOnelazy, .onelazy), (opNotonelazy, .notonelazy),
   (opSetlazy, .setlazy), (opOne, .one), (opNotone, .notone), (opSet, .set), (opMulti, .multi), (opRef, .ref),
   (opBol, .bol), (opEol, .eol), (opBoundary, .boundary), (opNonboundary, .nonboundary),
   (opBeginning, .beginning), (opStart, .start), (opEndZ, .endz), (opEnd, .end_), (opNothing, .nothing),
   (opLazybranch, .lazybranch), (opBranchmark, .branchmark), (opLazybranchmark, .lazybranchmark),
   (opNullcount, .nullcount), (opSetcount, .setcount), (opBranchcount, .branchcount),
   (opLazybranchcount, .lazybranchcount), (opNullmark, .nullmark), (opSetmark, .setmark),
   (opCapturemark, .capturemark), (opGetmark, .getmark), (opSetjump, .setjump), (opBackjump, .backjump),
   (opForejump, .forejump), (opTestref, .testref), (opGoto, .goto), (opPrune, .prune), (opStop, .stop),
   (opECMABoundary, .ecmaboundary), (opNonECMABoundary, .nonecmaboundary),
   (opOneloopatomic, .oneloopatomic), (opNotoneloopatomic, .notoneloopatomic),
   (opSetloopatomic, .setloopatomic), (opUpdateBumpalong, .updatebumpalong)]

def Op.ofNat? (n : Nat) : Option Op := (opTable.find? (fun e => e.1 == n)).map (·.2)

def Op.toNat (o : Op) : Nat := ((opTable.find? (fun e => e.2 == o)).map (·.1)).getD 0

/-- which `case` of the switch: `op`, `op | Back`, `op | Back2` -/
inductive Mode where
  | fwd | back | back2
  deriving DecidableEq, Repr, Inhabited

/-- `r.operator` keeps the Back/Back2 bits; both set has no `case` -/
def modeOf (w : Word) : Option Mode :=
  match w.back, w.back2 with
  | false, false => some .fwd
  | true, false => some .back
  | false, true => some .back2
  | true, true => none

/-- `int(r.operator)` as `VerifAttemptTrace` reports it (Rtl and Ci are stripped by `setOperator`) -/
def operatorNum (w : Word) : Nat :=
  w.op + (if w.back then flagBack else 0) + (if w.back2 then flagBack2 else 0)

/-! ## environment, state, outcomes -/

/-- the input of one attempt and the oracles the interpreter consults -/
structure Env where
  /-- `r.Runtext` (`Runtextend = len`) -/
  text : Array Nat
  /-- `r.Runtextstart` (origin of `\G`) -/
  textstart : Int
  /-- `r.code.Sets[i].CharIn(ch)` -/
  setMem : Nat → Nat → Bool
  /-- `unicode.ToLower` -/
  toLower : Nat → Nat
  /-- `syntax.IsWordChar`, or `isRE2WordChar` when the RE2 option is set -/
  wordChar : Nat → Bool
  /-- `syntax.IsECMAWordChar` -/
  ecmaWordChar : Nat → Bool
  /-- `r.re.options & (RE2|ECMAScript) != 0` (read by `EndZ`) -/
  endzStrict : Bool
  /-- `r.re.options & ECMAScript != 0` (read by `Ref` on an unmatched group) -/
  ecma : Bool

def Env.len (env : Env) : Int := env.text.size

inductive Fault where
  | codeIndex | stringIndex | setIndex | textIndex | trackUnderflow | trackEmpty | capSlot | unknownOp
  | stackUnderflow | crawlUnderflow | tracktoRange | textposRange | capRange
  deriving DecidableEq, Repr, Inhabited

def Fault.name : Fault → String
  | .codeIndex => "codeIndex" | .stringIndex => "stringIndex" | .setIndex => "setIndex"
  | .textIndex => "textIndex" | .trackUnderflow => "trackUnderflow" | .trackEmpty => "trackEmpty"
  | .capSlot => "capSlot" | .unknownOp => "unknownOp" | .stackUnderflow => "stackUnderflow"
  | .crawlUnderflow => "crawlUnderflow" | .tracktoRange => "tracktoRange" | .textposRange => "textposRange"
  | .capRange => "capRange"

/-- the faults excluded by `Prog.wf` and the frame invariant alone (Props/C10 `step_no_structural_fault`); the others
    depend on the discipline of the grouping stack -/
def Fault.structural : Fault → Bool
  | .codeIndex | .stringIndex | .setIndex | .textIndex | .trackUnderflow | .trackEmpty | .capSlot
  | .unknownOp => true
  | _ => false

/-- interpreter state at the top of the loop -/
structure VMState where
  /-- `r.codepos` -/
  codepos : Nat
  /-- `r.operator` with `r.rightToLeft`, `r.caseInsensitive` (what `setOperator` stored) -/
  oper : Word
  /-- `r.Runtextpos` -/
  textpos : Int
  /-- used part of `runtrack`, top first (`runtrack[Runtrackpos:]`) -/
  track : List Int
  /-- used part of `runstack`, top first -/
  stack : List Int
  /-- `runmatch` and the used part of `runcrawl` -/
  cap : MatchBuilder.Runner
  deriving Repr

/-- how a `case` body leaves -/
inductive Exit where
  /-- `r.advance(i); continue` -/
  | advance (i : Nat)
  /-- `r.goTo(t); continue` -/
  | goto (t : Int)
  /-- `break` / `goto BreakBackward`: `r.backtrack()` -/
  | back
  /-- `return nil` -/
  | halt
  deriving Repr

inductive Outcome where
  /-- next iteration; `checked` = this iteration went through `ensureStorage`
      (`goTo` with `newpos <= codepos`, `backtrack` with `newpos < codepos`) -/
  | next (s : VMState) (checked : Bool)
  /-- `return nil` at `Stop` (match iff `matchcount[0] > 0`) -/
  | stop (s : VMState)
  | fault (f : Fault)
  deriving Repr

abbrev M := Except Fault

/-! ## primitives -/

/-- `r.operand(i)` = `r.code.Codes[r.codepos+i+1]` -/
def operand (p : Prog) (s : VMState) (i : Nat) : M Int :=
  match p.codes[s.codepos + i + 1]? with
  | some v => .ok v
  | none => .error .codeIndex

/-- `r.Runtext[j]` -/
def charAt (env : Env) (j : Int) : M Nat :=
  if 0 ≤ j then
    match env.text[j.toNat]? with
    | some c => .ok c
    | none => .error .textIndex
  else .error .textIndex

/-- `r.bump()` -/
def bump (s : VMState) : Int := if s.oper.rtl then -1 else 1

/-- `r.forwardchars()` -/
def forwardchars (env : Env) (s : VMState) : Int := if s.oper.rtl then s.textpos else env.len - s.textpos

/-- `r.forwardcharnext()`: the character read and the new `Runtextpos` -/
def forwardcharnext (env : Env) (rtl : Bool) (pos : Int) : M (Nat × Int) :=
  if rtl then (charAt env (pos - 1)).map (fun c => (c, pos - 1))
  else (charAt env pos).map (fun c => (c, pos + 1))

/-- the `for` loops of the single-character instructions: read up to `k` characters in direction `rtl`
    from `pos` while `pred` holds; the number of characters that satisfied `pred` (`< k` iff a read
    failed the test) -/
def scan (env : Env) (pred : Nat → Bool) (rtl : Bool) : Nat → Int → M Nat
  | 0, _ => .ok 0
  | k + 1, pos =>
    match forwardcharnext env rtl pos with
    | .error f => .error f
    | .ok (c, pos') => if pred c then (scan env pred rtl k pos').map (· + 1) else .ok 0

def isCh (x : Int) (c : Nat) : Bool := (c : Int) == x

/-- `r.code.Sets[i].CharIn(·)` -/
def setPred (p : Prog) (env : Env) (i : Int) : M (Nat → Bool) :=
  if 0 ≤ i ∧ i.toNat < p.nsets then .ok (env.setMem i.toNat) else .error .setIndex

/-- the character test of the One/Notone/Set families: `sel` = 0 one, 1 notone, 2 set; `x` = operand 0 -/
def charPred (p : Prog) (env : Env) (sel : Nat) (x : Int) : M (Nat → Bool) :=
  match sel with
  | 0 => .ok (isCh x)
  | 1 => .ok (fun c => !isCh x c)
  | _ => setPred p env x

/-! ### backtracking stack -/

def push0 (s : VMState) : VMState := { s with track := (s.codepos : Int) :: s.track }
def push1 (s : VMState) (a : Int) : VMState := { s with track := (s.codepos : Int) :: a :: s.track }
def push2 (s : VMState) (a b : Int) : VMState := { s with track := (s.codepos : Int) :: b :: a :: s.track }
def push3 (s : VMState) (a b c : Int) : VMState :=
  { s with track := (s.codepos : Int) :: c :: b :: a :: s.track }
def pushNeg1 (s : VMState) (a : Int) : VMState := { s with track := (-(s.codepos : Int)) :: a :: s.track }
def pushNeg2 (s : VMState) (a b : Int) : VMState :=
  { s with track := (-(s.codepos : Int)) :: b :: a :: s.track }

def spush (s : VMState) (a : Int) : VMState := { s with stack := a :: s.stack }
/-- `stackPush2(I1, I2)`: `I2` ends on top -/
def spush2 (s : VMState) (a b : Int) : VMState := { s with stack := b :: a :: s.stack }

def textto (s : VMState) (v : Int) : VMState := { s with textpos := v }

/-- `textto` of a value taken from the grouping stack (early fault outside `[0, len]`) -/
def texttoStack (env : Env) (s : VMState) (v : Int) : M VMState :=
  if 0 ≤ v ∧ v ≤ env.len then .ok (textto s v) else .error .textposRange

/-- a saved code position as `backtrack()` reads it: position and whether it selects the Back2 case -/
def savedPos (c : Int) : Nat × Bool := if c < 0 then ((-c).toNat, true) else (c.toNat, false)

/-- `r.code.Codes[pos]` as an instruction word (`setOperator`) -/
def fetch (p : Prog) (pos : Nat) : M Word :=
  match p.codes[pos]? with
  | none => .error .codeIndex
  | some w => if 0 ≤ w ∧ w < 1024 then .ok (decode w.toNat) else .error .unknownOp

/-- number of data slots under the saved code position of a backtracking frame = what the Back / Back2
    case of the opcode pops after `backtrack()` popped the position -/
def frameData : Op → Bool → Option Nat
  | .oneloop, false | .notoneloop, false | .setloop, false
  | .onelazy, false | .notonelazy, false | .setlazy, false => some 2
  | .lazybranch, false => some 1
  | .branchmark, false => some 2
  | .branchmark, true => some 1
  | .lazybranchmark, false => some 2
  | .lazybranchmark, true => some 2
  | .nullcount, false | .setcount, false | .nullmark, false | .setmark, false | .setjump, false => some 0
  | .branchcount, false => some 1
  | .branchcount, true => some 2
  | .lazybranchcount, false => some 3
  | .lazybranchcount, true => some 1
  | .capturemark, false | .getmark, false | .forejump, false => some 1
  | _, _ => none

/-- total size of the frame whose top slot is `c` -/
def frameSize (p : Prog) (c : Int) : Option Nat :=
  match fetch p (savedPos c).1 with
  | .error _ => none
  | .ok w => ((Op.ofNat? w.op).bind (fun o => frameData o (savedPos c).2)).map (· + 1)

/-- drop whole frames from the top until exactly `k` slots are gone -/
def cutFrames (p : Prog) : Nat → Nat → List Int → Option (List Int)
  | _, 0, t => some t
  | 0, _ + 1, _ => none
  | _ + 1, _ + 1, [] => none
  | fuel + 1, k + 1, c :: rest =>
    match frameSize p c with
    | none => none
    | some sz =>
      if sz ≤ k + 1 ∧ sz ≤ rest.length + 1 then cutFrames p fuel (k + 1 - sz) ((c :: rest).drop sz) else none

/-- `r.trackto(newpos)`: cut the backtracking stack back to depth `newpos` -/
def trackto (p : Prog) (s : VMState) (newpos : Int) : M VMState :=
  if 0 ≤ newpos ∧ newpos.toNat ≤ s.track.length then
    match cutFrames p s.track.length (s.track.length - newpos.toNat) s.track with
    | some [] => .error .tracktoRange
    | some (c :: t) => .ok { s with track := c :: t }
    | none => .error .tracktoRange
  else .error .tracktoRange

/-! ### captures -/

def capOk (p : Prog) (c : Int) : Bool := decide (0 ≤ c) && decide (c.toNat < p.capsize)

/-- `r.runmatch.isMatched(c)` (a negative `c` indexes `matchcount` out of range) -/
def isMatched (s : VMState) (c : Int) : M Bool :=
  if c < 0 then .error .capSlot else .ok (MatchBuilder.isMatched s.cap.m c.toNat)

/-- `r.uncapture()` -/
def uncapture (s : VMState) : M VMState :=
  match s.cap.crawl with
  | [] => .error .crawlUnderflow
  | _ :: _ => .ok { s with cap := MatchBuilder.uncapture s.cap }

/-- `for r.Crawlpos() != target { r.uncapture() }` -/
def uncaptureTo (target : Int) : Nat → VMState → M VMState
  | 0, s => if (s.cap.crawl.length : Int) = target then .ok s else .error .crawlUnderflow
  | fuel + 1, s =>
    if (s.cap.crawl.length : Int) = target then .ok s
    else match uncapture s with
      | .error f => .error f
      | .ok s' => uncaptureTo target fuel s'

/-! ### string comparison -/

/-- the comparison loops of `runematch`/`refmatch`: `k` characters ending before `a` resp. `b`, compared
    from the last one backwards; `get` reads the left operand -/
def cmpBack (env : Env) (ci : Bool) (get : Int → M Nat) : Nat → Int → Int → M Bool
  | 0, _, _ => .ok true
  | k + 1, a, b =>
    match get (a - 1), charAt env (b - 1) with
    | .error f, _ => .error f
    | _, .error f => .error f
    | .ok x, .ok y =>
      if x = (if ci then env.toLower y else y) then cmpBack env ci get k (a - 1) (b - 1) else .ok false

/-- `r.runematch(str)`: `none` = no match (`Runtextpos` unchanged), `some pos` = the new `Runtextpos` -/
def runematch (env : Env) (s : VMState) (str : List Nat) : M (Option Int) :=
  let c : Int := str.length
  if forwardchars env s < c then .ok none
  else
    let pos := if s.oper.rtl then s.textpos else s.textpos + c
    match cmpBack env s.oper.ci (fun i => .ok (str.getD i.toNat 0)) str.length c pos with
    | .error f => .error f
    | .ok false => .ok none
    | .ok true => .ok (some (if s.oper.rtl then s.textpos - c else s.textpos + c))

/-- `r.refmatch(index, len)`; with `ci` both sides go through `unicode.ToLower` -/
def refmatch (env : Env) (s : VMState) (index len : Int) : M (Option Int) :=
  if len < 0 then .error .capRange          -- Go: the loop `for c != 0 { c-- … }` runs off the text
  else if forwardchars env s < len then .ok none
  else
    let pos := if s.oper.rtl then s.textpos else s.textpos + len
    let get : Int → M Nat := fun i =>
      match charAt env i with
      | .ok x => .ok (if s.oper.ci then env.toLower x else x)
      | .error _ => .error .capRange
    match cmpBack env s.oper.ci get len.toNat (index + len) pos with
    | .error f => .error f
    | .ok false => .ok none
    | .ok true => .ok (some (if s.oper.rtl then s.textpos - len else s.textpos + len))

/-- `r.IsBoundary(index)` / `r.IsECMABoundary(index)` with the word test `w` -/
def isBoundary (env : Env) (w : Nat → Bool) (index : Int) : M Bool :=
  match (if index > 0 then (charAt env (index - 1)).map w else .ok false),
        (if index < env.len then (charAt env index).map w else .ok false) with
  | .error f, _ => .error f
  | _, .error f => .error f
  | .ok a, .ok b => .ok (a != b)

/-! ## the cases of the switch -/

abbrev Res := M (VMState × Exit)

/-- One / Notone / Set -/
def caseChar (p : Prog) (env : Env) (sel : Nat) (s : VMState) : Res :=
  if forwardchars env s < 1 then .ok (s, .back)
  else do
    let x ← operand p s 0
    let pred ← charPred p env sel x
    let (c, pos) ← forwardcharnext env s.oper.rtl s.textpos
    if pred c then pure (textto s pos, .advance 1) else pure (textto s pos, .back)

/-- Onerep / Notonerep / Setrep -/
def caseRep (p : Prog) (env : Env) (sel : Nat) (s : VMState) : Res := do
  let c ← operand p s 1
  if forwardchars env s < c then pure (s, .back)
  else
    let x ← operand p s 0
    let pred ← charPred p env sel x
    let m ← scan env pred s.oper.rtl c.toNat s.textpos
    if m < c.toNat then pure (textto s (s.textpos + bump s * (m + 1)), .back)
    else pure (textto s (s.textpos + bump s * m), .advance 2)

/-- Oneloop / Notoneloop / Setloop and their atomic variants (`atomic`: no frame is pushed) -/
def caseLoop (p : Prog) (env : Env) (sel : Nat) (atomic : Bool) (s : VMState) : Res := do
  let c0 ← operand p s 1
  let c := if c0 > forwardchars env s then forwardchars env s else c0
  let x ← operand p s 0
  let pred ← charPred p env sel x
  let m ← scan env pred s.oper.rtl c.toNat s.textpos
  let s1 := textto s (s.textpos + bump s * m)
  if m > 0 ∧ !atomic then pure (push2 s1 ((m : Int) - 1) (s1.textpos - bump s), .advance 2)
  else pure (s1, .advance 2)

/-- Oneloop | Back, Notoneloop | Back, Setloop | Back -/
def caseLoopBack (s : VMState) : Res :=
  match s.track with
  | pos :: i :: rest =>
    let s1 := textto { s with track := rest } pos
    if i > 0 then .ok (push2 s1 (i - 1) (pos - bump s), .advance 2) else .ok (s1, .advance 2)
  | _ => .error .trackUnderflow

/-- Onelazy / Notonelazy / Setlazy -/
def caseLazy (p : Prog) (env : Env) (s : VMState) : Res := do
  let c0 ← operand p s 1
  let c := if c0 > forwardchars env s then forwardchars env s else c0
  if c > 0 then pure (push2 s (c - 1) s.textpos, .advance 2) else pure (s, .advance 2)

/-- Onelazy | Back, Notonelazy | Back, Setlazy | Back -/
def caseLazyBack (p : Prog) (env : Env) (sel : Nat) (s : VMState) : Res :=
  match s.track with
  | pos :: i :: rest => do
    let s1 := { s with track := rest }
    let x ← operand p s 0
    let pred ← charPred p env sel x
    let (c, pos') ← forwardcharnext env s.oper.rtl pos
    if pred c then
      if i > 0 then pure (push2 (textto s1 pos') (i - 1) (pos + bump s), .advance 2)
      else pure (textto s1 pos', .advance 2)
    else pure (textto s1 pos', .back)
  | _ => .error .trackUnderflow

def caseMulti (p : Prog) (env : Env) (s : VMState) : Res := do
  let i ← operand p s 0
  if 0 ≤ i then
    match p.strings[i.toNat]? with
    | none => .error .stringIndex
    | some str =>
      match ← runematch env s str with
      | none => pure (s, .back)
      | some pos => pure (textto s pos, .advance 1)
  else .error .stringIndex

def caseRef (p : Prog) (env : Env) (s : VMState) : Res := do
  let capnum ← operand p s 0
  if ← isMatched s capnum then
    match ← refmatch env s (MatchBuilder.matchIndex s.cap.m capnum.toNat)
        (MatchBuilder.matchLength s.cap.m capnum.toNat) with
    | none => pure (s, .back)
    | some pos => pure (textto s pos, .advance 1)
  else if env.ecma then pure (s, .advance 1) else pure (s, .back)

def caseTestref (p : Prog) (s : VMState) : Res := do
  let c ← operand p s 0
  if ← isMatched s c then pure (s, .advance 1) else pure (s, .back)

/-- a zero-width test: `advance(0)` when `ok`, else backtrack -/
def assertion (s : VMState) (ok : Bool) : VMState × Exit := if ok then (s, .advance 0) else (s, .back)

def caseBol (env : Env) (s : VMState) : Res :=
  if s.textpos > 0 then (charAt env (s.textpos - 1)).map (fun c => assertion s (c == 10))
  else .ok (s, .advance 0)

def caseEol (env : Env) (s : VMState) : Res :=
  if env.len - s.textpos > 0 then (charAt env s.textpos).map (fun c => assertion s (c == 10))
  else .ok (s, .advance 0)

def caseBoundary (env : Env) (w : Nat → Bool) (want : Bool) (s : VMState) : Res :=
  (isBoundary env w s.textpos).map (fun b => assertion s (b == want))

def caseEndZ (env : Env) (s : VMState) : Res :=
  let rchars := env.len - s.textpos
  if rchars > 1 then .ok (s, .back)
  else if env.endzStrict then .ok (assertion s (decide (¬ rchars > 0)))
  else if rchars = 1 then (charAt env s.textpos).map (fun c => assertion s (c == 10))
  else .ok (s, .advance 0)

def caseGoto (p : Prog) (s : VMState) : Res := (operand p s 0).map (fun t => (s, .goto t))

def caseLazybranchBack (p : Prog) (s : VMState) : Res :=
  match s.track with
  | tp :: rest => (operand p s 0).map (fun t => (textto { s with track := rest } tp, .goto t))
  | _ => .error .trackUnderflow

/-- Setmark|Back, Nullmark|Back: `stackPop()` -/
def casePop1Back (s : VMState) : Res :=
  match s.stack with
  | _ :: rest => .ok ({ s with stack := rest }, .back)
  | _ => .error .stackUnderflow

/-- Setcount|Back, Nullcount|Back, Setjump|Back: `stackPopN(2)` -/
def casePop2Back (s : VMState) : Res :=
  match s.stack with
  | _ :: _ :: rest => .ok ({ s with stack := rest }, .back)
  | _ => .error .stackUnderflow

def caseGetmark (env : Env) (s : VMState) : Res :=
  match s.stack with
  | v :: rest => (texttoStack env (push1 { s with stack := rest } v) v).map (fun s' => (s', .advance 0))
  | _ => .error .stackUnderflow

/-- Getmark|Back and the first half of Capturemark|Back, Branchmark|Back2: `trackPop(); stackPush(trackPeek())` -/
def restoreMark (s : VMState) : M VMState :=
  match s.track with
  | v :: rest => .ok (spush { s with track := rest } v)
  | _ => .error .trackUnderflow

def caseRestoreBack (s : VMState) : Res := (restoreMark s).map (fun s' => (s', .back))

def caseCapturemark (p : Prog) (s : VMState) : Res := do
  let c0 ← operand p s 0
  let c1 ← operand p s 1
  let unmatched ← if c1 != -1 then (isMatched s c1).map (fun b => !b) else pure false
  if unmatched then pure (s, .back)
  else
    match s.stack with
    | v :: rest =>
      let s1 := { s with stack := rest }
      if c1 != -1 then
        -- transferCapture(c0, c1, v, textpos): `isMatched c1` holds, so `c1` is a slot; `c0` may be -1
        if c0 = -1 ∨ capOk p c0 then
          pure (push1 { s1 with cap := MatchBuilder.transferCapture s1.cap c0 c1.toNat v s.textpos } v, .advance 2)
        else .error .capSlot
      else if capOk p c0 then
        pure (push1 { s1 with cap := MatchBuilder.capture s1.cap c0.toNat v s.textpos } v, .advance 2)
      else .error .capSlot
    | _ => .error .stackUnderflow

def caseCapturemarkBack (p : Prog) (s : VMState) : Res := do
  let c0 ← operand p s 0
  let c1 ← operand p s 1
  let s1 ← restoreMark s
  let s2 ← uncapture s1
  if c0 != -1 && c1 != -1 then
    let s3 ← uncapture s2
    pure (s3, .back)
  else pure (s2, .back)

def caseBranchmark (p : Prog) (s : VMState) : Res :=
  match s.stack with
  | mark :: rest =>
    let s1 := { s with stack := rest }
    if s.textpos - mark != 0 then
      (operand p s 0).map (fun t => (spush (push2 s1 mark s.textpos) s.textpos, .goto t))
    else .ok (pushNeg1 s1 mark, .advance 1)
  | _ => .error .stackUnderflow

def caseBranchmarkBack (s : VMState) : Res :=
  match s.track, s.stack with
  | tp :: mark :: rest, _ :: srest =>
    .ok (pushNeg1 (textto { s with track := rest, stack := srest } tp) mark, .advance 1)
  | _ :: _ :: _, [] => .error .stackUnderflow
  | _, _ => .error .trackUnderflow

def caseLazybranchmark (s : VMState) : Res :=
  match s.stack with
  | old :: rest =>
    let s1 := { s with stack := rest }
    if s.textpos != old then
      if old != -1 then .ok (push2 s1 old s.textpos, .advance 1)
      else .ok (push2 s1 s.textpos s.textpos, .advance 1)
    else .ok (pushNeg2 s1 old 0, .advance 1)
  | _ => .error .stackUnderflow

def caseLazybranchmarkBack (p : Prog) (s : VMState) : Res :=
  match s.track with
  | pos :: old :: rest =>
    (operand p s 0).map (fun t => (textto (spush (pushNeg2 { s with track := rest } old 1) pos) pos, .goto t))
  | _ => .error .trackUnderflow

def caseLazybranchmarkBack2 (s : VMState) : Res :=
  match s.track with
  | needsPop :: old :: rest =>
    let s1 := { s with track := rest }
    if needsPop != 0 then
      match s1.stack with
      | _ :: srest => .ok (spush { s1 with stack := srest } old, .back)
      | _ => .error .stackUnderflow
    else .ok (spush s1 old, .back)
  | _ => .error .trackUnderflow

/-- Setcount (`mark` = textpos) / Nullcount (`mark` = -1) -/
def caseSetcount (p : Prog) (mark : Int) (s : VMState) : Res :=
  (operand p s 0).map (fun v => (push0 (spush2 s mark v), .advance 1))

def caseBranchcount (p : Prog) (s : VMState) : Res :=
  match s.stack with
  | count :: mark :: rest => do
    let s1 := { s with stack := rest }
    let lim ← operand p s 1
    if count ≥ lim ∨ (s.textpos - mark = 0 ∧ count ≥ 0) then pure (pushNeg2 s1 mark count, .advance 2)
    else
      let t ← operand p s 0
      pure (spush2 (push1 s1 mark) s.textpos (count + 1), .goto t)
  | _ => .error .stackUnderflow

def caseBranchcountBack (env : Env) (s : VMState) : Res :=
  match s.track, s.stack with
  | pmark :: rest, count :: mark :: srest =>
    let s1 := { s with track := rest, stack := srest }
    if count > 0 then
      (texttoStack env s1 mark).map (fun s2 => (pushNeg2 s2 pmark (count - 1), .advance 2))
    else .ok (spush2 s1 pmark (count - 1), .back)
  | _ :: _, _ => .error .stackUnderflow
  | _, _ => .error .trackUnderflow

def caseBranchcountBack2 (s : VMState) : Res :=
  match s.track with
  | count :: mark :: rest => .ok (spush2 { s with track := rest } mark count, .back)
  | _ => .error .trackUnderflow

def caseLazybranchcount (p : Prog) (s : VMState) : Res :=
  match s.stack with
  | count :: mark :: rest =>
    let s1 := { s with stack := rest }
    if count < 0 then
      (operand p s 0).map (fun t => (spush2 (pushNeg1 s1 mark) s.textpos (count + 1), .goto t))
    else .ok (push3 s1 mark count s.textpos, .advance 2)
  | _ => .error .stackUnderflow

def caseLazybranchcountBack (p : Prog) (s : VMState) : Res :=
  match s.track with
  | tp :: count :: mark :: rest => do
    let s1 := { s with track := rest }
    let lim ← operand p s 1
    if count < lim ∧ tp ≠ mark then
      let t ← operand p s 0
      pure (pushNeg1 (spush2 (textto s1 tp) tp (count + 1)) mark, .goto t)
    else pure (spush2 s1 mark count, .back)
  | _ => .error .trackUnderflow

def caseLazybranchcountBack2 (s : VMState) : Res :=
  match s.track, s.stack with
  | pmark :: rest, count :: _ :: srest =>
    .ok (spush2 { s with track := rest, stack := srest } pmark (count - 1), .back)
  | _ :: _, _ => .error .stackUnderflow
  | _, _ => .error .trackUnderflow

def caseSetjump (s : VMState) : Res :=
  .ok (push0 (spush2 s s.track.length s.cap.crawl.length), .advance 0)

def caseBackjump (p : Prog) (s : VMState) : Res :=
  match s.stack with
  | cp :: tp :: rest => do
    let s1 ← trackto p { s with stack := rest } tp
    let s2 ← uncaptureTo cp s1.cap.crawl.length s1
    pure (s2, .back)
  | _ => .error .stackUnderflow

def caseForejump (p : Prog) (s : VMState) : Res :=
  match s.stack with
  | cp :: tp :: rest => (trackto p { s with stack := rest } tp).map (fun s1 => (push1 s1 cp, .advance 0))
  | _ => .error .stackUnderflow

def caseForejumpBack (s : VMState) : Res :=
  match s.track with
  | cp :: rest =>
    (uncaptureTo cp s.cap.crawl.length { s with track := rest }).map (fun s1 => (s1, .back))
  | _ => .error .trackUnderflow

/-- `runtrack[len(runtrack)-1]`: the bottom slot (the text position saved by the `Lazybranch` at code
    position 0) is raised to `Runtextpos`.  With nothing on the stack Go reads and writes the unused
    slot `len-1`, which exists as soon as the capacity is ≥ 1 — no effect on the used part. -/
def caseUpdateBumpalong (s : VMState) : Res :=
  match s.track.getLast? with
  | some v =>
    if v < s.textpos then .ok ({ s with track := s.track.dropLast ++ [s.textpos] }, .advance 0)
    else .ok (s, .advance 0)
  | none => .ok (s, .advance 0)

/-- the `switch r.operator` -/
def body (p : Prog) (env : Env) (s : VMState) : Res :=
  match Op.ofNat? s.oper.op, modeOf s.oper with
  | some .stop, some .fwd => .ok (s, .halt)
  | some .nothing, some .fwd => .ok (s, .back)
  | some .goto, some .fwd => caseGoto p s
  | some .testref, some .fwd => caseTestref p s
  | some .lazybranch, some .fwd => .ok (push1 s s.textpos, .advance 1)
  | some .lazybranch, some .back => caseLazybranchBack p s
  | some .setmark, some .fwd => .ok (push0 (spush s s.textpos), .advance 0)
  | some .nullmark, some .fwd => .ok (push0 (spush s (-1)), .advance 0)
  | some .setmark, some .back => casePop1Back s
  | some .nullmark, some .back => casePop1Back s
  | some .getmark, some .fwd => caseGetmark env s
  | some .getmark, some .back => caseRestoreBack s
  | some .capturemark, some .fwd => caseCapturemark p s
  | some .capturemark, some .back => caseCapturemarkBack p s
  | some .branchmark, some .fwd => caseBranchmark p s
  | some .branchmark, some .back => caseBranchmarkBack s
  | some .branchmark, some .back2 => caseRestoreBack s
  | some .lazybranchmark, some .fwd => caseLazybranchmark s
  | some .lazybranchmark, some .back => caseLazybranchmarkBack p s
  | some .lazybranchmark, some .back2 => caseLazybranchmarkBack2 s
  | some .setcount, some .fwd => caseSetcount p s.textpos s
  | some .nullcount, some .fwd => caseSetcount p (-1) s
  | some .setcount, some .back => casePop2Back s
  | some .nullcount, some .back => casePop2Back s
  | some .branchcount, some .fwd => caseBranchcount p s
  | some .branchcount, some .back => caseBranchcountBack env s
  | some .branchcount, some .back2 => caseBranchcountBack2 s
  | some .lazybranchcount, some .fwd => caseLazybranchcount p s
  | some .lazybranchcount, some .back => caseLazybranchcountBack p s
  | some .lazybranchcount, some .back2 => caseLazybranchcountBack2 s
  | some .setjump, some .fwd => caseSetjump s
  | some .setjump, some .back => casePop2Back s
  | some .backjump, some .fwd => caseBackjump p s
  | some .forejump, some .fwd => caseForejump p s
  | some .forejump, some .back => caseForejumpBack s
  | some .bol, some .fwd => caseBol env s
  | some .eol, some .fwd => caseEol env s
  | some .boundary, some .fwd => caseBoundary env env.wordChar true s
  | some .nonboundary, some .fwd => caseBoundary env env.wordChar false s
  | some .ecmaboundary, some .fwd => caseBoundary env env.ecmaWordChar true s
  | some .nonecmaboundary, some .fwd => caseBoundary env env.ecmaWordChar false s
  | some .beginning, some .fwd => .ok (assertion s (decide (¬ s.textpos > 0)))
  | some .start, some .fwd => .ok (assertion s (decide (s.textpos = env.textstart)))
  | some .endz, some .fwd => caseEndZ env s
  | some .end_, some .fwd => .ok (assertion s (decide (¬ env.len - s.textpos > 0)))
  | some .one, some .fwd => caseChar p env 0 s
  | some .notone, some .fwd => caseChar p env 1 s
  | some .set, some .fwd => caseChar p env 2 s
  | some .multi, some .fwd => caseMulti p env s
  | some .ref, some .fwd => caseRef p env s
  | some .onerep, some .fwd => caseRep p env 0 s
  | some .notonerep, some .fwd => caseRep p env 1 s
  | some .setrep, some .fwd => caseRep p env 2 s
  | some .oneloop, some .fwd => caseLoop p env 0 false s
  | some .notoneloop, some .fwd => caseLoop p env 1 false s
  | some .setloop, some .fwd => caseLoop p env 2 false s
  | some .oneloopatomic, some .fwd => caseLoop p env 0 true s
  | some .notoneloopatomic, some .fwd => caseLoop p env 1 true s
  | some .setloopatomic, some .fwd => caseLoop p env 2 true s
  | some .oneloop, some .back => caseLoopBack s
  | some .notoneloop, some .back => caseLoopBack s
  | some .setloop, some .back => caseLoopBack s
  | some .onelazy, some .fwd => caseLazy p env s
  | some .notonelazy, some .fwd => caseLazy p env s
  | some .setlazy, some .fwd => caseLazy p env s
  | some .onelazy, some .back => caseLazyBack p env 0 s
  | some .notonelazy, some .back => caseLazyBack p env 1 s
  | some .setlazy, some .back => caseLazyBack p env 2 s
  | some .updatebumpalong, some .fwd => caseUpdateBumpalong s
  | _, _ => .error .unknownOp

/-! ## leaving a case: `advance`, `goTo`, `backtrack` -/

/-- `r.advance(i)`: no storage check -/
def doAdvance (p : Prog) (s : VMState) (i : Nat) : Outcome :=
  match fetch p (s.codepos + i + 1) with
  | .error f => .fault f
  | .ok w => .next { s with codepos := s.codepos + i + 1, oper := w } false

/-- `r.goTo(t)`: storage check iff `t <= codepos` -/
def doGoto (p : Prog) (s : VMState) (t : Int) : Outcome :=
  if t < 0 then .fault .codeIndex
  else match fetch p t.toNat with
    | .error f => .fault f
    | .ok w => .next { s with codepos := t.toNat, oper := w } (decide (t.toNat ≤ s.codepos))

/-- `r.backtrack()`: pop the saved code position, select the Back / Back2 case; storage check iff
    `newpos < codepos` -/
def doBacktrack (p : Prog) (s : VMState) : Outcome :=
  match s.track with
  | [] => .fault .trackEmpty
  | c :: rest =>
    match fetch p (savedPos c).1 with
    | .error f => .fault f
    | .ok w =>
      .next { s with track := rest, codepos := (savedPos c).1,
                     oper := if (savedPos c).2 then { w with back2 := true } else { w with back := true } }
        (decide ((savedPos c).1 < s.codepos))

def finish (p : Prog) : VMState × Exit → Outcome
  | (s, .advance i) => doAdvance p s i
  | (s, .goto t) => doGoto p s t
  | (s, .back) => doBacktrack p s
  | (s, .halt) => .stop s

/-- one iteration of the interpreter loop -/
def step (p : Prog) (env : Env) (s : VMState) : Outcome :=
  match body p env s with
  | .error f => .fault f
  | .ok r => finish p r

/-! ## running -/

/-- the state after `r.goTo(0)` at the beginning of `executeDefault` (which always passes through
    `ensureStorage`), for an attempt at `pos` with fresh stacks and capture arrays -/
def init (p : Prog) (pos : Int) : M VMState :=
  (fetch p 0).map fun w =>
    { codepos := 0, oper := w, textpos := pos, track := [], stack := [],
      cap := { m := MatchBuilder.newMatch p.capsize, crawl := [] } }

inductive Final where
  /-- `executeDefault` returned nil -/
  | done (s : VMState)
  | fault (f : Fault)
  /-- the fuel ran out in state `s` -/
  | fuel (s : VMState)
  deriving Repr

/-- run with an observer folded over the state at the top of every iteration (the trace digest of
    leg W); returns the final outcome, the observer's value and the number of iterations executed -/
def runObs {σ : Type} (p : Prog) (env : Env) (obs : σ → VMState → σ) :
    Nat → VMState → σ → Nat → Final × σ × Nat
  | 0, s, a, n => (.fuel s, a, n)
  | fuel + 1, s, a, n =>
    match step p env s with
    | .fault f => (.fault f, obs a s, n + 1)
    | .stop s' => (.done s', obs a s, n + 1)
    | .next s' _ => runObs p env obs fuel s' (obs a s) (n + 1)

/-- `executeDefault` from state `s`: outcome and number of loop iterations -/
def run (p : Prog) (env : Env) : Nat → VMState → Final × Nat
  | 0, s => (.fuel s, 0)
  | fuel + 1, s =>
    match step p env s with
    | .fault f => (.fault f, 1)
    | .stop s' => (.done s', 1)
    | .next s' _ => let r := run p env fuel s'; (r.1, r.2 + 1)

/-- `r.runmatch.matchcount[0] > 0` -/
def matched (s : VMState) : Bool := decide (MatchBuilder.cnt s.cap.m 0 > 0)

/-! ## well-formed programs -/

/-- instruction length in words (must agree with the regenerated `opcodeSize`, see `instrOk`) -/
def Op.size : Op → Nat
  | .nothing | .bol | .eol | .boundary | .nonboundary | .ecmaboundary | .nonecmaboundary | .beginning
  | .start | .endz | .end_ | .nullmark | .setmark | .getmark | .setjump | .backjump | .forejump | .stop
  | .updatebumpalong => 1
  | .one | .notone | .multi | .ref | .testref | .goto | .nullcount | .setcount | .lazybranch | .branchmark
  | .lazybranchmark | .prune | .set => 2
  | _ => 3

def isBoundaryPos (bs : List Nat) (t : Int) : Bool := decide (0 ≤ t) && bs.contains t.toNat

/-- operands of the instruction at `pc` that are used as indices or jump targets are in range -/
def operandsOk (p : Prog) (bs : List Nat) (pc : Nat) (o : Op) : Bool :=
  let a := (p.codes[pc + 1]?).getD 0
  let b := (p.codes[pc + 2]?).getD 0
  let isSet := decide (0 ≤ a) && decide (a.toNat < p.nsets)
  let isSlot (c : Int) := decide (0 ≤ c) && decide (c.toNat < p.capsize)
  match o with
  | .setrep | .setloop | .setlazy | .set | .setloopatomic => isSet
  | .multi => decide (0 ≤ a) && decide (a.toNat < p.strings.size)
  | .ref | .testref => isSlot a
  | .capturemark => (isSlot a || a == -1) && (isSlot b || b == -1) && !(a == -1 && b == -1)
  | .lazybranch | .branchmark | .lazybranchmark | .goto | .branchcount | .lazybranchcount => isBoundaryPos bs a
  | .prune => false
  | _ => true

/-- the instruction at boundary `pc`: a known opcode without Back/Back2 bits whose length is the regenerated
    `opcodeSize`, operands in range, the whole instruction inside the code array, and — unless it is `Stop` —
    followed by another instruction -/
def instrOk (p : Prog) (bs : List Nat) (pc : Nat) : Bool :=
  match fetch p pc with
  | .error _ => false
  | .ok w =>
    match Op.ofNat? w.op with
    | none => false
    | some o =>
      !w.back && !w.back2 && decide (sizeOf? w.op = some o.size) && operandsOk p bs pc o &&
        decide (pc + o.size ≤ p.codes.size) && (decide (o = .stop) || bs.contains (pc + o.size))

/-- is the instruction at `pc` the opcode `o`? -/
def isOpAt (p : Prog) (pc : Nat) (o : Op) : Bool :=
  match fetch p pc with
  | .ok w => decide (Op.ofNat? w.op = some o)
  | .error _ => false

/-- `Prog.wf`: the code array splits into instructions (`Prog.boundaries`), every instruction is `instrOk`
    (known opcode, operands that index the string/set tables or the capture arrays in range, jump targets are
    instruction boundaries), the program begins with `Lazybranch` whose target is a `Stop`, and the last
    instruction is `Stop` -/
def _root_.RegexVerif.Code.Prog.wf (p : Prog) : Bool :=
  match p.boundaries with
  | none => false
  | some bs =>
    bs.all (instrOk p bs) && bs.contains 0 && isOpAt p 0 .lazybranch &&
    (match p.codes[1]? with
     | some t => decide (0 ≤ t) && isOpAt p t.toNat .stop
     | none => false) &&
    (match bs.getLast? with
     | none => false
     | some l => isOpAt p l .stop)

/-! ## the capacity view (C13) -/

/-- weight of every code position: at an instruction boundary the weight of its opcode in the table
    computed from the regenerated per-case fingerprints (`Capacity.weight`), 0 inside an instruction -/
def wsOf (p : Prog) : List Nat :=
  (List.range p.codes.size).map fun pc =>
    if ((p.boundaries).getD []).contains pc then
      match fetch p pc with
      | .ok w => Capacity.weight w.op
      | .error _ => 0
    else 0

/-- everything the positions of the program can push between two storage checks fits into the
    `4 * TrackCount` slots that a successful `ensureStorage` leaves free (hypothesis `Φ(0) ≤ need` of
    `Capacity.TrackInv`; evaluated by leg W on every compiled program) -/
def potOk (p : Prog) : Bool := decide (Capacity.phi (wsOf p) 0 ≤ 4 * p.trackcount)

end RegexVerif.VM
