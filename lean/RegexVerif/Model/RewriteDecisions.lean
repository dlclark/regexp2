/-
C05 — the DECISION PROCEDURES of the tree rewrites of /repo/syntax/tree.go that are not the
auto-atomic / ending-backtracking decisions (those are `Model/AutoAtomic.lean`):

* `reduceAlternation`: `reduceSingleLetterAndNestedAlternations` (`mergeLetters`: nested alternations
  flattened, runs of One/Set branches merged into one Set, Nothing dropped), `extractCommonPrefixText`
  (`factorText`), `extractCommonPrefixOneNotoneSet` (`factorSet`), `removeRedundantEmptiesAndNothings`;
* `reduceConcatenation`: `reduceConcatenationWithAdjacentLoops` (`coalesce`),
  `reduceConcatenationWithAdjacentStrings` (`joinStrings`: nested concatenations flattened, One/Multi
  joined, Empty dropped);
* `reduceAtomic`: nested Atomic, `makeLoopAtomic`, and the alternation block (Empty first branch,
  trimming after an Empty branch, reordering branches by their first character — `trimAfterEmpty`, `reorder`);
* `reduceSet` (singleton set → One, inverse singleton → Notone);
* the placement of the `UpdateBumpalong` marker in `finalOptimize` (`placeBump`).

They are written on `RNode`, an n-ary mirror of Go's `RegexNode` AFTER `reduce` (node types One /
Notone / Set, their loops in the three kinds, Multi, n-ary Alternate and Concatenate with the option
word where the Go code compares it), and each is one *step* on a node whose children are reduced
already, exactly as `addChild → reduce` works; `reduceNode` is the dispatch of `reduce()`,
`reduceAll` applies it bottom-up.  The denotation `toPat` maps an `RNode` to the specification's
`Spec.Pat` (what `gen.FromGoTree` does for the engine's tree).

Direction: the Go tests `n.Options & RightToLeft` are modelled by the structural direction `rtl`
(parameter): the exporter of the harness refuses trees whose direction bits contradict their
position, as `gen.FromGoTree` does.  `IgnoreCase` has been removed from every node but Ref by
`reduce()` before any of these functions sees it, so the tests `Options & (RightToLeft|IgnoreCase)`
of the two merge loops always succeed; the full-word comparisons (`startingNode.Options !=
startingNodeOptions`, `required.Options != other.Options`, `currentNode.Options == nextNode.Options`)
are modelled on the exported option word `o`.

Switches: `on` = the gated rewrites are enabled (`!syntax.VerifDisableRewrites`); `ll` = the cases
that COLLAPSE DUPLICATE SUCCESSES are enabled: the general loop·loop case of `coalesce` (`a*a*` ⇒ `a*`),
merging One/Set branches whose classes overlap (`a|a` ⇒ `[a]`, `[ab]|b`), dropping a second Empty branch.
They keep the set of successes and the order of first occurrences but not the list (`a|a` has the
success twice), so `Spec.m` differs as a list although no context can tell.  The soundness theorem of
`Props/C05.lean` (equality of `Spec.m`) is for `ll = false`; the correspondence leg runs `ll = true`
and requires both variants to agree before it certifies a pattern (bucket `corresponds:unproved-case`).
-/
import RegexVerif.Model.Spec
import RegexVerif.Model.AutoAtomic
import RegexVerif.Model.Class
import RegexVerif.Model.SpecNary

namespace RegexVerif.RewriteDecisions
open RegexVerif.Spec

/-- the test of a One / Notone / Set family node (case-sensitive: see the header) -/
inductive CP where
  | one (c : Nat)
  | notone (c : Nat)
  | set (s : Cls)
  deriving DecidableEq, Repr, Inhabited

def CP.pred : CP → Pred
  | .one c => .one c false
  | .notone c => .notone c false
  | .set s => .set s false

/-- the three kinds of single-character loop: `Oneloop`, `Onelazy`, `Oneloopatomic` (and Notone…, Set…) -/
inductive LK where
  | greedy | lzy | atomic
  deriving DecidableEq, Repr, Inhabited

/-- n-ary mirror of a reduced `RegexNode`.  `o` = the node's `Options` word where tree.go compares
    or propagates it. -/
inductive RNode where
  | chr (o : Nat) (p : CP)
  | cloop (o : Nat) (k : LK) (p : CP) (lo : Nat) (hi : Option Nat)
  | multi (o : Nat) (cs : List Nat)
  | empty
  | nothing
  | bump
  | anchor (a : Anchor)
  | ref (g : Nat) (ci : Bool)
  | alt (o : Nat) (cs : List RNode)
  | cat (o : Nat) (cs : List RNode)
  | loop (lzy : Bool) (lo : Nat) (hi : Option Nat) (b : RNode)
  | cap (g : Nat) (b : RNode)
  | look (behind neg : Bool) (b : RNode)
  | atomic (b : RNode)
  | refCond (g : Nat) (y n : RNode)
  | exprCond (c y n : RNode)
  deriving Repr, Inhabited

def lit (c : Nat) : Pat := .chr (.one c false)

/-- a Multi node: its runes in text order (in either direction) -/
def strPat (cs : List Nat) : Pat := seqOf (cs.map lit)

def cloopPat (k : LK) (p : CP) (lo : Nat) (hi : Option Nat) : Pat :=
  match k with
  | .greedy => .quant false lo hi (.chr p.pred)
  | .lzy => .quant true lo hi (.chr p.pred)
  | .atomic => .atomic (.quant false lo hi (.chr p.pred))

/-- the children of a Concatenate in pattern order (the parser stores a right-to-left
    concatenation reversed) -/
def dir {α : Type} (rtl : Bool) (l : List α) : List α := if rtl then l.reverse else l

mutual
/-- **denotation**: the specification pattern of a node evaluated in direction `rtl` -/
def toPat (rtl : Bool) : RNode → Pat
  | .chr _ p => .chr p.pred
  | .cloop _ k p lo hi => cloopPat k p lo hi
  | .multi _ cs => strPat cs
  | .empty => .empty
  | .nothing => .nothing
  | .bump => .empty
  | .anchor a => .anchor a
  | .ref g ci => .ref g ci
  | .alt _ cs => altOf (toPats rtl cs)
  | .cat _ cs => seqOf (dir rtl (toPats rtl cs))
  | .loop lzy lo hi b => .quant lzy lo hi (toPat rtl b)
  | .cap g b => .cap g (toPat rtl b)
  | .look bh ng b => .look bh ng (toPat bh b)
  | .atomic b => .atomic (toPat rtl b)
  | .refCond g y n => .refCond g (toPat rtl y) (toPat rtl n)
  | .exprCond c y n => .exprCond (toPat rtl c) (toPat rtl y) (toPat rtl n)
def toPats (rtl : Bool) : List RNode → List Pat
  | [] => []
  | x :: xs => toPat rtl x :: toPats rtl xs
end

/-! ## small predicates on nodes -/

def isEmpty : RNode → Bool
  | .empty => true
  | _ => false

def isNothing : RNode → Bool
  | .nothing => true
  | _ => false

/-- `replaceNodeIfUnnecessary` for an Alternate -/
def mkAlt (o : Nat) : List RNode → RNode
  | [] => .nothing
  | [c] => c
  | cs => .alt o cs

/-- `replaceNodeIfUnnecessary` for a Concatenate -/
def mkCat (o : Nat) : List RNode → RNode
  | [] => .empty
  | [c] => c
  | cs => .cat o cs

/-- a One or Multi node from its text (`processOneOrMulti`, the `prefix` node of
    `extractCommonPrefixText`): Empty / One / Multi by length -/
def strNode (o : Nat) : List Nat → RNode
  | [] => .empty
  | [c] => .chr o (.one c)
  | cs => .multi o cs

/-! ## `reduceSet` -/

/-- `IsSingleton` / `IsSingletonInverse` + `SingletonChar` -/
def reduceCP : CP → CP
  | .set (.base false [(a, b)] []) => if a = b then .one a else .set (.base false [(a, b)] [])
  | .set (.base true [(a, b)] []) => if a = b then .notone a else .set (.base true [(a, b)] [])
  | p => p

/-! ## `reduceSingleLetterAndNestedAlternations` -/

mutual
/-- nested alternations are spliced in place (and visited in turn): the deep flattening -/
def flatAlt : RNode → List RNode
  | .alt _ cs => flatAlts cs
  | n => [n]
def flatAlts : List RNode → List RNode
  | [] => []
  | x :: xs => flatAlt x ++ flatAlts xs
end

open RegexVerif.Class in
/-- `addCategories` on (id, negate) lists: `none` = an entry with the opposite negation exists
    (`makeAnything`) -/
def addCats : List (Nat × Bool) → List (Nat × Bool) → Option (List (Nat × Bool))
  | cs, [] => some cs
  | cs, c :: rest =>
    match findCat c cs with
    | none => none
    | some true => addCats cs rest
    | some false => addCats (cs ++ [c]) rest

/-- what `mergeCls` answers when the third normal form of `canonicalize` would apply (ranges that omit
    exactly one rune, and categories: the engine asks the categories about that rune — Unicode knowledge the
    model does not have).  No engine set looks like this; leg Rs counts such cases as unmodelled. -/
def norm3Sentinel : Cls := .base true [] []

open RegexVerif.Class in
/-- the set that `prev.addSet(nd)` / `prev.addChar(ch)` leaves in `prev` for two mergeable
    (positive, subtraction-free) classes: ranges appended, categories added, `canonicalize` (sort +
    merge, then the "everything but one gap" / "everything" normal forms; the third normal form:
    `norm3Sentinel`).  `none`: not both mergeable. -/
def mergeCls : Cls → Cls → Option Cls
  | .base false rs ns, .base false rs' ns' =>
    if rs.isEmpty && rs'.isEmpty then
      -- `canonicalize` returns at once on an empty range list
      match addCats ns ns' with
      | none => some (.base false [(0, maxRune)] [])
      | some ns2 => some (.base false [] ns2)
    else
    match addCats ns ns' with
    | none => some (.base false [(0, maxRune)] [])
    | some ns2 =>
      let f : Flat := { ranges := mergeRanges (rs ++ rs'), cats := ns2 }
      let f1 := norm2 false (norm1 false f)
      if !f1.neg && !f1.cats.isEmpty &&
          (match f1.ranges with
           | [r0, r1] => decide (r0.1 = 0 ∧ r0.2 + 2 = r1.1 ∧ r1.2 = maxRune)
           | _ => false) then some norm3Sentinel
      else some (.base f1.neg f1.ranges f1.cats)
  | _, _ => none

/-- `IsMergeable`: not negated, no subtraction -/
def mergeable : Cls → Bool
  | .base false _ _ => true
  | _ => false

/-- the options word of the node a merge leaves behind: `prev.T = NtSet` keeps `prev.Ch`, and
    `extractCommonPrefixOneNotoneSet` compares `Ch` of Set nodes too — a Set that came from a One is
    not "the same node" as a parsed Set with the same class.  The exporter folds a stale `Ch` of a Set
    node into the options word (`o + Ch·2¹⁶`), the only place where it matters. -/
def mergedOpts (po : Nat) : CP → Nat
  | .one c => po + c * 65536
  | _ => po

/-- the class a One or Set branch contributes -/
def letterCls : CP → Option Cls
  | .one c => some (.base false [(c, c)] [])
  | .set s => some s
  | .notone _ => none

/-- two positive classes without categories that share no rune (decided on the ranges) -/
def clsDisjoint : Cls → Cls → Bool
  | .base false rs [], .base false rs' [] => rs.all (fun r => rs'.all (fun r' => decide (r.2 < r'.1) || decide (r'.2 < r.1)))
  | _, _ => false

/-- the merge loop over the flattened branches.  `out` is what has been emitted (in order), the
    flags are `wasLastSet` and `lastNodeCannotMerge` -/
def mergeGo (ll : Bool) : List RNode → Bool → Bool → List RNode → List RNode
  | out, _, _, [] => out
  | out, wasLast, cannot, nd :: rest =>
    match nd with
    | .nothing => mergeGo ll out wasLast cannot rest
    | .chr o (.one c) =>
      if !wasLast || cannot then mergeGo ll (out ++ [nd]) true false rest
      else
        match out.getLast?, out.dropLast with
        | some (.chr po pp), front =>
          match (letterCls pp).bind (fun s => if ll || clsDisjoint s (.base false [(c, c)] []) then mergeCls s (.base false [(c, c)] []) else none) with
          | some s => mergeGo ll (front ++ [.chr (mergedOpts po pp) (.set s)]) true (!mergeable s) rest
          | none => mergeGo ll (out ++ [.chr o (.one c)]) true false rest
        | _, _ => mergeGo ll (out ++ [nd]) true false rest
    | .chr o (.set s) =>
      if !wasLast || cannot || !mergeable s then mergeGo ll (out ++ [nd]) true (!mergeable s) rest
      else
        match out.getLast?, out.dropLast with
        | some (.chr po pp), front =>
          match (letterCls pp).bind (fun s0 => if ll || clsDisjoint s0 s then mergeCls s0 s else none) with
          | some s2 => mergeGo ll (front ++ [.chr (mergedOpts po pp) (.set s2)]) true (!mergeable s2) rest
          | none => mergeGo ll (out ++ [.chr o (.set s)]) true (!mergeable s) rest
        | _, _ => mergeGo ll (out ++ [nd]) true (!mergeable s) rest
    | _ => mergeGo ll (out ++ [nd]) false false rest

def mergeLetters (ll : Bool) (cs : List RNode) : List RNode := mergeGo ll [] false false (flatAlts cs)

/-! ## `reduceConcatenation` -/

mutual
def flatCat : RNode → List RNode
  | .cat _ cs => flatCats cs
  | n => [n]
def flatCats : List RNode → List RNode
  | [] => []
  | x :: xs => flatCat x ++ flatCats xs
end

/-- the text of a One or Multi node -/
def strOf : RNode → Option (Nat × List Nat)
  | .chr o (.one c) => some (o, [c])
  | .multi o cs => some (o, cs)
  | _ => none

/-- `reduceConcatenationWithAdjacentStrings` after the flattening: One/Multi runs are joined into
    the first node of the run (right-to-left: the later child's text goes in front), Empty is
    dropped (without ending a run) -/
def joinGo (rtl : Bool) : List RNode → Bool → List RNode → List RNode
  | out, _, [] => out
  | out, wasStr, nd :: rest =>
    match nd with
    | .empty => joinGo rtl out wasStr rest
    | _ =>
      match strOf nd with
      | none => joinGo rtl (out ++ [nd]) false rest
      | some (_, s) =>
        if !wasStr then joinGo rtl (out ++ [nd]) true rest
        else
          match out.getLast?.bind strOf, out.dropLast with
          | some (po, ps), front =>
            joinGo rtl (front ++ [.multi po (if rtl then s ++ ps else ps ++ s)]) true rest
          | none, _ => joinGo rtl (out ++ [nd]) true rest

def joinStrings (rtl : Bool) (cs : List RNode) : List RNode := joinGo rtl [] false (flatCats cs)

def isOneCP : CP → Bool
  | .one _ => true
  | _ => false

def maxInt32 : Nat := 2147483647

/-- `canCombineCounts` (`none` = `math.MaxInt32`, the infinite maximum) -/
def canCombine (lo : Nat) (hi : Option Nat) (lo' : Nat) (hi' : Option Nat) : Bool :=
  decide (lo < maxInt32) && decide (lo' < maxInt32) && decide (lo + lo' ≤ maxInt32 - 1) &&
    (match hi, hi' with
     | some h, some h' => decide (h + h' ≤ maxInt32 - 1)
     | _, _ => true)

def addHi : Option Nat → Option Nat → Option Nat
  | some a, some b => some (a + b)
  | _, _ => none

/-- the `Options` word proper (without the stale `Ch` the exporter folds into it, see `mergedOpts`):
    the adjacent-loop rules compare `Options` and the set, not `Ch` -/
def optsWord (o : Nat) : Nat := o % 65536

/-- what `reduceConcatenationWithAdjacentLoops` does with `current` and `next`:
    `none` — nothing; `some (cur', none)` — `next` is absorbed; `some (cur', some next')` — part of
    a Multi is absorbed and the trimmed `next'` becomes the current node -/
def combineFull (rtl : Bool) : RNode → RNode → Option (RNode × Option RNode)
  | .cloop o k p lo hi, .cloop o' k' p' lo' hi' =>
    if optsWord o = optsWord o' ∧ k = k' ∧ p = p' then
      if k = .atomic ∧ 0 < lo' then none
      else if !canCombine lo hi lo' hi' then none
      else some (.cloop o k p (lo + lo') (addHi hi hi'), none)
    else none
  | .cloop o k p lo hi, .chr o' p' =>
    if optsWord o = optsWord o' ∧ p = p' ∧ k ≠ .atomic then
      if canCombine lo hi 1 (some 1) then some (.cloop o k p (lo + 1) (addHi hi (some 1)), none) else none
    else none
  | .cloop o k (.one c) lo hi, .multi o' s =>
    if optsWord o = optsWord o' ∧ k ≠ .atomic ∧ s.head? = some c ∧ rtl = false then
      let n := (s.takeWhile (· == c)).length
      if canCombine lo hi n (some n) then
        some (.cloop o k (.one c) (lo + n) (addHi hi (some n)),
          match s.drop n with
          | [] => none
          | [d] => some (.chr o' (.one d))
          | ds => some (.multi o' ds))
      else none
    else none
  | .chr o p, .cloop o' k p' lo' hi' =>
    if optsWord o = optsWord o' ∧ p = p' then
      if canCombine 1 (some 1) lo' hi' then some (.cloop o k p (lo' + 1) (addHi hi' (some 1)), none) else none
    else none
  | .chr o p, .chr o' p' =>
    if optsWord o = optsWord o' ∧ p = p' ∧ isOneCP p = false then
      some (.cloop o .greedy p 2 (some 2), none)
    else none
  | _, _ => none

/-- `ll = false` (the variant the soundness theorem is about): only "an individual item with a
    loop" (`aa*` ⇒ `a+`), left-to-right -/
def combine (ll rtl : Bool) (cur nx : RNode) : Option (RNode × Option RNode) :=
  if ll then combineFull rtl cur nx
  else
    match cur, nx with
    | .chr _ _, .cloop _ _ _ _ _ => if rtl then none else combineFull rtl cur nx
    | _, _ => none

/-- the scan of `reduceConcatenationWithAdjacentLoops`: `cur` is `n.Children[current]` -/
def coalesceGo (ll rtl : Bool) : RNode → List RNode → List RNode
  | cur, [] => [cur]
  | cur, nx :: rest =>
    match combine ll rtl cur nx with
    | some (cur', none) => coalesceGo ll rtl cur' rest
    | some (cur', some nx') => cur' :: coalesceGo ll rtl nx' rest
    | none => cur :: coalesceGo ll rtl nx rest

def coalesce (ll rtl : Bool) : List RNode → List RNode
  | [] => []
  | c :: cs => coalesceGo ll rtl c cs

/-- `reduceConcatenation` -/
def reduceCat (ll rtl : Bool) (o : Nat) (cs : List RNode) : RNode :=
  match cs with
  | [] => .empty
  | [c] => c
  | _ =>
    if cs.any isNothing then .nothing
    else mkCat o (joinStrings rtl (coalesce ll rtl cs))

/-! ## `extractCommonPrefixText` -/

/-- `findBranchOneOrMultiStart`: the options and text of the One/Multi a branch starts with -/
def startOf : RNode → Option (Nat × List Nat)
  | .cat _ (c :: _) => strOf c
  | .cat _ [] => none
  | n => strOf n

def commonLen : List Nat → List Nat → Nat
  | a :: as, b :: bs => if a = b then commonLen as bs + 1 else 0
  | _, _ => 0

/-- the inner loop: how many of the following branches share a non-empty prefix with `span`
    (same options), and what is left of `span` -/
def shared (so : Nat) : List Nat → List RNode → Nat × List Nat
  | span, [] => (0, span)
  | span, b :: bs =>
    match startOf b with
    | none => (0, span)
    | some (o', s) =>
      if o' ≠ so then (0, span)
      else
        let c := commonLen span s
        if c = 0 then (0, span)
        else
          let r := shared so (span.take c) bs
          (r.1 + 1, r.2)

/-- `processOneOrMulti` on the branch (on its first child when it is a Concatenate) -/
def stripPrefix (k : Nat) : RNode → RNode
  | .cat o (c :: cs) =>
    match strOf c with
    | some (so, s) => .cat o (strNode so (s.drop k) :: cs)
    | none => .cat o (c :: cs)
  | n =>
    match strOf n with
    | some (so, s) => strNode so (s.drop k)
    | none => n

/-- One `extractCommonPrefixText` on the branch list.  `red pa n` is `reduce()` of a node whose
    parent is (`pa`) or is not an Atomic node.  `fuel` bounds the walk (list length suffices). -/
def factorTextGo (red : Bool → RNode → RNode) (pa : Bool) : Nat → List RNode → List RNode
  | 0, cs => cs
  | _ + 1, [] => []
  | _ + 1, [x] => [x]
  | fuel + 1, x :: y :: rest =>
    match startOf x with
    | none => x :: y :: rest
    | some (so, span) =>
      let r := shared so span (y :: rest)
      if r.1 = 0 then x :: factorTextGo red pa fuel (y :: rest)
      else
        let k := r.2.length
        let group := x :: (y :: rest).take r.1
        -- `branch.reduce()`, then `newAlternate.addChild(branch)` reduces it once more
        let branches := group.map (fun b => red false (red false (stripPrefix k b)))
        let inner :=
          if pa then red false (.atomic (red true (.alt so branches)))
          else red false (.alt so branches)
        red false (.cat so [strNode so r.2, inner]) :: factorTextGo red pa fuel ((y :: rest).drop r.1)

def factorText (red : Bool → RNode → RNode) (pa : Bool) (o : Nat) (cs : List RNode) : RNode :=
  match factorTextGo red pa cs.length cs with
  | [c] => c
  | cs' => .alt o cs'

/-! ## `extractCommonPrefixOneNotoneSet` -/

/-- the node a branch starts with when the branch is a Concatenate of at least two children -/
def firstOf : RNode → Option RNode
  | .cat _ (c :: _ :: _) => some c
  | _ => none

/-- One/Notone/Set (individual, or a loop with `M == N`) -/
def fixedPrefix : RNode → Bool
  | .chr _ _ => true
  | .cloop _ _ _ lo hi => hi = some lo
  | _ => false

/-- the comparison of `required` with `other` (T, Options, M, N, Ch, Set).

    `fk` ("fixed loops up to their kind"): `finalOptimize` runs `findAndMakeLoopsAtomic` BEFORE the ending walk
    that reduces the alternations in tail position again, so that second reduction compares node types some of
    which the auto-atomic pass has just changed (`a{2}?x|a{2}y`: two different node types when the tree is
    built, both `Oneloopatomic` afterwards if `x`, `y` cannot start with `a`).  Which loops became atomic is
    decided by `canBeMadeAtomic` (validated by `AutoAtomic.cert`, not computed by this model); for a loop with
    `M == N` the kind has no meaning (`samePrefix_m`), so the model of that second reduction is run in both
    readings: kinds compared (`fk = false`), or ignored for fixed loops (`fk = true`). -/
def samePrefix (fk : Bool) : RNode → RNode → Bool
  | .chr o p, .chr o' p' => o = o' && p = p'
  | .cloop o k p lo hi, .cloop o' k' p' lo' hi' =>
    o = o' && (decide (k = k') || (fk && decide (hi = some lo))) && p = p' && lo = lo' && hi = hi'
  | _, _ => false

def dropFirst : RNode → RNode
  | .cat o (_ :: cs) => .cat o cs
  | n => n

def countSame (fk : Bool) (req : RNode) : List RNode → Nat
  | [] => 0
  | b :: bs =>
    match firstOf b with
    | some c => if samePrefix fk req c then countSame fk req bs + 1 else 0
    | none => 0

def factorSetGo (red : Bool → RNode → RNode) (fk pa : Bool) (o : Nat) : Nat → List RNode → List RNode
  | 0, cs => cs
  | _ + 1, [] => []
  | _ + 1, [x] => [x]
  | fuel + 1, x :: y :: rest =>
    match firstOf x with
    | none => x :: factorSetGo red fk pa o fuel (y :: rest)
    | some req =>
      if !fixedPrefix req then x :: factorSetGo red fk pa o fuel (y :: rest)
      else
        let k := countSame fk req (y :: rest)
        if k = 0 then x :: factorSetGo red fk pa o fuel (y :: rest)
        else
          let group := x :: (y :: rest).take k
          let branches := group.map (fun b => red false (dropFirst b))
          let inner :=
            if pa then red false (.atomic (red true (.alt o branches)))
            else red false (.alt o branches)
          red false (.cat o [req, inner]) :: factorSetGo red fk pa o fuel ((y :: rest).drop k)

def factorSet (red : Bool → RNode → RNode) (fk pa : Bool) (o : Nat) (cs : List RNode) : RNode :=
  if cs.all (fun c => (firstOf c).isSome) then mkAlt o (factorSetGo red fk pa o cs.length cs)
  else .alt o cs

/-! ## `removeRedundantEmptiesAndNothings` -/

def removeEmptiesGo (ll : Bool) : Bool → List RNode → List RNode
  | _, [] => []
  | seen, c :: cs =>
    match c with
    | .nothing => removeEmptiesGo ll seen cs
    | .empty => if seen && ll then removeEmptiesGo ll seen cs else c :: removeEmptiesGo ll true cs
    | _ => c :: removeEmptiesGo ll seen cs

def removeEmpties (ll : Bool) (o : Nat) (cs : List RNode) : RNode := mkAlt o (removeEmptiesGo ll false cs)

/-! ## `reduceAlternation` -/

/-- `reduceAlternation` after `reduceSingleLetterAndNestedAlternations`: the two prefix extractions
    (gated, left-to-right), then `removeRedundantEmptiesAndNothings` -/
def reduceAltFrom (red : Bool → RNode → RNode) (ll fk on pa rtl : Bool) : RNode → RNode
  | .alt o1 cs1 =>
    match (if on && !rtl then factorText red pa o1 cs1 else .alt o1 cs1) with
    | .alt o2 cs2 =>
      match (if on && !rtl then factorSet red fk pa o2 cs2 else .alt o2 cs2) with
      | .alt o3 cs3 => removeEmpties ll o3 cs3
      | n3 => n3
    | n2 => n2
  | n1 => n1

def reduceAlt (red : Bool → RNode → RNode) (ll fk on pa rtl : Bool) (o : Nat) (cs : List RNode) : RNode :=
  match cs with
  | [] => .nothing
  | [c] => c
  | _ => reduceAltFrom red ll fk on pa rtl (mkAlt o (mergeLetters ll cs))

/-! ## `reduceAtomic` -/

/-- `makeLoopAtomic` -/
def makeLoopAtomic : RNode → RNode
  | .cloop o .greedy p lo hi => .cloop o .atomic p lo hi
  | .cloop o .lzy p lo hi =>
    if lo = 0 then .empty
    else
      match p with
      | .one c => if 2 ≤ lo ∧ lo ≤ 64 then .multi o (List.replicate lo c) else .cloop o .atomic p lo (some lo)
      | _ => .cloop o .atomic p lo (some lo)
  | n => n

/-- the first character of a branch that starts with a One or Multi
    (`findBranchOneOrMultiStart().FirstCharOfOneOrMulti()`) -/
def firstChar (b : RNode) : Option Nat := (startOf b).bind (fun s => s.2.head?)

/-- "trim off any branches after an Empty" (`for i := 1; i < len(branches)-1`) -/
def trimAfterEmpty : List RNode → List RNode
  | [] => []
  | b :: bs =>
    let rec go : List RNode → List RNode
      | [] => []
      | [x] => [x]
      | x :: y :: rest => if isEmpty x then [x] else x :: go (y :: rest)
    b :: go bs

/-- the reordering of one run of branches that all start with a One/Multi: stable grouping by first
    character, in order of first appearance.  The flag says whether anything moved. -/
def groupByFirst : Nat → List RNode → List RNode × Bool
  | 0, l => (l, false)
  | _ + 1, [] => ([], false)
  | fuel + 1, x :: xs =>
    let c := firstChar x
    let same := xs.filter (fun b => firstChar b == c)
    let others := xs.filter (fun b => firstChar b != c)
    let r := groupByFirst fuel others
    (x :: same ++ r.1, r.2 || (xs.dropWhile (fun b => firstChar b == c)).any (fun b => firstChar b == c))

/-- the maximal runs of branches with a first character; runs of at least three are reordered -/
def reorderGo : Nat → List RNode → List RNode × Bool
  | 0, l => (l, false)
  | _ + 1, [] => ([], false)
  | fuel + 1, x :: xs =>
    if (firstChar x).isNone then
      let r := reorderGo fuel xs
      (x :: r.1, r.2)
    else
      let run := x :: xs.takeWhile (fun b => (firstChar b).isSome)
      let rest := xs.dropWhile (fun b => (firstChar b).isSome)
      let g := if 3 ≤ run.length then groupByFirst run.length run else (run, false)
      -- the branch that ends the run is not a starting position either
      match rest with
      | [] => (g.1, g.2)
      | y :: ys =>
        let r := reorderGo fuel ys
        (g.1 ++ y :: r.1, g.2 || r.2)

def reorder (bs : List RNode) : List RNode × Bool := reorderGo bs.length bs

/-- `reduceAtomic`.  The ending-backtracking elimination on the child is not part of this model
    (`AutoAtomic.cert` validates it). -/
def reduceAtomic (red : Bool → RNode → RNode) (ll on rtl : Bool) : RNode → RNode
  | .atomic (.atomic b) => reduceAtomic red ll on rtl (.atomic b)
  | .atomic .empty => .empty
  | .atomic .nothing => .nothing
  | .atomic (.cloop o k p lo hi) =>
    -- (the proved variant leaves a right-to-left lazy loop alone.  A loop with `N < M` never leaves the
    -- parser; on such a node the lazy case of `makeLoopAtomic` would not be sound and the model leaves
    -- it alone, as `AutoAtomic.endAtomic` does.)
    if (!ll && rtl && k = .lzy) || (k = .lzy && !AutoAtomic.hiAtLeast hi lo) then .atomic (.cloop o k p lo hi)
    else makeLoopAtomic (.cloop o k p lo hi)
  | .atomic (.alt o bs) =>
    if !on || rtl then .atomic (.alt o bs)
    else
      match bs with
      | [] => .atomic (.alt o bs)
      | b0 :: _ =>
        if isEmpty b0 then .empty
        else
          let r := reorder (trimAfterEmpty bs)
          if r.2 then .atomic (red true (.alt o r.1)) else .atomic (.alt o r.1)
  | n => n

/-! ## `reduce()` and the bottom-up pass -/

/-- `reduce()` on a node whose children are reduced; `pa` = its parent is an Atomic node.
    `reduceRep`, `reduceLookaround` and the conditionals are the identity here (a reduced node is a
    fixed point of theirs; their ending-backtracking part belongs to `AutoAtomic.cert`). -/
def reduceNode (ll fk on rtl : Bool) : Nat → Bool → RNode → RNode
  | 0, _, n => n
  | fuel + 1, pa, n =>
    match n with
    | .alt o cs => reduceAlt (reduceNode ll fk on rtl fuel) ll fk on pa rtl o cs
    | .cat o cs => reduceCat ll rtl o cs
    | .atomic b => reduceAtomic (reduceNode ll fk on rtl fuel) ll on rtl (.atomic b)
    | .chr o p => .chr o (reduceCP p)
    | .cloop o k p lo hi => .cloop o k (reduceCP p) lo hi
    | n => n

mutual
/-- structural equality of trees (used to see whether a child changed) -/
def RNode.same : RNode → RNode → Bool
  | .chr o p, .chr o' p' => o == o' && decide (p = p')
  | .cloop o k p lo hi, .cloop o' k' p' lo' hi' =>
    o == o' && decide (k = k') && decide (p = p') && lo == lo' && hi == hi'
  | .multi o cs, .multi o' cs' => o == o' && cs == cs'
  | .empty, .empty => true
  | .nothing, .nothing => true
  | .bump, .bump => true
  | .anchor a, .anchor a' => decide (a = a')
  | .ref g ci, .ref g' ci' => g == g' && ci == ci'
  | .alt o cs, .alt o' cs' => o == o' && sameList cs cs'
  | .cat o cs, .cat o' cs' => o == o' && sameList cs cs'
  | .loop z lo hi b, .loop z' lo' hi' b' => z == z' && lo == lo' && hi == hi' && RNode.same b b'
  | .cap g b, .cap g' b' => g == g' && RNode.same b b'
  | .look bh ng b, .look bh' ng' b' => bh == bh' && ng == ng' && RNode.same b b'
  | .atomic b, .atomic b' => RNode.same b b'
  | .refCond g y n, .refCond g' y' n' => g == g' && RNode.same y y' && RNode.same n n'
  | .exprCond c y n, .exprCond c' y' n' => RNode.same c c' && RNode.same y y' && RNode.same n n'
  | _, _ => false
def sameList : List RNode → List RNode → Bool
  | [], [] => true
  | x :: xs, y :: ys => RNode.same x y && sameList xs ys
  | _, _ => false
end

def changedAny (cs cs' : List RNode) : Bool := !sameList cs cs'

mutual
def size : RNode → Nat
  | .alt _ cs => sizes cs + 1
  | .cat _ cs => sizes cs + 1
  | .multi _ cs => cs.length + 1
  | .loop _ _ _ b => size b + 1
  | .cap _ b => size b + 1
  | .look _ _ b => size b + 1
  | .atomic b => size b + 1
  | .refCond _ y n => size y + size n + 1
  | .exprCond c y n => size c + size y + size n + 1
  | _ => 1
def sizes : List RNode → Nat
  | [] => 0
  | x :: xs => size x + sizes xs
end

/-! ## the part of `eliminateEndingBacktracking` that re-reduces alternations

The walk makes the constructs that run last atomic.  Most of what it does is validated by
`AutoAtomic.cert` and is NOT repeated here (loops made atomic, lazy loops cut to their minimum, the
descent `FindLastExpressionInLoopForAutoAtomic`).  What matters for the rewrite decisions: the last
child of a Capture / Concatenate that is an alternation, conditional or loop is wrapped in a new
Atomic node through `atomic.addChild(child)` + `ReplaceChild`, i.e. the child is REDUCED AGAIN with an
Atomic parent and then `reduceAtomic` runs on the wrapper — prefix factoring with atomic inner
alternations, trimming after Empty, reordering. -/

/-- `existingChild.T == NtAlternate || NtBackRefCond || NtExprCond || NtLoop || NtLazyloop` -/
def wrappable : RNode → Bool
  | .alt _ _ => true
  | .refCond _ _ _ => true
  | .exprCond _ _ _ => true
  | .loop _ _ _ _ => true
  | _ => false

def lastMap (f : RNode → RNode) : List RNode → List RNode
  | [] => []
  | [x] => [f x]
  | x :: y :: rest => x :: lastMap f (y :: rest)

/-- `node.eliminateEndingBacktracking()`.  `rtl` = the node is right-to-left (the walk returns at
    once); `pa` = the node's parent is an Atomic node; `wrapOK` = the node is the last child of a
    Capture / Concatenate whose own parent is not Atomic (so an alternation, conditional or loop here
    gets an Atomic wrapper); `red` = `reduce()`.  The fuel bounds the depth of the walk. -/
def endElim (red : Bool → RNode → RNode) : Nat → Bool → Bool → Bool → RNode → RNode
  | 0, _, _, _, n => n
  | f + 1, rtl, pa, wrapOK, n =>
    if rtl then n
    else
      let go := endElim red f rtl
      match n with
      | .alt o bs =>
        if wrapOK then
          -- `atomic.addChild(alt)`; `ReplaceChild(last, atomic)`; then the walk goes on below
          go false false (red false (.atomic (red true (.alt o bs))))
        else .alt o (bs.map (go false false))
      | .atomic b => .atomic (go true false b)
      | .look bh ng b => .look bh ng (endElim red f bh false false b)
      | .cap g b => .cap g (go false (!pa) b)
      | .cat o cs => .cat o (lastMap (go false (!pa)) cs)
      | .refCond g y n =>
        let r := RNode.refCond g (go false false y) (go false false n)
        if wrapOK then .atomic r else r
      | .exprCond c y n =>
        let r := RNode.exprCond c (go false false y) (go false false n)
        if wrapOK then .atomic r else r
      | .loop lzy lo hi b =>
        let r := if (if lzy then lo = 1 ∧ AutoAtomic.hiAtLeast hi 1 = true else hi = some 1) then RNode.loop lzy lo hi (go false false b) else .loop lzy lo hi b
        if wrapOK then .atomic r else r
      | n => n

mutual
/-- the whole tree, bottom-up, as `addChild → reduce` builds it: children first (an Alternate /
    Atomic is reduced again with the rewrites, a Concatenate only when a child changed — the
    un-rewritten tree is already a fixed point of the un-gated part); `reduceAtomic`,
    `dg`: an alternation directly under an Atomic node of the un-rewritten tree was its direct child
    when it was first reduced (`(?>a|b)`) or sat in a group of its own (`(?>(?:a|b))`, parent Group:
    the new inner alternations are then not made atomic) — the tree does not tell, both are sound;
    `reduceLookaround` and `reduceExpressionConditional` then run the ending walk on the child -/
def reduceAll (ll on dg : Bool) (fuel : Nat) (rtl pa : Bool) : RNode → RNode
  | .alt o cs =>
    -- when no child changed the un-gated first pass has been done already (on the children as they were
    -- before Nothing / a second Empty went away: repeating it on its own output could merge more)
    let cs' := reduceAlls ll on dg fuel rtl cs
    if changedAny cs cs' then reduceNode ll false on rtl fuel pa (.alt o cs')
    else reduceAltFrom (reduceNode ll false on rtl fuel) ll false on pa rtl (.alt o cs)
  | .cat o cs =>
    let cs' := reduceAlls ll on dg fuel rtl cs
    if changedAny cs cs' then reduceNode ll false on rtl fuel pa (.cat o cs') else .cat o cs
  | .atomic b =>
    -- `reduceAtomic`, then (when an Atomic node remains) `child.eliminateEndingBacktracking()`
    match reduceNode ll false on rtl fuel pa (.atomic (reduceAll ll on dg fuel rtl dg b)) with
    | .atomic x => if on then .atomic (endElim (reduceNode ll false on rtl fuel) fuel rtl true false x) else .atomic x
    | r => r
  | .loop lzy lo hi b => .loop lzy lo hi (reduceAll ll on dg fuel rtl false b)
  | .cap g b => .cap g (reduceAll ll on dg fuel rtl false b)
  | .look bh ng b =>
    -- `reduceLookaround`: `n.eliminateEndingBacktracking()` (the walk enters the child; a lookbehind's
    -- child is right-to-left and stops it)
    let b' := reduceAll ll on dg fuel bh false b
    .look bh ng (if on then endElim (reduceNode ll false on bh fuel) fuel bh false false b' else b')
  | .refCond g y n => .refCond g (reduceAll ll on dg fuel rtl false y) (reduceAll ll on dg fuel rtl false n)
  | .exprCond c y n =>
    let c' := reduceAll ll on dg fuel rtl false c
    .exprCond (if on then endElim (reduceNode ll false on rtl fuel) fuel rtl false false c' else c')
      (reduceAll ll on dg fuel rtl false y) (reduceAll ll on dg fuel rtl false n)
  | n => n
def reduceAlls (ll on dg : Bool) (fuel : Nat) (rtl : Bool) : List RNode → List RNode
  | [] => []
  | x :: xs => reduceAll ll on dg fuel rtl false x :: reduceAlls ll on dg fuel rtl xs
end

/-- the whole pattern: `reduce` as the tree is built, then (left-to-right patterns only)
    `finalOptimize`'s `rootNode.eliminateEndingBacktracking()` from the implicit root capture — which runs
    after `findAndMakeLoopsAtomic`, hence `fk` (see `samePrefix`) -/
def rewriteTop (ll fk dg : Bool) (fuel : Nat) (rtl : Bool) (n : RNode) : RNode :=
  let r := reduceAll ll true dg fuel rtl false n
  endElim (reduceNode ll fk true rtl fuel) fuel rtl false true r

/-! ## the bump-along marker (`finalOptimize`) -/

/-- the loop kinds that get the marker: an unbounded greedy or atomic single-character loop, a lazy one
    only outside every Atomic group (`!atomicByAncestry && !insideAtomic`; `atomicByAncestry` is false
    as soon as a Concatenate has been passed, which the insertion requires anyway) -/
def bumpLoop (ia ab : Bool) : RNode → Bool
  | .cloop _ k _ _ none => k != .lzy || (!ab && !ia)
  | _ => false

/-- the walk of `finalOptimize` from the child of the implicit root capture: through Atomic nodes
    (`ia` = one has been passed) and first children of Concatenates (`ab` = none has been passed);
    the marker goes in at index 1 of the Concatenate whose first child is the loop -/
def placeBump (ia ab : Bool) : RNode → RNode
  | .atomic b => .atomic (placeBump true ab b)
  | .cat o (c :: cs) =>
    if bumpLoop ia false c then .cat o (c :: .bump :: cs)
    else .cat o (placeBump ia false c :: cs)
  | n => n

/-- the loop the marker is placed after (kind, test, minimum) -/
def bumpSite (ia ab : Bool) : RNode → Option (LK × CP × Nat)
  | .atomic b => bumpSite true ab b
  | .cat _ (c :: _) =>
    if bumpLoop ia false c then
      match c with
      | .cloop _ k p lo _ => some (k, p, lo)
      | _ => none
    else bumpSite ia false c
  | _ => none

end RegexVerif.RewriteDecisions
