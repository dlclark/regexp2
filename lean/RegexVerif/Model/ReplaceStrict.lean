/-
Strict variants of the group lookups and drivers of `Model/Replace.lean`.

`Model/Replace.lean` totalises three accesses that are *indexed* in the Go code and panic there when
out of range:

* `m.matchcount[slot]` / `m.matches[slot]` in `groupValueAppendToBuf` (match.go) — the model's
  `groupSpan` is `getD … none`: a slot the match does not have reads as "unset";
* `m.text.runes[index]` for `index` in the capture span (`groupValueAppendToBuf`), `m.text.runes[i]`
  for `i < m.RuneIndex` (`$\``), `c.text.runes[c.RuneIndex : c.RuneIndex+c.RuneLength]`
  (`Capture.String`, used by `Split`) — the model's `groupText`/`capTexts`/`pieceText` use the total
  `slice` / `take`;
* `data.Strings[r]` in `replacementImpl` — the model's `decodeRule` is `getD … []`.

The definitions below are the same functions with those accesses made explicit: `none` /
`Res.panic` = "the Go code indexes out of range here".  The existing (total) definitions are not
changed; `Props/C09.lean` (from the lemmas of `Lemmas/ReplaceStrict.lean`) proves that a strict run that
does not panic returns what the total run returns, and that strict runs do not panic for parsed
replacements and well-formed matches.

(The slice *expressions* are bounded by `len` here, as in `sliceExpr`; Go bounds a slice of a slice
by `cap`, so the strict variants panic at least wherever Go does.)
-/
import RegexVerif.Model.Replace

namespace RegexVerif.Replace

/-! ### all-or-nothing collection of partial results -/

/-- the list of values when every entry is `some`, else `none` (the first panic aborts the loop) -/
def collect {β : Type} : List (Option β) → Option (List β)
  | [] => some []
  | none :: _ => none
  | some b :: rest => (collect rest).map (b :: ·)

/-! ### group lookups -/

/-- `m.matchcount[slot]` with `m.matches[slot]`: `none` = index out of range (the match has the
    slots `0 … m.groups.length`, `GroupCount() = m.groups.length + 1`), `some none` = the group did
    not capture -/
def groupSpan? (m : Match) : Nat → Option (Option (Nat × Nat))
  | 0 => some (some (m.index, m.len))
  | k + 1 => m.groups[k]?

/-- `groupValueAppendToBuf(slot, buf)`: index `matchcount`, then
    `for ; index < last; index++ { buf.WriteRune(m.text.runes[index]) }` -/
def groupText? (text : List Nat) (m : Match) (slot : Nat) : Option (List Nat) :=
  match groupSpan? m slot with
  | none => none
  | some none => some []
  | some (some (i, l)) => sliceLoop text i (i + l)

/-- what one rule appends for a match, or the panic -/
def pieceText? (text : List Nat) (m : Match) : Piece → Option (List Nat)
  | .lit s => some s
  | .group slot => groupText? text m slot
  | .leftPortion => sliceLoop text 0 m.index                  -- for i := 0; i < RuneIndex: runes[i]
  | .rightPortion => some (text.drop (m.index + m.len))       -- bounded by len(runes): cannot panic
  | .lastGroup => groupText? text m m.groups.length           -- slot GroupCount()-1 always exists
  | .wholeString => some text

/-- `replacementImpl(data, buf, m)` on decoded rules -/
def expand? (pieces : List Piece) (text : List Nat) (m : Match) : Option (List Nat) :=
  (collect (pieces.map (pieceText? text m))).map List.flatten

/-- `replacementImplRTL(data, &al, m)` on decoded rules: the entries appended to the list -/
def expandRTL? (pieces : List Piece) (text : List Nat) (m : Match) : Option (List (List Nat)) :=
  collect (pieces.reverse.map (pieceText? text m))

/-! ### integer rules against the string table -/

/-- `decodeRule` with `data.Strings[r]` indexed: `none` = `r ≥ len(data.Strings)` -/
def decodeRule? (strings : List (List Nat)) (r : Int) : Option Piece :=
  if 0 ≤ r then (strings[r.toNat]?).map Piece.lit
  else some (decodeRule strings r)

/-- one integer rule of a `ReplacerData` expanded for a match -/
def ruleText? (strings : List (List Nat)) (text : List Nat) (m : Match) (r : Int) : Option (List Nat) :=
  match decodeRule? strings r with
  | none => none
  | some p => pieceText? text m p

/-- `replacementImpl(data, buf, m)` on the integer rules -/
def expandData? (d : ReplacerData) (text : List Nat) (m : Match) : Option (List Nat) :=
  (collect (d.rules.map (ruleText? d.strings text m))).map List.flatten

/-- `replacementImplRTL(data, &al, m)` on the integer rules -/
def expandDataRTL? (d : ReplacerData) (text : List Nat) (m : Match) : Option (List (List Nat)) :=
  collect (d.rules.reverse.map (ruleText? d.strings text m))

/-! ### the drivers; the expansion of a match is a parameter that may panic -/

/-- `loopLTR` with a partial expansion `ex` -/
def loopLTRStrict (text : List Nat) (ex : Match → Option (List Nat)) : List Match → Nat → List Nat → Int → Option (List Nat)
  | [], prevat, buf, _ => finishLTR text prevat buf
  | m :: rest, prevat, buf, count =>
    match (if m.index ≠ prevat then sliceLoop text prevat m.index else some []) with
    | none => none
    | some gap =>
      match ex m with
      | none => none
      | some e =>
        let buf := buf ++ gap ++ e
        let prevat := m.index + m.len
        let count := count - 1
        if count = 0 then finishLTR text prevat buf else loopLTRStrict text ex rest prevat buf count

/-- `loopRTL` with a partial expansion `exR` (the list entries one match contributes) -/
def loopRTLStrict (text : List Nat) (exR : Match → Option (List (List Nat))) : List Match → Nat → List (List Nat) → Int → Option (List Nat)
  | [], prevat, al, _ => finishRTL text prevat al
  | m :: rest, prevat, al, count =>
    match (if m.index + m.len ≠ prevat then (sliceExpr text (m.index + m.len) prevat).map (fun g => al ++ [g]) else some al) with
    | none => none
    | some al =>
      match exR m with
      | none => none
      | some es =>
        let prevat := m.index
        let al := al ++ es
        let count := count - 1
        if count = 0 then finishRTL text prevat al else loopRTLStrict text exR rest prevat al count

/-- `loopFuncLTR` with an evaluator that may panic -/
def loopFuncLTRStrict (text : List Nat) (ev : Match → Option (List Nat)) : List Match → Nat → List Nat → Int → Option (List Nat)
  | [], prevat, buf, _ => finishFuncLTR text prevat buf
  | m :: rest, prevat, buf, count =>
    match (if m.index ≠ prevat then sliceExpr text prevat m.index else some []) with
    | none => none
    | some gap =>
      match ev m with
      | none => none
      | some e =>
        let buf := buf ++ gap ++ e
        let prevat := m.index + m.len
        let count := count - 1
        if count = 0 then finishFuncLTR text prevat buf else loopFuncLTRStrict text ev rest prevat buf count

/-- `loopFuncRTL` with an evaluator that may panic -/
def loopFuncRTLStrict (text : List Nat) (ev : Match → Option (List Nat)) : List Match → Nat → List (List Nat) → Int → Option (List Nat)
  | [], prevat, al, _ => finishFuncRTL text prevat al
  | m :: rest, prevat, al, count =>
    match (if m.index + m.len ≠ prevat then (sliceExpr text (m.index + m.len) prevat).map (fun g => al ++ [g]) else some al) with
    | none => none
    | some al =>
      match ev m with
      | none => none
      | some e =>
        let prevat := m.index
        let al := al ++ [e]
        let count := count - 1
        if count = 0 then finishFuncRTL text prevat al else loopFuncRTLStrict text ev rest prevat al count

/-- `replace` with partial expansions (`ex` left-to-right, `exR` right-to-left) -/
def replaceWith (text : List Nat) (ms : List Match) (ex : Match → Option (List Nat))
    (exR : Match → Option (List (List Nat))) (count : Int) (rtl : Bool) : Res (List Nat) :=
  if count < -1 then .err
  else if count = 0 then .ok text
  else match ms with
    | [] => .ok text
    | _ => .ofOption (if rtl then loopRTLStrict text exR ms text.length [] count else loopLTRStrict text ex ms 0 [] count)

/-- `replace(regex, data, nil, …)` on decoded rules, every group lookup indexed as in Go -/
def replaceStrict (text : List Nat) (ms : List Match) (pieces : List Piece) (count : Int) (rtl : Bool) : Res (List Nat) :=
  replaceWith text ms (expand? pieces text) (expandRTL? pieces text) count rtl

/-- `replace(regex, data, nil, …)` on the integer rules and string table of a `ReplacerData` -/
def replaceDataStrict (text : List Nat) (ms : List Match) (d : ReplacerData) (count : Int) (rtl : Bool) : Res (List Nat) :=
  replaceWith text ms (expandData? d text) (expandDataRTL? d text) count rtl

/-- `replace(regex, nil, evaluator, …)` with an evaluator that may panic (e.g. one that reads
    groups of the match by slot) -/
def replaceFuncStrict (text : List Nat) (ms : List Match) (ev : Match → Option (List Nat)) (count : Int) (rtl : Bool) : Res (List Nat) :=
  if count < -1 then .err
  else if count = 0 then .ok text
  else match ms with
    | [] => .ok text
    | _ => .ofOption (if rtl then loopFuncRTLStrict text ev ms text.length [] count else loopFuncLTRStrict text ev ms 0 [] count)

/-! ### Split -/

/-- `gs[i].String()` for the groups after group 0: `runes[RuneIndex : RuneIndex+RuneLength]` is a
    slice expression (an unset group is the zero `Capture`: `runes[0:0]`) -/
def capTexts? (text : List Nat) (m : Match) : Option (List (List Nat)) :=
  collect (m.groups.map fun g => match g with
    | some (i, l) => sliceExpr text i (i + l)
    | none => some [])

/-- `splitLoop` with the group texts sliced as in Go -/
def splitLoopStrict (text : List Nat) (rtl : Bool) : List Match → Nat → List (List Nat) → Int → Option (List (List Nat))
  | [], prior, ret, _ => splitFinish text rtl prior ret
  | m :: rest, prior, ret, count =>
    if count > 0 then
      match (if rtl then sliceExpr text (m.index + m.len) prior else sliceExpr text prior m.index) with
      | none => none
      | some g =>
        match capTexts? text m with
        | none => none
        | some caps =>
          let ret := ret ++ [g] ++ caps
          let prior := if rtl then m.index else m.index + m.len
          splitLoopStrict text rtl rest prior ret (count - 1)
    else splitFinish text rtl prior ret

/-- `(*Regexp).Split(input, count)` with the group texts sliced as in Go -/
def splitStrict (text : List Nat) (ms : List Match) (count : Int) (rtl : Bool) : Res (List (List Nat)) :=
  if count < -1 then .err
  else if count = 0 then .ok []
  else if count = 1 then .ok [text]
  else
    let count := if count = -1 then maxInt else count
    match ms with
    | [] => .ok [text]
    | _ => .ofOption (splitLoopStrict text rtl ms (if rtl then text.length else 0) [] count)

/-! ### well-formed matches, rules and tables (all decidable) -/

/-- a capture span inside the text -/
def spanOk (text : List Nat) : Option (Nat × Nat) → Bool
  | some (i, l) => decide (i + l ≤ text.length)
  | none => true

/-- a match of a regex with `capsize` group slots on `text`: it has exactly the slots
    `0 … capsize-1` (`len(matchcount) = capsize`) and the match and every capture lie inside the
    text (C08's `captures_in_bounds`) -/
def MatchOk (capsize : Nat) (text : List Nat) (m : Match) : Bool :=
  decide (m.groups.length + 1 = capsize) && decide (m.index + m.len ≤ text.length) && m.groups.all (spanOk text)

/-- a rule that names a group names one of the slots `0 … capsize-1` -/
def pieceOk (capsize : Nat) : Piece → Bool
  | .group slot => decide (slot < capsize)
  | _ => true

/-- the `caps` table maps into the slots `0 … capsize-1` (true of every compiled regex: the slots are
    assigned `0, 1, …, capsize-1` by `assignNameSlots`) -/
def capsOk (env : Env) : Bool :=
  match env.caps with
  | some l => l.all (fun p => decide (p.2 < env.capsize))
  | none => true

end RegexVerif.Replace
