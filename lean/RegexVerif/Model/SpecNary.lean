/-
The n-ary forms of the two binary constructors of `Spec.Pat` (the engine's Alternate and Concatenate nodes
have any number of children): the right nesting of the binary ones, the empty alternation being Nothing and
the empty concatenation Empty.
-/
import RegexVerif.Model.Spec

namespace RegexVerif.Spec

/-- n-ary alternation: the right nesting of the binary one -/
def altOf : List Pat → Pat
  | [] => .nothing
  | [a] => a
  | a :: b :: rest => .alt a (altOf (b :: rest))

/-- n-ary concatenation, likewise -/
def seqOf : List Pat → Pat
  | [] => .empty
  | [a] => a
  | a :: b :: rest => .seq a (seqOf (b :: rest))

end RegexVerif.Spec
