/-
Model for C13 (backtracking stack limit).  Two independent parts, and after (b) a part (c) with the same arithmetic for
the grouping and crawl stacks (described where it begins):

(b) `alloc0` / `grow` / `ensure`: the allocation arithmetic of `initMatch`, `growTrack` and
    `ensureStorage` in runner.go (state of /repo after commit 23c41f0), with the limit
    `L = MaxBacktrackingStackSize` (an `Int`; negative = unlimited).  Only the *length* of
    `runtrack` and the number of used slots are modelled: `Runtrackpos = len - used`.

(a) the abstract capacity system: states `(pc, used, cap)`; moves `go k p t` (a `case` of the
    interpreter switch pops `k` slots, pushes `p` slots and continues at `t` by `advance` or `goTo`)
    and `pop q t` (`backtrack()` pops the saved code position and resumes at `t`).  A storage check
    (`ensureStorage`) sits on every `go` with `t ≤ pc` and every `pop` with `t < pc`, exactly as in
    `goTo` / `backtrack`.  The system is parameterised by a weight list `ws` (max slots a position may
    push) and by the check `ens : cap → used → Option cap'` (`none` = ErrBacktrackingStackLimit).

    This is *not* an interpreter: which move comes next is an input (a move list).  That each concrete
    opcode case is one of these moves with `p ≤ weight` is tied to runner.go by the regenerated
    fingerprint table (`Generated/Opcodes.lean`) and the theorems over it in Props/C13.lean.
-/
import RegexVerif.Generated.Opcodes

namespace RegexVerif.Capacity
open RegexVerif.Generated

/-! ## (b) allocation arithmetic -/

/-- `if limit := …MaxBacktrackingStackSize; limit >= 0 && n > limit { n = limit }` -/
def clampLimit (L : Int) (n : Nat) : Nat :=
  if 0 ≤ L ∧ L < (n : Int) then L.toNat else n

/-- `initMatch`: `tracksize := runtrackcount*8; if tracksize < 64 {tracksize = 64}; clamp` -/
def alloc0 (L : Int) (tc : Nat) : Nat :=
  let tracksize := tc * 8
  let tracksize := if tracksize < 64 then 64 else tracksize
  clampLimit L tracksize

/-- `growTrack`: the new `len(runtrack)`, or `none` when it returns false (nothing changes). -/
def grow (L : Int) (oldLen : Nat) : Option Nat :=
  let newLen := oldLen * 2
  let newLen := if newLen = 0 then 1 else newLen
  let newLen := clampLimit L newLen
  if newLen ≤ oldLen then none else some newLen

/-- the loop of `ensureStorage`: `for r.Runtrackpos < r.runtrackcount*4 { if !r.growTrack() { return Err } }`
    with `Runtrackpos = len - used` (so the test reads `len < used + tc*4`, also right if `used > len`).
    Result: final `len(runtrack)` (growth that happened before a failure stays, as in Go) and
    whether nil (true) or ErrBacktrackingStackLimit (false) is returned.
    `fuel` bounds the number of growths; `ensure` passes enough (Lemmas: `ensureFuel_spec`). -/
def ensureFuel : Nat → Int → Nat → Nat → Nat → Nat × Bool
  | 0, _, tc, len, used => if len < used + tc * 4 then (len, false) else (len, true)
  | fuel + 1, L, tc, len, used =>
    if len < used + tc * 4 then
      match grow L len with
      | none => (len, false)
      | some len' => ensureFuel fuel L tc len' used
    else (len, true)

def ensure (L : Int) (tc len used : Nat) : Nat × Bool :=
  ensureFuel (used + tc * 4) L tc len used

/-- `ensureStorage` as it was before commit 23c41f0: one growth attempt, success if it grew at all. -/
def ensureOld (L : Int) (tc len used : Nat) : Nat × Bool :=
  if len < used + tc * 4 then
    match grow L len with
    | none => (len, false)
    | some len' => (len', true)
  else (len, true)

/-- the check as the abstract system sees it: new capacity or failure -/
def ensOf (L : Int) (tc : Nat) (len used : Nat) : Option Nat :=
  let r := ensure L tc len used
  if r.2 then some r.1 else none

/-- a whole call seen from the allocator: initial allocation, then one storage check per demand
    (`used` at that check).  Returns the final length and the index of the failing check, if any. -/
def simulate (L : Int) (tc : Nat) : Nat → Nat → List Nat → Nat × Option Nat
  | len, _, [] => (len, none)
  | len, i, u :: us =>
    let r := ensure L tc len u
    if r.2 then simulate L tc r.1 (i + 1) us else (r.1, some i)

/-! ## (c) the other two stacks: `runstack` (grouping stack) and `runcrawl` (crawl stack)

Neither is limited.  Both grow by `doubleIntSlice` only: the grouping stack ONCE per `ensureStorage` call (an `if`, not
a loop) when fewer than `4·runtrackcount` slots are free — and in `ensureStack(plus)` for the exported `StackPush…` of
the code-gen API —, the crawl stack at every `crawl(i)` that finds it full.  As for `runtrack` only lengths are
modelled: `Runstackpos = len − used`, `runcrawlpos = len − used`.  The constants are tied to runner.go by
`Props.C13.stack_storage_constants` (regenerated `stackAllocFactor` … `crawlChecksEveryPush`). -/

/-- `initMatch`: `stacksize := r.runtrackcount * 8; if stacksize < 32 { stacksize = 32 }` (the limit does not apply) -/
def stackAlloc0 (tc : Nat) : Nat :=
  let stacksize := tc * 8
  if stacksize < 32 then 32 else stacksize

/-- `initMatch`: `r.runcrawl = make([]int, 32)` -/
def crawlAlloc0 : Nat := 32

/-- `doubleIntSlice`: `newS := make([]int, oldLen*2); copy(newS[oldLen:], *s); *pos += oldLen` — the new length; the
    used part `len − pos` is unchanged, the free part grows by `oldLen` -/
def doubleLen (oldLen : Nat) : Nat := oldLen * 2

/-- `ensureStorage`, first statement: `if r.Runstackpos < r.runtrackcount*4 { doubleIntSlice(&r.runstack, …) }` with
    `Runstackpos = len − used`: the new `len(runstack)` -/
def stackEnsure (tc len used : Nat) : Nat :=
  if len - used < tc * 4 then doubleLen len else len

/-- `ensureStack(plus)`: `if r.Runstackpos-plus < r.runtrackcount*4 { doubleIntSlice(…) }` (an `int` subtraction:
    `len − used − plus` may be negative) -/
def stackEnsurePlus (tc len used plus : Nat) : Nat :=
  if (len : Int) - used - plus < tc * 4 then doubleLen len else len

/-- `crawl(i)`: `if r.runcrawlpos == 0 { doubleIntSlice(&r.runcrawl, &r.runcrawlpos) }; r.runcrawlpos--;
    r.runcrawl[r.runcrawlpos] = i` on (length, used slots).  `none` = the store would be at index −1 (no free slot
    even after the doubling — only when the slice is empty). -/
def crawlPush (len used : Nat) : Option (Nat × Nat) :=
  let len' := if len - used = 0 then doubleLen len else len
  if len' - used = 0 then none else some (len', used + 1)

/-- `n` consecutive `crawl` calls -/
def crawlPushN : Nat → Nat → Nat → Option (Nat × Nat)
  | 0, len, used => some (len, used)
  | n + 1, len, used =>
    match crawlPush len used with
    | none => none
    | some (len', used') => crawlPushN n len' used'

/-! ## (a) the abstract capacity system -/

/-- logical state: code position and number of used backtracking slots -/
structure LSt where
  pc : Nat
  used : Nat
  deriving DecidableEq, Repr

structure St where
  l : LSt
  cap : Nat
  deriving DecidableEq, Repr

inductive Move where
  /-- a case body: pop `k` slots, push `p` slots, continue at `t` (`advance` or `goTo`) -/
  | go (k p t : Nat)
  /-- `backtrack()`: pop `q` slots and resume at `t` -/
  | pop (q t : Nat)
  deriving DecidableEq, Repr

/-- weight of a position: the most slots a visit of it may push (0 outside the program) -/
def weightAt (ws : List Nat) (pc : Nat) : Nat := (ws[pc]?).getD 0

/-- potential: what the positions from `pc` on may still push -/
def phi (ws : List Nat) (pc : Nat) : Nat := (ws.drop pc).sum

def legal (ws : List Nat) (l : LSt) : Move → Prop
  | .go k p _ => k ≤ l.used ∧ p ≤ weightAt ws l.pc
  | .pop q _ => q ≤ l.used

instance (ws l m) : Decidable (legal ws l m) := by
  cases m <;> unfold legal <;> infer_instance

/-- logical successor (independent of the capacity) -/
def lstep (l : LSt) : Move → LSt
  | .go k p t => ⟨t, l.used - k + p⟩
  | .pop q t => ⟨t, l.used - q⟩

/-- does the move pass through `ensureStorage`?  (`goTo`: `newpos <= codepos`; `backtrack`: `newpos < codepos`) -/
def checks (l : LSt) : Move → Bool
  | .go _ _ t => decide (t ≤ l.pc)
  | .pop _ t => decide (t < l.pc)

/-- most slots in use while the move executes (pushes come before the check) -/
def peak (l : LSt) (m : Move) : Nat := (lstep l m).used

def step (ens : Nat → Nat → Option Nat) (s : St) (m : Move) : Option St :=
  let l' := lstep s.l m
  if checks s.l m then (ens s.cap l'.used).map (fun c => ⟨l', c⟩) else some ⟨l', s.cap⟩

def run (ens : Nat → Nat → Option Nat) (s : St) : List Move → Option St
  | [] => some s
  | m :: ms => match step ens s m with
    | none => none
    | some s' => run ens s' ms

def lrun (l : LSt) : List Move → LSt
  | [] => l
  | m :: ms => lrun (lstep l m) ms

def LegalRun (ws : List Nat) (l : LSt) : List Move → Prop
  | [] => True
  | m :: ms => legal ws l m ∧ LegalRun ws (lstep l m) ms

instance decLegalRun (ws : List Nat) : (l : LSt) → (ms : List Move) → Decidable (LegalRun ws l ms)
  | _, [] => isTrue trivial
  | l, m :: ms =>
    have := decLegalRun ws (lstep l m) ms
    by unfold LegalRun; infer_instance

/-- what a storage check guarantees when it succeeds -/
def EnsSpec (need : Nat) (ens : Nat → Nat → Option Nat) : Prop :=
  ∀ cap used c, ens cap used = some c → cap ≤ c ∧ used + need ≤ c

/-- the invariant: free space covers everything the positions from `pc` on may still push -/
def TrackInv (ws : List Nat) (s : St) : Prop := s.l.used + phi ws s.l.pc ≤ s.cap

/-- `executeDefault` begins with `goTo(0)`, a storage check with nothing used -/
def start (ens : Nat → Nat → Option Nat) (cap0 : Nat) : Option St :=
  (ens cap0 0).map (fun c => ⟨⟨0, 0⟩, c⟩)

/-! ## programs: weights from the regenerated fingerprint table -/

/-- most slots any path of any case (forward, Back, Back2) of opcode `op` pushes -/
def grossOf (op : Nat) : Nat :=
  (Opcodes.cases.filter (fun c => c.op == op)).foldl (fun a c => max a c.maxPush) 0

/-- largest net effect on the stack of a visit of opcode `op`: pushed − popped, counting for the
    Back/Back2 cases the slot `backtrack()` popped to get there -/
def netOf (op : Nat) : Nat :=
  (Opcodes.cases.filter (fun c => c.op == op)).foldl
    (fun a c => max a (c.maxNet - (if c.flag = 0 then 0 else (Opcodes.backtrackPops : Int))).toNat) 0

def weightTable : List Nat := (List.range Opcodes.numOpcodes).map grossOf
def netTable : List Nat := (List.range Opcodes.numOpcodes).map netOf

/-- weight of an opcode (0 for numbers that are not opcodes) -/
def weight (op : Nat) : Nat := (weightTable[op]?).getD 0

def backtracks (op : Nat) : Bool := (Opcodes.opcodeBacktracks[op]?).getD false

/-- `TrackCount` as the writer computes it: instructions whose opcode `opcodeBacktracks` -/
def trackCount : List Nat → Nat
  | [] => 0
  | op :: rest => (if backtracks op then 1 else 0) + trackCount rest

/-- number of instructions with opcode `x` -/
def count (x : Nat) : List Nat → Nat
  | [] => 0
  | op :: rest => (if op = x then 1 else 0) + count x rest

/-- weights of a program given as the list of its instructions' opcodes -/
def weights (prog : List Nat) : List Nat := prog.map weight

/-- split a code array into its instructions' opcodes (`op & Mask`, step `opcodeSize`);
    `none` when an opcode has no size or the array ends inside an instruction -/
def decode : Nat → List Int → Option (List Nat)
  | _, [] => some []
  | 0, _ :: _ => none
  | fuel + 1, c :: rest =>
    let op := c.toNat % (Opcodes.flagMask + 1)
    match Opcodes.opcodeSize[op]? with
    | none => none
    | some 0 => none
    | some (sz + 1) =>
      if rest.length < sz then none
      else (decode fuel (rest.drop sz)).map (op :: ·)

end RegexVerif.Capacity
