/-
Executable models of the candidate finders of `runner.go` — what `findFirstChar` does to
`Runtextpos` before the program is executed.

The scan loop calls `findFirstCharDefault(r)` (runner.go:1386).  Its dispatch is NOT by
`FindOptimizations.FindMode` alone:

  1. `Code.Anchors` has one of Beginning / Start / EndZ / End  → the legacy anchor jumps, followed by
     `BmPrefix.IsMatch` at the pinned position when a Boyer-Moore prefix exists           (`finderAnchors`)
  2. else `Code.BmPrefix != nil`                                 → `BmPrefix.Scan`          (`finderBmScan`)
  3. else `shouldUseFindFirstCharOptimized` (a subset of the find modes)
                                                                 → `findFirstCharOptimized` (`finderOptimized`)
  4. else `Code.FcPrefix != nil`                                 → first-character set scan  (`finderFc`)
  5. else                                                        → every position is a candidate (`finderNoSearch`)

so the `LeadingAnchor_*`, `LeadingString_LeftToRight/RightToLeft`, `LeadingSet_RightToLeft`,
`LeadingChar_RightToLeft` and `TrailingAnchor_FixedLength_LeftToRight_EndZ` modes are realised by
paths 1, 2 and 4 (the anchor bits, the Boyer-Moore prefix and the first-character set describe the same
facts), and only the modes listed in `shouldUse` reach their own helper.  `finderDefault` mirrors the
whole dispatch; one function per helper mirrors the helper.

Conventions.  The input is `text : List Nat` (code points), `n = text.length`; positions are rune
indices `0 … n`.  Every finder maps `pos` (= `Runtextpos` on entry) to `(found, Runtextpos on exit)`,
including where the position is left on failure.  Unicode knowledge is a parameter: set membership is
a predicate `Nat → Bool` (`CharSet.CharIn`), `lower : Nat → Nat` is `unicode.ToLower`.  The search
primitives (`helpers.IndexOf`, `IndexOfAny…`, `IndexFunc`) are modelled by what they
return — the first (right-to-left: last) index satisfying a test — not by their loops (`BmPrefix.Scan` alone runs
its skip tables: `finderBmScan`, Model/BoyerMoore.lean; `finderBmScanSpec` is what it returns); leg Fm
compares each modelled finder with the real one at every position of every generated input.

Go `int` arithmetic that can go negative is rewritten over `Nat` without truncation:
`start <= latestPossibleStart` ⇔ `start + minLen ≤ n`; `pos < Runtextend-1` ⇔ `pos + 1 < n`.
-/
import RegexVerif.Model.Scan
import RegexVerif.Model.BoyerMoore

namespace RegexVerif.Finders

/-! ### search primitives -/

/-- the first of the `k` candidates `q, q+1, …` satisfying `P` — `helpers.IndexOf*` / `IndexFunc`
    ("offset of the first element with …, or -1"), in absolute positions -/
def findUp (P : Nat → Bool) : Nat → Nat → Option Nat
  | 0, _ => none
  | k + 1, q => if P q then some q else findUp P k (q + 1)

/-- the first of the candidates `q, q-1, …, 0` satisfying `P` (right-to-left searches) -/
def findDown (P : Nat → Bool) : Nat → Option Nat
  | 0 => if P 0 then some 0 else none
  | q + 1 => if P (q + 1) then some (q + 1) else findDown P q

/-- `S.CharIn(text[i])`, false outside the input -/
def memAt (S : Nat → Bool) (text : List Nat) (i : Nat) : Bool :=
  match text[i]? with
  | some c => S c
  | none => false

/-- `pat` is a prefix of `ts` under the character test `eq textChar patChar` -/
def prefixOf (eq : Nat → Nat → Bool) : List Nat → List Nat → Bool
  | [], _ => true
  | _ :: _, [] => false
  | c :: ps, t :: ts => eq t c && prefixOf eq ps ts

/-- `helpers.StartsWith(text[q:], pat)` and friends: `pat` occurs in `text` at `q` (and fits) -/
def occursAt (eq : Nat → Nat → Bool) (pat text : List Nat) (q : Nat) : Bool :=
  prefixOf eq pat (text.drop q)

/-! ### the character comparisons of the string searches -/

/-- `helpers.foldASCII` -/
def foldASCII (c : Nat) : Nat := if 65 ≤ c ∧ c ≤ 90 then c + 32 else c

/-- `helpers.IndexOf`, `StartsWith`, `BmPrefix` case-sensitive -/
def eqExact (t c : Nat) : Bool := t == c

/-- `helpers.IndexOfIgnoreCaseAscii`: both sides ASCII-folded -/
def eqAsciiFold (t c : Nat) : Bool := foldASCII t == foldASCII c

/-- `helpers.IndexOfIgnoreCase`, `StartsWithIgnoreCase`: equal, or equal after `unicode.ToLower` of
    the text character (the needle is expected in lower case) -/
def eqLower (lower : Nat → Nat) (t c : Nat) : Bool := t == c || lower t == c

/-- `BmPrefix` with `caseInsensitive`: the text character is lowered, then compared -/
def eqBmLower (lower : Nat → Nat) (t c : Nat) : Bool := lower t == c

/-- `isASCIIRunes` / `isASCIIString` -/
def isAscii (pat : List Nat) : Bool := pat.all (fun c => decide (c ≤ 127))

/-- the comparison `findLeadingStringLeftToRight` / `indexOfLiteralAfterLoop` select -/
def stringEq (lower : Nat → Nat) (ignoreCase : Bool) (pat : List Nat) : Nat → Nat → Bool :=
  if ignoreCase then (if isAscii pat then eqAsciiFold else eqLower lower) else eqExact

/-- `hasRequiredLengthAt(r, start)`: `start >= 0 && start <= latestPossibleStart(r)`, where
    `latestPossibleStart = Runtextend - MinRequiredLength` (`Runtextend` when the minimum is 0) -/
def hasLen (minLen n start : Nat) : Bool := decide (start + minLen ≤ n)

/-- `(found, q)` from an optional candidate; every failing exit of the left-to-right helpers is
    `r.Runtextpos = r.Runtextend; return false` -/
def ltrResult (n : Nat) : Option Nat → Bool × Nat
  | some q => (true, q)
  | none => (false, n)

/-- right-to-left failing exit: `r.Runtextpos = 0; return false` -/
def rtlResult : Option Nat → Bool × Nat
  | some q => (true, q)
  | none => (false, 0)

/-! ### the loop shape shared by the skipping searches

```
for searchStart := s0; guard(searchStart); {
    i := indexOf…(text[searchStart:])      // none → Runtextpos = end, return false
    …decide on i: candidate found / give up (break) / searchStart = i + 1
}
Runtextpos = end; return false
``` -/

inductive Step where
  | found (q : Nat)
  | giveUp
  | next
deriving Repr, DecidableEq

/-- `fuel` bounds the iterations; the search start grows strictly, `n + 1` always suffices -/
def searchLoop (guard : Nat → Bool) (idx : Nat → Option Nat) (step : Nat → Step) : Nat → Nat → Option Nat
  | 0, _ => none
  | fuel + 1, s =>
    if guard s then
      match idx s with
      | none => none
      | some i =>
        match step i with
        | .found q => some q
        | .giveUp => none
        | .next => searchLoop guard idx step fuel (i + 1)
    else none

/-! ### path 5 and the end of path 4: nothing to search for -/

/-- `NoSearch` without anchors, Boyer-Moore prefix or first-character set: `return true` -/
def finderNoSearch (pos : Nat) : Bool × Nat := (true, pos)

/-! ### path 1: `Code.Anchors` (+ `BmPrefix.IsMatch`) -/

/-- the four bits of `Code.Anchors` the finder looks at -/
structure Anchors where
  beginning : Bool := false
  start : Bool := false
  endZ : Bool := false
  «end» : Bool := false
deriving Repr, DecidableEq

def Anchors.any (a : Anchors) : Bool := a.beginning || a.start || a.endZ || a.«end»

/-- `Code.BmPrefix`: the pattern (lower-cased at compile time when `ci`) and its case flag -/
structure Bm where
  pat : List Nat
  ci : Bool

def Bm.eq (lower : Nat → Nat) (b : Bm) : Nat → Nat → Bool := if b.ci then eqBmLower lower else eqExact

/-- `BmPrefix.IsMatch(text, index, 0, len(text))` -/
def bmIsMatch (lower : Nat → Nat) (b : Bm) (rtl : Bool) (text : List Nat) (index : Nat) : Bool :=
  if rtl then decide (b.pat.length ≤ index) && occursAt (b.eq lower) b.pat text (index - b.pat.length)
  else occursAt (b.eq lower) b.pat text index

/-- the anchor block of `findFirstCharDefault` (runner.go:1387-1416) -/
def finderAnchors (lower : Nat → Nat) (a : Anchors) (bm : Option Bm) (rtl : Bool) (text : List Nat)
    (textstart pos : Nat) : Bool × Nat :=
  let n := text.length
  if !rtl then
    if (a.beginning && decide (0 < pos)) || (a.start && decide (textstart < pos)) then (false, n)
    else
      let pos' := if a.endZ && decide (pos + 1 < n) then n - 1
                  else if a.«end» && decide (pos < n) then n else pos
      match bm with
      | some b => (bmIsMatch lower b false text pos', pos')
      | none => (true, pos')
  else
    if (a.«end» && decide (pos < n)) ||
       (a.endZ && (decide (pos + 1 < n) || (decide (pos + 1 = n) && text[pos]? != some 10))) ||
       (a.start && decide (pos < textstart)) then (false, 0)
    else
      let pos' := if a.beginning && decide (0 < pos) then 0 else pos
      match bm with
      | some b => (bmIsMatch lower b true text pos', pos')
      | none => (true, pos')

/-! ### path 2: `BmPrefix.Scan` -/

/-- what `BmPrefix.Scan(text, pos, 0, len(text))` is meant to compute, with the `-1` handling: left-to-right
    the first occurrence starting at or after `pos`; right-to-left the last occurrence ENDING at or before
    `pos`, reported by its end — in both directions the first position in scan order at which `IsMatch`
    would hold.  (`Props.C03.finder_bmScan_eq_spec`: the real scan below computes exactly this.) -/
def finderBmScanSpec (lower : Nat → Nat) (b : Bm) (rtl : Bool) (text : List Nat) (pos : Nat) : Bool × Nat :=
  let n := text.length
  if rtl then rtlResult (findDown (bmIsMatch lower b true text) pos)
  else ltrResult n (findUp (bmIsMatch lower b false text) (n + 1 - pos) pos)

/-- `r.Runtextpos = r.code.BmPrefix.Scan(r.Runtext, r.Runtextpos, 0, r.Runtextend)` and the `-1` handling
    (runner.go:1420-1430), with the Boyer-Moore machine of Model/BoyerMoore.lean: tables built as
    `newBmPrefix` builds them from the (already lower-cased) pattern, `Scan` with its skip loop.  A pattern
    for which `newBmPrefix` returns nil has no `Code.BmPrefix`; the model answers "no candidate" without
    moving. -/
def finderBmScan (lower : Nat → Nat) (b : Bm) (rtl : Bool) (text : List Nat) (pos : Nat) : Bool × Nat :=
  match BoyerMoore.build b.pat b.ci rtl with
  | none => (false, pos)
  | some t =>
    if rtl then rtlResult (BoyerMoore.scan lower t text pos 0 text.length)
    else ltrResult text.length (BoyerMoore.scan lower t text pos 0 text.length)

/-! ### path 4: `Code.FcPrefix` -/

/-- the first-character loop at the end of `findFirstCharDefault`; `mem` is `ch == SingletonChar()`
    for a singleton set, `set.CharIn(ch)` otherwise (the character is NOT lower-cased:
    `forwardcharnext` returns it raw) -/
def finderFc (mem : Nat → Bool) (rtl : Bool) (text : List Nat) (pos : Nat) : Bool × Nat :=
  let n := text.length
  if rtl then rtlResult (findDown (fun q => decide (1 ≤ q) && memAt mem text (q - 1)) pos)
  else ltrResult n (findUp (memAt mem text) (n - pos) pos)

/-! ### path 3: the helpers behind `findFirstCharOptimized` (all left-to-right) -/

/-- `findTrailingFixedLengthEnd(r, MinRequiredLength)`: the only candidate is `end - length` -/
def finderTrailingEnd (n fixedLength pos : Nat) : Bool × Nat :=
  if fixedLength ≤ n ∧ pos ≤ n - fixedLength then (true, n - fixedLength) else (false, n)

/-- `findLeadingStringLeftToRight(r, prefix, ignoreCase)` -/
def finderLeadingString (lower : Nat → Nat) (pat : List Nat) (ignoreCase : Bool) (text : List Nat)
    (minLen pos : Nat) : Bool × Nat :=
  let n := text.length
  if pat.isEmpty then (true, pos)
  else
    match findUp (occursAt (stringEq lower ignoreCase pat) pat text) (n + 1 - pos) pos with
    | none => (false, n)
    | some start => if hasLen minLen n start then (true, start) else (false, n)

/-- the test of the fast path of `findLeadingStringsLeftToRight` at a position whose character is one
    of the first runes: `len(prefix) > 0 && prefix[0] == first && StartsWith(text[start:], prefix)` -/
def anyPrefixWithFirst (prefixes : List (List Nat)) (text : List Nat) (start : Nat) : Bool :=
  prefixes.any fun p =>
    match p with
    | [] => false
    | c :: _ => text[start]? == some c && occursAt eqExact p text start

/-- `leadingPrefixFirstRunes(prefixes)` (optimizations.go): the distinct first runes, in order -/
def leadingPrefixFirstRunes (prefixes : List (List Nat)) : List Nat :=
  prefixes.foldl (fun first p =>
    match p with
    | c :: _ => if first.contains c then first else first ++ [c]
    | [] => first) []

/-- `findLeadingStringsLeftToRight(r, prefixes, firstRunes, ignoreCase)` -/
def finderLeadingStrings (lower : Nat → Nat) (prefixes : List (List Nat)) (firstRunes : List Nat)
    (ignoreCase : Bool) (text : List Nat) (minLen pos : Nat) : Bool × Nat :=
  let n := text.length
  if prefixes.isEmpty then (false, pos)
  else if ignoreCase || firstRunes.isEmpty then
    -- `for start := pos; start <= latestPossibleStart; start++ { for each prefix … }`
    ltrResult n (findUp (fun s => prefixes.any fun p => occursAt (if ignoreCase then eqLower lower else eqExact) p text s)
      (n + 1 - minLen - pos) pos)
  else
    -- `latest := min(latestPossibleStart, end-1)`; skip between characters that can start a prefix
    let m := max minLen 1
    ltrResult n (searchLoop (fun s => decide (s + m ≤ n))
      (fun s => findUp (memAt (fun c => firstRunes.contains c) text) (n + 1 - m - s) s)
      (fun i => if anyPrefixWithFirst prefixes text i then .found i else .next)
      (n + 1) pos)

/-- the decision of the fixed-distance char/string loops on a literal found at `i` -/
def fixedStep (d n minLen pos i : Nat) : Step :=
  let start := i - d
  if decide (pos ≤ start) && hasLen minLen n start then .found start
  else if decide (n < start + minLen) then .giveUp      -- `start > latestPossibleStart(r)`
  else .next

/-- `findFixedDistanceCharLeftToRight(r, ch, distance)` -/
def finderFixedChar (c d : Nat) (text : List Nat) (minLen pos : Nat) : Bool × Nat :=
  let n := text.length
  ltrResult n (searchLoop (fun s => decide (s < n))
    (fun s => findUp (fun i => text[i]? == some c) (n - s) s)
    (fixedStep d n minLen pos) (n + 1) (pos + d))

/-- `findFixedDistanceStringLeftToRight(r, literal, distance)` -/
def finderFixedString (lit : List Nat) (d : Nat) (text : List Nat) (minLen pos : Nat) : Bool × Nat :=
  let n := text.length
  if lit.isEmpty then (true, pos)
  else
    ltrResult n (searchLoop (fun s => decide (s + lit.length ≤ n))
      (fun s => findUp (occursAt eqExact lit text) (n + 1 - s) s)
      (fixedStep d n minLen pos) (n + 1) (pos + d))

/-- `syntax.FixedDistanceSet`: `Chars` (with `Negated`), else `Range` (with `Negated`), else `Set` -/
structure FDSet where
  chars : List Nat := []
  negated : Bool := false
  range : Option (Nat × Nat) := none
  set : Option (Nat → Bool) := none
  distance : Nat := 0

/-- `charInFixedDistanceSet(set, ch)`; `indexOfSet` searches for the first character passing the same
    test (its four branches call `IndexOfAny`, `IndexOfAnyExcept`, `IndexOfAny[Except]InRange`,
    `IndexFunc(charInFixedDistanceSet)`) -/
def FDSet.mem (s : FDSet) (ch : Nat) : Bool :=
  if !s.chars.isEmpty then (if s.negated then !s.chars.contains ch else s.chars.contains ch)
  else match s.range with
    | some (lo, hi) => if s.negated then !(decide (lo ≤ ch) && decide (ch ≤ hi)) else decide (lo ≤ ch) && decide (ch ≤ hi)
    | none => match s.set with
      | some m => m ch
      | none => false

/-- `fixedDistanceSetsMatchAt(r, sets, start)` -/
def fixedSetsMatchAt (sets : List FDSet) (text : List Nat) (start : Nat) : Bool :=
  sets.all fun s => memAt s.mem text (start + s.distance)

/-- `findFixedDistanceSetsLeftToRight(r, sets)` (also the `LeadingSet_LeftToRight` mode) -/
def finderFixedSets (sets : List FDSet) (text : List Nat) (minLen pos : Nat) : Bool × Nat :=
  let n := text.length
  match sets with
  | [] => (false, pos)
  | primary :: _ =>
    if primary.set.isNone then (false, pos)
    else
      ltrResult n (searchLoop (fun s => decide (s < n))
        (fun s => findUp (memAt primary.mem text) (n - s) s)
        (fun i =>
          let start := i - primary.distance
          if decide (n < start + minLen) then .giveUp
          else if decide (pos ≤ start) && hasLen minLen n start && fixedSetsMatchAt sets text start then .found start
          else .next)
        (n + 1) (pos + primary.distance))

/-- `syntax.LiteralAfterLoop` -/
structure LitAfterLoop where
  str : List Nat := []
  strIgnoreCase : Bool := false
  char : Nat := 0
  chars : List Nat := []
  /-- `LoopNode.Set.CharIn`; `none` = `LoopNode == nil || LoopNode.Set == nil` -/
  loopSet : Option (Nat → Bool) := none

/-- the test `indexOfLiteralAfterLoop` searches the first position of: the string (if non-empty),
    else one of `Chars` (if non-empty), else `Char` -/
def LitAfterLoop.litAt (lower : Nat → Nat) (l : LitAfterLoop) (text : List Nat) (k : Nat) : Bool :=
  if !l.str.isEmpty then occursAt (stringEq lower l.strIgnoreCase l.str) l.str text k
  else if !l.chars.isEmpty then memAt (fun c => l.chars.contains c) text k
  else text[k]? == some l.char

/-- `for start > lo && set.CharIn(text[start-1]) { start-- }` -/
def walkBack (S : Nat → Bool) (text : List Nat) (lo : Nat) : Nat → Nat
  | 0 => 0
  | s + 1 => if decide (lo < s + 1) && memAt S text s then walkBack S text lo s else s + 1

/-- `findLiteralAfterLoopLeftToRight(r, literal)` -/
def finderLiteralAfterLoop (lower : Nat → Nat) (l : LitAfterLoop) (text : List Nat) (minLen pos : Nat) : Bool × Nat :=
  let n := text.length
  match l.loopSet with
  | none => (false, pos)
  | some S =>
    ltrResult n (searchLoop (fun s => decide (s < n))
      (fun s => findUp (l.litAt lower text) (n - s) s)
      (fun i =>
        let start := walkBack S text pos i
        if hasLen minLen n start then .found start else .next)
      (n + 1) pos)

/-! ### the required-landmark chain -/

/-- `syntax.RequiredLandmarkAlternative` -/
structure LmAlt where
  literal : List Nat := []
  set : Option (Nat → Bool) := none
  leadWs : Option (Nat → Bool) := none
  trailWs : Option (Nat → Bool) := none
  minRepeat : Nat := 0
  maxRepeat : Int := 0
  reqBefore : Bool := false
  reqAfter : Bool := false

/-- `requiredLandmarkMatch` -/
structure LmMatch where
  start : Nat
  coreStart : Nat
  «end» : Nat
deriving Repr, DecidableEq

/-- `for end < endAt && end-start < maxRepeat && set.CharIn(input[end]) { end++ }` -/
def runOf (S : Nat → Bool) (text : List Nat) (start maxRepeat : Nat) : Nat → Nat → Nat
  | 0, e => e
  | fuel + 1, e =>
    if decide (e < text.length) && decide (e - start < maxRepeat) && memAt S text e then runOf S text start maxRepeat fuel (e + 1)
    else e

def optMemAt (S : Option (Nat → Bool)) (text : List Nat) (i : Nat) : Bool :=
  match S with
  | some m => memAt m text i
  | none => false

/-- `for end-start > alt.MinRepeat && (end >= endAt || !TrailingWhitespaceSet.CharIn(input[end])) { end-- }`
    (/repo 5d7d1a2): a set core that overlaps the whitespace required after it may give repetitions back -/
def giveBack (W : Option (Nat → Bool)) (text : List Nat) (start minRepeat : Nat) : Nat → Nat
  | 0 => 0
  | e + 1 =>
    if decide (minRepeat < e + 1 - start) && (decide (text.length ≤ e + 1) || !optMemAt W text (e + 1)) then
      giveBack W text start minRepeat e
    else e + 1

/-- the core of `requiredLandmarkAlternativeMatch`: where the literal ends; or the greedy run of the set (at
    most `MaxRepeat`, at least `MinRepeat` characters), shortened to the last admissible end that is
    followed by the required trailing whitespace, if there is one -/
def lmCore (text : List Nat) (start : Nat) (alt : LmAlt) : Option Nat :=
  let n := text.length
  if !alt.literal.isEmpty then
    if decide (n < start + alt.literal.length) || !occursAt eqExact alt.literal text start then none
    else some (start + alt.literal.length)
  else match alt.set with
    | some S =>
      if 0 < alt.minRepeat then
        let maxRepeat := if alt.maxRepeat ≤ 0 then alt.minRepeat else alt.maxRepeat.toNat
        let e := runOf S text start maxRepeat (n + 1) start
        if e - start < alt.minRepeat then none
        else if alt.reqAfter && alt.trailWs.isSome then some (giveBack alt.trailWs text start alt.minRepeat e)
        else some e
      else none
    | none => none

/-- `requiredLandmarkAlternativeMatch(input, start, len(input), alt)` -/
def lmAltMatch (text : List Nat) (start : Nat) (alt : LmAlt) : Option LmMatch :=
  let n := text.length
  if alt.reqBefore && (decide (start = 0) || !optMemAt alt.leadWs text (start - 1)) then none
  else
    match lmCore text start alt with
    | none => none
    | some e =>
      if alt.reqAfter && (decide (n ≤ e) || !optMemAt alt.trailWs text e) then none
      else some ⟨walkBack (fun c => match alt.leadWs with | some m => m c | none => false) text 0 start, start, e⟩

/-- the shortest width an alternative's core can have: `len(Literal)`, or `MinRepeat` for a set -/
def LmAlt.minWidth (a : LmAlt) : Nat := if a.literal.isEmpty then a.minRepeat else a.literal.length

/-- `findNextRequiredLandmarkRunes(input, startAt, len(input), landmark)`: the first position at which
    some alternative matches (alternatives in order), and the earliest end `minEnd` -/
def lmFindNext (text : List Nat) (alts : List LmAlt) : Nat → Nat → Option (LmMatch × Nat)
  | 0, _ => none
  | fuel + 1, i =>
    if i < text.length then
      match alts.findSome? (lmAltMatch text i) with
      | some mt =>
        some (mt, alts.foldl (fun minEnd other => if mt.coreStart + other.minWidth < minEnd then mt.coreStart + other.minWidth else minEnd) mt.«end»)
      | none => lmFindNext text alts fuel (i + 1)
    else none

/-- the inner `for i := 1; i < len(chain.Landmarks); i++` : every later landmark must be found, each
    from the minimal end of the one before -/
def lmRest (text : List Nat) : List (List LmAlt) → Nat → Bool
  | [], _ => true
  | alts :: rest, nextStart =>
    match lmFindNext text alts (text.length + 1) nextStart with
    | none => false
    | some (_, minEnd) => lmRest text rest minEnd

/-- `syntax.RequiredLandmarkChain` -/
structure LmChain where
  loopSet : Option (Nat → Bool) := none
  landmarks : List (List LmAlt) := []

/-- `landmarkLeadingWhitespace(landmark, ch)`: `ch` is in the leading-whitespace set of some alternative -/
def lmLeadingWs (alts : List LmAlt) (ch : Nat) : Bool :=
  alts.any fun a => match a.leadWs with
    | some m => m ch
    | none => false

/-- the outer loop of `findRequiredLandmarkChainLeftToRight` -/
def lmLoop (S : Nat → Bool) (first : List LmAlt) (rest : List (List LmAlt)) (text : List Nat) (minLen pos : Nat) :
    Nat → Nat → Option Nat
  | 0, _ => none
  | fuel + 1, s =>
    if s + minLen ≤ text.length then
      match lmFindNext text first (text.length + 1) s with
      | none => none
      | some (mt, firstMinEnd) =>
        if lmRest text rest firstMinEnd then
          -- the match may use another alternative of the first landmark than the one found: walk back
          -- over anything that can be leading whitespace of any alternative, then over the leading loop
          let c1 := walkBack (lmLeadingWs first) text pos mt.coreStart
          let candidate := walkBack S text pos c1
          if hasLen minLen text.length candidate then some candidate
          else lmLoop S first rest text minLen pos fuel (mt.coreStart + 1)
        else none
    else none

/-- `findRequiredLandmarkChainLeftToRight(r, chain)` -/
def finderLandmarkChain (ch : LmChain) (text : List Nat) (minLen pos : Nat) : Bool × Nat :=
  match ch.loopSet, ch.landmarks with
  | some S, first :: rest => ltrResult text.length (lmLoop S first rest text minLen pos (text.length + 1) pos)
  | _, _ => (false, pos)

/-! ### the dispatch -/

/-- `syntax.FindNextStartingPositionMode` -/
inductive Mode where
  | noSearch
  | leadingAnchorLtrBeginning | leadingAnchorLtrStart | leadingAnchorLtrEndZ | leadingAnchorLtrEnd
  | leadingAnchorRtlBeginning | leadingAnchorRtlStart | leadingAnchorRtlEndZ | leadingAnchorRtlEnd
  | trailingAnchorFixedLengthLtrEnd | trailingAnchorFixedLengthLtrEndZ
  | leadingStringLtr | leadingStringRtl | leadingStringOrdinalIgnoreCaseLtr
  | leadingStringsLtr | leadingStringsOrdinalIgnoreCaseLtr
  | leadingSetLtr | leadingSetRtl | leadingCharRtl
  | fixedDistanceCharLtr | fixedDistanceStringLtr | fixedDistanceSetsLtr
  | literalAfterLoopLtr | requiredLandmarkChainLtr
deriving Repr, DecidableEq

/-- what the finder reads of `syntax.FindOptimizations` -/
structure FindOpts where
  mode : Mode := .noSearch
  minLen : Nat := 0
  leadingPrefix : List Nat := []
  prefixes : List (List Nat) := []
  firstRunes : List Nat := []
  fixedChar : Nat := 0
  fixedString : List Nat := []
  fixedDistance : Nat := 0
  sets : List FDSet := []
  literalAfterLoop : Option LitAfterLoop := none
  chain : Option LmChain := none

/-- `shouldUseFindFirstCharOptimized(r)` -/
def shouldUse (o : FindOpts) : Bool :=
  match o.mode with
  | .trailingAnchorFixedLengthLtrEnd | .leadingStringOrdinalIgnoreCaseLtr | .leadingStringsLtr
  | .leadingStringsOrdinalIgnoreCaseLtr | .fixedDistanceCharLtr | .fixedDistanceStringLtr
  | .fixedDistanceSetsLtr | .literalAfterLoopLtr | .requiredLandmarkChainLtr => true
  | .leadingSetLtr =>
    match o.sets with
    | s :: _ => (decide (0 < s.chars.length) && decide (s.chars.length ≤ 5)) || s.range.isSome
    | [] => false
  | _ => false

/-- `findFirstCharOptimized(r)`: `none` = not handled -/
def finderOptimized (lower : Nat → Nat) (o : FindOpts) (text : List Nat) (pos : Nat) : Option (Bool × Nat) :=
  match o.mode with
  | .trailingAnchorFixedLengthLtrEnd => some (finderTrailingEnd text.length o.minLen pos)
  | .leadingStringLtr => some (finderLeadingString lower o.leadingPrefix false text o.minLen pos)
  | .leadingStringOrdinalIgnoreCaseLtr => some (finderLeadingString lower o.leadingPrefix true text o.minLen pos)
  | .leadingStringsLtr => some (finderLeadingStrings lower o.prefixes o.firstRunes false text o.minLen pos)
  | .leadingStringsOrdinalIgnoreCaseLtr => some (finderLeadingStrings lower o.prefixes o.firstRunes true text o.minLen pos)
  | .leadingSetLtr | .fixedDistanceSetsLtr => some (finderFixedSets o.sets text o.minLen pos)
  | .fixedDistanceCharLtr => some (finderFixedChar o.fixedChar o.fixedDistance text o.minLen pos)
  | .fixedDistanceStringLtr => some (finderFixedString o.fixedString o.fixedDistance text o.minLen pos)
  | .literalAfterLoopLtr =>
    some (match o.literalAfterLoop with
      | some l => finderLiteralAfterLoop lower l text o.minLen pos
      | none => (false, pos))
  | .requiredLandmarkChainLtr =>
    some (match o.chain with
      | some ch => finderLandmarkChain ch text o.minLen pos
      | none => (false, pos))
  | _ => none

/-- everything `findFirstCharDefault` reads of the compiled program -/
structure Facts where
  rtl : Bool := false
  anchors : Anchors := {}
  bm : Option Bm := none
  opts : FindOpts := {}
  /-- `Code.FcPrefix`: the membership test the loop applies (see `finderFc`) -/
  fc : Option (Nat → Bool) := none
  lower : Nat → Nat := id

/-- which of the five paths `findFirstCharDefault` takes (for the evidence histogram) -/
inductive Path where
  | anchors | bmScan | optimized | fc | none
deriving Repr, DecidableEq

def pathOf (f : Facts) : Path :=
  if f.anchors.any then .anchors
  else if f.bm.isSome then .bmScan
  else if shouldUse f.opts && (finderOptimized f.lower f.opts [] 0).isSome then .optimized
  else if f.fc.isSome then .fc
  else .none

/-- `findFirstCharDefault(r)` (runner.go:1386-1466) -/
def finderDefault (f : Facts) (text : List Nat) (textstart pos : Nat) : Bool × Nat :=
  if f.anchors.any then finderAnchors f.lower f.anchors f.bm f.rtl text textstart pos
  else
    match f.bm with
    | some b => finderBmScan f.lower b f.rtl text pos
    | none =>
      match (if shouldUse f.opts then finderOptimized f.lower f.opts text pos else none) with
      | some r => r
      | none =>
        match f.fc with
        | none => finderNoSearch pos
        | some mem => finderFc mem f.rtl text pos

end RegexVerif.Finders
