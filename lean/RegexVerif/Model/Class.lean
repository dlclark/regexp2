/-
Model of `syntax.CharSet` (syntax/charclass.go of /repo): the class representation, the two lookup
paths (`CharIn` with the ASCII bitmap, `charInSlow`), `prepareASCIIBitmap`, `canonicalize` and the
operations the parser and the analyses build classes with.

Runes are `Nat` (the Go code uses int32; negative runes never reach a class).  Unicode knowledge is
an oracle: `cat id ch` says whether rune `ch` is in the category / script / property (or one of the
two special categories " " = white space, "W" = word character) numbered `id`.  Category *names*
matter to the Go code only through equality, so the model uses numbers.

The model follows the code that exists, quirks included:
  * `charInSlow` never looks at the `anything` flag;
  * `canonicalize` runs after every single addition of ranges (`addCategories` does not call it); its "everything but X" normalisations turn a
    positive class into a *negated* one, so they are skipped while `building` is set (the parser
    sets it and runs one full `canonicalize` at the end of the class, commit 493eae7; under
    IgnoreCase the mark stays until `nodeWithCaseConversion` copies the class, and the normal form
    is taken by the `canonicalize` that ends `addCaseEquivalences`, commit d62d6ac);
  * `addNegativeRanges` tests `hi < MaxRune` (strictly), so the complement of a list that ends at
    U+10FFFE lacks U+10FFFF.
-/
namespace RegexVerif.Class

/-- `unicode.MaxRune` = `utf8.MaxRune` -/
def maxRune : Nat := 0x10FFFF

/-- one `CharSet` without its subtractor: `ranges`, `categories` (id, Negate), `negate`,
`anything`, and the two words of the ASCII bitmap when it has been built -/
structure Flat where
  ranges : List (Nat × Nat) := []
  cats : List (Nat × Bool) := []
  neg : Bool := false
  anything : Bool := false
  /-- set by `scanCharSet` while items are still being added (commit 493eae7): `canonicalize` then
  only sorts and merges -/
  building : Bool := false
  ascii : Option (Nat × Nat) := none
  deriving Repr, DecidableEq, Inhabited

/-- a `CharSet` with its chain of subtractors (`sub *CharSet`) -/
inductive Class where
  | leaf (f : Flat)
  | minus (f : Flat) (sub : Class)
  deriving Repr, DecidableEq, Inhabited

namespace Class
def flat : Class → Flat
  | leaf f => f
  | minus f _ => f
def hasSub : Class → Bool
  | leaf _ => false
  | minus _ _ => true
def sub? : Class → Option Class
  | leaf _ => none
  | minus _ s => some s
/-- replace the head `CharSet`'s own fields, keeping the subtractor -/
def withFlat (g : Flat) : Class → Class
  | leaf _ => leaf g
  | minus _ s => minus g s
end Class

/-! ## Specification: set algebra -/

def inRange (r : Nat × Nat) (ch : Nat) : Bool := decide (r.1 ≤ ch) && decide (ch ≤ r.2)

/-- `ch` lies in one of the ranges -/
def inRanges (rs : List (Nat × Nat)) (ch : Nat) : Bool := rs.any (fun r => inRange r ch)

/-- one category entry accepts `ch`: membership in the category, flipped when the entry is negated -/
def catAccepts (cat : Nat → Nat → Bool) (c : Nat × Bool) (ch : Nat) : Bool := cat c.1 ch != c.2

/-- some category entry accepts `ch` -/
def inCats (cat : Nat → Nat → Bool) (cs : List (Nat × Bool)) (ch : Nat) : Bool :=
  cs.any (fun c => catAccepts cat c ch)

/-- positive part of one `CharSet`: union of ranges and category entries -/
def Flat.pos (cat : Nat → Nat → Bool) (f : Flat) (ch : Nat) : Bool :=
  inRanges f.ranges ch || inCats cat f.cats ch

/-- (positive part) xor negate -/
def Flat.memAlg (cat : Nat → Nat → Bool) (f : Flat) (ch : Nat) : Bool := f.pos cat ch != f.neg

/-- THE SPECIFICATION.  ((in some range ∨ some category entry accepts) xor negate) ∧ ¬ member of the
subtracted class. -/
def memAlg (cat : Nat → Nat → Bool) : Class → Nat → Bool
  | .leaf f, ch => f.memAlg cat ch
  | .minus f s, ch => f.memAlg cat ch && !(memAlg cat s ch)

/-! ## Implementation mirror: `charInSlow`, `charInCategories`, `CharIn`, `prepareASCIIBitmap` -/

/-- the `n <= 4` branch of `charInSlow`: linear scan with early exit on `ch < r.First` -/
def scanLinear : List (Nat × Nat) → Nat → Bool
  | [], _ => false
  | r :: rs, ch =>
    if ch < r.1 then false
    else if ch ≤ r.2 then true
    else scanLinear rs ch

/-- the binary-search loop of `charInSlow` (`lo, hi := 0, n; for lo < hi {…}`); returns the final
`lo`.  `fuel` bounds the iterations (`hi - lo ≤ fuel` suffices, see `Lemmas/Class.lean`). -/
def bsLoop (rs : List (Nat × Nat)) (ch : Nat) : Nat → Nat → Nat → Nat
  | 0, lo, _ => lo
  | fuel + 1, lo, hi =>
    if lo < hi then
      let mid := (lo + hi) / 2
      match rs[mid]? with
      | some r => if r.1 ≤ ch then bsLoop rs ch fuel (mid + 1) hi else bsLoop rs ch fuel lo mid
      | none => lo
    else lo

/-- the range part of `charInSlow` -/
def rangeLookup (rs : List (Nat × Nat)) (ch : Nat) : Bool :=
  let n := rs.length
  if n = 0 then false
  else if n ≤ 4 then scanLinear rs ch
  else
    let lo := bsLoop rs ch n 0 n
    if lo > 0 then
      match rs[lo - 1]? with
      | some r => decide (ch ≤ r.2)
      | none => false
    else false

/-- `charInCategories` (after commit 4abd18d): a positive entry that contains `ch`, or a negated
entry that does not, answers true; otherwise the next entry is tried -/
def catLoop (cat : Nat → Nat → Bool) : List (Nat × Bool) → Nat → Bool
  | [], _ => false
  | c :: rest, ch =>
    if cat c.1 ch then
      (if !c.2 then true else catLoop cat rest ch)
    else if c.2 then true
    else catLoop cat rest ch

/-- `charInSlow` up to and including `if c.negate { val = !val }` -/
def Flat.head (cat : Nat → Nat → Bool) (f : Flat) (ch : Nat) : Bool :=
  let val := rangeLookup f.ranges ch
  let val := if !val && !f.cats.isEmpty then catLoop cat f.cats ch else val
  if f.neg then !val else val

/-- bit `ch` of the bitmap: `(bits[ch/64] & (1 << (ch%64))) != 0` -/
def bitTest (bm : Nat × Nat) (ch : Nat) : Bool :=
  if ch / 64 = 0 then bm.1.testBit (ch % 64) else bm.2.testBit (ch % 64)

/-- `bits[i/64] |= 1 << (i%64)` -/
def bitSet (bm : Nat × Nat) (i : Nat) : Nat × Nat :=
  if i / 64 = 0 then (bm.1 ||| (1 <<< (i % 64)), bm.2) else (bm.1, bm.2 ||| (1 <<< (i % 64)))

/-- the loop of `prepareASCIIBitmap` over `i := range rune(128)` -/
def buildBitmap (slow : Nat → Bool) : Nat × Nat :=
  (List.range 128).foldl (fun bm i => if slow i then bitSet bm i else bm) (0, 0)

/-- the fast path of `CharIn`: `ch < 128 && c.ascii != nil` answers from the bitmap, everything
else from `charInSlow` (whose value is passed in) -/
def viaBitmap (ascii : Option (Nat × Nat)) (ch : Nat) (slow : Bool) : Bool :=
  if ch < 128 then
    match ascii with
    | some bm => bitTest bm ch
    | none => slow
  else slow

/-- `charInSlow`, including the recursive `!c.sub.CharIn(ch)` (which may use the subtractor's
bitmap) -/
def charInSlow (cat : Nat → Nat → Bool) : Class → Nat → Bool
  | .leaf f, ch => f.head cat ch
  | .minus f s, ch =>
    if f.head cat ch then !(viaBitmap s.flat.ascii ch (charInSlow cat s ch)) else false

/-- `CharIn` -/
def charIn (cat : Nat → Nat → Bool) (c : Class) (ch : Nat) : Bool :=
  viaBitmap c.flat.ascii ch (charInSlow cat c ch)

/-- `prepareASCIIBitmap`: nothing when a bitmap exists; otherwise the subtractor first, then 128
calls of `charInSlow` -/
def prepare (cat : Nat → Nat → Bool) : Class → Class
  | .leaf f =>
    match f.ascii with
    | some _ => .leaf f
    | none => .leaf { f with ascii := some (buildBitmap (fun i => f.head cat i)) }
  | .minus f s =>
    match f.ascii with
    | some _ => .minus f s
    | none =>
      let s' := prepare cat s
      .minus { f with ascii := some (buildBitmap (fun i => charInSlow cat (.minus f s') i)) } s'

/-- drop every bitmap (a class as the parser leaves it) -/
def strip : Class → Class
  | .leaf f => .leaf { f with ascii := none }
  | .minus f s => .minus { f with ascii := none } (strip s)

/-! ## `canonicalize` -/

/-- insertion by `First` (the Go code uses `sort.Sort` with `Less = First <`; any sort by `First`
gives the same merge result on well-formed ranges) -/
def insertByFirst (r : Nat × Nat) : List (Nat × Nat) → List (Nat × Nat)
  | [] => [r]
  | x :: xs => if r.1 ≤ x.1 then r :: x :: xs else x :: insertByFirst r xs

def sortByFirst : List (Nat × Nat) → List (Nat × Nat)
  | [] => []
  | r :: rs => insertByFirst r (sortByFirst rs)

/-- the merge loop of `canonicalize` on a list sorted by `First`: `(first,last)` is the range being
grown (`c.ranges[j]`), the list is what is left from index `i`.  `last >= MaxRune` ends the loop and
drops the rest. -/
def mergeGo (first last : Nat) : List (Nat × Nat) → List (Nat × Nat)
  | [] => [(first, last)]
  | c :: rest =>
    if last ≥ maxRune then [(first, last)]
    else if c.1 > last + 1 then (first, last) :: mergeGo c.1 c.2 rest
    else mergeGo first (if last < c.2 then c.2 else last) rest

/-- sort + merge overlapping or abutting ranges -/
def mergeRanges (rs : List (Nat × Nat)) : List (Nat × Nat) :=
  match sortByFirst rs with
  | [] => []
  | r :: rest => mergeGo r.1 r.2 rest

/-- `makeAnything` -/
def Flat.makeAnything (f : Flat) : Flat :=
  { f with anything := true, cats := [], ranges := [(0, maxRune)] }

/-- first normalisation: a positive, category-free, subtraction-free class that is "everything but
one gap" becomes the negated gap -/
def norm1 (hasSub : Bool) (f : Flat) : Flat :=
  if !f.neg && !hasSub && f.cats.isEmpty then
    match f.ranges with
    | [r0, r1] =>
      if r0.1 = 0 ∧ r1.2 ≥ maxRune ∧ r0.2 < r1.1 - 1 then
        { f with ranges := [(r0.2 + 1, r1.1 - 1)], neg := true }
      else f
    | [r0] =>
      if r0.1 = 0 then
        (if r0.2 = maxRune - 1 then { f with ranges := [(maxRune, maxRune)], neg := true } else f)
      else if r0.1 = 1 then
        (if r0.2 ≥ maxRune then { f with ranges := [(0, 0)], neg := true } else f)
      else f
    | _ => f
  else f

/-- second normalisation: one range covering everything → `makeAnything` (drops the categories) -/
def norm2 (hasSub : Bool) (f : Flat) : Flat :=
  if !f.neg && !hasSub then
    match f.ranges with
    | [r0] => if r0.1 = 0 ∧ r0.2 ≥ maxRune then f.makeAnything else f
    | _ => f
  else f

/-- third normalisation: ranges omit exactly one character and there are categories: ask the
categories about that character -/
def norm3 (cat : Nat → Nat → Bool) (hasSub : Bool) (f : Flat) : Flat :=
  if !f.neg && !hasSub && !f.cats.isEmpty then
    match f.ranges with
    | [r0, r1] =>
      if r0.1 = 0 ∧ r0.2 + 2 = r1.1 ∧ r1.2 = maxRune then
        (if catLoop cat f.cats (r0.2 + 1) then f.makeAnything
         else { f with neg := true, ranges := [(r0.2 + 1, r0.2 + 1)], cats := [] })
      else f
    | _ => f
  else f

/-- `canonicalize` of a `CharSet` whose `sub` is (`hasSub`) or is not nil -/
def Flat.canonicalize (cat : Nat → Nat → Bool) (hasSub : Bool) (f : Flat) : Flat :=
  if f.ranges.isEmpty then f
  else
    let f1 := { f with ranges := mergeRanges f.ranges }
    if f1.building then f1
    else norm3 cat hasSub (norm2 hasSub (norm1 hasSub f1))

/-! ## Building operations -/

/-- `addRange` (also `addChar`) -/
def Flat.addRange (cat : Nat → Nat → Bool) (hasSub : Bool) (f : Flat) (lo hi : Nat) : Flat :=
  Flat.canonicalize cat hasSub { f with ranges := f.ranges ++ [(lo, hi)] }

/-- `addRanges` -/
def Flat.addRanges (cat : Nat → Nat → Bool) (hasSub : Bool) (f : Flat) (rs : List (Nat × Nat)) : Flat :=
  if f.anything then f
  else Flat.canonicalize cat hasSub { f with ranges := f.ranges ++ rs }

/-- the complement construction inside `addNegativeRanges` (`hi` starts at 0) -/
def negGo (hi : Nat) : List (Nat × Nat) → List (Nat × Nat)
  | [] => if hi < maxRune then [(hi, maxRune)] else []
  | r :: rs => (if hi < r.1 then [(hi, r.1 - 1)] else []) ++ negGo (r.2 + 1) rs

/-- `addNegativeRanges` -/
def Flat.addNegativeRanges (cat : Nat → Nat → Bool) (hasSub : Bool) (f : Flat) (rs : List (Nat × Nat)) : Flat :=
  if f.anything then f
  else Flat.canonicalize cat hasSub { f with ranges := f.ranges ++ negGo 0 rs }

/-- the inner search of `addCategories`: `none` = same name with opposite negation found,
`some true` = already present, `some false` = new -/
def findCat (c : Nat × Bool) : List (Nat × Bool) → Option Bool
  | [] => some false
  | d :: rest => if c.1 = d.1 then (if c.2 != d.2 then none else some true) else findCat c rest

/-- `addCategories` (without the leading `anything` test) -/
def addCatsGo (f : Flat) : List (Nat × Bool) → Flat
  | [] => f
  | c :: rest =>
    match findCat c f.cats with
    | none => f.makeAnything
    | some true => addCatsGo f rest
    | some false => addCatsGo { f with cats := f.cats ++ [c] } rest

/-- `addCategories` -/
def Flat.addCategories (f : Flat) (cs : List (Nat × Bool)) : Flat :=
  if f.anything then f else addCatsGo f cs

/-- `addSet` (the argument's `negate`/`sub` are ignored by the code; callers check `IsMergeable`) -/
def Flat.addSet (cat : Nat → Nat → Bool) (hasSub : Bool) (f : Flat) (s : Flat) : Flat :=
  if f.anything then f
  else if s.anything then f.makeAnything
  else Flat.canonicalize cat hasSub (Flat.addCategories { f with ranges := f.ranges ++ s.ranges } s.cats)

/-- the ranges appended by `addCaseEquivalences`: one singleton per case-equivalent (`orbit i` is
`tryFindCaseEquivalences(i)`) of every member of every range -/
def caseEquivRanges (orbit : Nat → List Nat) (rs : List (Nat × Nat)) : List (Nat × Nat) :=
  rs.flatMap (fun r => (List.range' r.1 (r.2 + 1 - r.1)).flatMap (fun i => (orbit i).map (fun e => (e, e))))

/-- `addCaseEquivalences` on one `CharSet` (the recursion into `sub` is in `Class.addCaseEquivalences`) -/
def Flat.addCaseEquivalences (cat : Nat → Nat → Bool) (orbit : Nat → List Nat) (hasSub : Bool) (f : Flat) : Flat :=
  if f.anything then f
  else Flat.canonicalize cat hasSub { f with ranges := f.ranges ++ caseEquivRanges orbit f.ranges }

/-- `addCaseEquivalences` -/
def Class.addCaseEquivalences (cat : Nat → Nat → Bool) (orbit : Nat → List Nat) : Class → Class
  | .leaf f => .leaf (f.addCaseEquivalences cat orbit false)
  | .minus f s => .minus (f.addCaseEquivalences cat orbit true) (Class.addCaseEquivalences cat orbit s)

/-! ## `addLowercase` (the table `lcTable` is a parameter; `Generated/Class.lean` holds the source's) -/

/-- one operation of `lcTable`: 0 = set to `data`, 1 = add `data`, 2 = `| 1`, 3 = `+ (ch & 1)` -/
def lcApply (op : Nat) (data : Int) (x : Nat) : Nat :=
  if op = 0 then data.toNat
  else if op = 1 then ((x : Int) + data).toNat
  else if op = 2 then x ||| 1
  else x + (x &&& 1)

/-- the binary search at the head of `addLowercaseRange`: first row whose `chMax` is not below `chMin` -/
def lcSearch (tbl : List (Nat × Nat × Nat × Int)) (chMin : Nat) : Nat → Nat → Nat → Nat
  | 0, i, _ => i
  | fuel + 1, i, iMax =>
    if i < iMax then
      let mid := (i + iMax) / 2
      match tbl[mid]? with
      | some row => if row.2.1 < chMin then lcSearch tbl chMin fuel (mid + 1) iMax else lcSearch tbl chMin fuel i mid
      | none => i
    else i

/-- the second loop of `addLowercaseRange` over the rows from the found index on -/
def lcScan (chMin chMax : Nat) : List (Nat × Nat × Nat × Int) → List (Nat × Nat)
  | [] => []
  | (lo, hi, op, data) :: rest =>
    if lo > chMax then []
    else
      let a := if lo < chMin then chMin else lo
      let b := if hi > chMax then chMax else hi
      let a' := lcApply op data a
      let b' := lcApply op data b
      (if a' < chMin ∨ b' > chMax then [(a', b')] else []) ++ lcScan chMin chMax rest

/-- the ranges `addLowercaseRange(chMin, chMax)` appends -/
def lowercaseRangeAdds (tbl : List (Nat × Nat × Nat × Int)) (chMin chMax : Nat) : List (Nat × Nat) :=
  lcScan chMin chMax (tbl.drop (lcSearch tbl chMin tbl.length 0 tbl.length))

/-- `addLowercase`: single characters are replaced by `unicode.ToLower` (oracle `toLower`), proper ranges
get the table's lowercase images appended; then `canonicalize` -/
def Flat.addLowercase (cat : Nat → Nat → Bool) (toLower : Nat → Nat) (tbl : List (Nat × Nat × Nat × Int))
    (hasSub : Bool) (f : Flat) : Flat :=
  if f.anything then f
  else
    let rs1 := f.ranges.map (fun r => if r.1 = r.2 then (toLower r.1, toLower r.1) else r)
    let adds := (f.ranges.filter (fun r => r.1 ≠ r.2)).flatMap (fun r => lowercaseRangeAdds tbl r.1 r.2)
    Flat.canonicalize cat hasSub { f with ranges := rs1 ++ adds }

/-! ## The parser's way of building a class (`scanCharSet`, without IgnoreCase) -/

/-- what `scanCharSet` adds for one syntactic item -/
inductive Item where
  /-- `addRange(lo, hi)` / `addChar` -/
  | range (lo hi : Nat)
  /-- `addRanges(rs)`: ECMAScript / RE2 shorthand tables, positive POSIX names -/
  | ranges (rs : List (Nat × Nat))
  /-- `addNegativeRanges(rs)`: `[:^name:]` -/
  | negRanges (rs : List (Nat × Nat))
  /-- `addCategories(cs…)`: `\d \w \s \p{..}` and their negations -/
  | cats (cs : List (Nat × Bool))
  deriving Repr, DecidableEq

/-- set-algebra meaning of one item -/
def Item.mem (cat : Nat → Nat → Bool) : Item → Nat → Bool
  | .range lo hi, ch => inRange (lo, hi) ch
  | .ranges rs, ch => inRanges rs ch
  | .negRanges rs, ch => !inRanges rs ch
  | .cats cs, ch => inCats cat cs ch

def Flat.addItem (cat : Nat → Nat → Bool) (f : Flat) : Item → Flat
  | .range lo hi => f.addRange cat false lo hi
  | .ranges rs => f.addRanges cat false rs
  | .negRanges rs => f.addNegativeRanges cat false rs
  | .cats cs => f.addCategories cs

/-- the head `CharSet` while `scanCharSet` reads `[` (`^`)? items…: `building` is set -/
def buildItems (cat : Nat → Nat → Bool) (neg : Bool) (items : List Item) : Flat :=
  items.foldl (Flat.addItem cat) { neg := neg, building := true }

/-- `Copy()`: carries neither the `building` mark nor the bitmap -/
def Flat.copy (f : Flat) : Flat := { f with building := false, ascii := none }

/-- `Copy()` is deep -/
def Class.copy : Class → Class
  | .leaf f => .leaf f.copy
  | .minus f s => .minus f.copy (Class.copy s)

/-- the end of `scanCharSet` (without IgnoreCase): `cc.building = false; cc.canonicalize()`;
`hasSub` says whether a subtraction was attached -/
def Flat.finish (cat : Nat → Nat → Bool) (hasSub : Bool) (f : Flat) : Flat :=
  Flat.canonicalize cat hasSub { f with building := false }

/-- the head `CharSet` `scanCharSet` returns for `[` (`^`)? items… (`-[sub]`)? `]` -/
def build (cat : Nat → Nat → Bool) (neg : Bool) (items : List Item) (hasSub : Bool) : Flat :=
  (buildItems cat neg items).finish cat hasSub

/-- a class expression as written: `[` (`^`)? items… (`-` subtracted class)? `]` -/
inductive Ast where
  | leaf (neg : Bool) (items : List Item)
  | minus (neg : Bool) (items : List Item) (sub : Ast)
  deriving Repr

/-- set algebra over the parts of a written class -/
def Ast.mem (cat : Nat → Nat → Bool) : Ast → Nat → Bool
  | .leaf neg items, ch => items.any (fun it => it.mem cat ch) != neg
  | .minus neg items sub, ch => (items.any (fun it => it.mem cat ch) != neg) && !(Ast.mem cat sub ch)

/-- what `scanCharSet` (recursively, without IgnoreCase) returns for a written class -/
def Ast.parse (cat : Nat → Nat → Bool) : Ast → Class
  | .leaf neg items => .leaf (build cat neg items false)
  | .minus neg items sub => .minus (build cat neg items true) (Ast.parse cat sub)

def Ast.items : Ast → List Item
  | .leaf _ items => items
  | .minus _ items sub => items ++ Ast.items sub

/-! ## Singleton reduction (`reduceSet`) -/

/-- `IsSingleton` -/
def Class.isSingleton : Class → Bool
  | .leaf f => !f.neg && f.cats.isEmpty && (match f.ranges with | [r] => r.1 == r.2 | _ => false)
  | .minus _ _ => false

/-- `IsSingletonInverse` -/
def Class.isSingletonInverse : Class → Bool
  | .leaf f => f.neg && f.cats.isEmpty && (match f.ranges with | [r] => r.1 == r.2 | _ => false)
  | .minus _ _ => false

/-- `SingletonChar` (`c.ranges[0].First`); `none` mirrors the panic on an empty range list -/
def Class.singletonChar (c : Class) : Option Nat := c.flat.ranges.head?.map (·.1)

end RegexVerif.Class
