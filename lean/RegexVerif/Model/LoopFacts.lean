/-
Validators for the two published facts about a pattern that starts with an unbounded set loop:

* `LiteralAfterLoop` (`findLiteralFollowingLeadingLoop`, prefixanalyzer.go:1164): the loop is followed by a
  literal (string / one of a few characters) the finder can search for;
* `RequiredLandmarkChain` (`findRequiredLandmarkChain`, prefixanalyzer.go:1295): after the loop, "landmarks"
  (a literal or a short bounded set run, optionally between whitespace loops, or an alternation of such)
  must occur in order.

As for the set-valued facts (Model/SetFacts.lean) the Go analyses are not mirrored decision by decision
(which sets count as whitespace, the caps of `GetSetChars`, which prefix analysis supplies the literal …).
Lean computes, by a syntactic walk over the converted tree, what IT can prove about every match — a symbolic
record of the same shape, with character predicates `Spec.Pred` evaluated under the matcher's own oracle —
and `Props/C04` proves that record is a true fact about every success of `Spec.m`.  A published record is
validated when it is that record (landmarks may be dropped from the tail; sets compared rune-exactly by the
harness).

The tree arrives as a right-nested `seq`; how many children the Go concatenation has is an argument (`k`
children = `k - 1` splits along the right spine).  Soundness holds for every `k`.
-/
import RegexVerif.Model.Spec
import RegexVerif.Model.Finders
import RegexVerif.Model.Facts

namespace RegexVerif.LoopFacts
open RegexVerif.Spec RegexVerif.Finders

/-- `unwrapTransparentNodes`: through capture groups and atomic groups (`Group` nodes are already gone) -/
def unwrap : Pat → Pat
  | .cap _ b => unwrap b
  | .atomic b => unwrap b
  | p => p

/-- the first `k` children along the right spine of a `seq`, the remainder as the last child -/
def spine : Nat → Pat → List Pat
  | 0, p => [p]
  | k + 1, .seq a b => a :: spine k b
  | _ + 1, p => [p]

/-- all leaves of nested sequences, each unwrapped (for the inside of one landmark alternative) -/
def leaves : Nat → Pat → List Pat
  | 0, p => [p]
  | fuel + 1, p =>
    match unwrap p with
    | .seq a b => leaves fuel a ++ leaves fuel b
    | q => [q]

/-- right-nested alternation branches -/
def branches : Nat → Pat → List Pat
  | 0, p => [p]
  | k + 1, .alt a b => a :: branches k b
  | _ + 1, p => [p]

/-- an unbounded loop over one character test: `(test, minimum)` -/
def unboundedLoop? (p : Pat) : Option (Pred × Nat) :=
  match unwrap p with
  | .quant _ lo none (.chr P) => some (P, lo)
  | _ => none

/-- `isZeroWidthLandmarkGap`: empty, bump-along marker, anchors -/
def isGap (p : Pat) : Bool :=
  match unwrap p with
  | .empty => true
  | .anchor _ => true
  | _ => false

/-- the core of a landmark alternative -/
inductive SymCore where
  | lit (w : List Nat)
  | set (P : Pred) (lo hi : Nat)
deriving Repr

/-- a landmark alternative: optional whitespace loop `(test, minimum)`, core, optional whitespace loop -/
structure SymAlt where
  lead : Option (Pred × Nat)
  core : SymCore
  trail : Option (Pred × Nat)
deriving Repr

structure SymChain where
  loop : Pred
  landmarks : List (List SymAlt)
deriving Repr

/-- a maximal run of case-sensitive literal characters at the head of the item list -/
def litRun : List Pat → List Nat × List Pat
  | .chr (.one c false) :: rest => let r := litRun rest; (c :: r.1, r.2)
  | rest => ([], rest)

/-- the core at the head of the item list: a literal run, one set character, or a bounded set loop with a
    positive minimum -/
def coreOf (items : List Pat) : Option (SymCore × List Pat) :=
  match litRun items with
  | (c :: w, rest) => some (.lit (c :: w), rest)
  | ([], _) =>
    match items with
    | .chr P :: rest => some (.set P 1 1, rest)
    | .quant _ lo (some hi) (.chr P) :: rest => if 0 < lo ∧ lo ≤ hi then some (.set P lo hi, rest) else none
    | _ => none

/-- an unbounded loop over one character test at the head of the item list: `(test, minimum)` -/
def takeLoop : List Pat → Option (Pred × Nat) × List Pat
  | .quant _ lo none (.chr P) :: rest => (some (P, lo), rest)
  | items => (none, items)

/-- `extractRequiredLandmarkAlternative`: `[whitespace loop] core [whitespace loop]` and nothing else -/
def altOf (p : Pat) : Option SymAlt :=
  let r1 := takeLoop (leaves 64 p)
  match coreOf r1.2 with
  | none => none
  | some (core, items2) =>
    let r2 := takeLoop items2
    if !r2.2.isEmpty then none else some ⟨r1.1, core, r2.1⟩

def allAlts : List Pat → Option (List SymAlt)
  | [] => some []
  | b :: bs =>
    match altOf b, allAlts bs with
    | some a, some as => some (a :: as)
    | _, _ => none

def landmarkOf (p : Pat) : Option (List SymAlt) :=
  allAlts (branches 64 (unwrap p))

/-- the walk over the children after the loop: a landmark is collected; before the first landmark only
    zero-width children may be skipped, afterwards anything may -/
def collect : List Pat → Bool → Option (List (List SymAlt))
  | [], _ => some []
  | c :: cs, seen =>
    match landmarkOf c with
    | some alts => (collect cs true).map (alts :: ·)
    | none => if seen || isGap c then collect cs seen else none

/-- `findRequiredLandmarkChain` on the pattern whose top concatenation has `k` children -/
def chainOf (k : Nat) (p : Pat) : Option SymChain :=
  match spine (k - 1) (unwrap p) with
  | first :: rest =>
    match unboundedLoop? first, collect rest false with
    | some (P, _), some (l :: ls) => some ⟨P, l :: ls⟩
    | _, _ => none
  | [] => none

/-! ### interpretation under the matcher's oracle: the records the finder reads -/

def SymAlt.toLm (e : Env) (a : SymAlt) : LmAlt :=
  { literal := match a.core with | .lit w => w | .set _ _ _ => []
    set := match a.core with | .lit _ => none | .set P _ _ => some (P.test e)
    leadWs := a.lead.map fun l => l.1.test e
    trailWs := a.trail.map fun l => l.1.test e
    minRepeat := match a.core with | .lit _ => 1 | .set _ lo _ => lo
    maxRepeat := match a.core with | .lit _ => 1 | .set _ _ hi => (hi : Int)
    reqBefore := match a.lead with | some l => decide (0 < l.2) | none => false
    reqAfter := match a.trail with | some l => decide (0 < l.2) | none => false }

def SymChain.toLm (e : Env) (c : SymChain) : LmChain :=
  { loopSet := some (c.loop.test e), landmarks := c.landmarks.map fun alts => alts.map (SymAlt.toLm e) }

/-! ### literal after the leading loop -/

/-- the maximal run of single-character tests at the head of the item list.  A loop over one character test
    contributes its minimum number of copies of the test (`[Aa]{2}` is `[Aa][Aa]`; under IgnoreCase the
    parser coalesces `aa` into such a loop), and the run goes on behind it only when the count is exact. -/
def predRun : List Pat → List Pred
  | .chr P :: rest => P :: predRun rest
  | .quant _ lo hi (.chr P) :: rest => List.replicate lo P ++ (if hi = some lo then predRun rest else [])
  | _ => []

/-- loop test and the character tests that follow the loop, in order (non-empty) -/
structure SymLal where
  loop : Pred
  lit : List Pred
deriving Repr

/-- when the first item is a loop with a positive minimum over something that is not a single character,
    its first iteration: the leaves of the body (nothing is known behind them) -/
def firstIter (items : List Pat) : List Pat :=
  match items with
  | .quant _ _ _ (.chr _) :: _ => items
  | .quant _ lo _ body :: _ => if 0 < lo then (leaves 64 body).dropWhile isGap else items
  | _ => items

/-- `findLiteralFollowingLeadingLoop`: the loop, zero-width children, then a run of single characters (or a
    loop with a positive minimum, which contributes its first iteration).  The non-overlap condition of the
    Go analysis (the literal's first character is not in the loop set) is not needed for the soundness of
    the fact. -/
def lalOf (k : Nat) (p : Pat) : Option SymLal :=
  match spine (k - 1) (unwrap p) with
  | first :: rest =>
    match unboundedLoop? first with
    | some (P, _) =>
      let items := firstIter ((rest.flatMap (leaves 64)).dropWhile isGap)
      match predRun items with
      | Q :: Qs => some ⟨P, Q :: Qs⟩
      | [] =>
        match items with
        | .quant _ lo _ (.chr Q) :: _ => if 0 < lo then some ⟨P, [Q]⟩ else none
        | _ => none
    | none => none
  | [] => none

/-- second analysis for the literal after the loop, for what follows the loop in ANY shape: the leading
    prefix of the remainder as `tryFindPrefix` computes it (Model/Facts.lean, rune encoding) — alternations
    with a common prefix, loops with a minimum, captures … -/
def lalPrefixOf (p : Pat) : Option (Pred × List Nat) :=
  match unwrap p with
  | .seq first R =>
    match unboundedLoop? first with
    | some (P, _) =>
      let w := (Facts.leadingPrefix (fun r => [r]) R).1
      if w.isEmpty then none else some (P, w)
    | none => none
  | _ => none

end RegexVerif.LoopFacts
