/-
Model of the raw-string (byte-level) prefix filters of regexp2 — `/repo/stringprefixfilter.go` — and of
the byte-string helpers of `/repo/helpers/indexof.go` they call.

These filters run on the UNDECODED Go string before a string entry point converts its input to runes:
`MatchString`, `FindStringMatch(StartingAt)`, `FindAllStringIndex` (and `Split`, the adapter and
`ReplaceFunc`, which start from `FindStringMatch`) ask the filter for a candidate BYTE index, decode the
string, map the candidate to a rune index (`decodeStringWithStart` / `getRunesAndStart`, modelled in
`Model/Utf8.lean` as `runeStart`) and start the scan there.  A filter that answers "no" although a match
exists, or a candidate behind the first match, makes the string entry points lose matches the rune entry
points find (properties C02, C03).

Conventions.  A Go string is a `List Nat` of BYTES (0..255).  A filter is a function
`(input : List Nat) (startAt : Nat) → Nat × Bool` returning `(candidateByteIndex, ok)` exactly as the Go
closure does (`(0, false)` on every failing exit).  Runes are `Nat` (a decoded rune is never negative).

Part 1 (namespace `RegexVerif.Utf8`) is the byte-level UTF-8 knowledge the filters rely on, mirrored from
package `unicode/utf8`: `DecodeRuneInString` (`decodeRune`: one rune per invalid byte, U+FFFD width 1),
the `for range s` loop (`decodeB`, and `decode` in the segment form of `Model/Utf8.lean`, so that the
existing rune→byte mappers apply), `DecodeLastRuneInString` (`lastRuneSize`, with its backward scan of
at most `UTFMax` bytes) and `utf8.AppendRune` / `string(rune)` (`encodeRune`).

Part 2 is package `strings` as the filters use it, modelled by WHAT the functions return (Go's standard
library is an oracle, not an object of verification): `Index` / `Contains` / `HasPrefix` / `IndexByte` /
`IndexAny` with ASCII `chars` (the first suffix / byte satisfying a test), `IndexRune` (three cases:
a byte; U+FFFD = the first position of the `range` loop that decodes to U+FFFD, which includes every
invalid byte; otherwise the encoding of the rune, and never an invalid rune) and `IndexAny`/`ContainsAny`
with arbitrary `chars` (the first position of the `range` loop whose rune is one of `chars`).

Part 3 mirrors `helpers.IndexStringIgnoreCaseASCII`, `EqualStringIgnoreCaseASCII`,
`indexASCIIByteIgnoreCase` line by line (loop with fuel); `foldASCII` is `Finders.foldASCII`.

Part 4 mirrors every filter constructor and closure body, `newStringPrefixFilter`'s decision which filter
(or none) is installed, `findStringPrefixCandidate`, `findStringMatchStart`, `hasMinRequiredBytes`,
`isStringRuneBoundary`, `isASCIIString`.  Loops run on fuel `len(input) + 2`; the search position grows
in every iteration (`Lemmas/StringFilter.lean`, `loop_rule`).
-/
import RegexVerif.Model.Utf8
import RegexVerif.Model.Finders

namespace RegexVerif.Utf8

/-! ## 1. package unicode/utf8 on byte lists -/

/-- a continuation byte `10xxxxxx` (`!utf8.RuneStart(b)`) -/
def isCont (b : Nat) : Bool := decide (0x80 ≤ b) && decide (b ≤ 0xBF)

/-- `utf8.DecodeRuneInString(s)`: `(rune, size)`; `(RuneError, 0)` for the empty string, `(RuneError, 1)`
    for every byte that does not start a well-formed sequence (continuation bytes, 0xC0, 0xC1, 0xF5..0xFF,
    a lead byte whose sequence is truncated, overlong (E0 80..9F, F0 80..8F), a surrogate (ED A0..BF) or
    above U+10FFFF (F4 90..BF)) — the `first` / `acceptRanges` tables of the package written as ranges -/
def decodeRune : List Nat → Nat × Nat
  | [] => (0xFFFD, 0)
  | b0 :: t =>
    if b0 < 0x80 then (b0, 1)
    else if b0 < 0xC2 then (0xFFFD, 1)
    else if b0 < 0xE0 then
      match t with
      | b1 :: _ => if isCont b1 then ((b0 - 0xC0) * 64 + (b1 - 0x80), 2) else (0xFFFD, 1)
      | [] => (0xFFFD, 1)
    else if b0 < 0xF0 then
      match t with
      | b1 :: b2 :: _ =>
        if decide ((if b0 = 0xE0 then 0xA0 else 0x80) ≤ b1) && decide (b1 ≤ (if b0 = 0xED then 0x9F else 0xBF)) && isCont b2 then
          ((b0 - 0xE0) * 4096 + (b1 - 0x80) * 64 + (b2 - 0x80), 3)
        else (0xFFFD, 1)
      | _ => (0xFFFD, 1)
    else if b0 < 0xF5 then
      match t with
      | b1 :: b2 :: b3 :: _ =>
        if decide ((if b0 = 0xF0 then 0x90 else 0x80) ≤ b1) && decide (b1 ≤ (if b0 = 0xF4 then 0x8F else 0xBF)) && isCont b2 && isCont b3 then
          ((b0 - 0xF0) * 262144 + (b1 - 0x80) * 4096 + (b2 - 0x80) * 64 + (b3 - 0x80), 4)
        else (0xFFFD, 1)
      | _ => (0xFFFD, 1)
    else (0xFFFD, 1)

/-- the `for strIdx, ch := range s` loop: one `(rune, width)` per iteration (`fuel` ≥ `len(s)`) -/
def decodeAux : Nat → List Nat → List (Nat × Nat)
  | 0, _ => []
  | _ + 1, [] => []
  | fuel + 1, b :: t =>
    let r := decodeRune (b :: t)
    r :: decodeAux fuel (t.drop (r.2 - 1))

/-- what `range s` yields -/
def decodeB (s : List Nat) : List (Nat × Nat) := decodeAux s.length s

/-- the same in the segment form of `Model/Utf8.lean` (runes as `Int`): the existing mappers
    (`byteOffsetSpec`, `runeStart`, `newStringByteMapper`, …) take it as their argument -/
def decode (s : List Nat) : List (Int × Nat) := (decodeB s).map fun x => ((x.1 : Int), x.2)

/-- `[]rune(s)` -/
def runesOf (s : List Nat) : List Nat := (decodeB s).map (·.1)

/-- byte offset of rune index `k` of the string `s` -/
def byteOff (s : List Nat) (k : Nat) : Nat := (((decodeB s).map (·.2)).take k).sum

/-- the backward scan of `utf8.DecodeLastRuneInString`:
    `for start--; start >= lim; start-- { if RuneStart(s[start]) { break } }; if start < 0 { start = 0 }`.
    The argument is `start + 1` before the decrement; the result is `start` after the clamp. -/
def scanBack (s : List Nat) (lim : Nat) : Nat → Nat
  | 0 => 0
  | j + 1 => if j < lim then j else if !isCont (s.getD j 0) then j else scanBack s lim j

/-- the `size` result of `utf8.DecodeLastRuneInString(s)` (0 only for the empty string) -/
def lastRuneSize (s : List Nat) : Nat :=
  if s.isEmpty then 0
  else
    let e := s.length
    if s.getD (e - 1) 0 < 0x80 then 1
    else
      let start := scanBack s (e - 4) (e - 1)
      let size := (decodeRune (s.drop start)).2
      if start + size ≠ e then 1 else size

/-- `utf8.ValidRune` for a non-negative rune -/
def validRune (r : Nat) : Bool := decide (r < 0xD800) || (decide (0xDFFF < r) && decide (r ≤ 0x10FFFF))

/-- `utf8.AppendRune(nil, r)` = `string(rune(r))`: invalid runes are encoded as U+FFFD -/
def encodeRune (r : Nat) : List Nat :=
  if r < 0x80 then [r]
  else if r < 0x800 then [0xC0 + r / 64, 0x80 + r % 64]
  else if !validRune r then [0xEF, 0xBF, 0xBD]
  else if r < 0x10000 then [0xE0 + r / 4096, 0x80 + r / 64 % 64, 0x80 + r % 64]
  else [0xF0 + r / 262144, 0x80 + r / 4096 % 64, 0x80 + r / 64 % 64, 0x80 + r % 64]

/-- `string([]rune)` -/
def encodeRunes (rs : List Nat) : List Nat := (rs.map encodeRune).flatten

end RegexVerif.Utf8

namespace RegexVerif.StringFilter
open RegexVerif.Utf8 RegexVerif.Finders

/-! ## 2. package strings, by what its functions return -/

/-- offset of the first suffix of `s` (the empty one included) satisfying `P`, counted from `i` -/
def firstSuffix (P : List Nat → Bool) : List Nat → Nat → Option Nat
  | [], i => if P [] then some i else none
  | b :: t, i => if P (b :: t) then some i else firstSuffix P t (i + 1)

/-- `strings.Index(s, sub)` (`-1` = `none`; `Index(s, "") = 0`) -/
def indexBytes (s sub : List Nat) : Option Nat := firstSuffix (fun u => sub.isPrefixOf u) s 0

/-- the string is non-empty and its first byte satisfies `Q` -/
def headSat (Q : Nat → Bool) : List Nat → Bool
  | b :: _ => Q b
  | [] => false

/-- the first byte of `s` satisfying `Q` -/
def indexByteP (Q : Nat → Bool) (s : List Nat) : Option Nat := firstSuffix (headSat Q) s 0

/-- `strings.IndexByte(s, c)` -/
def indexByte (s : List Nat) (c : Nat) : Option Nat := indexByteP (· == c) s

/-- offset of the first segment of a `range` loop whose rune satisfies `Q` -/
def firstSeg (Q : Nat → Bool) : List (Nat × Nat) → Nat → Option Nat
  | [], _ => none
  | (r, w) :: t, off => if Q r then some off else firstSeg Q t (off + w)

/-- `strings.IndexRune(s, r)` for `r ≥ 0` -/
def indexRune (s : List Nat) (r : Nat) : Option Nat :=
  if r < 0x80 then indexByte s r
  else if r = 0xFFFD then firstSeg (· == 0xFFFD) (decodeB s) 0
  else if !validRune r then none
  else indexBytes s (encodeRune r)

/-- `strings.ContainsRune(s, r)` -/
def containsRune (s : List Nat) (r : Nat) : Bool := (indexRune s r).isSome

/-- the rune `string(rune(r))` decodes to -/
def sanitize (r : Nat) : Nat := if validRune r then r else 0xFFFD

/-- `strings.IndexAny(s, string(chars))` for a rune slice `chars`: the first position of `range s` whose
    rune (U+FFFD for an invalid byte) is one of the runes of `string(chars)` -/
def indexAnyRunes (s : List Nat) (chars : List Nat) : Option Nat :=
  firstSeg (fun c => (chars.map sanitize).contains c) (decodeB s) 0

/-! ## 3. helpers/indexof.go, the byte-string part -/

/-- `helpers.indexASCIIByteIgnoreCase(s, ch)` -/
def indexASCIIByteIgnoreCase (s : List Nat) (ch : Nat) : Option Nat :=
  let ch := foldASCII ch
  let lower := indexByte s ch
  if ch < 97 ∨ ch > 122 then lower
  else
    let upper := indexByte s (ch - 32)
    match lower with
    | none => upper
    | some l =>
      match upper with
      | some u => if u < l then some u else some l
      | none => some l

/-- `helpers.EqualStringIgnoreCaseASCII(s, prefix)` -/
def equalStringIgnoreCaseASCII (s pre : List Nat) : Bool :=
  if s.length < pre.length then false else prefixOf eqAsciiFold pre s

/-- the loop of `helpers.IndexStringIgnoreCaseASCII`: `for start, end := 0, len(s)-len(prefix); start <= end; { … }` -/
def isicLoop (s pre : List Nat) (end_ : Nat) : Nat → Nat → Option Nat
  | 0, _ => none
  | fuel + 1, start =>
    if start ≤ end_ then
      match indexASCIIByteIgnoreCase (s.drop start) (pre.headD 0) with
      | none => none
      | some offset =>
        if start + offset > end_ then none
        else
          let i := start + offset
          if equalStringIgnoreCaseASCII ((s.drop i).take pre.length) pre then some i
          else isicLoop s pre end_ fuel (i + 1)
    else none

/-- `helpers.IndexStringIgnoreCaseASCII(s, prefix)` -/
def indexStringIgnoreCaseASCII (s pre : List Nat) : Option Nat :=
  if pre.isEmpty then some 0
  else if s.length < pre.length then none          -- `end < 0`: the loop body never runs
  else isicLoop s pre (s.length - pre.length) (s.length + 1) 0

/-! ## 4. stringprefixfilter.go -/

/-- `StringPrefixFilter`: `(input, startAt) ↦ (candidateByteIndex, ok)` -/
abbrev Filter := List Nat → Nat → Nat × Bool

/-- `hasMinRequiredBytes(input, startAt, minRequiredLength)` for `startAt ≥ 0` -/
def hasMinRequiredBytes (input : List Nat) (startAt minLen : Nat) : Bool :=
  decide (startAt ≤ input.length) && (decide (minLen = 0) || decide (minLen ≤ input.length - startAt))

/-- `isASCIIString` -/
def isASCIIString (s : List Nat) : Bool := s.all (fun b => decide (b < 0x80))

/-- the loop of `isStringRuneBoundary`: `for strIdx := range s { == index → true; > index → false }; false` -/
def rangeHits (index : Nat) : List (Nat × Nat) → Nat → Bool
  | [], _ => false
  | (_, w) :: t, off => if off = index then true else if off > index then false else rangeHits index t (off + w)

/-- `isStringRuneBoundary(s, index)` for `index ≥ 0` -/
def isStringRuneBoundary (s : List Nat) (index : Nat) : Bool :=
  if index = 0 ∨ index = s.length then true
  else if index > s.length then false
  else rangeHits index (decodeB s) 0

/-- the decision of one loop iteration -/
inductive Step where
  | found (c : Nat)
  | giveUp
  | next (searchAt : Nat)
deriving Repr, DecidableEq

/-- the loop shape of the searching filters:
    `for searchAt := s0; guard(searchAt); { i := index(input[searchAt:]) (none → return 0, false); step(i) }; return 0, false` -/
def loop (guard : Nat → Bool) (idx : Nat → Option Nat) (step : Nat → Step) : Nat → Nat → Nat × Bool
  | 0, _ => (0, false)
  | fuel + 1, s =>
    if guard s then
      match idx s with
      | none => (0, false)
      | some i =>
        match step i with
        | .found c => (c, true)
        | .giveUp => (0, false)
        | .next s' => loop guard idx step fuel s'
    else (0, false)

/-- `stringFixedDistanceCandidateStart(input, startAt, byteIndex, distance)`: walk `distance` runes back
    from `byteIndex` with `DecodeLastRuneInString`, not below `startAt` (`none` = `0, false`) -/
def candidateStart (input : List Nat) (startAt : Nat) : Nat → Nat → Option Nat
  | 0, cand => some cand
  | d + 1, cand =>
    if cand ≤ startAt then none
    else
      let size := lastRuneSize (input.take cand)
      if size = 0 then none else candidateStart input startAt d (cand - size)

/-- the shared tail of the three fixed-distance loops: candidate valid and long enough → found; valid
    but too late for the minimum length → give up; not valid → go on -/
def fixedStep (input : List Nat) (startAt distance minLen : Nat) (hit next : Nat) : Step :=
  match candidateStart input startAt distance hit with
  | some c => if hasMinRequiredBytes input c minLen then .found c else .giveUp
  | none => .next next

/-! ### `stringIndexPrefixFilter` -/

def prefixFilterBody (pre : List Nat) (ignoreCase : Bool) (minLen : Nat) : Filter := fun input startAt =>
  if !hasMinRequiredBytes input startAt minLen then (0, false)
  else
    match (if ignoreCase then indexStringIgnoreCaseASCII (input.drop startAt) pre else indexBytes (input.drop startAt) pre) with
    | none => (0, false)
    | some offset => (startAt + offset, true)

def stringIndexPrefixFilter (pre : List Nat) (ignoreCase : Bool) (minLen : Nat) : Option Filter :=
  if pre.isEmpty then none
  else if ignoreCase && !isASCIIString pre then none
  else some (prefixFilterBody pre ignoreCase minLen)

/-! ### `stringIndexPrefixesFilter`, `indexAnyPrefixFallback`, `compileASCIIStringSetPrefixFilter` -/

/-- the `best` update of `indexAnyPrefixFallback` -/
def bestOf (best : Option Nat) (offset : Option Nat) : Option Nat :=
  match offset with
  | none => best
  | some o =>
    match best with
    | none => some o
    | some b => if o < b then some o else some b

def indexAnyPrefixFallback (prefixes : List (List Nat)) (ignoreCase : Bool) (minLen : Nat) : Filter := fun input startAt =>
  if !hasMinRequiredBytes input startAt minLen then (0, false)
  else
    let remaining := input.drop startAt
    let best := prefixes.foldl (fun best pre =>
      bestOf best (if ignoreCase then indexStringIgnoreCaseASCII remaining pre else indexBytes remaining pre)) none
    match best with
    | none => (0, false)
    | some b => (startAt + b, true)

/-- `asciiStringSetPrefixFilter`: `firstChars` and the prefixes; the bucket `prefixesByFirst[b]` is the
    sub-list of the prefixes starting with `b`, in order -/
structure AsciiSetFilter where
  firstChars : List Nat
  prefixes : List (List Nat)
  minRequiredBytes : Nat

def AsciiSetFilter.bucket (f : AsciiSetFilter) (b : Nat) : List (List Nat) :=
  f.prefixes.filter (fun p => p.head? == some b)

/-- `compileASCIIStringSetPrefixFilter` -/
def compileASCIIStringSetPrefixFilter (prefixes : List (List Nat)) (ignoreCase : Bool) (minLen : Nat) : Option AsciiSetFilter :=
  if ignoreCase then none
  else if prefixes.any (fun p => p.isEmpty || !isASCIIString p) then none
  else
    let hasSharedFirst := prefixes.any fun p => decide (1 < (prefixes.filter (fun q => q.head? == p.head?)).length)
    if !hasSharedFirst then none
    else
      let firstBytes := (List.range 256).filter fun b => prefixes.any (fun p => p.head? == some b)
      if firstBytes.isEmpty then none
      else some ⟨firstBytes, prefixes, minLen⟩

/-- `(*asciiStringSetPrefixFilter).index`; `strings.IndexAny` with ASCII `chars` finds the first byte
    that is one of them -/
def AsciiSetFilter.index (f : AsciiSetFilter) : Filter := fun input startAt =>
  if !hasMinRequiredBytes input startAt f.minRequiredBytes then (0, false)
  else
    loop (fun s => decide (s < input.length))
      (fun s => (indexByteP (fun b => f.firstChars.contains b) (input.drop s)).map (s + ·))
      (fun i =>
        if (f.bucket (input.getD i 0)).any (fun p => decide (p.length ≤ input.length - i) && p.isPrefixOf (input.drop i)) then .found i
        else .next (i + 1))
      (input.length + 2) startAt

def stringIndexPrefixesFilter (prefixes : List (List Nat)) (ignoreCase : Bool) (minLen : Nat) : Option Filter :=
  if prefixes.isEmpty then none
  else if ignoreCase && prefixes.any (fun p => !isASCIIString p) then none
  else
    match compileASCIIStringSetPrefixFilter prefixes ignoreCase minLen with
    | some f => some f.index
    | none => some (indexAnyPrefixFallback prefixes ignoreCase minLen)

/-! ### `stringFixedDistanceSetFilter`, `asciiSetStringScanner` -/

/-- what the filters read of `syntax.FixedDistanceSet` (the `CharSet` itself is not consulted) -/
structure SetB where
  chars : List Nat := []
  negated : Bool := false
  range : Option (Nat × Nat) := none
  distance : Int := 0

/-- `asciiSetStringScanner` -/
structure Scanner where
  chars : List Nat
  first : Nat
  last : Nat
  useRange : Bool
  distance : Nat

/-- `newASCIISetStringScanner` -/
def newASCIISetStringScanner (set : SetB) : Option Scanner :=
  if set.negated || decide (set.distance < 0) then none
  else
    match set.range with
    | some (lo, hi) => if hi > 0x7F then none else some ⟨[], lo, hi, true, set.distance.toNat⟩
    | none =>
      if set.chars.isEmpty then none
      else if set.chars.any (fun ch => decide (ch > 0x7F)) then none
      else some ⟨set.chars, 0, 0, false, set.distance.toNat⟩

/-- `asciiSetStringScanner.index` (`IndexByte` / `IndexAny` with ASCII chars / the range loop) -/
def Scanner.index (sc : Scanner) (input : List Nat) : Option Nat :=
  if !sc.useRange then indexByteP (fun b => sc.chars.contains b) input
  else indexByteP (fun b => decide (sc.first ≤ b) && decide (b ≤ sc.last)) input

def setFilterBody (sc : Scanner) (minLen : Nat) : Filter := fun input startAt =>
  if !hasMinRequiredBytes input startAt minLen then (0, false)
  else
    loop (fun s => decide (s < input.length))
      (fun s => (sc.index (input.drop s)).map (s + ·))
      (fun i => fixedStep input startAt sc.distance minLen i (i + 1))
      (input.length + 2) startAt

def stringFixedDistanceSetFilter (set : SetB) (minLen : Nat) : Option Filter :=
  (newASCIISetStringScanner set).map fun sc => setFilterBody sc minLen

/-! ### `stringFixedDistanceCharFilter` -/

/-- the Go loop has no guard (`for { … }`): `searchAt ≤ len(input)` holds whenever it is reached (a
    violation would be a slice panic), which is the guard here -/
def fixedCharFilterBody (ch distance minLen : Nat) : Filter := fun input startAt =>
  if !hasMinRequiredBytes input startAt minLen then (0, false)
  else
    loop (fun s => decide (s ≤ input.length))
      (fun s => (indexRune (input.drop s) ch).map (s + ·))
      (fun i =>
        let size := (decodeRune (input.drop i)).2
        match fixedStep input startAt distance minLen i (i + size) with
        | .next s' => if size = 0 then .giveUp else .next s'
        | st => st)
      (input.length + 2) startAt

def stringFixedDistanceCharFilter (ch : Nat) (distance : Int) (minLen : Nat) : Option Filter :=
  if distance < 0 then none else some (fixedCharFilterBody ch distance.toNat minLen)

/-! ### `stringFixedDistanceStringFilter` -/

def maxStringFilterLiteralLen : Nat := 8

def fixedStringFilterBody (lit : List Nat) (distance minLen : Nat) : Filter := fun input startAt =>
  if !hasMinRequiredBytes input startAt minLen then (0, false)
  else
    loop (fun s => decide (s + lit.length ≤ input.length))
      (fun s => (indexBytes (input.drop s) lit).map (s + ·))
      (fun i => fixedStep input startAt distance minLen i (i + 1))
      (input.length + 2) startAt

def stringFixedDistanceStringFilter (lit : List Nat) (distance : Int) (minLen : Nat) : Option Filter :=
  if lit.isEmpty || decide (distance < 0) || decide (lit.length > maxStringFilterLiteralLen) then none
  else some (fixedStringFilterBody lit distance.toNat minLen)

/-! ### `stringLiteralAfterLoopFilter` -/

/-- what the filter reads of `syntax.LiteralAfterLoop`: `str` are the BYTES of `String`, `chars` and
    `char` runes; `hasLoopSet` = `LoopNode != nil && LoopNode.Set != nil` -/
structure LitB where
  str : List Nat := []
  strIgnoreCase : Bool := false
  char : Nat := 0
  chars : List Nat := []
  hasLoopSet : Bool := false

/-- `stringHasLiteralAfterLoop(input, searchAt, literal)` -/
def stringHasLiteralAfterLoop (input : List Nat) (searchAt : Nat) (l : LitB) : Bool :=
  if !l.str.isEmpty then
    if l.strIgnoreCase then (indexStringIgnoreCaseASCII (input.drop searchAt) l.str).isSome
    else (indexBytes (input.drop searchAt) l.str).isSome
  else if !l.chars.isEmpty then (indexAnyRunes (input.drop searchAt) l.chars).isSome
  else containsRune (input.drop searchAt) l.char

def literalAfterLoopFilterBody (l : LitB) (minLen : Nat) : Filter := fun input startAt =>
  if !hasMinRequiredBytes input startAt minLen then (0, false)
  else if !stringHasLiteralAfterLoop input startAt l then (0, false)
  else (startAt, true)

def stringLiteralAfterLoopFilter (l : Option LitB) (minLen : Nat) : Option Filter :=
  match l with
  | none => none
  | some l =>
    if !l.hasLoopSet then none
    else if l.strIgnoreCase && (l.str.isEmpty || !isASCIIString l.str) then none
    else some (literalAfterLoopFilterBody l minLen)

/-! ### `newStringPrefixFilter` -/

/-- what `newStringPrefixFilter` reads of `syntax.FindOptimizations`; strings as BYTES -/
structure StrOpts where
  mode : Mode := .noSearch
  minLen : Nat := 0
  leadingPrefix : List Nat := []
  prefixes : List (List Nat) := []
  sets : List SetB := []
  fixedChar : Nat := 0
  fixedString : List Nat := []
  fixedDistance : Int := 0
  literalAfterLoop : Option LitB := none

/-- what it reads of `syntax.Code` -/
structure CodeB where
  rightToLeft : Bool := false
  usesStartAnchor : Bool := false
  opts : Option StrOpts := none

/-- which constructor built the installed filter (evidence histogram, failure keys) -/
inductive Kind where
  | «prefix» | prefixIgnoreCase | prefixesSet | prefixesFallback | prefixesFallbackIgnoreCase
  | set | fixedChar | fixedString | literalAfterLoop
deriving Repr, DecidableEq

def Kind.name : Kind → String
  | .«prefix» => "prefix" | .prefixIgnoreCase => "prefix-ic" | .prefixesSet => "prefixes-set"
  | .prefixesFallback => "prefixes-fallback" | .prefixesFallbackIgnoreCase => "prefixes-fallback-ic"
  | .set => "set" | .fixedChar => "fixed-char" | .fixedString => "fixed-string" | .literalAfterLoop => "literal-after-loop"

/-- the U+FFFD guard: a U+FFFD in one of the literal STRINGS (an invalid byte decodes to it as well) -/
def hasRuneError (o : StrOpts) : Bool :=
  containsRune o.leadingPrefix 0xFFFD || containsRune o.fixedString 0xFFFD ||
  (match o.literalAfterLoop with | some l => containsRune l.str 0xFFFD | none => false) ||
  o.prefixes.any (fun p => containsRune p 0xFFFD)

def prefixesKind (prefixes : List (List Nat)) (ignoreCase : Bool) (minLen : Nat) : Kind :=
  if (compileASCIIStringSetPrefixFilter prefixes ignoreCase minLen).isSome then .prefixesSet
  else if ignoreCase then .prefixesFallbackIgnoreCase else .prefixesFallback

/-- `newStringPrefixFilter(code)`: the installed filter and its kind, `none` = `nil` -/
def newStringPrefixFilter (code : CodeB) : Option (Kind × Filter) :=
  match code.opts with
  | none => none
  | some o =>
    if code.rightToLeft then none
    else if code.usesStartAnchor then none
    else if hasRuneError o then none
    else
      match o.mode with
      | .leadingStringLtr => (stringIndexPrefixFilter o.leadingPrefix false o.minLen).map (Kind.«prefix», ·)
      | .leadingStringOrdinalIgnoreCaseLtr => (stringIndexPrefixFilter o.leadingPrefix true o.minLen).map (Kind.prefixIgnoreCase, ·)
      | .leadingStringsLtr => (stringIndexPrefixesFilter o.prefixes false o.minLen).map (prefixesKind o.prefixes false o.minLen, ·)
      | .leadingStringsOrdinalIgnoreCaseLtr => (stringIndexPrefixesFilter o.prefixes true o.minLen).map (prefixesKind o.prefixes true o.minLen, ·)
      | .leadingSetLtr =>
        match o.sets with
        | [] => none
        | set :: _ =>
          if set.range.isNone && (set.chars.isEmpty || decide (set.chars.length > 5)) then none
          else (stringFixedDistanceSetFilter set o.minLen).map (Kind.set, ·)
      | .fixedDistanceCharLtr => (stringFixedDistanceCharFilter o.fixedChar o.fixedDistance o.minLen).map (Kind.fixedChar, ·)
      | .fixedDistanceStringLtr => (stringFixedDistanceStringFilter o.fixedString o.fixedDistance o.minLen).map (Kind.fixedString, ·)
      | .literalAfterLoopLtr => (stringLiteralAfterLoopFilter o.literalAfterLoop o.minLen).map (Kind.literalAfterLoop, ·)
      | _ => none

/-! ### `findStringPrefixCandidate`, `findStringMatchStart` -/

/-- `(*Regexp).findStringPrefixCandidate(input, startAt)` -/
def findStringPrefixCandidate (filter : Option Filter) (rtl : Bool) (input : List Nat) (startAt : Nat) : Nat × Bool :=
  match filter with
  | none => (startAt, true)
  | some f =>
    if rtl then (startAt, true)
    else
      let r := f input startAt
      if !r.2 then (0, false)
      else if r.1 < startAt || r.1 > input.length || !isStringRuneBoundary input r.1 then (startAt, true)
      else (r.1, true)

inductive StartError where
  | startAtTooLarge
  | startAtNotRuneBoundary
deriving Repr, DecidableEq

/-- `(*Regexp).findStringMatchStart(input, startAt)`; a negative `startAt` is "from the beginning in scan
    direction" -/
def findStringMatchStart (filter : Option Filter) (rtl : Bool) (input : List Nat) (startAt : Int) :
    Except StartError (Nat × Bool) :=
  if startAt > (input.length : Int) then .error .startAtTooLarge
  else if startAt ≥ 0 ∧ !isStringRuneBoundary input startAt.toNat then .error .startAtNotRuneBoundary
  else
    let startAt : Nat := if startAt < 0 then (if rtl then input.length else 0) else startAt.toNat
    .ok (findStringPrefixCandidate filter rtl input startAt)


/-! ### the filter as the string entry points use it -/

/-- What `Model/Api.lean` calls `filter`, made concrete: a left-to-right string entry point calls
    `findStringMatchStart(s, -1)`; on `ok` it decodes the string and maps the candidate BYTE index to a RUNE
    index (`getRunesAndStart` / `decodeStringWithStart`, modelled by `Utf8.runeStart` on the decoded segments),
    replacing "not found" (`-1`) by 0.  `none` = the entry point answers "no match" without running a program. -/
def runeFilter (filter : Option Filter) (input : List Nat) : Nat → Option Nat := fun _ =>
  match findStringMatchStart filter false input (-1) with
  | .error _ => none
  | .ok r =>
    if r.2 then
      let rs := runeStart (decode input) (r.1 : Int)
      some (if rs < 0 then 0 else rs.toNat)
    else none

end RegexVerif.StringFilter
