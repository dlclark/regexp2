/-
C09 — Replace and Split are the fold of the match sequence.

Property theorems about the model `RegexVerif.Model.Replace` of replace.go / split.go /
syntax/replacerdata.go / the replacement scanner of syntax/parser.go.  The model is tied to the Go
code by correspondence leg P (Lean scanner = `syntax.NewReplacerData`; Lean drivers on Go's match
sequence = the strings `Replace`, `ReplaceFunc`, `Split` return), and the hypothesis "the match
sequence is ordered, disjoint and in bounds" is evaluated by the Lean driver on every sequence Go
delivers.

In all statements `ms` is the sequence *as the engine delivers it*: ascending for a left-to-right
pattern, descending for a right-to-left pattern; `none` / `Res.panic` stand for a Go run-time panic.

Three conditions on the regex's tables `env : Env` are hypotheses, each true of every compiled regex,
none derived from another: `envOk env` (`Model/Replace.lean`: group number 0 is a capture slot, every
name maps to one) and `capsOk env` (`Model/ReplaceStrict.lean`: `caps` maps into `0 … capsize-1`), both
evaluated by `Driver/C09.lean` on the tables of every case (its third `valid` flag, with `MatchOk` of
every delivered match); and `slotOf env 0 = 0`, a bare hypothesis of `parse_dollar_amp` and
`replace_self_id` that the driver does not evaluate.
-/
import RegexVerif.Lemmas.ReplaceStrict
import RegexVerif.Generated.Replace

namespace RegexVerif.Props.C09
open RegexVerif.Replace RegexVerif.Lemmas.Replace

/-- the processed matches in left-to-right text order -/
def inTextOrder (rtl : Bool) (ms : List Match) : List Match := if rtl then ms.reverse else ms

theorem processed_valid (text : List Nat) (ms : List Match) (k : Nat) (rtl : Bool) (hv : valid rtl text ms = true) :
    validFrom text.length 0 (inTextOrder rtl (ms.take k)) = true := by
  cases rtl with
  | true => exact validDesc_reverse _ _ (validDesc_take ms _ k hv)
  | false => exact validFrom_take _ ms 0 k hv

/-! ### a concrete instance used by the non-vacuity examples

text `"abcab a"`, pattern `(a)(b)?`: matches `ab`@0, `ab`@3, `a`@6 (group 2 unset in the last) -/

def exText : List Nat := [97, 98, 99, 97, 98, 32, 97]
def exMs : List Match :=
  [⟨0, 2, [some (0, 1), some (1, 1)]⟩, ⟨3, 2, [some (3, 1), some (4, 1)]⟩, ⟨6, 1, [some (6, 1), none]⟩]
/-- `[$2|$1]` -/
def exPieces : List Piece := [.lit [91], .group 2, .lit [124], .group 1, .lit [93]]

example : validLTR exText exMs = true := by decide
example : validRTL exText exMs.reverse = true := by decide
example : valid true exText exMs.reverse = true ∧ valid false exText exMs = true := by decide

/-! ### Replace -/

/-- **Left-to-right driver = fold.**  The loop of `replaceRunnerLTR` does not panic and returns the input
    with each of the first `count` matches (all, for a negative count) replaced in place by the expansion
    of the rules, all other text kept. -/
theorem replaceLTR_eq_fold (text : List Nat) (ms : List Match) (pieces : List Piece) (count : Int)
    (hc : count ≠ 0) (hv : validLTR text ms = true) :
    replaceLTR text ms pieces count = some (spec text (takeCount count ms) (expand pieces text)) :=
  spec_ltr text _ (isLoop_LTR text pieces)
    (fun m p buf _ hi => stepL_ok text _ _ m p buf (sliceLoop_ok text p m.index hi)) (finishLTR_ok text) ms 0 [] count hc hv

example : replaceLTR exText exMs exPieces 2
    = some ([91, 98, 124, 97, 93] ++ [99] ++ [91, 98, 124, 97, 93] ++ [32, 97]) := by decide +kernel

/-- **Right-to-left driver = the same fold.**  The matches arrive last-to-first; the list-and-reverse
    construction of `replaceRunnerRTL` / `replacementImplRTL` produces exactly the string obtained by
    substituting the processed matches in place, read in text order (so a multi-part replacement
    comes out in rule order and kept text is not reordered). -/
theorem replaceRTL_eq_fold (text : List Nat) (ms : List Match) (pieces : List Piece) (count : Int)
    (hc : count ≠ 0) (hv : validRTL text ms = true) :
    replaceRTL text ms pieces count
      = some (spec text (takeCount count ms).reverse (expand pieces text)) :=
  spec_rtl_whole text _ (isLoop_RTL text pieces) (stepR_ok text _ _ (expand_eq_flatten_reverse pieces text)) (finishRTL_ok text)
    ms count hc hv

example : replaceRTL exText exMs.reverse exPieces 2
    = some ([97, 98, 99] ++ [91, 98, 124, 97, 93] ++ [32] ++ [91, 124, 97, 93]) := by decide +kernel

/-- **`Replace` = fold, both directions, every count ≥ -1** (count 0: nothing is replaced; no match:
    the input). -/
theorem replace_eq_fold (text : List Nat) (ms : List Match) (pieces : List Piece) (count : Int) (rtl : Bool)
    (hc : -1 ≤ count) (hv : valid rtl text ms = true) :
    replace text ms pieces count rtl
      = .ok (spec text (inTextOrder rtl (takeCount count ms)) (expand pieces text)) := by
  refine frame_spec _ (inTextOrder rtl) (by cases rtl <;> rfl) hc fun h0 => ?_
  cases rtl with
  | true => exact replaceRTL_eq_fold text ms pieces count h0 hv
  | false => exact replaceLTR_eq_fold text ms pieces count h0 hv

/-- **`ReplaceFunc` = fold** with the evaluator's strings, both directions. -/
theorem replaceFunc_eq_fold (text : List Nat) (ms : List Match) (ev : Match → List Nat) (count : Int) (rtl : Bool)
    (hc : -1 ≤ count) (hv : valid rtl text ms = true) :
    replaceFunc text ms ev count rtl = .ok (spec text (inTextOrder rtl (takeCount count ms)) ev) := by
  refine frame_spec _ (inTextOrder rtl) (by cases rtl <;> rfl) hc fun h0 => ?_
  cases rtl with
  | true =>
    exact spec_rtl_whole text ev (isLoop_FuncRTL text ev) (stepR_ok text _ _ fun m => by simp) (finishFuncRTL_ok text)
      ms count h0 hv
  | false =>
    exact spec_ltr text ev (isLoop_FuncLTR text ev)
      (fun m p buf hp hi => stepL_ok text _ _ m p buf (sliceExpr_ok text p m.index hp hi)) (finishFuncLTR_ok text)
      ms 0 [] count h0 hv

/-- **Evaluator path = rules path.**  `ReplaceFunc` with an evaluator that computes the expansion of
    the rules returns the same string as `Replace` with those rules (for every count, also the
    rejected ones).  The validity hypothesis is needed left to right: both right-to-left loops take
    the kept text by a slice expression, but left to right the rules loop writes it rune by rune
    (`writeRunes`, nothing when it would end before it starts) where the evaluator loop slices — on
    text `ab` with the overlapping matches (0,2), (1,1) `replace` returns a string and `replaceFunc`
    panics. -/
theorem replaceFunc_eq (text : List Nat) (ms : List Match) (pieces : List Piece) (count : Int) (rtl : Bool)
    (hv : valid rtl text ms = true) :
    replaceFunc text ms (expand pieces text) count rtl = replace text ms pieces count rtl := by
  by_cases hc : -1 ≤ count
  · rw [replaceFunc_eq_fold text ms _ count rtl hc hv, replace_eq_fold text ms pieces count rtl hc hv]
  · have : count < -1 := by omega
    simp [replaceFunc, replace, this]

example : replaceFunc exText exMs.reverse (expand exPieces exText) (-1) true
    = replace exText exMs.reverse exPieces (-1) true := by decide +kernel

/-- the scanner reads `$&` as "group slot 0" whenever group number 0 sits in slot 0 (true of every
    compiled regex) -/
theorem parse_dollar_amp (isWord : Nat → Bool) (env : Env) (h0 : slotOf env 0 = 0) :
    parse isWord env [36, 38] = .ok [Piece.group 0] := by
  have : newReplacerData isWord env [36, 38] = .ok ⟨[], [-4 - 1 - (slotOf env 0 : Int)]⟩ := rfl
  rw [parse, this, h0]; rfl

/-- **A replacement string without `$` is one literal**: it parses, for every regex, to the single
    rule "append this text" (the empty string to no rule at all), so `Replace` substitutes it verbatim. -/
theorem parse_plain (isWord : Nat → Bool) (env : Env) (rep : List Nat) (h : dollar ∉ rep) :
    parse isWord env rep = .ok (if rep = [] then [] else [Piece.lit rep]) := by
  simp only [parse, newReplacerData, scanLoop_plain isWord env rep h, buildData_chars]
  by_cases hr : rep = []
  · simp [hr, buildData, ReplacerData.pieces]
  · simp [hr, buildData, ReplacerData.pieces, decodeRule]

/-! the scanner on the ambiguous forms (regex with groups 0, 1 and a group `n` = number 2 in slot 2):
    `$12` is a literal without ECMAScript and "group 1, then `2`" with it; `${1}0`; `${n}`; `${x}`, `$`, `$$` -/
def exWord (c : Nat) : Bool := decide (97 ≤ c ∧ c ≤ 122)
def exEnv (ecma : Bool) : Env := ⟨none, 3, [([110], 2)], ecma⟩

example : parse exWord (exEnv false) [36, 49, 50] = .ok [.lit [36, 49, 50]] := by rfl
example : parse exWord (exEnv true) [36, 49, 50] = .ok [.group 1, .lit [50]] := by rfl
example : parse exWord (exEnv false) [36, 123, 49, 125, 48] = .ok [.group 1, .lit [48]] := by rfl
example : parse exWord (exEnv false) [36, 123, 110, 125, 36, 43] = .ok [.group 2, .lastGroup] := by rfl
example : parse exWord (exEnv false) [36, 123, 120, 125, 36, 36, 36] = .ok [.lit [36, 123, 120, 125, 36, 36]] := by rfl
example : parse exWord (exEnv false) [36, 57, 57, 57, 57, 57, 57, 57, 57, 57, 57, 57] = .error .overflow := by rfl

/-- **Replacing with `$&` is the identity**: `Replace(s, "$&")` is `s`, in either direction, for every
    count ≥ -1 (`h0`: group number 0 has slot 0, true of the tables of every compiled regex). -/
theorem replace_self_id (isWord : Nat → Bool) (env : Env) (h0 : slotOf env 0 = 0)
    (text : List Nat) (ms : List Match) (count : Int) (rtl : Bool)
    (hc : -1 ≤ count) (hv : valid rtl text ms = true) :
    ∃ pieces, parse isWord env [36, 38] = .ok pieces ∧ replace text ms pieces count rtl = .ok text := by
  refine ⟨[Piece.group 0], parse_dollar_amp isWord env h0, ?_⟩
  rw [replace_eq_fold text ms _ count rtl hc hv]
  have hf : expand [Piece.group 0] text = matchText text := funext (expand_self text)
  rw [hf, spec]
  rw [takeCount_eq_take, specBetween_id text text.length _ 0 (processed_valid text ms _ rtl hv), slice_zero_length]

example : slotOf ⟨some [(0, 0), (5, 1)], 2, [], false⟩ 0 = 0 ∧ slotOf ⟨none, 3, [], false⟩ 0 = 0 := by decide

/-- **count = 0 returns the input** — for `Replace` and `ReplaceFunc`, whatever the matches, rules,
    evaluator and direction. -/
theorem count_zero_id (text : List Nat) (ms : List Match) (pieces : List Piece) (ev : Match → List Nat) (rtl : Bool) :
    replace text ms pieces 0 rtl = .ok text ∧ replaceFunc text ms ev 0 rtl = .ok text := by
  simp [replace, replaceFunc]

/-- the fold written as "kept texts interleaved with substitutions": `spec` substitutes *in place* —
    with `f = matched text` the same interleaving is the input itself -/
theorem spec_in_place (text : List Nat) (ms : List Match) (f : Match → List Nat) (hv : validLTR text ms = true) :
    spec text ms f = interleave (gaps text 0 ms) (ms.map f)
      ∧ interleave (gaps text 0 ms) (ms.map (matchText text)) = text := by
  refine ⟨spec_eq_interleave text f ms 0, ?_⟩
  rw [← spec_eq_interleave text (matchText text) ms 0, specBetween_id text text.length ms 0 hv, slice_zero_length]

/-! ### the integer rules of `ReplacerData` -/

/-- what `NewReplacerData` stores for a piece: literals index the string table, group slot `s` is
    `-5 - s`, the specials are `-4 … -1` -/
def encodeRule (strings : List (List Nat)) : Piece → Int × List (List Nat)
  | .lit s => (strings.length, strings ++ [s])
  | .group slot => (-5 - (slot : Int), strings)
  | .leftPortion => (-4, strings)
  | .rightPortion => (-3, strings)
  | .lastGroup => (-2, strings)
  | .wholeString => (-1, strings)

/-- **Rule encoding round trip**: `replacementImpl`'s decoding of the integer that `NewReplacerData`
    writes for a piece is that piece (no group slot collides with a special or a string index). -/
theorem decode_encode (strings : List (List Nat)) (p : Piece) :
    decodeRule (encodeRule strings p).2 (encodeRule strings p).1 = p := by
  cases p with
  | lit s =>
    show decodeRule (strings ++ [s]) (strings.length : Int) = .lit s
    rw [decodeRule, if_pos (Int.natCast_nonneg _), Int.toNat_natCast, List.getD_eq_getElem?_getD,
      List.getElem?_concat_length]; rfl
  | group slot => exact decodeRule_group strings slot
  | _ => rfl

/-! ### facts regenerated from the Go source on every run (`Generated.Replace`) -/

/-- The two copies of the rule-encoding constants (replace.go and syntax/replacerdata.go) agree
    with each other and with the numbers the model uses (`replaceSpecials = 4`, specials `-1 … -4`),
    and the parser's decimal overflow bounds are the model's. -/
theorem source_constants :
    Generated.Replace.runConsts = [4, -1, -2, -3, -4] ∧ Generated.Replace.synConsts = Generated.Replace.runConsts
      ∧ Generated.Replace.maxValueDiv10 = maxValueDiv10 ∧ Generated.Replace.maxValueMod10 = maxValueMod10 := by
  decide

/-- With the constants of the source, the rule `-replaceSpecials-1-k` written for the special `k`
    decodes in `replacementImpl` to that special, and group slot 0 (`$&`) to a group lookup. -/
theorem source_specials_decode :
    Generated.Replace.runConsts.length = 5 ∧
    (let c := fun i => Generated.Replace.runConsts.getD i 0
     decodeRule [] (-(c 0) - 1 - c 1) = .leftPortion ∧ decodeRule [] (-(c 0) - 1 - c 2) = .rightPortion
       ∧ decodeRule [] (-(c 0) - 1 - c 3) = .lastGroup ∧ decodeRule [] (-(c 0) - 1 - c 4) = .wholeString
       ∧ decodeRule [] (-(c 0) - 1 - 0) = .group 0) := by
  decide

/-- The one-character substitutions in the `switch ch` of `scanDollar` are exactly the ones the model's
    scanner implements: for each `(c, v)` of the source table, `$c…` scans to the reference `v`
    consuming one rune, whatever the regex and whatever follows; and `$$` is a literal `$`. -/
theorem source_dollar_table (isWord : Nat → Bool) (env : Env) (rest : List Nat) :
    (∀ p ∈ Generated.Replace.dollarSpecials, scanDollar isWord env (p.1 :: rest) = .ok (.ref p.2, 1))
      ∧ Generated.Replace.dollarDollar = true ∧ scanDollar isWord env (36 :: rest) = .ok (.ch 36, 1) := by
  refine ⟨?_, rfl, rfl⟩
  intro p hp
  have ht : Generated.Replace.dollarSpecials = [(38, 0), (96, -1), (39, -2), (43, -3), (95, -4)] := rfl
  rw [ht] at hp
  simp only [List.mem_cons, List.not_mem_nil, or_false] at hp
  rcases hp with rfl | rfl | rfl | rfl | rfl <;> rfl

/-! ### the scanner -/

/-- **Every reference the scanner produces is valid, and the integer rules denote the scanned
    pieces.**  For well-formed group maps (`envOk`), if the scanner accepts the replacement string with
    token list `toks`, then
    * every reference token is either one of the four specials or a group number that
      `isCaptureSlot` accepts — anything else after a `$` was literalised;
    * `NewReplacerData`'s integer encoding followed by `replacementImpl`'s decoding loses nothing:
      the parsed pieces are the tokens read off directly (`piecesOf`: adjacent literal runes merged into
      one string, a group reference as the slot `caps[number]`, the specials as themselves) — no string
      index or group slot is confused with another rule. -/
theorem parse_denotes (isWord : Nat → Bool) (env : Env) (henv : envOk env = true) (rep : List Nat) (toks : List Tok)
    (h : scanLoop isWord env rep 0 = .ok toks) :
    (∀ t ∈ toks, RefOk env t) ∧ parse isWord env rep = .ok (piecesOf env toks []) := by
  obtain ⟨hn, h0⟩ := envOk_names env henv
  have hok := scanLoop_ok isWord env hn h0 rep 0 toks h
  refine ⟨hok, ?_⟩
  simp only [parse, newReplacerData, h]
  rw [buildData_pieces env toks [] [] [] hok (by intro r hr; simp at hr)]
  simp

example : envOk (exEnv false) = true ∧ envOk ⟨some [(0, 0), (5, 1), (7, 2)], 3, [([48], 0), ([110], 7), ([53], 5)], false⟩ = true := by
  decide

/-! ### Split -/

/-- number of matches `Split` processes at most, for a count outside {0, 1} -/
def splitLimit (count : Int) : Nat := (if count = -1 then maxInt else count).toNat

/-- group texts of one match in the order `Split` returns them: slot order left-to-right, reverse
    slot order for a right-to-left pattern (the whole result list is built backwards and reversed) -/
def capOrder (text : List Nat) (rtl : Bool) : Match → List (List Nat) :=
  if rtl then capTextsRev text else capTexts text

/-- **`Split` as the code behaves**, for every count ≥ -1 and both directions: count 0 gives no
    pieces, count 1 the input; otherwise at most `count` matches are processed (all for -1) and the
    result is: kept text, then the texts of the groups 1… of the match (unset groups as empty strings;
    reverse slot order when right-to-left), kept text, … , final kept text — in text order. -/
theorem split_eq_spec (text : List Nat) (ms : List Match) (count : Int) (rtl : Bool)
    (hc : -1 ≤ count) (hv : valid rtl text ms = true) :
    split text ms count rtl =
      .ok (if count = 0 then [] else if count = 1 then [text]
           else splitSpec text (capOrder text rtl) 0 (inTextOrder rtl (ms.take (splitLimit count))) text.length) := by
  unfold split
  have h1 : ¬ count < -1 := by omega
  simp only [h1, if_false]
  by_cases h0 : count = 0
  · simp [h0]
  simp only [h0, if_false]
  by_cases h1' : count = 1
  · simp [h1']
  simp only [h1', if_false]
  cases ms with
  | nil => simp [inTextOrder, splitSpec, slice_zero_length]
  | cons m rest =>
    cases rtl with
    | true =>
      simp [splitLoop_rtl text (m :: rest) text.length [] _ hv (Nat.le_refl _), Res.ofOption, inTextOrder,
        capOrder, splitLimit]
    | false => simp [splitLoop_ltr text (m :: rest) 0 [] _ hv, Res.ofOption, inTextOrder, capOrder, splitLimit]

example : split exText exMs (-1) false
    = .ok [[], [97], [98], [99], [97], [98], [32], [97], [], []] := by decide +kernel
example : split exText exMs.reverse 2 true
    = .ok [[97, 98, 99], [98], [97], [32], [], [97], []] := by decide +kernel

/-- **Split pieces re-joined with the matched texts rebuild the input** (general form, with
    captures): walking the result, after each kept text skip the `GroupCount()-1` group entries of
    the match and put the matched text back — the concatenation is the input.  Holds for every count
    except 0 (which returns no pieces) and both directions. -/
theorem split_join (text : List Nat) (ms : List Match) (count : Int) (rtl : Bool)
    (hc : -1 ≤ count) (h0 : count ≠ 0) (hv : valid rtl text ms = true) :
    ∃ ps, split text ms count rtl = .ok ps ∧
      rejoin text (fun m => m.groups.length)
        (if count = 1 then [] else inTextOrder rtl (ms.take (splitLimit count))) ps = text := by
  rw [split_eq_spec text ms count rtl hc hv]
  simp only [h0, if_false]
  by_cases h1 : count = 1
  · simp [h1, rejoin]
  · simp only [h1, if_false]
    refine ⟨_, rfl, ?_⟩
    rw [rejoin_splitSpec text (capOrder text rtl) _ text.length _ 0 (processed_valid text ms _ rtl hv),
      slice_zero_length]
    intro m _
    cases rtl <;> simp [capOrder, capTextsRev, capTexts]

/-- **Split, pattern without captures**: `Split` returns, and interleaving its pieces with the matched
    texts of the processed matches gives the input (so the pieces are the kept texts, one more than
    the processed matches). -/
theorem split_join_nocaptures (text : List Nat) (ms : List Match) (count : Int) (rtl : Bool)
    (hc : -1 ≤ count) (h0 : count ≠ 0) (h1 : count ≠ 1) (hv : valid rtl text ms = true)
    (hg : ∀ m ∈ ms, m.groups = []) :
    ∃ ps, split text ms count rtl = .ok ps ∧
      interleave ps ((inTextOrder rtl (ms.take (splitLimit count))).map (matchText text)) = text := by
  rw [split_eq_spec text ms count rtl hc hv]
  simp only [h0, h1, if_false]
  refine ⟨_, rfl, ?_⟩
  rw [interleave_splitSpec_nocap text (capOrder text rtl) text.length _ 0 (processed_valid text ms _ rtl hv),
    slice_zero_length]
  intro m hm
  have hm' : m ∈ ms := List.mem_of_mem_take (by cases rtl <;> simpa [inTextOrder] using hm)
  cases rtl <;> simp [capOrder, capTextsRev, capTexts, hg m hm']

example : ∃ ps, split [97, 45, 98, 45, 99] [⟨3, 1, []⟩, ⟨1, 1, []⟩] (-1) true = .ok ps ∧ ps = [[97], [98], [99]] := by
  exact ⟨_, by decide +kernel, rfl⟩

/-- **Every slice `Split` takes is in bounds**: for an ordered, disjoint, in-bounds sequence in
    either direction and any count, none of the slice expressions `txt[a:b]` of split.go panics. -/
theorem split_inbounds (text : List Nat) (ms : List Match) (count : Int) (rtl : Bool)
    (hv : valid rtl text ms = true) : split text ms count rtl ≠ .panic := by
  by_cases hc : -1 ≤ count
  · rw [split_eq_spec text ms count rtl hc hv]; simp
  · have : count < -1 := by omega
    simp [split, this]

/-- the same for `Replace` and `ReplaceFunc`: no index or slice of the driver loops is out of range -/
theorem replace_inbounds (text : List Nat) (ms : List Match) (pieces : List Piece) (ev : Match → List Nat)
    (count : Int) (rtl : Bool) (hv : valid rtl text ms = true) :
    replace text ms pieces count rtl ≠ .panic ∧ replaceFunc text ms ev count rtl ≠ .panic := by
  by_cases hc : -1 ≤ count
  · rw [replace_eq_fold text ms pieces count rtl hc hv, replaceFunc_eq_fold text ms ev count rtl hc hv]; simp
  · have : count < -1 := by omega
    simp [replace, replaceFunc, this]

/-- without the hypothesis the claim is false: a right-to-left sequence handed over in ascending
    order makes the model of `Split` panic (this is what split.go did before it learnt about
    right-to-left patterns) -/
example : split [97, 45, 98, 45, 99] [⟨1, 1, []⟩, ⟨3, 1, []⟩] (-1) true = .panic := by decide

/-! ## strict group lookups (`$n` beyond the match's slots, spans outside the text)

`replace_inbounds` / `split_inbounds` above are about the *driver loops*: the model they run
(`Model/Replace.lean`) totalises the lookups inside one expansion — `groupSpan` is `getD`,
`groupText`/`capTexts` use the total `slice`, `decodeRule` is `getD` — where the Go code panics on a
rule naming a slot the match does not have, a capture span outside the text or a string index outside
the table (`m.matchcount[groupnum]`, `m.text.runes[index]`, `runes[i : i+l]`, `data.Strings[r]`).  `Model/ReplaceStrict.lean` has the same functions with those
accesses indexed (`Res.panic` where Go indexes out of range).  A strict run that does not panic
returns what the total run returns, with no hypothesis at all — so everything proved above holds for
every non-panicking strict run, and the legs (which run the
total functions on Go's non-panicking runs) lose nothing.  Strict runs do not panic when the rules
come from the model's scanner for the regex's tables and every match is a match of that regex on that
text (`MatchOk`: exactly `capsize` slots, the match and every capture inside the text — C08's
`captures_in_bounds`); without that link they do.
-/

section Strict
open RegexVerif.Lemmas.ReplaceStrict

/-- the example matches are matches of a regex with 3 slots on the example text; `[$2|$1]` names
    slots below 3 -/
example : (∀ m ∈ exMs, MatchOk 3 exText m = true) ∧ (∀ p ∈ exPieces, pieceOk 3 p = true) := by decide

/-- **Strict = total wherever strict returns (`Replace`).**  Whatever the text, the match sequence (valid or
    not), the rule list or `ReplacerData`, count and direction: a run with Go's indexed lookups that does
    not panic returns what the totalised model returns.  (So the total model can only differ from Go's
    behaviour by returning a value where Go panics.) -/
theorem strict_eq_total (text : List Nat) (ms : List Match) (pieces : List Piece) (d : ReplacerData)
    (count : Int) (rtl : Bool) :
    (replaceStrict text ms pieces count rtl ≠ .panic →
        replaceStrict text ms pieces count rtl = replace text ms pieces count rtl)
    ∧ (replaceDataStrict text ms d count rtl ≠ .panic →
        replaceDataStrict text ms d count rtl = replace text ms d.pieces count rtl) :=
  ⟨replaceWith_eq text ms pieces _ _ (fun m => (expand?_refines pieces text m).eq)
      (fun m => (expandRTL?_refines pieces text m).eq) count rtl,
   replaceWith_eq text ms d.pieces _ _ (fun m => (expandData?_refines d text m).eq)
      (fun m => (expandDataRTL?_refines d text m).eq) count rtl⟩

example : replaceStrict exText exMs exPieces 2 false = replace exText exMs exPieces 2 false
    ∧ replaceStrict exText exMs exPieces 2 false ≠ .panic
    ∧ replaceDataStrict exText exMs.reverse ⟨[[91], [93]], [0, -7, 1]⟩ (-1) true
        = .ok ([91, 98, 93] ++ [99] ++ [91, 98, 93] ++ [32] ++ [91, 93]) := by decide +kernel

/-- **Strict = total wherever strict returns (`ReplaceFunc`)**, for an evaluator `ev` that may itself
    panic (`none`) and any total evaluator `ev'` that returns `ev`'s value whenever `ev` returns —
    e.g. `ev = expand? pieces text` (an evaluator that reads groups by slot) and
    `ev' = expand pieces text`. -/
theorem strict_eq_total_func (text : List Nat) (ms : List Match) (ev : Match → Option (List Nat)) (ev' : Match → List Nat)
    (hev : ∀ m x, ev m = some x → x = ev' m) (count : Int) (rtl : Bool)
    (h : replaceFuncStrict text ms ev count rtl ≠ .panic) :
    replaceFuncStrict text ms ev count rtl = replaceFunc text ms ev' count rtl :=
  replaceFuncStrict_eq text ms ev ev' hev count rtl h

example : (∀ m x, expand? exPieces exText m = some x → x = expand exPieces exText m)
    ∧ replaceFuncStrict exText exMs (expand? exPieces exText) (-1) false ≠ .panic :=
  ⟨fun m => (expand?_refines exPieces exText m).eq, by decide +kernel⟩

/-- **Strict = total wherever strict returns (`Split`)**: with `Capture.String()`'s slice expression
    bounds-checked, a `Split` that does not panic returns the totalised model's list. -/
theorem strict_eq_total_split (text : List Nat) (ms : List Match) (count : Int) (rtl : Bool)
    (h : splitStrict text ms count rtl ≠ .panic) : splitStrict text ms count rtl = split text ms count rtl := by
  unfold splitStrict at h ⊢
  unfold split
  by_cases h1 : count < -1
  · rw [if_pos h1, if_pos h1]
  by_cases h0 : count = 0
  · rw [if_neg h1, if_neg h1, if_pos h0, if_pos h0]
  by_cases h2 : count = 1
  · rw [if_neg h1, if_neg h1, if_neg h0, if_neg h0, if_pos h2, if_pos h2]
  simp only [if_neg h1, if_neg h0, if_neg h2] at h ⊢
  cases ms with
  | nil => rfl
  | cons m rest =>
    cases hl : splitLoopStrict text rtl (m :: rest) (if rtl then text.length else 0) [] (if count = -1 then maxInt else count) with
    | none => rw [hl] at h; exact absurd rfl h
    | some r => rw [splitLoopStrict_mono text rtl _ _ _ _ r hl]

example : splitStrict exText exMs.reverse 2 true ≠ .panic
    ∧ splitStrict exText exMs.reverse 2 true = .ok [[97, 98, 99], [98], [97], [32], [], [97], []] := by decide +kernel

/-- **`Replace` with a parsed replacement does not panic on the regex's own matches.**  `pieces` is what
    the scanner returns for a replacement string against the tables `env` of the regex; every match of
    `ms` has exactly `capsize` slots and all its spans inside the text.  Then no lookup of
    `replacementImpl`/`replacementImplRTL`/`groupValueAppendToBuf` and no slice of the driver loop is out
    of range, and the result is the totalised model's (hence the fold of `replace_eq_fold`).  (The
    replacement string serves only to give `∀ p ∈ pieces, pieceOk env.capsize p`, by `parse_pieceOk`; for
    pieces given otherwise both conclusions follow from that condition by `replaceWith_agree` with
    `expand?_refines`/`expandRTL?_refines`, and `replace_inbounds`, with no `Env` and no scanner.) -/
theorem replace_no_panic_parsed (isWord : Nat → Bool) (env : Env) (henv : envOk env = true) (hcaps : capsOk env = true)
    (rep : List Nat) (pieces : List Piece) (hp : parse isWord env rep = .ok pieces)
    (text : List Nat) (ms : List Match) (count : Int) (rtl : Bool)
    (hv : valid rtl text ms = true) (hm : ∀ m ∈ ms, MatchOk env.capsize text m = true) :
    replaceStrict text ms pieces count rtl ≠ .panic
      ∧ replaceStrict text ms pieces count rtl = replace text ms pieces count rtl := by
  have hok := parse_pieceOk isWord env henv hcaps rep pieces hp
  have heq : replaceStrict text ms pieces count rtl = replace text ms pieces count rtl :=
    replaceWith_agree text ms pieces _ _
      (fun m h => (expand?_refines pieces text m).ok ⟨_, hm m h, hok⟩)
      (fun m h => (expandRTL?_refines pieces text m).ok ⟨_, hm m h, hok⟩) count rtl
  exact ⟨by rw [heq]; exact (replace_inbounds text ms pieces (fun _ => []) count rtl hv).1, heq⟩

/-- hypotheses satisfiable: `[$2|${n}$+$\`]` against the tables of `(a)(?<n>b)?` and its three
    matches on `"abcab a"`, both directions -/
example : envOk (exEnv false) = true ∧ capsOk (exEnv false) = true
    ∧ parse exWord (exEnv false) [91, 36, 50, 124, 36, 123, 110, 125, 36, 43, 36, 96, 93]
        = .ok [.lit [91], .group 2, .lit [124], .group 2, .lastGroup, .leftPortion, .lit [93]]
    ∧ valid false exText exMs = true ∧ valid true exText exMs.reverse = true
    ∧ (∀ m ∈ exMs, MatchOk (exEnv false).capsize exText m = true) :=
  ⟨by decide +kernel, by decide +kernel, by rfl, by decide +kernel, by decide +kernel, by decide +kernel⟩

/-- a `caps` table with sparse group numbers (`(?<5>a)(?<7>b)`: numbers 0, 5, 7 in slots 0, 1, 2) -/
example : capsOk ⟨some [(0, 0), (5, 1), (7, 2)], 3, [], false⟩ = true
    ∧ capsOk ⟨some [(0, 0), (5, 3)], 3, [], false⟩ = false := by decide

/-- **The same on the integer rules**: for the `ReplacerData` that `NewReplacerData` builds, every
    `data.Strings[r]` is inside the string table as well; the strict run on it (`⟨strings, rules⟩`) does not
    panic and returns what the total model returns on the decoded rules. -/
theorem replaceData_no_panic_parsed (isWord : Nat → Bool) (env : Env) (henv : envOk env = true) (hcaps : capsOk env = true)
    (rep : List Nat) (d : ReplacerData) (hd : newReplacerData isWord env rep = .ok d)
    (text : List Nat) (ms : List Match) (count : Int) (rtl : Bool)
    (hv : valid rtl text ms = true) (hm : ∀ m ∈ ms, MatchOk env.capsize text m = true) :
    replaceDataStrict text ms d count rtl ≠ .panic
      ∧ replaceDataStrict text ms d count rtl = replace text ms d.pieces count rtl := by
  obtain ⟨hwf, hok⟩ := newReplacerData_pieceOk isWord env henv hcaps rep d hd
  have heq : replaceDataStrict text ms d count rtl = replace text ms d.pieces count rtl :=
    replaceWith_agree text ms d.pieces _ _
      (fun m h => (expandData?_refines d text m).ok ⟨hwf, _, hm m h, hok⟩)
      (fun m h => (expandDataRTL?_refines d text m).ok ⟨hwf, _, hm m h, hok⟩) count rtl
  exact ⟨by rw [heq]; exact (replace_inbounds text ms d.pieces (fun _ => []) count rtl hv).1, heq⟩

example : newReplacerData exWord (exEnv false) [91, 36, 50, 93] = .ok ⟨[[91], [93]], [0, -7, 1]⟩ := by rfl

/-- **`ReplaceFunc` does not panic** when the evaluator does not: for an evaluator `ev` that returns
    (`some`) on every match of the regex on the text — in particular the evaluator that expands a
    parsed replacement by slot lookups (second part) — no slice of the evaluator loops is out of
    range, for every count and direction. -/
theorem replaceFunc_no_panic (isWord : Nat → Bool) (env : Env) (henv : envOk env = true) (hcaps : capsOk env = true)
    (rep : List Nat) (pieces : List Piece) (hp : parse isWord env rep = .ok pieces)
    (text : List Nat) (ms : List Match) (count : Int) (rtl : Bool)
    (hv : valid rtl text ms = true) (hm : ∀ m ∈ ms, MatchOk env.capsize text m = true) :
    (∀ ev : Match → Option (List Nat), (∀ m, MatchOk env.capsize text m = true → (ev m).isSome = true) →
        replaceFuncStrict text ms ev count rtl ≠ .panic
          ∧ replaceFuncStrict text ms ev count rtl = replaceFunc text ms (fun m => (ev m).getD []) count rtl)
    ∧ replaceFuncStrict text ms (expand? pieces text) count rtl ≠ .panic
    ∧ replaceFuncStrict text ms (expand? pieces text) count rtl = replaceFunc text ms (expand pieces text) count rtl := by
  have hgen : ∀ (ev : Match → Option (List Nat)) (ev' : Match → List Nat), (∀ m ∈ ms, ev m = some (ev' m)) →
      replaceFuncStrict text ms ev count rtl ≠ .panic
        ∧ replaceFuncStrict text ms ev count rtl = replaceFunc text ms ev' count rtl := by
    intro ev ev' h
    have heq := replaceFuncStrict_agree text ms ev ev' h count rtl
    exact ⟨by rw [heq]; exact (replace_inbounds text ms [] ev' count rtl hv).2, heq⟩
  refine ⟨?_, hgen _ _ (fun m h => (expand?_refines pieces text m).ok ⟨_, hm m h, parse_pieceOk isWord env henv hcaps rep pieces hp⟩)⟩
  intro ev hev
  refine hgen ev _ ?_
  intro m h
  have := hev m (hm m h)
  cases hx : ev m with
  | none => rw [hx] at this; simp at this
  | some x => rfl

example : ∀ m, MatchOk 3 exText m = true → (expand? exPieces exText m).isSome = true := by
  intro m hm
  rw [(expand?_refines exPieces exText m).ok ⟨3, hm, by decide⟩]; rfl

/-- **`Split` does not panic on the regex's own matches**: for an ordered, disjoint, in-bounds
    sequence of matches whose capture spans lie inside the text, neither the slice expressions of
    split.go nor the `Capture.String()` of any group is out of range; the result is the totalised
    model's (hence `split_eq_spec`). -/
theorem split_no_panic (capsize : Nat) (text : List Nat) (ms : List Match) (count : Int) (rtl : Bool)
    (hv : valid rtl text ms = true) (hm : ∀ m ∈ ms, MatchOk capsize text m = true) :
    splitStrict text ms count rtl ≠ .panic ∧ splitStrict text ms count rtl = split text ms count rtl := by
  have heq : splitStrict text ms count rtl = split text ms count rtl := by
    unfold splitStrict split
    simp only [splitLoopStrict_agree text rtl ms _ _ _ fun m h => (capTexts?_refines text m).ok ⟨_, hm m h⟩]
    cases ms <;> rfl
  exact ⟨by rw [heq]; exact split_inbounds text ms count rtl hv, heq⟩

example : splitStrict exText exMs (-1) false = .ok [[], [97], [98], [99], [97], [98], [32], [97], [], []] := by decide +kernel

/-- **The total model answers where Go panics (decided instance).**  Text `"abcab a"`, the three
    matches of `(a)(b)?` (3 slots, all spans inside the text, sequence valid): the rule "group slot
    3" (= `capsize`) makes the strict run panic — Go: `index out of range [3] with length 3` at
    `m.matchcount[groupnum]` — while the totalised model returns a string; the same for a capture
    span outside the text, for a string index outside the table and for `Split` with a span outside
    the text.  So `replace_inbounds`/`split_inbounds` alone do not exclude these panics; the
    `*_no_panic*` theorems' hypotheses `parse … = .ok pieces` / `MatchOk` are what does. -/
theorem slot_capsize_panics :
    (∀ m ∈ exMs, MatchOk 3 exText m = true) ∧ valid false exText exMs = true ∧ valid true exText exMs.reverse = true
    ∧ pieceOk 3 (.group 3) = false
    ∧ replaceStrict exText exMs [.lit [91], .group 3] (-1) false = .panic
    ∧ replaceStrict exText exMs.reverse [.lit [91], .group 3] (-1) true = .panic
    ∧ replace exText exMs [.lit [91], .group 3] (-1) false = .ok [91, 99, 91, 32, 91]
    ∧ replaceFuncStrict exText exMs (expand? [.group 3] exText) 1 false = .panic
    -- a capture span outside the text (`MatchOk` fails): `$1`, and `Split`
    ∧ MatchOk 2 exText ⟨0, 2, [some (5, 4)]⟩ = false
    ∧ replaceStrict exText [⟨0, 2, [some (5, 4)]⟩] [.group 1] (-1) false = .panic
    ∧ replace exText [⟨0, 2, [some (5, 4)]⟩] [.group 1] (-1) false = .ok [32, 97, 99, 97, 98, 32, 97]
    ∧ splitStrict exText [⟨0, 2, [some (5, 4)]⟩] (-1) false = .panic
    ∧ split exText [⟨0, 2, [some (5, 4)]⟩] (-1) false = .ok [[], [32, 97], [99, 97, 98, 32, 97]]
    -- a string index outside the table
    ∧ replaceDataStrict exText exMs ⟨[[91]], [0, 1]⟩ (-1) false = .panic
    ∧ replace exText exMs (ReplacerData.pieces ⟨[[91]], [0, 1]⟩) (-1) false = .ok [91, 99, 91, 32, 91] := by
  decide +kernel

/-- **… and in general**: whenever at least one match is processed (`count ≠ 0`, `count ≥ -1`, a
    non-empty sequence) and some rule names a slot beyond the slots of the first delivered match, the
    strict `Replace` panics, in both directions, whatever the text and the other rules. -/
theorem missing_slot_panics (text : List Nat) (m : Match) (rest : List Match) (pieces : List Piece) (slot : Nat)
    (count : Int) (rtl : Bool) (hc : -1 ≤ count) (h0 : count ≠ 0)
    (hp : Piece.group slot ∈ pieces) (hs : m.groups.length < slot) :
    replaceStrict text (m :: rest) pieces count rtl = .panic := by
  obtain ⟨h1, h2⟩ := expand?_none pieces text m slot hp hs
  unfold replaceStrict replaceWith
  rw [if_neg (Int.not_lt.mpr hc), if_neg h0]
  cases rtl with
  | true => exact congrArg Res.ofOption ((isLoop_RTLStrict _ _).cons_none rest _ (stepR_none h2 _ _))
  | false => exact congrArg Res.ofOption ((isLoop_LTRStrict _ _).cons_none rest _ (stepL_none h1 _ _))

example : replaceStrict exText exMs [.lit [91], .group 3] 1 true = .panic :=
  missing_slot_panics exText _ _ _ 3 1 true (by decide) (by decide) (by decide) (by decide)

end Strict

end RegexVerif.Props.C09
