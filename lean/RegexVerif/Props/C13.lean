/-
C13 — The backtracking stack limit is honoured and otherwise invisible.

Three layers (see design.d/C13.md):
 1. facts about runner.go / syntax/code.go regenerated on every run (`Generated/Opcodes.lean`): what every
    `case` of the interpreter switch does to the backtracking stack, which opcodes `opcodeBacktracks` counts;
 2. the abstract capacity system `RegexVerif.Capacity` (moves `go`/`pop` over `(pc, used, cap)` with a storage
    check on every backward or in-place jump): the invariant `used + Φ(pc) ≤ cap`;
 3. the allocation arithmetic `alloc0 / grow / ensure` mirroring initMatch / growTrack / ensureStorage.
The abstract system is not an interpreter model; the later sections close that gap for the interpreter MODEL
(`Model/VM.lean`, tied to `executeDefault` by leg W): every iteration of it is a move of the system
(`vm_step_is_move`), hence the track never overflows for every emitted program; the grouping stack stays within its
first allocation, and the crawl stack, which checks at every push and doubles when it is full, never stores below
index 0.  The arithmetic is tied to the running code by the correspondence legs.
-/
import RegexVerif.Lemmas.Capacity
import RegexVerif.Lemmas.VMCapacity
import RegexVerif.Lemmas.Compose
import RegexVerif.Lemmas.StackCapacity
import RegexVerif.Lemmas.StackHeightEmit

namespace RegexVerif.Props.C13
open RegexVerif RegexVerif.Capacity RegexVerif.Lemmas.Capacity RegexVerif.Generated

/-! ### 1. obligations regenerated from the Go source -/

/-- No path through any `case` of `executeDefault` pushes more than 4 slots on the backtracking stack,
    and no push helper (`trackPush` … `trackPushNeg2`) writes more than 4 slots.  This is the `4` of
    `runtrackcount*4` in `ensureStorage`. -/
theorem push_le_four :
    Opcodes.cases.all (fun c => decide (c.maxPush ≤ 4)) = true ∧
    Opcodes.pushHelperSlots.all (fun h => decide (h.2 ≤ 4)) = true := by decide +kernel

/-- The per-opcode weights the proofs use, as they come out of the current runner.go: for every opcode
    that pushes, `(opcode, most slots pushed by one visit, largest net growth of the stack by one visit)`.
    (3–8: the six single-character loops; 23 Lazybranch … 29 Lazybranchcount = 4; 30 Nullmark … 36 Forejump.)
    A change of any case body that alters its stack effect breaks this obligation. -/
theorem net_push_table :
    ((List.range Opcodes.numOpcodes).filterMap fun op =>
      if weight op = 0 ∧ netOf op = 0 then none else some (op, weight op, netOf op)) =
    [(3, 3, 3), (4, 3, 3), (5, 3, 3), (6, 3, 3), (7, 3, 3), (8, 3, 3),
     (23, 2, 2), (24, 3, 3), (25, 3, 3), (26, 1, 1), (27, 1, 1), (28, 3, 3), (29, 4, 4),
     (30, 1, 1), (31, 1, 1), (32, 2, 2), (33, 2, 2), (34, 1, 1), (36, 2, 2)] := by
  simp only [weight, weightTable_eq]; decide +kernel

/-- The stack effect of every case of the interpreter switch that touches the backtracking stack, as read from
    the current runner.go: `(opcode, 0 forward / 1 Back / 2 Back2, most slots pushed, fewest and most slots popped
    explicitly)`.  Any edit of a case body that changes what it pushes or pops breaks this obligation, which
    forces the weights and the invariant to be re-examined. -/
theorem case_fingerprints :
    (Opcodes.cases.filter (fun c => c.maxPush != 0 || c.maxPop != 0)).map
      (fun c => (c.op, c.flag, c.maxPush, c.minPop, c.maxPop)) =
    [(3, 0, 3, 0, 0), (3, 1, 3, 2, 2), (4, 0, 3, 0, 0), (4, 1, 3, 2, 2), (5, 0, 3, 0, 0), (5, 1, 3, 2, 2),
     (6, 0, 3, 0, 0), (6, 1, 3, 2, 2), (7, 0, 3, 0, 0), (7, 1, 3, 2, 2), (8, 0, 3, 0, 0), (8, 1, 3, 2, 2),
     (23, 0, 2, 0, 0), (23, 1, 0, 1, 1), (24, 0, 3, 0, 0), (24, 1, 2, 2, 2), (24, 2, 0, 1, 1),
     (25, 0, 3, 0, 0), (25, 1, 3, 2, 2), (25, 2, 0, 2, 2), (26, 0, 1, 0, 0), (27, 0, 1, 0, 0),
     (28, 0, 3, 0, 0), (28, 1, 3, 1, 1), (28, 2, 0, 2, 2), (29, 0, 4, 0, 0), (29, 1, 2, 3, 3), (29, 2, 0, 1, 1),
     (30, 0, 1, 0, 0), (31, 0, 1, 0, 0), (32, 0, 2, 0, 0), (32, 1, 0, 1, 1), (33, 0, 2, 0, 0), (33, 1, 0, 1, 1),
     (34, 0, 1, 0, 0), (36, 0, 2, 0, 0), (36, 1, 0, 1, 1)] := by decide +kernel

/-- The literals of the allocation model are those of runner.go: `ensureStorage` loops while
    `Runtrackpos < runtrackcount*4` around `growTrack`, `initMatch` allocates `max(64, 8*runtrackcount)`, `goTo` checks
    storage when `newpos <= codepos`, `backtrack` when `newpos < codepos` (model: `ensure`, `alloc0`, `checks`). -/
theorem storage_constants :
    Opcodes.ensureFactor = 4 ∧ Opcodes.allocFactor = 8 ∧ Opcodes.allocMin = 64 ∧
    Opcodes.goToGuard = "<=" ∧ Opcodes.backtrackGuard = "<" := by decide +kernel

/-- Shape of the case bodies that lets a case be read as `go k p t` / `pop`: `backtrack()` pops exactly
    the saved code position; within a case all pops come before all pushes; a case that pushes never
    ends in `backtrack()`; only UpdateBumpalong touches `runtrack` directly and it pushes nothing; `trackto`
    (cut back to a saved level) occurs only in Backjump and Forejump; `| Back` / `| Back2` cases exist only
    for opcodes that push, and every opcode that pushes has a `| Back` case to come back to; every case
    label is an opcode below `Mask`; `Mask` is `0b111111`. -/
theorem case_shape :
    Opcodes.backtrackPops = 1 ∧
    Opcodes.cases.all (fun c =>
      !c.popAfterPush && !c.pushOnBack &&
      (!c.raw || (c.op == Opcodes.opUpdateBumpalong && c.maxPush == 0)) &&
      (!c.trackto || c.op == Opcodes.opBackjump || c.op == Opcodes.opForejump) &&
      (c.flag == 0 || decide (0 < weight c.op)) &&
      decide (c.op < Opcodes.numOpcodes) && decide (c.flag ≤ 2)) = true ∧
    (List.range Opcodes.numOpcodes).all (fun op =>
      weight op == 0 || Opcodes.cases.any (fun c => c.op == op && c.flag == 1)) = true ∧
    Opcodes.numOpcodes ≤ Opcodes.flagMask + 1 ∧ Opcodes.flagMask = 63 := by
  simp only [weight, weightTable_eq]; decide +kernel

/-- Every opcode whose case pushes is counted by `opcodeBacktracks` (so contributes 1 to `TrackCount`) —
    with the single exception of Nullmark, which pushes one slot and is not counted.  Goto is counted and
    pushes nothing; the writer emits `Nullmark` only directly followed by a `Goto` (loops with minimum 0), which
    is what pays for it (`potential_le_need`). -/
theorem backtracks_cover_pushes :
    (∀ op, op < Opcodes.numOpcodes → 0 < weight op → (backtracks op = true ∨ op = Opcodes.opNullmark)) ∧
    weight Opcodes.opNullmark = 1 ∧ backtracks Opcodes.opNullmark = false ∧
    weight Opcodes.opGoto = 0 ∧ backtracks Opcodes.opGoto = true := by
  simp only [weight, weightTable_eq]; decide +kernel

/-- The same as one inequality per opcode, the form the summation lemma uses:
    `weight op + 4·[op = Goto] ≤ 4·[opcodeBacktracks op] + [op = Nullmark]`. -/
theorem op_bound_table : OpBoundTable := by
  unfold OpBoundTable opBound; simp only [weight, weightTable_eq]; decide +kernel

/-- For every program (list of the opcodes of its instructions, any numbers at all) that has at least as
    many Goto as Nullmark instructions: everything its positions can push, Φ(0) = Σ weight, is at most
    `4 * TrackCount` — the amount of free space every storage check establishes. -/
theorem potential_le_need (prog : List Nat)
    (hpair : count Opcodes.opNullmark prog ≤ count Opcodes.opGoto prog) :
    phi (weights prog) 0 ≤ trackCount prog * 4 := by
  have := weights_sum_bound op_bound_table prog
  rw [phi_zero]
  omega

/-- non-vacuity: `(?:ab?)*c`-like program  Lazybranch Nullmark Goto One Oneloop Branchmark One Stop:
    potential 2+1+0+0+3+3 = 9 ≤ 4·4 -/
example : phi (weights [23, 30, 38, 9, 3, 24, 9, 40]) 0 = 9 ∧ trackCount [23, 30, 38, 9, 3, 24, 9, 40] = 4 ∧
    count Opcodes.opNullmark [23, 30, 38, 9, 3, 24, 9, 40] ≤ count Opcodes.opGoto [23, 30, 38, 9, 3, 24, 9, 40] := by
  decide +kernel

/-! ### 2. the abstract capacity system -/

/-- **Invariant.**  If every storage check that succeeds leaves `used + need ≤ cap` (and never shrinks the
    stack) and `need` covers the whole potential Φ(0), then `used + Φ(pc) ≤ cap` is preserved by every legal
    move: a forward move spends the weight of the position it leaves, a backward or in-place move goes through
    a check, a pop only frees space. -/
theorem track_inv {ws : List Nat} {need : Nat} {ens : Nat → Nat → Option Nat}
    (hens : EnsSpec need ens) (hneed : phi ws 0 ≤ need)
    {s s' : St} {m : Move} (hinv : TrackInv ws s) (hl : legal ws s.l m) (h : step ens s m = some s') :
    TrackInv ws s' :=
  step_inv hens hneed hinv hl h

/-- **No overflow.**  Start as `executeDefault` does (a check with nothing used), make any legal moves that
    the checks let through: when the next legal move executes, the slots in use at its deepest point — after its
    pushes, before any check — fit in the capacity.  In Go terms `Runtrackpos = cap - used ≥ 0` at every store
    `runtrack[Runtrackpos] = …`, so the index −1 (the panic that commit 23c41f0 removed) is unreachable. -/
theorem track_no_overflow {ws : List Nat} {need : Nat} {ens : Nat → Nat → Option Nat}
    (hens : EnsSpec need ens) (hneed : phi ws 0 ≤ need)
    {cap0 : Nat} {s0 s : St} (ms : List Move) (m : Move)
    (hstart : start ens cap0 = some s0)
    (hlegal : LegalRun ws s0.l (ms ++ [m]))
    (hrun : run ens s0 ms = some s) :
    peak s.l m ≤ s.cap := by
  have h0 := start_inv (ws := ws) hens hneed hstart
  have hl := legalRun_append ms m s0.l hlegal
  have hinv := run_inv hens hneed ms s0 s h0.1 hl.1 hrun
  have hsl := run_l ms s0 s hrun
  exact peak_le hinv (by rw [hsl]; exact hl.2)

/-- The same for the real check and the real sizing: any program with Goto/Nullmark paired as the writer pairs
    them, its `TrackCount`, any limit `L` (negative = none). -/
theorem track_no_overflow_program (prog : List Nat)
    (hpair : count Opcodes.opNullmark prog ≤ count Opcodes.opGoto prog) (L : Int)
    {s0 s : St} (ms : List Move) (m : Move)
    (hstart : start (ensOf L (trackCount prog)) (alloc0 L (trackCount prog)) = some s0)
    (hlegal : LegalRun (weights prog) s0.l (ms ++ [m]))
    (hrun : run (ensOf L (trackCount prog)) s0 ms = some s) :
    peak s.l m ≤ s.cap :=
  track_no_overflow (ensOf_spec L _) (potential_le_need prog hpair) ms m hstart hlegal hrun

/-- non-vacuity: the program above under limit 80; Lazybranch pushes 2, Nullmark 1, Goto jumps forward to
    Branchmark, which pushes 3 and loops back (a check), One, Oneloop pushes 3, Branchmark again, One fails and
    backtracks into Branchmark|Back (pops 2, pushes 2, goes on), the last One fails and backtracks again (a check).  The run is legal, passes
    all checks, and the capacity stays 64. -/
example :
    let prog := [23, 30, 38, 9, 3, 24, 9, 40]
    let ms := [Move.go 0 2 1, .go 0 1 2, .go 0 0 5, .go 0 3 3, .go 0 0 4, .go 0 3 5, .go 0 3 3, .pop 1 5, .go 2 2 6, .pop 1 5]
    ∃ s0 s, start (ensOf 80 (trackCount prog)) (alloc0 80 (trackCount prog)) = some s0 ∧
      LegalRun (weights prog) s0.l ms ∧ run (ensOf 80 (trackCount prog)) s0 ms = some s ∧
      s = ⟨⟨5, 10⟩, 64⟩ := by
  refine ⟨⟨⟨0, 0⟩, 64⟩, ⟨⟨5, 10⟩, 64⟩, ?_⟩
  decide +kernel

/-! ### 3. allocation arithmetic -/

/-- **What a successful `ensureStorage` establishes**: at least `4 * TrackCount` free slots, and the stack was
    not shrunk (it is unchanged if there was room already).  This is `EnsSpec (4·tc)`, the hypothesis of
    `track_inv`.  It was false before commit 23c41f0 (next example). -/
theorem ensure_establishes (L : Int) (tc len used : Nat) (h : (ensure L tc len used).2 = true) :
    used + tc * 4 ≤ (ensure L tc len used).1 ∧ len ≤ (ensure L tc len used).1 ∧
    ((ensure L tc len used).1 = len ∨ len < used + tc * 4) := by
  have := ensure_spec L tc len used
  simp only at this
  exact ⟨(this.2.1 h).1, this.1, (this.2.1 h).2⟩

/-- the old single-growth formula at L = 257, len = 256 (tc = 13, 210 slots used): it reports success with
    only 47 free slots instead of 52; the present loop reports the failure. -/
example : (ensureOld 257 13 256 210).2 = true ∧ ¬ (210 + 13 * 4 ≤ (ensureOld 257 13 256 210).1) ∧
    (ensure 257 13 256 210) = (257, false) := by decide +kernel

/-- and a success that needs two growths under a limit: 64 → 128 → 200 -/
example : ensure 200 13 64 100 = (200, true) ∧ ensure (-1) 13 64 100 = (256, true) := by decide +kernel

/-- the instance of the abstract check built from `ensure` meets the specification `track_inv` needs -/
theorem ensure_is_check (L : Int) (tc : Nat) : EnsSpec (tc * 4) (ensOf L tc) := ensOf_spec L tc

/-- **The limit is honoured**: with `L ≥ 0` the initial allocation is at most `L`, a growth never goes beyond `L`,
    a storage check (successful or not) leaves the length at most `L`, and so does every state of a run of the
    abstract system started by `start` from the initial allocation. -/
theorem cap_le_limit (L : Int) (h0 : 0 ≤ L) (tc : Nat) :
    (alloc0 L tc : Int) ≤ L ∧
    (∀ (len n : Nat), grow L len = some n → (n : Int) ≤ L) ∧
    (∀ (len used : Nat), (len : Int) ≤ L → ((ensure L tc len used).1 : Int) ≤ L) ∧
    (∀ s0 s ms, start (ensOf L tc) (alloc0 L tc) = some s0 → run (ensOf L tc) s0 ms = some s → (s.cap : Int) ≤ L) := by
  refine ⟨alloc0_le L tc h0, ?_, ?_, ?_⟩
  · intro len n h; exact (grow_some h).2.2.1 h0
  · intro len used hl; exact (ensure_spec L tc len used).2.2.2 (fun _ => hl) h0
  · intro s0 s ms hs hr
    apply run_cap_le h0 ms s0 s _ hr
    unfold start at hs
    cases he : ensOf L tc (alloc0 L tc) 0 with
    | none => simp [he] at hs
    | some c => simp [he] at hs; subst hs; exact ensOf_le h0 (alloc0_le L tc h0) he

example : alloc0 100 20 = 100 ∧ alloc0 (-1) 20 = 160 ∧ alloc0 1000 3 = 64 ∧ alloc0 0 3 = 0 ∧
    grow 100 64 = some 100 ∧ grow 100 100 = none ∧ grow (-1) 100 = some 200 ∧ grow 5 0 = some 1 ∧ grow 0 0 = none := by
  decide +kernel

/-- **Exact failure criterion**: a storage check with `used` slots in use succeeds iff there is no limit or
    `used + 4·tc ≤ L` — whatever the current length (as long as it respects the limit).  So whether a call fails
    does not depend on how large the pooled stack already is, and the smallest limit under which a call succeeds
    is (largest `used` at a check) + 4·tc: the threshold leg O/A measures on the real code. -/
theorem ensure_ok_iff (L : Int) (tc len used : Nat) (hlen : 0 ≤ L → (len : Int) ≤ L) :
    (ensure L tc len used).2 = true ↔ (L < 0 ∨ ((used + tc * 4 : Nat) : Int) ≤ L) :=
  Lemmas.Capacity.ensure_ok_iff L tc len used hlen

/-- when the check fails the stack has been grown to exactly `L` (and `L ≥ 0`) -/
theorem ensure_fail_len (L : Int) (tc len used : Nat) (hlen : (len : Int) ≤ L)
    (h : (ensure L tc len used).2 = false) : 0 ≤ L ∧ ((ensure L tc len used).1 : Int) = L := by
  have := (ensure_spec L tc len used).2.2.1 h
  exact ⟨this.1, this.2.2 hlen⟩

/-- **Raising the limit never turns a success into an error** (arithmetic level): if the check succeeds under
    `L` for some demand, it succeeds for the same demand under any larger limit and under no limit, whatever
    the lengths the two stacks have at that moment. -/
theorem limit_monotone (L L' : Int) (tc len len' used : Nat)
    (hlen : 0 ≤ L → (len : Int) ≤ L) (hlen' : 0 ≤ L' → (len' : Int) ≤ L')
    (hLL : L' < 0 ∨ (0 ≤ L ∧ L ≤ L'))
    (h : (ensure L tc len used).2 = true) : (ensure L' tc len' used).2 = true := by
  rw [ensure_ok_iff L tc len used hlen] at h
  rw [ensure_ok_iff L' tc len' used hlen']
  omega

example : (ensure 150 13 64 90).2 = true ∧ (ensure 151 13 151 90).2 = true ∧ (ensure 141 13 64 90).2 = false := by
  decide +kernel

/-- **The limit is otherwise invisible** (abstract level): the logical run — code position and stack depth
    after each move — is a function of the moves alone (`lrun`), not of the capacity, the limit or the check;
    a check can only stop the run (`none` = ErrBacktrackingStackLimit).  Hence a run that gets through under a
    limit `L` goes through exactly the logical states of the unlimited run, which never stops. -/
theorem limit_invisible (L L' : Int) (hL' : L' < 0) (tc : Nat) (s s' : St) (cap' : Nat) (ms : List Move)
    (h : run (ensOf L tc) s ms = some s') :
    s'.l = lrun s.l ms ∧
    ∃ s'', run (ensOf L' tc) ⟨s.l, cap'⟩ ms = some s'' ∧ s''.l = s'.l := by
  have h1 := run_l ms s s' h
  obtain ⟨s'', h2⟩ := run_total (ens := ensOf L' tc) (fun c u => ensOf_unlimited L' hL' tc c u) ms ⟨s.l, cap'⟩
  refine ⟨h1, s'', h2, ?_⟩
  rw [run_l ms _ s'' h2, h1]

/-- the same moves under limit 100 and without limit: same logical state, different capacity; under limit 60
    the run is cut off -/
example :
    let ms := [Move.go 0 2 1, .go 0 1 2, .go 0 0 5, .go 0 3 3, .pop 1 5] ++
      (List.replicate 10 [Move.go 0 3 3, .go 0 3 5]).flatten
    run (ensOf 100 4) ⟨⟨0, 0⟩, 64⟩ ms = some ⟨⟨5, 65⟩, 100⟩ ∧
    run (ensOf (-1) 4) ⟨⟨0, 0⟩, 64⟩ ms = some ⟨⟨5, 65⟩, 128⟩ ∧
    run (ensOf 60 4) ⟨⟨0, 0⟩, 60⟩ ms = none := by decide +kernel

/-! ------------------------------------------------------------------------------------------------
### 4. The interpreter model refines the abstract capacity system

`RegexVerif.VM.step` (Model/VM.lean; tied to `executeDefault` iteration by iteration by leg W) is an
interpreter: which move comes next is computed, not given.  The theorems of this section close the gap named
in the head of this file: every iteration is a legal move, so the invariant `used + Φ(pc) ≤ cap` holds along every run.
------------------------------------------------------------------------------------------------ -/

section VMRefinement
open RegexVerif.VM RegexVerif.Lemmas.VM RegexVerif.Lemmas.VMCapacity

/-- states of the interpreter together with the capacity of its backtracking stack: reachable from `(s0, cap0)`
    when every iteration that passes through `ensureStorage` (as reported by `VM.step`) replaces the capacity
    by the result of the check `ens cap used` (`none` — ErrBacktrackingStackLimit — ends the run); the third premise of
    `next` is an `if` on `chk`, so a use of it begins with `cases chk` -/
inductive VMReach (ens : Nat → Nat → Option Nat) (p : Code.Prog) (env : Env) (s0 : VMState) (cap0 : Nat) :
    VMState → Nat → Prop
  | start : VMReach ens p env s0 cap0 s0 cap0
  | next {s s' : VMState} {cap cap' : Nat} {chk : Bool} :
      VMReach ens p env s0 cap0 s cap → VM.step p env s = .next s' chk →
      (if chk then ens cap s'.track.length = some cap' else cap' = cap) → VMReach ens p env s0 cap0 s' cap'

/-- **Refinement (C13 for the interpreter model).**  For a well-formed program, from a state satisfying the frame
    invariant, every iteration of the interpreter that continues is a legal move of the abstract capacity system
    over the weights `wsOf p` (per code position: the weight of the opcode in the table computed from the per-case
    fingerprints regenerated from runner.go): it pushes at most that weight, it pops at most what is there, its
    target and new depth are the move's, and it passes through `ensureStorage` exactly when the move does —
    `goTo` when the target is ≤ the position, `backtrack` when it is <. -/
theorem vm_step_is_move (p : Code.Prog) (env : Env) (s s' : VMState) (chk : Bool) (bs : List Nat)
    (hwf : WF p bs) (hinv : Inv p bs env s) (h : VM.step p env s = .next s' chk) :
    ∃ m : Move, legal (wsOf p) ⟨s.codepos, s.track.length⟩ m ∧
      lstep ⟨s.codepos, s.track.length⟩ m = ⟨s'.codepos, s'.track.length⟩ ∧
      checks ⟨s.codepos, s.track.length⟩ m = chk :=
  step_refines hinv h

/-- **The interpreter never writes below index 0 of the backtracking stack.**  Any program with `wf` whose
    potential `Φ(0) = Σ weight` is covered by what a successful check leaves free (`need`), any check meeting
    `EnsSpec need`, any text and start position: start as `executeDefault` does (a check with nothing used), run
    any number of iterations; in every reachable state the slots in use fit in the capacity, and so do the slots
    in use after the next iteration's pushes, before its own check — `Runtrackpos = cap − used ≥ 0` at every
    store.  `capA` is the length of `runtrack` the attempt finds (`alloc0 L TrackCount` after `initMatch`, or whatever a
    pooled runner kept), `cap0` what the first check of `executeDefault`, with nothing used, makes of it. -/
theorem vm_track_no_overflow (p : Code.Prog) (env : Env) (need : Nat) (ens : Nat → Nat → Option Nat)
    (hens : EnsSpec need ens) (hpot : phi (wsOf p) 0 ≤ need) (hwf : p.wf = true)
    (pos : Int) (h0 : 0 ≤ pos) (hn : pos ≤ env.len) (s0 : VMState) (hinit : VM.init p pos = .ok s0)
    (capA cap0 : Nat) (hstart : ens capA 0 = some cap0)
    (s : VMState) (cap : Nat) (hr : VMReach ens p env s0 cap0 s cap) :
    s.track.length ≤ cap ∧ ∀ s' chk, VM.step p env s = .next s' chk → s'.track.length ≤ cap := by
  obtain ⟨bs, hWF⟩ := wf_spec hwf
  obtain ⟨s0', hi', hinv0, hc0, ht0, _⟩ := init_inv (env := env) hWF pos h0 hn
  rw [hinit] at hi'
  cases hi'
  have key : ∃ bs, Inv p bs env s ∧ TrackInv (wsOf p) ⟨⟨s.codepos, s.track.length⟩, cap⟩ := by
    induction hr with
    | start =>
      refine ⟨bs, hinv0, ?_⟩
      have hst : start ens capA = some ⟨⟨0, 0⟩, cap0⟩ := by simp [start, hstart]
      have := (start_inv (ws := wsOf p) hens hpot hst).1
      rw [hc0, ht0]
      exact this
    | @next s1 s2 c1 c2 chk hprev hstep hcap ih =>
      obtain ⟨bs', hI', hT⟩ := ih
      have hI2 := step_ok hI'
      rw [hstep] at hI2
      obtain ⟨m, hl, hls, hck⟩ := step_refines hI' hstep
      refine ⟨bs', hI2, ?_⟩
      refine step_inv (m := m) hens hpot hT hl ?_
      unfold Capacity.step
      simp only [hls, hck]
      cases chk with
      | true => simp only [ite_true] at hcap ⊢; simp [hcap]
      | false => simp only [Bool.false_eq_true, ite_false] at hcap ⊢; rw [hcap]
  obtain ⟨bs', hI', hT⟩ := key
  refine ⟨by unfold TrackInv at hT; simp only at hT; omega, ?_⟩
  intro s' chk hstep
  obtain ⟨m, hl, hls, _⟩ := step_refines hI' hstep
  have := peak_le hT hl
  unfold peak at this
  simp only [hls] at this
  exact this

/-- The same with the real check and the real sizing: `ens = ensOf L TrackCount` (the loop of `ensureStorage` around
    `growTrack` under the limit `L`, negative = none), `need = 4·TrackCount`; the hypothesis on the potential is the
    decidable `potOk p`, which leg W evaluates on every compiled program (main and bool-only) — it follows from the
    Nullmark/Goto pairing that leg P checks (`potential_le_need`). -/
theorem vm_track_no_overflow_program (p : Code.Prog) (env : Env) (L : Int) (hwf : p.wf = true)
    (hpot : potOk p = true) (pos : Int) (h0 : 0 ≤ pos) (hn : pos ≤ env.len) (s0 : VMState)
    (hinit : VM.init p pos = .ok s0) (capA cap0 : Nat) (hstart : ensOf L p.trackcount capA 0 = some cap0)
    (s : VMState) (cap : Nat) (hr : VMReach (ensOf L p.trackcount) p env s0 cap0 s cap) :
    s.track.length ≤ cap ∧ ∀ s' chk, VM.step p env s = .next s' chk → s'.track.length ≤ cap :=
  vm_track_no_overflow p env (p.trackcount * 4) (ensOf L p.trackcount) (ensure_is_check L p.trackcount)
    (by unfold potOk at hpot; simp only [decide_eq_true_eq] at hpot; omega) hwf pos h0 hn s0 hinit capA cap0
    hstart s cap hr

/-- non-vacuity: the compiled program of `(?:ab?)*c` (TrackCount 5): well-formed, potential 2+1+1+3+2 = 9 ≤ 20,
    and the first check of an attempt succeeds from the initial allocation of 64 slots -/
example : demo.wf = true ∧ potOk demo = true ∧ phi (wsOf demo) 0 = 9 ∧
    ensOf (-1) 5 (alloc0 (-1) 5) 0 = some 64 := by decide +kernel

end VMRefinement

/-! ------------------------------------------------------------------------------------------------
### 5. Composition with the writer: the capacity theorem for every pattern tree

`Writer.emit` is the program `syntax.Write` produces (Model/Writer.lean, tied word for word by leg Wr).  Both
hypotheses of `vm_track_no_overflow_program` — the interpreter's `Prog.wf` and `potOk` — are discharged here
for every tree with the decidable `Writer.treeWf` (what the parser guarantees; evaluated by leg Wr on every
parsed tree), for the main and the bool-only program.
------------------------------------------------------------------------------------------------ -/

section Emitted
open RegexVerif.VM RegexVerif.Lemmas.VM RegexVerif.Lemmas.VMCapacity RegexVerif.Writer RegexVerif.Lemmas.Compose

/-- **The potential of every emitted program is covered.**  `Σ wsOf` over the code positions of the emitted
    program is the sum of the opcode weights of its instructions (`Writer.Holds.wsOf_sum`), the writer
    pairs every `Nullmark` with a `Goto` (`codeFromTree_pairing`) and `TrackCount` is the writer's count of the backtracking
    instructions by the definition of `emit`, which `trackCount_map` (Lemmas/Code.lean) identifies with the count of
    `potential_le_need`; so `Φ(0) ≤ 4·TrackCount`. -/
theorem emit_potOk (ti : TreeInfo) (root : GoNode) (h : treeWf ti root = true) : potOk (emit ti root) = true :=
  Lemmas.Compose.emit_potOk potential_le_need ti root h

/-- the same for the bool-only program, which keeps the first program's `TrackCount` and has a subset of its
    backtracking instructions -/
theorem emitQuick_potOk (ti : TreeInfo) (root : GoNode) (h : treeWf ti root = true) (qp : Code.Prog)
    (hq : emitQuick ti root = some qp) : potOk qp = true :=
  Lemmas.Compose.emitQuick_potOk potential_le_need ti root h qp hq

/-- **No overflow of the backtracking stack for any pattern.**  `vm_track_no_overflow_program` for the emitted program of
    every well-formed tree, both hypotheses discharged: any limit `L` (negative = none), text, start position, `\G` origin,
    oracles and current length `capA` of `runtrack`; in every reachable state the slots in use fit in the capacity, and so do
    those in use after the next iteration's pushes, before its own check: `Runtrackpos ≥ 0` at every store. -/
theorem emitted_track_no_overflow (ti : TreeInfo) (root : GoNode) (h : treeWf ti root = true)
    (env : Env) (L : Int) (pos : Int) (h0 : 0 ≤ pos) (hn : pos ≤ env.len) (s0 : VMState)
    (hinit : VM.init (emit ti root) pos = .ok s0) (capA cap0 : Nat)
    (hstart : ensOf L (emit ti root).trackcount capA 0 = some cap0) (s : VMState) (cap : Nat)
    (hr : VMReach (ensOf L (emit ti root).trackcount) (emit ti root) env s0 cap0 s cap) :
    s.track.length ≤ cap ∧ ∀ s' chk, VM.step (emit ti root) env s = .next s' chk → s'.track.length ≤ cap :=
  vm_track_no_overflow_program (emit ti root) env L (Lemmas.Compose.emit_vm_wf ti root h) (emit_potOk ti root h)
    pos h0 hn s0 hinit capA cap0 hstart s cap hr

/-- the same for the bool-only program -/
theorem emittedQuick_track_no_overflow (ti : TreeInfo) (root : GoNode) (h : treeWf ti root = true) (qp : Code.Prog)
    (hq : emitQuick ti root = some qp)
    (env : Env) (L : Int) (pos : Int) (h0 : 0 ≤ pos) (hn : pos ≤ env.len) (s0 : VMState)
    (hinit : VM.init qp pos = .ok s0) (capA cap0 : Nat)
    (hstart : ensOf L qp.trackcount capA 0 = some cap0) (s : VMState) (cap : Nat)
    (hr : VMReach (ensOf L qp.trackcount) qp env s0 cap0 s cap) :
    s.track.length ≤ cap ∧ ∀ s' chk, VM.step qp env s = .next s' chk → s'.track.length ≤ cap :=
  vm_track_no_overflow_program qp env L (Lemmas.Compose.emitQuick_vm_wf ti root h qp hq)
    (emitQuick_potOk ti root h qp hq) pos h0 hn s0 hinit capA cap0 hstart s cap hr

/-! non-vacuity: the trees of `(?:ab?)*c` (potential 9 ≤ 4·5) and `(a)|b\1` (potential 13 ≤ 4·9); the first check
    of an attempt succeeds from the initial allocation; `(x)y` has a bool-only program with the first program's
    `TrackCount` 5 and potential 5 -/
example : treeWf info1 tree1 = true ∧ potOk (emit info1 tree1) = true ∧ phi (wsOf (emit info1 tree1)) 0 = 9 ∧
    treeWf info2 tree2 = true ∧ phi (wsOf (emit info2 tree2)) 0 = 13 ∧ (emit info2 tree2).trackcount = 9 ∧
    ensOf (-1) 9 (alloc0 (-1) 9) 0 = some 72 ∧ ensOf 50 9 (alloc0 50 9) 0 = some 50 ∧ ensOf 30 9 (alloc0 30 9) 0 = none := by
  decide +kernel
example : ∃ s0, VM.init (emit info2 tree2) 0 = .ok s0 ∧
    VMReach (ensOf 50 (emit info2 tree2).trackcount) (emit info2 tree2) demoEnv s0 50 s0 50 :=
  ⟨_, rfl, .start⟩
example : ∃ qp, emitQuick info2 tree3 = some qp ∧ qp.trackcount = 5 ∧ phi (wsOf qp) 0 = 5 :=
  ⟨_, rfl, by decide +kernel, by decide +kernel⟩

end Emitted

/-! ------------------------------------------------------------------------------------------------
### 6. The other two stacks: the grouping stack (`runstack`) and the crawl stack (`runcrawl`)

An overflow of either is a store at index −1.  The crawl stack re-checks at every push.  The grouping stack is
re-sized only inside `ensureStorage` (ONE doubling, when fewer than `4·TrackCount` slots are free), but the potential
argument of sections 2–5 does NOT carry over: the Back / Back2 cases push the grouping stack (they restore what the
forward case popped — `stack_case_shape`) and leave by `backtrack()`, which checks only when it lands on a smaller
code position; frames of one instruction can be resumed many times in a row without a check.  What bounds the grouping
stack is its typing (Props/C10): its height is a static function of the code position, up to the two slots a
Back / Back2 case holds before it restores.  Consequence: for a typed program the doubling in `ensureStorage` never
happens once the slice has `H + 2 + 4·TrackCount` slots (`H` = largest height of an assigned type).
------------------------------------------------------------------------------------------------ -/

section Stacks
open RegexVerif.VM RegexVerif.Lemmas.VM RegexVerif.Lemmas.StackCapacity RegexVerif.Lemmas.StackTypingSound
open RegexVerif.Writer RegexVerif.Lemmas.Compose

/-- The sizing of the two stacks as read from the current runner.go: `initMatch` allocates `runtrackcount*8` grouping
    slots, at least 32, and 32 crawl slots; `ensureStorage` doubles the grouping stack in an `if` (not a loop) when
    `Runstackpos < runtrackcount*4`, `ensureStack(plus)` when `Runstackpos-plus < runtrackcount*4`; `doubleIntSlice`
    allocates `oldLen*2`, copies the old contents to the upper half and moves the position up by `oldLen`; `crawl`
    is `if runcrawlpos == 0 { double }; runcrawlpos--; store`; `stackPush` writes 1 slot, `stackPush2` 2.  These are
    the literals of `Capacity.stackAlloc0`, `crawlAlloc0`, `stackEnsure`, `stackEnsurePlus`, `doubleLen`, `crawlPush`. -/
theorem stack_storage_constants :
    Opcodes.stackAllocFactor = 8 ∧ Opcodes.stackAllocMin = 32 ∧ Opcodes.crawlAlloc = 32 ∧
    Opcodes.stackEnsureFactor = 4 ∧ Opcodes.ensureStackFactor = 4 ∧ Opcodes.doubleFactor = 2 ∧
    Opcodes.crawlChecksEveryPush = true ∧
    Opcodes.stackPushHelperSlots = [("stackPush", 1), ("stackPush2", 2)] := by decide +kernel

/-- Shape of the cases with respect to the grouping stack, from the regenerated fingerprints: the same 69 case labels
    as the backtracking-stack table; no case touches `runstack`/`Runstackpos` directly; in every case the pops precede
    the pushes (so the depth inside a case never exceeds the larger of the depths before and after it); no case pushes
    more than 2 slots; and the cases that push are exactly: forward `Branchmark` `Nullcount` `Setcount` `Branchcount`
    `Lazybranchcount` `Nullmark` `Setmark` `Setjump`, and — restoring on the way back — `Branchmark|Back2`,
    `Lazybranchmark|Back`, `|Back2`, `Branchcount|Back`, `|Back2`, `Lazybranchcount|Back`, `|Back2`, `Capturemark|Back`,
    `Getmark|Back`: nine Back / Back2 cases push, which is why there is no potential argument for this stack. -/
theorem stack_case_shape :
    Opcodes.stackCases.map (fun c => (c.op, c.flag)) = Opcodes.cases.map (fun c => (c.op, c.flag)) ∧
    Opcodes.stackCases.all (fun c => !c.raw && !c.popAfterPush && decide (c.maxPush ≤ 2)) = true ∧
    (Opcodes.stackPushSlots.filter (fun e => e.2.2 != 0)) =
      [(24, 0, 1), (24, 2, 1), (25, 1, 1), (25, 2, 1), (26, 0, 2), (27, 0, 2), (28, 0, 2), (28, 1, 2), (28, 2, 2),
       (29, 0, 2), (29, 1, 2), (29, 2, 2), (30, 0, 1), (31, 0, 1), (32, 1, 1), (33, 1, 1), (34, 0, 2)] := by decide +kernel

/-- **The model's cases push what the Go cases push.**  For every opcode and mode the number of slots the case of
    `VM.body` pushes on the grouping stack (`spushMax`) is the regenerated fingerprint of the `case` of `executeDefault`,
    and an iteration of the model lets the grouping stack grow by at most that. -/
theorem vm_stack_push_table :
    (∀ (o : Op) (m : Mode), spushMax o m = genStackPush o.toNat m.flag) ∧
    ∀ (p : Code.Prog) (env : Env) (s s' : VMState) (chk : Bool) (o : Op) (m : Mode),
      Op.ofNat? s.oper.op = some o → modeOf s.oper = some m → VM.step p env s = .next s' chk →
      s'.stack.length ≤ s.stack.length + spushMax o m :=
  ⟨spushMax_eq_generated, fun _ _ _ _ _ _ _ hop hm h => step_slen hop hm h⟩

example : spushMax .setcount .fwd = 2 ∧ spushMax .getmark .back = 1 ∧ spushMax .getmark .fwd = 0 ∧
    genStackPush Opcodes.opLazybranchcount 2 = 2 := by decide +kernel

/-- **What the single doubling gives.**  `initMatch` allocates at least `8·tc` (and at least 32) slots; the length never
    shrinks; when the slice is at least `4·tc` long — always, by the first two facts — ONE doubling re-establishes
    `4·tc` free slots; and there is no doubling at all while `4·tc` slots are free.  (For a slice shorter than `4·tc`
    one doubling would not be enough: second example.) -/
theorem stack_ensure_establishes (tc len used : Nat) :
    32 ≤ stackAlloc0 tc ∧ tc * 8 ≤ stackAlloc0 tc ∧ len ≤ stackEnsure tc len used ∧
    (tc * 4 ≤ len → used ≤ len → used + tc * 4 ≤ stackEnsure tc len used) ∧
    (used + tc * 4 ≤ len → stackEnsure tc len used = len) ∧ len ≤ stackEnsurePlus tc len used 1 :=
  ⟨(stackAlloc0_ge tc).1, (stackAlloc0_ge tc).2, stackEnsure_ge tc len used, stackEnsure_spec, stackEnsure_idle,
    stackEnsurePlus_ge tc len used 1⟩

example : stackAlloc0 5 = 40 ∧ stackEnsure 5 40 20 = 40 ∧ stackEnsure 5 40 21 = 80 ∧ stackAlloc0 2 = 32 := by decide +kernel
example : stackEnsure 10 8 8 = 16 ∧ ¬ (8 + 10 * 4 ≤ 16) := by decide +kernel

/-- states reachable from `s0`, with the length of `runstack`: every iteration that passes through `ensureStorage`
    (`chk`) applies the modelled `if` to the length, with the slots in use after the iteration's pushes -/
inductive VMReachS (tc : Nat) (p : Code.Prog) (env : Env) (s0 : VMState) (cap0 : Nat) : VMState → Nat → Prop
  | start : VMReachS tc p env s0 cap0 s0 cap0
  | next {s s' : VMState} {cap : Nat} {chk : Bool} :
      VMReachS tc p env s0 cap0 s cap → VM.step p env s = .next s' chk →
      VMReachS tc p env s0 cap0 s' (if chk then stackEnsure tc cap s'.stack.length else cap)

/-- **The interpreter never writes below index 0 of the grouping stack.**  Any well-formed program with a grouping-stack
    typing whose types have height at most `H`, any text and start position, any `runtrackcount`: start as
    `executeDefault` does (the check of `goTo(0)` on the empty stack, from a slice of `capA ≥ H + 2` slots) and run any
    number of iterations.  In every reachable state the grouping stack holds at most `H + 2` slots — a bound that does
    not depend on the text —, which fit in the capacity, and so do the slots in use after the next iteration
    (`Runstackpos = cap − used ≥ 0` at every store; inside a case the pops come first, `stack_case_shape`). -/
theorem vm_stack_no_overflow (p : Code.Prog) (hwf : p.wf = true) (bs : List Nat) (hb : p.boundaries = some bs)
    (a : StackTyping.Assign) (hty : TypingW p bs a) (H : Nat) (hH : HBound a H)
    (env : Env) (pos : Int) (h0 : 0 ≤ pos) (hn : pos ≤ env.len) (s0 : VMState) (hinit : VM.init p pos = .ok s0)
    (tc capA : Nat) (hcap : H + 2 ≤ capA) (s : VMState) (cap : Nat)
    (hr : VMReachS tc p env s0 (stackEnsure tc capA 0) s cap) :
    s.stack.length ≤ H + 2 ∧ H + 2 ≤ cap ∧ s.stack.length ≤ cap ∧
      ∀ s' chk, VM.step p env s = .next s' chk → s'.stack.length ≤ cap := by
  obtain ⟨bs', hWF⟩ := wf_spec hwf
  have e : bs' = bs := by have := hWF.bnd; rw [hb] at this; cases this; rfl
  subst e
  obtain ⟨s0', hi', hinv0, _, hs0⟩ := tinit_inv (env := env) (a := a) hWF pos h0 hn
  rw [hinit] at hi'
  cases hi'
  have key : TInv p bs' env a s ∧ s.stack.length ≤ H + 2 ∧ H + 2 ≤ cap := by
    induction hr with
    | start => exact ⟨hinv0, by rw [hs0]; simp, by have := stackEnsure_ge tc capA 0; omega⟩
    | @next s1 s2 c1 chk _ hstep ih =>
      obtain ⟨hI, hS, hC⟩ := ih
      have hI2 := tstep_ok hty hI
      rw [hstep] at hI2
      refine ⟨hI2, tstep_height hty hH hI hS hstep, ?_⟩
      cases chk with
      | true => simp only [ite_true]; have := stackEnsure_ge tc c1 s2.stack.length; omega
      | false => simpa using hC
  obtain ⟨hI, hS, hC⟩ := key
  exact ⟨hS, hC, by omega, fun s' chk hstep => by have := tstep_height hty hH hI hS hstep; omega⟩

/-- **The doubling of the grouping stack in `ensureStorage` is dead code for typed programs.**  If the slice has room for
    `H + 2` slots plus the `4·tc` the check asks for — `initMatch` allocates `8·tc`, so `H + 2 ≤ 4·tc` is enough —
    then along every run the length of `runstack` never changes: no check ever doubles it. -/
theorem vm_stack_never_grows (p : Code.Prog) (hwf : p.wf = true) (bs : List Nat) (hb : p.boundaries = some bs)
    (a : StackTyping.Assign) (hty : TypingW p bs a) (H : Nat) (hH : HBound a H)
    (env : Env) (pos : Int) (h0 : 0 ≤ pos) (hn : pos ≤ env.len) (s0 : VMState) (hinit : VM.init p pos = .ok s0)
    (tc capA : Nat) (hcap : H + 2 + tc * 4 ≤ capA) (s : VMState) (cap : Nat)
    (hr : VMReachS tc p env s0 (stackEnsure tc capA 0) s cap) : cap = capA := by
  have hstart : stackEnsure tc capA 0 = capA := stackEnsure_idle (by omega)
  rw [hstart] at hr
  induction hr with
  | start => rfl
  | @next s1 s2 c1 chk hprev hstep ih =>
    subst ih
    cases chk with
    | false => rfl
    | true =>
      simp only [ite_true]
      have hprev' : VMReachS tc p env s0 (stackEnsure tc c1 0) s1 c1 := by rw [hstart]; exact hprev
      have hle : s2.stack.length ≤ H + 2 := by
        have hall := vm_stack_no_overflow p hwf bs hb a hty H hH env pos h0 hn s0 hinit tc c1 (by omega) s2
          (if true then stackEnsure tc c1 s2.stack.length else c1) (.next hprev' hstep)
        exact hall.1
      exact stackEnsure_idle (by omega)

/-- **Every emitted program has a text-independent bound on its grouping stack, and never overflows it.**  For every
    well-formed tree there is an `H` (the largest height of the explicit typing `tyAt`, Props/C10 `emit_has_typing`)
    such that for every text, start position, `\G` origin, oracles and `runtrackcount`, from any slice of at least
    `H + 2` slots: in every reachable state of the attempt of the emitted program the grouping stack holds at most
    `H + 2` slots, within the capacity, before and after each iteration; and from a slice of `H + 2 + 4·tc` slots the
    length of `runstack` never changes (the doubling in `ensureStorage` is dead code).
    `capA` (a pooled runner's slice) and `runtrackcount` are arbitrary; `emit_height_closed` gives the closed form
    `H + 2 ≤ 2·TrackCount`, `emitted_stack_no_overflow` the statement from the real first allocation.  Leg W evaluates
    `maxHeight + 2 ≤ 2·TrackCount` on every compiled program and compares `len(runstack)` after the attempts with
    `stackAlloc0 TrackCount` (key `W:stackcap`). -/
theorem emitted_stack_no_overflow_partial (ti : TreeInfo) (root : GoNode) (h : treeWf ti root = true) :
    ∃ H : Nat, ∀ (env : Env) (pos : Int), 0 ≤ pos → pos ≤ env.len → ∀ (s0 : VMState),
      VM.init (emit ti root) pos = .ok s0 → ∀ (tc capA : Nat), H + 2 ≤ capA → ∀ (s : VMState) (cap : Nat),
      VMReachS tc (emit ti root) env s0 (stackEnsure tc capA 0) s cap →
      (s.stack.length ≤ H + 2 ∧ s.stack.length ≤ cap ∧
        ∀ s' chk, VM.step (emit ti root) env s = .next s' chk → s'.stack.length ≤ cap) ∧
      (H + 2 + tc * 4 ≤ capA → cap = capA) := by
  obtain ⟨bs, a, hb, hty⟩ := Lemmas.StackTypingEmit.emit_typing ti root h
  refine ⟨maxH a, fun env pos h0 hn s0 hinit tc capA hcap s cap hr => ⟨?_, fun hc => ?_⟩⟩
  · have := vm_stack_no_overflow _ (emit_vm_wf ti root h) bs hb a hty _ (hbound_maxH a) env pos h0 hn s0 hinit tc capA
      hcap s cap hr
    exact ⟨this.1, this.2.2.1, this.2.2.2⟩
  · exact vm_stack_never_grows _ (emit_vm_wf ti root h) bs hb a hty _ (hbound_maxH a) env pos h0 hn s0 hinit tc capA
      hc s cap hr

/-- the same for the bool-only program -/
theorem emittedQuick_stack_no_overflow_partial (ti : TreeInfo) (root : GoNode) (h : treeWf ti root = true)
    (qp : Code.Prog) (hq : emitQuick ti root = some qp) :
    ∃ H : Nat, ∀ (env : Env) (pos : Int), 0 ≤ pos → pos ≤ env.len → ∀ (s0 : VMState),
      VM.init qp pos = .ok s0 → ∀ (tc capA : Nat), H + 2 ≤ capA → ∀ (s : VMState) (cap : Nat),
      VMReachS tc qp env s0 (stackEnsure tc capA 0) s cap →
      (s.stack.length ≤ H + 2 ∧ s.stack.length ≤ cap ∧
        ∀ s' chk, VM.step qp env s = .next s' chk → s'.stack.length ≤ cap) ∧
      (H + 2 + tc * 4 ≤ capA → cap = capA) := by
  obtain ⟨bs, a, hb, hty⟩ := Lemmas.StackTypingEmit.emitQuick_typing ti root h qp hq
  refine ⟨maxH a, fun env pos h0 hn s0 hinit tc capA hcap s cap hr => ⟨?_, fun hc => ?_⟩⟩
  · have := vm_stack_no_overflow _ (emitQuick_vm_wf ti root h qp hq) bs hb a hty _ (hbound_maxH a) env pos h0 hn s0
      hinit tc capA hcap s cap hr
    exact ⟨this.1, this.2.2.1, this.2.2.2⟩
  · exact vm_stack_never_grows _ (emitQuick_vm_wf ti root h qp hq) bs hb a hty _ (hbound_maxH a) env pos h0 hn s0
      hinit tc capA hc s cap hr

/-- non-vacuity: `demo` (`(?:ab?)*c`) and the program of `(a)|b\1` are well-formed and typed by the executable check
    (so `Typing.toW (typed_spec …)` provides the hypotheses), with `maxHeight` (= `maxH (assignOf p)`, the `H` above) 2 and 4:
    well below the 40 resp. 72 slots of the first allocation -/
example : demo.wf = true ∧ StackTyping.typed demo = true ∧ StackTyping.maxHeight demo = 2 ∧
    StackTyping.maxHeight (emit info2 tree2) = 4 ∧ stackAlloc0 demo.trackcount = 40 :=
  ⟨Lemmas.StackTypingEmit.demo_wf, Lemmas.StackTypingEmit.demo_typed, Lemmas.StackTypingEmit.demo_maxHeight,
    Lemmas.StackTypingEmit.emit2_maxHeight, by decide +kernel⟩
example : ∃ s0, VM.init (emit info2 tree2) 0 = .ok s0 ∧
    VMReachS 9 (emit info2 tree2) demoEnv s0 (stackEnsure 9 72 0) s0 72 := ⟨_, rfl, .start⟩

/-- **Closed-form height of the grouping-stack typing of every emitted program.**  The main program of every
    well-formed tree has a typing (the explicit `tyAt` of Props/C10) all of whose types have height at most `H` with
    `H + 2 ≤ 2·TrackCount`: every slot of a type is pushed by a frame of an enclosing node, and every frame has at least
    half as many instructions counted by `opcodeBacktracks` as it has slots (Capture 1 slot / 2 counted; Loop 1 / 2 —
    `Nullmark` is not counted, its `Goto` is —; Loop with counter 2 / ≥ 2; Atomic 2 / 2; NegLook 2 / 4; PosLook 3 / 4;
    ExprCond 3 / ≥ 5; the leading `Lazybranch` of the program accounts for the `+ 2`).  Hence the first allocation of
    `initMatch`, `max 32 (8·TrackCount)` slots, has room for the deepest grouping stack (`H + 2`, the two extra slots a
    Back / Back2 case holds before it restores) plus the `4·TrackCount` free slots every `ensureStorage` asks for.  The same
    for the bool-only program, which keeps the first program's `TrackCount`. -/
theorem emit_height_closed (ti : TreeInfo) (root : GoNode) (h : treeWf ti root = true) :
    (∃ bs a H, (emit ti root).boundaries = some bs ∧ TypingW (emit ti root) bs a ∧ HBound a H ∧
      H + 2 ≤ 2 * (emit ti root).trackcount ∧
      H + 2 + (emit ti root).trackcount * 4 ≤ stackAlloc0 (emit ti root).trackcount) ∧
    ∀ qp, emitQuick ti root = some qp →
      ∃ bs a H, qp.boundaries = some bs ∧ TypingW qp bs a ∧ HBound a H ∧ H + 2 ≤ 2 * qp.trackcount ∧
        H + 2 + qp.trackcount * 4 ≤ stackAlloc0 qp.trackcount := by
  refine ⟨?_, fun qp hq => ?_⟩
  · obtain ⟨bs, a, H, h1, h2, h3, h4⟩ := Lemmas.StackHeightEmit.emit_height_le ti root h
    exact ⟨bs, a, H, h1, h2, h3, h4, Lemmas.StackHeightEmit.stackAlloc0_room h4⟩
  · obtain ⟨bs, a, H, h1, h2, h3, h4⟩ := Lemmas.StackHeightEmit.emitQuick_height_le ti root h qp hq
    exact ⟨bs, a, H, h1, h2, h3, h4, Lemmas.StackHeightEmit.stackAlloc0_room h4⟩

/-- **From the real first allocation the grouping stack of a typed program neither overflows nor grows**, provided the
    height bound fits: any well-formed program with a typing of height at most `H`, `H + 2 ≤ 2·TrackCount`, run with
    `runtrackcount = TrackCount` from the slice of `stackAlloc0 TrackCount` slots `initMatch` allocates.  In every
    reachable state the length of `runstack` is the initial one, at most `2·TrackCount` slots are in use and `4·TrackCount`
    are free; after the next iteration the slots in use fit and a storage check would not double.
    (`emitted_stack_no_overflow` discharges the hypotheses for every emitted program.) -/
theorem vm_stack_real_alloc (p : Code.Prog) (hwf : p.wf = true) (bs : List Nat) (hb : p.boundaries = some bs)
    (a : StackTyping.Assign) (hty : TypingW p bs a) (H : Nat) (hH : HBound a H) (hc : H + 2 ≤ 2 * p.trackcount)
    (env : Env) (pos : Int) (h0 : 0 ≤ pos) (hn : pos ≤ env.len) (s0 : VMState) (hinit : VM.init p pos = .ok s0)
    (s : VMState) (cap : Nat)
    (hr : VMReachS p.trackcount p env s0 (stackEnsure p.trackcount (stackAlloc0 p.trackcount) 0) s cap) :
    cap = stackAlloc0 p.trackcount ∧ s.stack.length ≤ 2 * p.trackcount ∧
      s.stack.length + p.trackcount * 4 ≤ cap ∧
      ∀ s' chk, VM.step p env s = .next s' chk →
        s'.stack.length ≤ cap ∧ stackEnsure p.trackcount cap s'.stack.length = cap := by
  have hroom := Lemmas.StackHeightEmit.stackAlloc0_room hc
  have hcap := vm_stack_never_grows p hwf bs hb a hty H hH env pos h0 hn s0 hinit p.trackcount _ hroom s cap hr
  have hall := vm_stack_no_overflow p hwf bs hb a hty H hH env pos h0 hn s0 hinit p.trackcount _ (by omega) s cap hr
  subst hcap
  refine ⟨rfl, by omega, by omega, fun s' chk hstep => ?_⟩
  have hnext := vm_stack_no_overflow p hwf bs hb a hty H hH env pos h0 hn s0 hinit p.trackcount _ (by omega) s'
    _ (.next (chk := chk) hr hstep)
  exact ⟨hall.2.2.2 s' chk hstep, stackEnsure_idle (by omega)⟩

example : demo.wf = true ∧ StackTyping.typed demo = true ∧ StackTyping.maxHeight demo + 2 ≤ 2 * demo.trackcount ∧
    stackEnsure demo.trackcount (stackAlloc0 demo.trackcount) 0 = 40 ∧ stackEnsure 5 40 (2 + 2) = 40 :=
  ⟨Lemmas.StackTypingEmit.demo_wf, Lemmas.StackTypingEmit.demo_typed,
    by rw [Lemmas.StackTypingEmit.demo_maxHeight]; decide +kernel, by decide +kernel, by decide +kernel⟩

/-- **No overflow and no growth of the grouping stack for any pattern.**  `vm_stack_real_alloc` for the emitted program of
    every well-formed tree, any text, start position, `\G` origin and oracles, from the slice `initMatch` really allocates.
    The four conjuncts, in every reachable state: the length of `runstack` is still the initial one (the doubling is dead
    code for every compiled program); at most `2·TrackCount` slots are in use — a bound independent of the text —;
    `4·TrackCount` slots are free; after the next iteration the slots in use fit (`Runstackpos ≥ 0` at every store) and a
    check at that point would not double. -/
theorem emitted_stack_no_overflow (ti : TreeInfo) (root : GoNode) (h : treeWf ti root = true)
    (env : Env) (pos : Int) (h0 : 0 ≤ pos) (hn : pos ≤ env.len) (s0 : VMState)
    (hinit : VM.init (emit ti root) pos = .ok s0) (s : VMState) (cap : Nat)
    (hr : VMReachS (emit ti root).trackcount (emit ti root) env s0
      (stackEnsure (emit ti root).trackcount (stackAlloc0 (emit ti root).trackcount) 0) s cap) :
    cap = stackAlloc0 (emit ti root).trackcount ∧ s.stack.length ≤ 2 * (emit ti root).trackcount ∧
      s.stack.length + (emit ti root).trackcount * 4 ≤ cap ∧
      ∀ s' chk, VM.step (emit ti root) env s = .next s' chk →
        s'.stack.length ≤ cap ∧ stackEnsure (emit ti root).trackcount cap s'.stack.length = cap := by
  obtain ⟨bs, a, H, hb, hty, hH, hc⟩ := Lemmas.StackHeightEmit.emit_height_le ti root h
  exact vm_stack_real_alloc _ (emit_vm_wf ti root h) bs hb a hty H hH hc env pos h0 hn s0 hinit s cap hr

/-- the same for the bool-only program (`runtrackcount` is the first program's `TrackCount`, which the bool-only `Code`
    keeps) -/
theorem emittedQuick_stack_no_overflow (ti : TreeInfo) (root : GoNode) (h : treeWf ti root = true)
    (qp : Code.Prog) (hq : emitQuick ti root = some qp)
    (env : Env) (pos : Int) (h0 : 0 ≤ pos) (hn : pos ≤ env.len) (s0 : VMState)
    (hinit : VM.init qp pos = .ok s0) (s : VMState) (cap : Nat)
    (hr : VMReachS qp.trackcount qp env s0 (stackEnsure qp.trackcount (stackAlloc0 qp.trackcount) 0) s cap) :
    cap = stackAlloc0 qp.trackcount ∧ s.stack.length ≤ 2 * qp.trackcount ∧
      s.stack.length + qp.trackcount * 4 ≤ cap ∧
      ∀ s' chk, VM.step qp env s = .next s' chk →
        s'.stack.length ≤ cap ∧ stackEnsure qp.trackcount cap s'.stack.length = cap := by
  obtain ⟨bs, a, H, hb, hty, hH, hc⟩ := Lemmas.StackHeightEmit.emitQuick_height_le ti root h qp hq
  exact vm_stack_real_alloc _ (emitQuick_vm_wf ti root h qp hq) bs hb a hty H hH hc env pos h0 hn s0 hinit s cap hr

/-- non-vacuity: the trees of `(a)|b\1` (TrackCount 9, first allocation 72 slots, largest type 4 ≤ 2·9 − 2),
    `(?:ab?)*c` (TrackCount 5, 40 slots, largest type 2) and the bool-only program of `(x)y` (TrackCount 5 kept from the
    first program, largest type 1: the `Setmark` slot of group 0 remains); and a state of the first one reached after five iterations from the
    real allocation in which the grouping stack holds 4 slots — the largest height of its typing is attained -/
example : treeWf info2 tree2 = true ∧ (emit info2 tree2).trackcount = 9 ∧ stackAlloc0 9 = 72 ∧
    StackTyping.maxHeight (emit info2 tree2) = 4 ∧ treeWf info1 tree1 = true ∧ (emit info1 tree1).trackcount = 5 ∧
    stackAlloc0 5 = 40 ∧ StackTyping.maxHeight (emit info1 tree1) = 2 ∧
    (emitQuick info2 tree3).map (fun q => (q.trackcount, StackTyping.maxHeight q)) = some (5, 1) :=
  ⟨by decide +kernel, by decide +kernel, by decide +kernel, Lemmas.StackTypingEmit.emit2_maxHeight, by decide +kernel,
    by decide +kernel, by decide +kernel, by decide +kernel, by decide +kernel⟩
example : ∃ s0 s cap, VM.init (emit info2 tree2) 0 = .ok s0 ∧
    VMReachS 9 (emit info2 tree2) demoEnv s0 (stackEnsure 9 (stackAlloc0 9) 0) s cap ∧ s.stack.length = 4 ∧
    cap = 72 := by
  have reach : ∀ (s0 : VMState) (n : Nat) (s : VMState) (cap : Nat) (r : VMState × Nat),
      VMReachS 9 (emit info2 tree2) demoEnv s0 (stackEnsure 9 (stackAlloc0 9) 0) s cap →
      Lemmas.StackHeightEmit.stackRunN 9 (emit info2 tree2) demoEnv n s cap = some r →
      VMReachS 9 (emit info2 tree2) demoEnv s0 (stackEnsure 9 (stackAlloc0 9) 0) r.1 r.2 := by
    intro s0 n
    induction n with
    | zero => intro s cap r hr h; simp only [Lemmas.StackHeightEmit.stackRunN, Option.some.injEq] at h; subst h; exact hr
    | succ n ih =>
      intro s cap r hr h
      simp only [Lemmas.StackHeightEmit.stackRunN] at h
      split at h
      · next s' chk hs => exact ih _ _ r (.next hr hs) h
      · cases h
  have h : ∃ s0, VM.init (emit info2 tree2) 0 = .ok s0 ∧
      (Lemmas.StackHeightEmit.stackRunN 9 (emit info2 tree2) demoEnv 5 s0 (stackEnsure 9 (stackAlloc0 9) 0)).map
        (fun r => (r.1.stack.length, r.2)) = some (4, 72) := ⟨_, rfl, by decide +kernel⟩
  obtain ⟨s0, h1, h2⟩ := h
  cases hr : Lemmas.StackHeightEmit.stackRunN 9 (emit info2 tree2) demoEnv 5 s0 (stackEnsure 9 (stackAlloc0 9) 0) with
  | none => rw [hr] at h2; cases h2
  | some r =>
    rw [hr] at h2
    simp only [Option.map_some, Option.some.injEq, Prod.mk.injEq] at h2
    exact ⟨s0, r.1, r.2, h1, reach s0 5 _ _ r .start hr, h2.1, h2.2⟩
example : ∃ qp s0, emitQuick info2 tree3 = some qp ∧ VM.init qp 0 = .ok s0 ∧
    VMReachS qp.trackcount qp demoEnv s0 (stackEnsure qp.trackcount (stackAlloc0 qp.trackcount) 0) s0 40 :=
  ⟨_, _, rfl, rfl, .start⟩

/-- states reachable from `s0`, with the length of `runcrawl`: the pushes of an iteration (`Capturemark` calls `crawl`
    once or twice; every other case that touches the crawl stack only pops) go through `crawl`'s check one by one -/
inductive VMReachC (p : Code.Prog) (env : Env) (s0 : VMState) (cap0 : Nat) : VMState → Nat → Prop
  | start : VMReachC p env s0 cap0 s0 cap0
  | next {s s' : VMState} {cap cap' used' : Nat} {chk : Bool} :
      VMReachC p env s0 cap0 s cap → VM.step p env s = .next s' chk →
      crawlPushN (s'.cap.crawl.length - s.cap.crawl.length) cap s.cap.crawl.length = some (cap', used') →
      VMReachC p env s0 cap0 s' cap'

/-- **The crawl stack never overflows**, for any program and run whatsoever: `crawl` checks at every push, and
    `doubleIntSlice` of a FULL, NON-EMPTY slice (`runcrawlpos == 0`, length ≥ 1 — `initMatch` allocates 32) yields as many
    free slots as there were used ones.  From any slice of at least one slot holding the current entries: in every
    reachable state the entries fit, and the pushes of the next iteration all find a free slot (`crawlPushN … ≠ none`:
    no store at index −1).  An EMPTY slice would never grow (`0 * 2 = 0`): second example. -/
theorem vm_crawl_no_overflow (p : Code.Prog) (env : Env) (s0 : VMState) (cap0 : Nat) (h0 : 0 < cap0)
    (hs0 : s0.cap.crawl.length ≤ cap0) (s : VMState) (cap : Nat) (hr : VMReachC p env s0 cap0 s cap) :
    s.cap.crawl.length ≤ cap ∧ 0 < cap ∧
      ∀ s' chk, VM.step p env s = .next s' chk →
        ∃ cap', crawlPushN (s'.cap.crawl.length - s.cap.crawl.length) cap s.cap.crawl.length =
          some (cap', s.cap.crawl.length + (s'.cap.crawl.length - s.cap.crawl.length)) ∧
          s'.cap.crawl.length ≤ cap' := by
  have key : s.cap.crawl.length ≤ cap ∧ 0 < cap := by
    induction hr with
    | start => exact ⟨hs0, h0⟩
    | @next s1 s2 c1 c2 u2 chk _ hstep hpush ih =>
      obtain ⟨l', e, g1, g2⟩ := crawlPushN_spec (s2.cap.crawl.length - s1.cap.crawl.length) c1 s1.cap.crawl.length ih.2 ih.1
      rw [e] at hpush
      cases hpush
      exact ⟨by omega, by omega⟩
  refine ⟨key.1, key.2, fun s' chk _ => ?_⟩
  obtain ⟨l', e, g1, g2⟩ := crawlPushN_spec (s'.cap.crawl.length - s.cap.crawl.length) cap s.cap.crawl.length key.2 key.1
  exact ⟨l', e, by omega⟩

example : crawlAlloc0 = 32 ∧ crawlPush 32 31 = some (32, 32) ∧ crawlPush 32 32 = some (64, 33) ∧
    crawlPushN 2 32 31 = some (64, 33) := by decide +kernel
example : crawlPush 0 0 = none := by decide +kernel
example : ∃ s0, VM.init demo 0 = .ok s0 ∧ VMReachC demo demoEnv s0 crawlAlloc0 s0 32 := ⟨_, rfl, .start⟩

end Stacks

end RegexVerif.Props.C13
