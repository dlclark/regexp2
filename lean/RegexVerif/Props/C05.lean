/-
C05 — pattern rewrites preserve meaning.

/repo/syntax/tree.go rewrites the parse tree before code generation: loops are made atomic when what follows cannot
use what they give back (`findAndMakeLoopsAtomic`/`processNode`/`canBeMadeAtomic`), backtracking constructs at the end
of the pattern, of atomic groups, of lookarounds and of conditions are made atomic (`eliminateEndingBacktracking`,
`reduceAtomic`, `reduceLookaround`), alternations get their common prefixes factored out (`extractCommonPrefixText`,
`extractCommonPrefixOneNotoneSet`), atomic alternations are trimmed after an empty branch and have branches with
distinct first characters reordered (`reduceAtomic`), and a bump-along marker is put after a leading unbounded
single-character loop (`finalOptimize`).

Section 0 carries a law to any place in a pattern.  Sections 1–7 are the semantic laws of the backtracking
specification (`Spec.m`) that make each rewrite meaning-preserving: for every pattern that meets the *semantic* side condition of a law, the rewritten pattern has the
same ordered successes (or, where nothing can backtrack into the construct, the same first success — all that `find`
observes there).  Whether the *syntactic* tests of tree.go (`MayOverlap`, `CharIn`, node-type case lists) imply the
semantic side conditions is the subject of sections 8–10: a certifier for the auto-atomic and ending decisions
(`cert_holds`, `auto_atomic_certified`) and the modelled decisions of the other rewrites; what they do not cover rests
on the differential legs of C05 (rewrites on vs. off on the real engine), which found the one place where the
implication fails (KF2, `kf2_nonword_loop_before_nonboundary`).

Three strengths of "same meaning" (Lemmas/Rewrites.lean): equality of the ordered lists, `EqMod e D` (equality after
deleting the successes that end at a *dead* position, where everything that follows fails) and `HeadEq` (same first
success).
-/
import RegexVerif.Lemmas.RewriteDecisions

namespace RegexVerif.Props.C05
open RegexVerif RegexVerif.Spec

/-! ### concrete material for the non-vacuity examples -/

/-- an environment over the given text; word characters are `a b c` (97 98 99) -/
def env (t : List Nat) : Env := { text := t, textstart := 0, named := [], word := [97, 98, 99], fold := [] }

def lit (c : Nat) : Pat := .chr (.one c false)
/-- `c*` greedy / `c+` greedy / `c*?` lazy -/
def star (c : Nat) : Pat := .quant false 0 none (lit c)
def plus (c : Nat) : Pat := .quant false 1 none (lit c)
def lazyStar (c : Nat) : Pat := .quant true 0 none (lit c)
def st0 : St := { pos := 0, caps := [] }

/-! ## 0. `m` respects extensional equality of sub-patterns

Every law below is stated for a construct in isolation; these congruences carry it to any place in
a pattern. -/

/-- equal factors give equal concatenations -/
theorem seq_congr {e : Env} {a a' b b' : Pat}
    (ha : ∀ rtl st, m e a rtl st = m e a' rtl st) (hb : ∀ rtl st, m e b rtl st = m e b' rtl st) :
    ∀ rtl st, m e (.seq a b) rtl st = m e (.seq a' b') rtl st :=
  fun rtl st => seq_congr_dir (ha rtl) (hb rtl) st

/-- equal branches give equal alternations -/
theorem alt_congr {e : Env} {a a' b b' : Pat}
    (ha : ∀ rtl st, m e a rtl st = m e a' rtl st) (hb : ∀ rtl st, m e b rtl st = m e b' rtl st) :
    ∀ rtl st, m e (.alt a b) rtl st = m e (.alt a' b') rtl st :=
  fun rtl st => by simp only [m, ha, hb]

/-- equal bodies give equal loops -/
theorem quant_congr {e : Env} {a a' : Pat} (lzy : Bool) (lo : Nat) (hi : Option Nat)
    (ha : ∀ rtl st, m e a rtl st = m e a' rtl st) :
    ∀ rtl st, m e (.quant lzy lo hi a) rtl st = m e (.quant lzy lo hi a') rtl st :=
  fun rtl st => quant_congr_dir lzy lo hi (ha rtl) st

/-- equal bodies give equal capture groups -/
theorem cap_congr {e : Env} {a a' : Pat} (g : Nat) (ha : ∀ rtl st, m e a rtl st = m e a' rtl st) :
    ∀ rtl st, m e (.cap g a) rtl st = m e (.cap g a') rtl st :=
  fun rtl st => cap_congr_dir g (ha rtl) st

/-- equal bodies give equal atomic groups -/
theorem atomic_congr {e : Env} {a a' : Pat} (ha : ∀ rtl st, m e a rtl st = m e a' rtl st) :
    ∀ rtl st, m e (.atomic a) rtl st = m e (.atomic a') rtl st :=
  fun rtl st => atomic_congr_dir (ha rtl) st

/-- equal bodies give equal lookarounds (the body runs in the lookaround's own direction) -/
theorem look_congr {e : Env} {a a' : Pat} (behind neg : Bool) (ha : ∀ rtl st, m e a rtl st = m e a' rtl st) :
    ∀ rtl st, m e (.look behind neg a) rtl st = m e (.look behind neg a') rtl st :=
  fun rtl st => by simp only [m, ha]

/-- equal branches give equal back-reference conditionals -/
theorem refCond_congr {e : Env} {a a' b b' : Pat} (g : Nat)
    (ha : ∀ rtl st, m e a rtl st = m e a' rtl st) (hb : ∀ rtl st, m e b rtl st = m e b' rtl st) :
    ∀ rtl st, m e (.refCond g a b) rtl st = m e (.refCond g a' b') rtl st :=
  fun rtl st => refCond_congr_dir g (ha rtl) (hb rtl) st

/-- equal condition and branches give equal expression conditionals -/
theorem exprCond_congr {e : Env} {c c' a a' b b' : Pat} (hc : ∀ rtl st, m e c rtl st = m e c' rtl st)
    (ha : ∀ rtl st, m e a rtl st = m e a' rtl st) (hb : ∀ rtl st, m e b rtl st = m e b' rtl st) :
    ∀ rtl st, m e (.exprCond c a b) rtl st = m e (.exprCond c' a' b') rtl st :=
  fun rtl st => exprCond_congr_dir (hc rtl) (ha rtl) (hb rtl) st

example : ∀ rtl st, m (env [97, 97]) (.seq (.atomic (.atomic (star 97))) (lit 97)) rtl st
    = m (env [97, 97]) (.seq (.atomic (star 97)) (lit 97)) rtl st :=
  seq_congr (fun rtl st => by simp [m, List.take_take]) (fun _ _ => rfl)

/-! ## 1. redundant atomic groups (`reduceAtomic`) -/

/-- `(?>(?>p))` is `(?>p)`: `reduceAtomic` skips nested Atomic nodes. -/
theorem atomic_idem (e : Env) (p : Pat) (rtl : Bool) (st : St) :
    m e (.atomic (.atomic p)) rtl st = m e (.atomic p) rtl st :=
  atomic_of_atMostOne (atMostOne_atomic e rtl p) st

/-- an atomic group around something that never has more than one success does nothing: `reduceAtomic` drops the
    Atomic node around Empty, Nothing and already-atomic loops, and `eliminateEndingBacktracking` does not wrap
    single characters, anchors, back-references. -/
theorem atomic_single (e : Env) (p : Pat) (rtl : Bool) (h : AtMostOne e rtl p) (st : St) :
    m e (.atomic p) rtl st = m e p rtl st :=
  atomic_of_atMostOne h st

theorem atomic_chr (e : Env) (p : Pred) (rtl : Bool) (st : St) :
    m e (.atomic (.chr p)) rtl st = m e (.chr p) rtl st := atomic_single e _ rtl (atMostOne_chr e rtl p) st

theorem atomic_anchor (e : Env) (a : Anchor) (rtl : Bool) (st : St) :
    m e (.atomic (.anchor a)) rtl st = m e (.anchor a) rtl st := atomic_single e _ rtl (atMostOne_anchor e rtl a) st

/-- instance: Empty (`reduceAtomic`: "If the child is empty/nothing … the Atomic node can simply be removed") -/
theorem atomic_empty (e : Env) (rtl : Bool) (st : St) : m e (.atomic .empty) rtl st = m e .empty rtl st :=
  atomic_single e _ rtl (atMostOne_empty e rtl) st

theorem atomic_nothing (e : Env) (rtl : Bool) (st : St) : m e (.atomic .nothing) rtl st = m e .nothing rtl st :=
  atomic_single e _ rtl (atMostOne_nothing e rtl) st

theorem atomic_ref (e : Env) (g : Nat) (ci : Bool) (rtl : Bool) (st : St) :
    m e (.atomic (.ref g ci)) rtl st = m e (.ref g ci) rtl st := atomic_single e _ rtl (atMostOne_ref e rtl g ci) st

/-- instance: a lookaround (they are "implicitly atomic") -/
theorem atomic_look (e : Env) (behind neg : Bool) (p : Pat) (rtl : Bool) (st : St) :
    m e (.atomic (.look behind neg p)) rtl st = m e (.look behind neg p) rtl st :=
  atomic_single e _ rtl (atMostOne_look e rtl behind neg p) st

/-- instance: a literal string (concatenation of things with at most one success) and a fixed
    repeater `x{n}` of such a thing (Multi nodes, `a{3}`) -/
theorem atomic_seq_single (e : Env) (a b : Pat) (rtl : Bool) (ha : AtMostOne e rtl a) (hb : AtMostOne e rtl b)
    (st : St) : m e (.atomic (.seq a b)) rtl st = m e (.seq a b) rtl st :=
  atomic_single e _ rtl (atMostOne_seq ha hb) st

theorem atomic_repeater (e : Env) (lzy : Bool) (n : Nat) (a : Pat) (rtl : Bool) (ha : AtMostOne e rtl a) (st : St) :
    m e (.atomic (.quant lzy n (some n) a)) rtl st = m e (.quant lzy n (some n) a) rtl st :=
  atomic_single e _ rtl (atMostOne_quant_fixed lzy n ha) st

/-- `makeLoopAtomic` on a lazy loop: inside an atomic group (or in tail position) a lazy loop `x{lo,hi}?` only ever
    delivers its shortest success, so it is the repeater `x{lo}` ("we also lower the max number of iterations to the
    minimum number of iterations"). -/
theorem atomic_lazy_min (e : Env) (lo : Nat) (hi : Option Nat) (a : Pat) (rtl : Bool)
    (hhi : ∀ c, c < lo → canGo hi c = true) (st : St) :
    m e (.atomic (.quant true lo hi a)) rtl st = m e (.atomic (.quant true lo (some lo) a)) rtl st :=
  atomic_eq_of_headEq (headEq_lazy_min e rtl lo hi a hhi) st

/-- … and when that minimum is 0 the node becomes Empty ("If moving the max to be the same as the
    min dropped it to 0 … we can make it Empty"). -/
theorem quant_zero_zero (e : Env) (lzy : Bool) (a : Pat) (rtl : Bool) (st : St) :
    m e (.quant lzy 0 (some 0) a) rtl st = m e .empty rtl st :=
  AutoAtomic.quant_zero_zero' e lzy a rtl st

example : m (env [97, 97, 97]) (.atomic (.quant true 1 none (lit 97))) false st0 = [⟨1, []⟩] := by decide +kernel
example : m (env [97, 97, 97]) (.quant true 1 none (lit 97)) false st0 = [⟨1, []⟩, ⟨2, []⟩, ⟨3, []⟩] := by decide +kernel
example : m (env [97, 97, 97]) (.atomic (.atomic (star 97))) false st0 = [⟨3, []⟩] := by decide +kernel

/-! ## 2. backtracking removal in tail position (`eliminateEndingBacktracking`)

"The correctness of this optimization depends on nothing being able to backtrack into the provided
node": at the root of the pattern, inside an Atomic node, a lookaround or a condition only the first
success of the construct is used.  `EndAtomic rtl p q` is the rewrite relation of
`eliminateEndingBacktracking` (in evaluation direction `rtl`; the Go trees store concatenations in
evaluation order, so "last child" is the second factor left-to-right and the first factor
right-to-left, i.e. in lookbehinds). -/

/-- the elementary step: the construct evaluated last may be made atomic (left-to-right:
    `[xyz](?:abc|def) => [xyz](?>abc|def)`, `ab*` ⇒ `a(?>b*)`) -/
theorem atomic_at_end (e : Env) (a x : Pat) (st : St) :
    (m e (.seq a x) false st).head? = (m e (.seq a (.atomic x)) false st).head? :=
  tailObs_head.seq_ltr a (headEq_atomic e false x) st

/-- right-to-left (inside lookbehinds) the first factor is the one evaluated last -/
theorem atomic_at_end_rtl (e : Env) (a x : Pat) (st : St) :
    (m e (.seq a x) true st).head? = (m e (.seq (.atomic a) x) true st).head? :=
  tailObs_head.seq_rtl x (headEq_atomic e true a) st

/-- when the alternation itself is last, each of its branches is in tail position
    (`abc*|def* => ab(?>c*)|de(?>f*)`) -/
theorem alt_last (e : Env) (rtl : Bool) (a a' b b' : Pat) (ha : HeadEq e rtl a a') (hb : HeadEq e rtl b b') :
    HeadEq e rtl (.alt a b) (.alt a' b') := tailObs_head.alt ha hb

/-- the body of a capture group in tail position is in tail position -/
theorem cap_last (e : Env) (rtl : Bool) (g : Nat) (a a' : Pat) (ha : HeadEq e rtl a a') :
    HeadEq e rtl (.cap g a) (.cap g a') := tailObs_head.cap g ha

/-- inside an atomic group the last construct can be made atomic, **with the same ordered list of
    successes** — so this one is valid anywhere (`reduceAtomic`'s default case) -/
theorem atomic_inner_end (e : Env) (a x : Pat) (st : St) :
    m e (.atomic (.seq a x)) false st = m e (.atomic (.seq a (.atomic x))) false st :=
  atomic_eq_of_headEq (tailObs_head.seq_ltr a (headEq_atomic e false x)) st

inductive EndAtomic (e : Env) : Bool → Pat → Pat → Prop
  | refl (rtl : Bool) (p : Pat) : EndAtomic e rtl p p
  /-- a replacement with the same ordered successes (a lazy repeater `x{n}?` written greedy, `x{0,0}` as Empty) -/
  | ofEq {rtl : Bool} {p q : Pat} : (∀ st, m e p rtl st = m e q rtl st) → EndAtomic e rtl p q
  | trans {rtl : Bool} {p q r : Pat} : EndAtomic e rtl p q → EndAtomic e rtl q r → EndAtomic e rtl p r
  /-- `makeLoopAtomic` on a greedy loop; wrapping an alternation, conditional or loop in Atomic -/
  | wrap (rtl : Bool) (p : Pat) : EndAtomic e rtl p (.atomic p)
  /-- `makeLoopAtomic` on a lazy loop, `case NtLazyloop: node.N = node.M` -/
  | lazyMin (rtl : Bool) (lo : Nat) (hi : Option Nat) (a : Pat) (h : ∀ c, c < lo → canGo hi c = true) :
      EndAtomic e rtl (.quant true lo hi a) (.quant true lo (some lo) a)
  /-- `case NtCapture, NtConcatenate`: recur into the last child -/
  | seqLtr {x x' : Pat} (a : Pat) : EndAtomic e false x x' → EndAtomic e false (.seq a x) (.seq a x')
  | seqRtl {a a' : Pat} (x : Pat) : EndAtomic e true a a' → EndAtomic e true (.seq a x) (.seq a' x)
  | cap {rtl : Bool} {a a' : Pat} (g : Nat) : EndAtomic e rtl a a' → EndAtomic e rtl (.cap g a) (.cap g a')
  /-- `case NtAlternate, NtBackRefCond, NtExprCond`: every branch -/
  | alt {rtl : Bool} {a a' b b' : Pat} : EndAtomic e rtl a a' → EndAtomic e rtl b b' → EndAtomic e rtl (.alt a b) (.alt a' b')
  | refCond {rtl : Bool} {a a' b b' : Pat} (g : Nat) :
      EndAtomic e rtl a a' → EndAtomic e rtl b b' → EndAtomic e rtl (.refCond g a b) (.refCond g a' b')
  /-- the condition too (`reduceExpressionConditional`) -/
  | exprCond {rtl : Bool} {c c' a a' b b' : Pat} :
      EndAtomic e rtl c c' → EndAtomic e rtl a a' → EndAtomic e rtl b b' → EndAtomic e rtl (.exprCond c a b) (.exprCond c' a' b')
  /-- `case NtAtomic, NtPosLook, NtNegLook`: the child (a lookaround's child runs in its own direction) -/
  | atomic {rtl : Bool} {a a' : Pat} : EndAtomic e rtl a a' → EndAtomic e rtl (.atomic a) (.atomic a')
  | look {rtl : Bool} {a a' : Pat} (behind neg : Bool) :
      EndAtomic e behind a a' → EndAtomic e rtl (.look behind neg a) (.look behind neg a')
  /-- `case NtLoop: if node.N == 1` — an optional construct -/
  | optional {rtl : Bool} {a a' : Pat} (lzy : Bool) (lo : Nat) :
      EndAtomic e rtl a a' → EndAtomic e rtl (.quant lzy lo (some 1) a) (.quant lzy lo (some 1) a')
  /-- `case NtLoop` / `NtLazyloop` with `FindLastExpressionInLoopForAutoAtomic`: the last expression of the loop body,
      when the body cannot start at the positions `D` it gives back (`(?:abc*)* => (?:ab(?>c*))*`) -/
  | loopBody {b b' : Pat} (D : Nat → Bool) (lzy : Bool) (lo : Nat) (hi : Option Nat) :
      Prunes e D b b' → Kills e D b → EndAtomic e false (.quant lzy lo hi b) (.quant lzy lo hi b')

/-- **ending-backtracking removal preserves the first success**, from every state: all the
    closure facts above composed. -/
theorem end_atomic_head (e : Env) {rtl : Bool} {p q : Pat} (h : EndAtomic e rtl p q) : HeadEq e rtl p q := by
  induction h with
  | refl rtl p => exact HeadEq.refl
  | ofEq h => exact HeadEq.of_eq h
  | trans _ _ ih1 ih2 => exact ih1.trans ih2
  | wrap rtl p => exact headEq_atomic e rtl p
  | lazyMin rtl lo hi a h => exact headEq_lazy_min e rtl lo hi a h
  | seqLtr a _ ih => exact tailObs_head.seq_ltr a ih
  | seqRtl x _ ih => exact tailObs_head.seq_rtl x ih
  | cap g _ ih => exact tailObs_head.cap g ih
  | alt _ _ iha ihb => exact tailObs_head.alt iha ihb
  | refCond g _ _ iha ihb => exact headEq_refCond g iha ihb
  | exprCond _ _ _ ihc iha ihb => exact headEq_exprCond ihc iha ihb
  | atomic _ ih => exact HeadEq.of_eq (atomic_eq_of_headEq ih)
  | look behind neg _ ih => exact HeadEq.of_eq (look_eq_of_headEq neg ih _)
  | optional lzy lo _ ih => exact tailObs_head.quant_hi_one lzy lo ih
  | loopBody D lzy lo hi hp hk => exact headEq_quant_prune lzy lo hi hp hk

/-- **the whole pattern's result is unchanged when its ending backtracking constructs are made atomic**
    (`finalOptimize`: `rootNode.eliminateEndingBacktracking()`). -/
theorem end_atomic_find (e : Env) {rtl : Bool} {p q : Pat} (h : EndAtomic e rtl p q) (start : Nat) :
    find e p rtl start = find e q rtl start :=
  find_congr_head (end_atomic_head e h) start

/-- `reduceAtomic`: the same rewrite applied to the body of an atomic group keeps the group's
    whole list of successes — valid at any place in a pattern. -/
theorem atomic_body_end_atomic (e : Env) {rtl : Bool} {a a' : Pat} (h : EndAtomic e rtl a a') (st : St) :
    m e (.atomic a) rtl st = m e (.atomic a') rtl st :=
  atomic_eq_of_headEq (end_atomic_head e h) st

/-- `reduceLookaround`: likewise for the body of a lookahead/lookbehind (direction `behind`). -/
theorem look_body_end_atomic (e : Env) {behind : Bool} {a a' : Pat} (neg : Bool) (h : EndAtomic e behind a a')
    (rtl : Bool) (st : St) :
    m e (.look behind neg a) rtl st = m e (.look behind neg a') rtl st :=
  look_eq_of_headEq neg (end_atomic_head e h) rtl st

/-- `reduceExpressionConditional`: likewise for the condition of `(?(cond)yes|no)`. -/
theorem exprCond_condition_end_atomic (e : Env) {rtl : Bool} {c c' : Pat} (a b : Pat) (h : EndAtomic e rtl c c') (st : St) :
    m e (.exprCond c a b) rtl st = m e (.exprCond c' a b) rtl st :=
  exprCond_eq_of_headEq a b (end_atomic_head e h) st

/-- `x(?:ab*|c+)?` ⇒ `x(?>(?:a(?>b*)|(?>c+))?)`: an instance of the relation -/
example (e : Env) : EndAtomic e false
    (.seq (lit 120) (.quant false 0 (some 1) (.alt (.seq (lit 97) (star 98)) (plus 99))))
    (.seq (lit 120) (.atomic (.quant false 0 (some 1) (.alt (.seq (lit 97) (.atomic (star 98))) (.atomic (plus 99)))))) :=
  .seqLtr _ (.trans (.optional _ _ (.alt (.seqLtr _ (.wrap _ _)) (.wrap _ _))) (.wrap _ _))

/-- **a loop in tail position whose body ends in a character loop**: `(?:x c*)*` ⇒ `(?:x (?>c*))*` when `x` fails in
    front of a rune that `c*` accepts (the condition `lastConcatChild.canBeMadeAtomic(node.Children[0], false, false)`
    of `FindLastExpressionInLoopForAutoAtomic`).  The positions `c*` gives back are not lost for the loop's *exit*
    (this is the tail of the pattern), but they all come after the first success. -/
theorem loop_body_at_end (e : Env) (p : Pred) (lo' : Nat) (hi' : Option Nat) (x : Pat)
    (hx : Kills e (acc e p) x) (lzy : Bool) (lo : Nat) (hi : Option Nat) :
    HeadEq e false (.quant lzy lo hi (.seq x (.quant false lo' hi' (.chr p))))
      (.quant lzy lo hi (.seq x (.atomic (.quant false lo' hi' (.chr p))))) :=
  end_atomic_head e (.loopBody (acc e p) lzy lo hi ((prunes_charloop e p lo' hi').seq_last x) (kills_seq_first _ hx))

/-- `(?:ab*)*` on "abbab": the full lists differ, the heads agree -/
example : m (env [97, 98, 98, 97, 98]) (.quant false 0 none (.seq (lit 97) (star 98))) false st0
      = [⟨5, []⟩, ⟨4, []⟩, ⟨3, []⟩, ⟨2, []⟩, ⟨1, []⟩, ⟨0, []⟩]
    ∧ m (env [97, 98, 98, 97, 98]) (.quant false 0 none (.seq (lit 97) (.atomic (star 98)))) false st0
      = [⟨5, []⟩, ⟨3, []⟩, ⟨0, []⟩] := by decide +kernel

/-- `atomic_at_end` is about the head only: for `ab*` the full lists differ (so the rewrite must not be applied
    where something can backtrack into the construct) -/
example : m (env [97, 98, 98]) (.seq (lit 97) (star 98)) false st0 = [⟨3, []⟩, ⟨2, []⟩, ⟨1, []⟩]
    ∧ m (env [97, 98, 98]) (.seq (lit 97) (.atomic (star 98))) false st0 = [⟨3, []⟩] := by decide +kernel

/-- a lookbehind `(?<=b[ab]*)`: the factor evaluated last is `b`; making the *other* factor
    `[ab]*` atomic would be wrong ("ba", position 2) -/
example : m (env [98, 97]) (.seq (lit 98) (.quant false 0 none (.chr (.set (.base false [(97, 98)] []) false)))) true ⟨2, []⟩
      = [⟨0, []⟩]
    ∧ m (env [98, 97]) (.seq (lit 98) (.atomic (.quant false 0 none (.chr (.set (.base false [(97, 98)] []) false))))) true ⟨2, []⟩
      = [] := by decide +kernel

/-! ## 3. auto-atomic loops (`findAndMakeLoopsAtomic`, `processNode`, `canBeMadeAtomic`) -/

/-- what follows the loop (`k`) **starts outside** the loop's character test `p`: from a position whose next rune
    exists and is accepted by `p`, `k` has no success.  This is what `canBeMadeAtomic` decides syntactically: a
    disjoint character/set/string next, a mandatory loop of one, `\z`, `$` when the loop cannot eat `'\n'`, possibly
    after nullable loops of disjoint characters. -/
def StartsOutside (e : Env) (p : Pred) (k : Pat) : Prop := Kills e (acc e p) k

/-- the formulation "every success of `k` first consumes a rune that `p` rejects" implies it -/
theorem startsOutside_of_first_rune (e : Env) (p : Pred) (k : Pat)
    (h : ∀ st st', st' ∈ m e k false st → ∃ r, e.text[st.pos]? = some r ∧ p.test e r = false) :
    StartsOutside e p k := by
  intro st hd
  cases hm : m e k false st with
  | nil => rfl
  | cons y ys =>
    obtain ⟨r, hr, hp⟩ := h st y (by rw [hm]; simp)
    simp [acc, hr, hp] at hd

/-- **`A*B` with `A`, `B` disjoint is `(?>A*)B`**: the shorter iterations can never be continued, because the rune
    after a shorter prefix is one the loop accepts.  (`processNode`, `case NtOneloop, NtNotoneloop, NtSetloop`.) -/
theorem loop_atomic_disjoint (e : Env) (p : Pred) (lo : Nat) (hi : Option Nat) (k : Pat)
    (hk : StartsOutside e p k) (st : St) :
    m e (.seq (.quant false lo hi (.chr p)) k) false st
      = m e (.seq (.atomic (.quant false lo hi (.chr p))) k) false st :=
  (charloop_eqMod_atomic e p lo hi).seq_kill k hk st

/-- **`A*?B` with `A`, `B` disjoint is `(?>A*)B`**: the lazy loop has to run to the end of the run
    before `B` can match, so it becomes the *greedy* atomic loop (`processNode`,
    `case NtOnelazy, …`: "lazy to greedy"). -/
theorem lazy_loop_atomic_disjoint (e : Env) (p : Pred) (lo : Nat) (hi : Option Nat) (k : Pat)
    (hk : StartsOutside e p k) (st : St) :
    m e (.seq (.quant true lo hi (.chr p)) k) false st
      = m e (.seq (.atomic (.quant false lo hi (.chr p))) k) false st :=
  (lazy_charloop_eqMod_atomic e p lo hi).seq_kill k hk st

/-- the characterisation the law rests on: from `st`, the greedy loop `p{lo,hi}` succeeds exactly at
    `st.pos + j` for `lo ≤ j ≤ min(run, hi)`, longest first, captures untouched -/
theorem charloop_successes (e : Env) (p : Pred) (lo : Nat) (hi : Option Nat) (st : St) :
    m e (.quant false lo hi (.chr p)) false st =
      (List.range (capN hi 0 (runLen e p st.pos) + 1 - lo)).reverse.map
        (fun j => { st with pos := st.pos + lo + j }) :=
  Spec.charloop_successes e p lo hi st

/-- … and every success but the first is followed by a rune the loop accepts -/
theorem charloop_nonfirst_followed (e : Env) (p : Pred) (lo : Nat) (hi : Option Nat) (st : St) :
    ∀ t ∈ (m e (.quant false lo hi (.chr p)) false st).tail, acc e p t.pos = true :=
  charloop_tail_acc e p lo hi st

/-! side conditions of `canBeMadeAtomic` that imply `StartsOutside` -/

/-- a disjoint character test next (`One`/`Notone`/`Set` with `CharIn`/`MayOverlap` false) -/
theorem startsOutside_chr (e : Env) (p q : Pred) (h : ∀ r, p.test e r = true → q.test e r = false) :
    StartsOutside e p (.chr q) := kills_chr h

/-- … followed by anything (a Multi string, the rest of the concatenation) -/
theorem startsOutside_seq (e : Env) (p : Pred) (k1 k2 : Pat) (h : StartsOutside e p k1) :
    StartsOutside e p (.seq k1 k2) := kills_seq_first k2 h

/-- a loop with a positive minimum over something that starts outside (`subsequent.M > 0`) -/
theorem startsOutside_quant (e : Env) (p : Pred) (lzy : Bool) (lo : Nat) (hi : Option Nat) (k : Pat)
    (hlo : 1 ≤ lo) (h : StartsOutside e p k) : StartsOutside e p (.quant lzy lo hi k) := kills_quant lzy hi hlo h

/-- an optional loop over something that starts outside, followed by something that starts
    outside (`subsequent.M == 0 … goto end`: "we'll need to evaluate the next one as well") -/
theorem startsOutside_nullable_then (e : Env) (p : Pred) (lzy : Bool) (lo : Nat) (hi : Option Nat) (k1 k2 : Pat)
    (h1 : StartsOutside e p k1) (h2 : StartsOutside e p k2) :
    StartsOutside e p (.seq (.quant lzy lo hi k1) k2) := kills_seq_stays (stays_quant lzy lo hi h1) h2

/-- an alternation all of whose branches start outside -/
theorem startsOutside_alt (e : Env) (p : Pred) (k1 k2 : Pat) (h1 : StartsOutside e p k1) (h2 : StartsOutside e p k2) :
    StartsOutside e p (.alt k1 k2) := kills_alt h1 h2

/-- captures, atomic groups and positive lookaheads are looked through -/
theorem startsOutside_cap (e : Env) (p : Pred) (g : Nat) (k : Pat) (h : StartsOutside e p k) :
    StartsOutside e p (.cap g k) := kills_cap g h
theorem startsOutside_atomic (e : Env) (p : Pred) (k : Pat) (h : StartsOutside e p k) :
    StartsOutside e p (.atomic k) := kills_atomic h
theorem startsOutside_lookahead (e : Env) (p : Pred) (k : Pat) (h : StartsOutside e p k) :
    StartsOutside e p (.look false false k) := kills_lookahead h

/-- `\z` (`subsequent.T == NtEnd`) -/
theorem startsOutside_end (e : Env) (p : Pred) : StartsOutside e p (.anchor .end) := kills_end e p

/-- `$` with `Multiline` / `\Z` / `$`, when the loop does not accept `'\n'`
    (`subsequent.T == NtEol && n.Ch != '\n'`, `!n.Set.CharIn('\n')`) -/
theorem startsOutside_eol (e : Env) (p : Pred) (h : p.test e 10 = false) : StartsOutside e p (.anchor .eol) := kills_eol h
theorem startsOutside_endz (e : Env) (p : Pred) (h : p.test e 10 = false) : StartsOutside e p (.anchor .endz) := kills_endz h

/-- `a*b` on "aab": the loop has three successes, `b` can only continue the longest -/
example : StartsOutside (env [97, 97, 98]) (.one 97 false) (lit 98) :=
  startsOutside_chr _ _ _ (fun r h => by simp [Pred.test] at h ⊢; omega)
example : m (env [97, 97, 98]) (star 97) false st0 = [⟨2, []⟩, ⟨1, []⟩, ⟨0, []⟩] := by decide +kernel
example : m (env [97, 97, 98]) (.seq (.atomic (star 97)) (lit 98)) false st0 = [⟨3, []⟩] := by decide +kernel

/-- the side condition is needed: `a*a` is not `(?>a*)a` -/
example : m (env [97, 97]) (.seq (star 97) (lit 97)) false st0 ≠ m (env [97, 97]) (.seq (.atomic (star 97)) (lit 97)) false st0 := by
  decide +kernel

/-- the places `processNode` reaches from the node in front of `subsequent`: the loop itself, the last child of
    concatenations, capture bodies, every branch of alternations and conditionals, and the last expression of a loop
    body whose first expression also fails at the dead positions `D` (`FindLastExpressionInLoopForAutoAtomic`). -/
inductive AutoAtomic (e : Env) (D : Nat → Bool) : Pat → Pat → Prop
  | refl (x : Pat) : AutoAtomic e D x x
  | greedy (p : Pred) (lo : Nat) (hi : Option Nat) (hD : ∀ i, acc e p i = true → D i = true) :
      AutoAtomic e D (.quant false lo hi (.chr p)) (.atomic (.quant false lo hi (.chr p)))
  | lazy (p : Pred) (lo : Nat) (hi : Option Nat) (hD : ∀ i, acc e p i = true → D i = true) :
      AutoAtomic e D (.quant true lo hi (.chr p)) (.atomic (.quant false lo hi (.chr p)))
  /-- a loop with `lo ≥ 1`: the positions given back lie *between* two accepted runes -/
  | greedyBetween (p : Pred) (lo : Nat) (hi : Option Nat) (hlo : 1 ≤ lo)
      (hD : ∀ i, (prevAcc e p i && acc e p i) = true → D i = true) :
      AutoAtomic e D (.quant false lo hi (.chr p)) (.atomic (.quant false lo hi (.chr p)))
  | seqLast {x x' : Pat} (a : Pat) : AutoAtomic e D x x' → AutoAtomic e D (.seq a x) (.seq a x')
  | cap {x x' : Pat} (g : Nat) : AutoAtomic e D x x' → AutoAtomic e D (.cap g x) (.cap g x')
  | alt {a a' b b' : Pat} : AutoAtomic e D a a' → AutoAtomic e D b b' → AutoAtomic e D (.alt a b) (.alt a' b')
  | refCond {a a' b b' : Pat} (g : Nat) :
      AutoAtomic e D a a' → AutoAtomic e D b b' → AutoAtomic e D (.refCond g a b) (.refCond g a' b')
  | exprCond {a a' b b' : Pat} (c : Pat) :
      AutoAtomic e D a a' → AutoAtomic e D b b' → AutoAtomic e D (.exprCond c a b) (.exprCond c a' b')
  | loop {b b' : Pat} (lzy : Bool) (lo : Nat) (hi : Option Nat) :
      AutoAtomic e D b b' → Kills e D b → Kills e D b' → AutoAtomic e D (.quant lzy lo hi b) (.quant lzy lo hi b')

/-- the rewritten construct has the same ordered successes except at dead positions -/
theorem auto_atomic_eqMod {e : Env} {D : Nat → Bool} {x x' : Pat} (h : AutoAtomic e D x x') : EqMod e D false x x' := by
  induction h with
  | refl x => exact EqMod.refl
  | greedy p lo hi hD => exact (charloop_eqMod_atomic e p lo hi).mono hD
  | lazy p lo hi hD => exact (lazy_charloop_eqMod_atomic e p lo hi).mono hD
  | greedyBetween p lo hi hlo hD => exact (charloop_eqMod_atomic_between e p lo hi hlo).mono hD
  | seqLast a _ ih => exact (tailObs_live D).seq_ltr a ih
  | cap g _ ih => exact (tailObs_live D).cap g ih
  | alt _ _ iha ihb => exact (tailObs_live D).alt iha ihb
  | refCond g _ _ iha ihb => exact iha.refCond g ihb
  | exprCond c _ _ iha ihb => exact iha.exprCond c ihb
  | loop lzy lo hi _ hb _ ih => exact ih.quant lzy lo hi hb

/-- **auto-atomicity in context**: loops made atomic anywhere `processNode` looks — `(x a*)b`,
    `(?:xa*|yc*)b`, `(?:b a*)+c` — keep the ordered successes of the concatenation with what
    follows, provided what follows fails at the dead positions. -/
theorem auto_atomic_sound {e : Env} {D : Nat → Bool} {x x' : Pat} (h : AutoAtomic e D x x') (k : Pat)
    (hk : Kills e D k) (st : St) : m e (.seq x k) false st = m e (.seq x' k) false st :=
  (auto_atomic_eqMod h).seq_kill k hk st

/-- `(x a*|c*)b` ⇒ `(x(?>a*)|(?>c*))b` -/
example (t : List Nat) (st : St) :
    m (env t) (.seq (.cap 1 (.alt (.seq (lit 120) (star 97)) (star 99))) (lit 98)) false st
      = m (env t) (.seq (.cap 1 (.alt (.seq (lit 120) (.atomic (star 97))) (.atomic (star 99)))) (lit 98)) false st := by
  let D : Nat → Bool := fun i => acc (env t) (.one 97 false) i || acc (env t) (.one 99 false) i
  refine auto_atomic_sound (D := D)
    (.cap 1 (.alt (.seqLast _ (.greedy _ 0 none (fun i h => by simp [D, h])))
      (.greedy _ 0 none (fun i h => by simp [D, h])))) _ ?_ st
  intro s hs
  simp only [D, Bool.or_eq_true] at hs
  rcases hs with hs | hs
  · exact kills_chr (p := .one 97 false) (fun r h => by simp [Pred.test] at h ⊢; omega) s hs
  · exact kills_chr (p := .one 99 false) (fun r h => by simp [Pred.test] at h ⊢; omega) s hs

/-- **a loop over word characters with `lo ≥ 1` in front of `\b`** (`subsequent.T == NtBoundary &&
    n.M > 0 && IsWordChar(n.Ch)`, `n.Set.Equals(WordClass())`): a position the loop gives back lies
    between two word characters, where `\b` fails — whatever comes after the `\b`. -/
theorem loop_atomic_before_boundary (e : Env) (p : Pred) (lo : Nat) (hi : Option Nat) (hlo : 1 ≤ lo)
    (hw : ∀ r, p.test e r = true → e.isWord r = true) (k : Pat) (st : St) :
    m e (.seq (.quant false lo hi (.chr p)) (.seq (.anchor .boundary) k)) false st
      = m e (.seq (.atomic (.quant false lo hi (.chr p))) (.seq (.anchor .boundary) k)) false st :=
  (charloop_eqMod_atomic_between e p lo hi hlo).seq_kill _ (kills_seq_first k (kills_boundary hw)) st

example : m (env [97, 97, 45]) (.seq (plus 97) (.seq (.anchor .boundary) .empty)) false st0 = [⟨2, []⟩] := by decide +kernel

/-- **KNOWN FINDING KF2 — the mirror-image condition for `\B` is false.**  `canBeMadeAtomic` also
    accepts `subsequent.T == NtNonboundary && n.M > 0 && !IsWordChar(n.Ch)` (and `\W+`, `\D+` before
    `\B`).  But a position given back by a loop over non-word characters lies between two non-word
    characters, and there `\B` HOLDS: `-+\B` on "--b" matches (0,1) by backtracking and has no match
    with the atomic loop.  (Engine: rewrites on → no match, rewrites off → (0,1).) -/
theorem kf2_nonword_loop_before_nonboundary :
    m (env [45, 45, 98]) (.seq (plus 45) (.anchor .nonboundary)) false st0 = [⟨1, []⟩]
    ∧ m (env [45, 45, 98]) (.seq (.atomic (plus 45)) (.anchor .nonboundary)) false st0 = [] := by decide +kernel

/-- why: between two runes accepted by a loop over non-word characters `\B` succeeds -/
theorem nonboundary_holds_where_loop_gives_back (e : Env) (p : Pred) (hw : ∀ r, p.test e r = true → e.isWord r = false)
    (st : St) (hd : (prevAcc e p st.pos && acc e p st.pos) = true) :
    m e (.anchor .nonboundary) false st = [st] := by
  obtain ⟨q, r, h0, hq, hr, hpq, hpr⟩ := runes_of_between hd
  simp [m, anchorHolds, h0, hq, hr, hw q hpq, hw r hpr]

/-! ## 4. alternation prefix factoring (`extractCommonPrefixText`, `extractCommonPrefixOneNotoneSet`) -/

/-- **`xa|xb` is `x(?:a|b)`** when `x` has at most one success from the state (a literal string, a single character
    test, a fixed-count or atomic loop — exactly the prefixes the two functions extract).  This is distributivity
    on the side evaluated FIRST, the conditional one: with several successes of `x` the two lists differ in order.
    Left-to-right only, as in the Go code ("Only extract left-to-right prefixes"); right-to-left the conditional
    law is the one about a common LAST factor. -/
theorem prefix_factor (e : Env) (x a b : Pat) (st : St) (hx : (m e x false st).length ≤ 1) :
    m e (.alt (.seq x a) (.seq x b)) false st = m e (.seq x (.alt a b)) false st := by
  simp only [m, Bool.false_eq_true, if_false]
  exact flatMap_append_of_length_le_one _ hx _ _

/-- `extractCommonPrefixText`: the prefix is a literal string (One/Multi), which has at most one
    success from every state, so the law applies unconditionally; a branch that *is* the prefix
    leaves `Empty` behind (`processOneOrMulti`), `x` ≡ `x·Empty`. -/
theorem prefix_factor_text (e : Env) (cs : List Nat) (a b : Pat) (st : St) :
    m e (.alt (.seq (seqOf (cs.map lit)) a) (.seq (seqOf (cs.map lit)) b)) false st
      = m e (.seq (seqOf (cs.map lit)) (.alt a b)) false st :=
  prefix_factor e _ a b st
    (atMostOne_seqOf _ (fun x hx => by
      obtain ⟨c, _, rfl⟩ := List.mem_map.mp hx
      exact atMostOne_chr e false _) st)

theorem prefix_is_branch (e : Env) (x : Pat) (rtl : Bool) (st : St) : m e (.seq x .empty) rtl st = m e x rtl st :=
  seq_empty_right e x rtl st

/-- `extractCommonPrefixOneNotoneSet`: the prefix is one and the same One/Notone/Set node or a
    fixed-count loop of one (`required.M == required.N`) -/
theorem prefix_factor_repeater (e : Env) (p : Pred) (lzy : Bool) (n : Nat) (a b : Pat) (st : St) :
    m e (.alt (.seq (.quant lzy n (some n) (.chr p)) a) (.seq (.quant lzy n (some n) (.chr p)) b)) false st
      = m e (.seq (.quant lzy n (some n) (.chr p)) (.alt a b)) false st :=
  prefix_factor e _ a b st (atMostOne_quant_fixed lzy n (atMostOne_chr e false p) st)

/-- n-ary form, inside a longer alternation: the branches `[startingIndex, endingIndex)` that share
    the prefix are replaced by one branch `x(?:…)`; the branches before and after stay. -/
theorem prefix_factor_range (e : Env) (x : Pat) (pre bs post : List Pat) (st : St)
    (hx : (m e x false st).length ≤ 1) :
    m e (altOf (pre ++ bs.map (fun b => .seq x b) ++ post)) false st
      = m e (altOf (pre ++ [.seq x (altOf bs)] ++ post)) false st := by
  simp only [m_altOf, List.flatMap_append, List.flatMap_cons, List.flatMap_nil, List.append_nil, List.flatMap_map]
  congr 2
  exact flatMap_seq_eq_seq_altOf e x bs st hx

/-- if the alternation is inside an atomic group, the new inner alternation is made atomic too
    ("If this alternation is wrapped as atomic, we need to do the same for the new alternation") -/
theorem prefix_factor_atomic (e : Env) (x a b : Pat) (st : St) (hx : (m e x false st).length ≤ 1) :
    m e (.atomic (.alt (.seq x a) (.seq x b))) false st = m e (.atomic (.seq x (.atomic (.alt a b)))) false st := by
  rw [← atomic_inner_end, m_atomic, m_atomic, prefix_factor e x a b st hx]

/-- the mirror image needs no side condition: a common *last* factor left-to-right, distributivity on the side
    evaluated LAST, `(a|b)x = ax|bx` (right-to-left: a common first factor) -/
theorem suffix_factor (e : Env) (x a b : Pat) (st : St) :
    m e (.alt (.seq a x) (.seq b x)) false st = m e (.seq (.alt a b) x) false st := by
  simp [m, List.flatMap_append]

example : m (env [97, 98, 100]) (.alt (.seq (lit 97) (.seq (lit 98) (lit 99))) (.seq (lit 97) (.seq (lit 98) (lit 100)))) false st0
    = [⟨3, []⟩] := by decide +kernel
example : (m (env [97, 98, 100]) (.seq (lit 97) (lit 98)) false st0).length ≤ 1 := by decide +kernel

/-- the side condition is needed ("doing it for non-atomic variable length loops could change
    behavior"): `a*a|a*b` is not `a*(?:a|b)` -/
example : m (env [97, 97, 98]) (.alt (.seq (star 97) (lit 97)) (.seq (star 97) (lit 98))) false st0
    ≠ m (env [97, 97, 98]) (.seq (star 97) (.alt (lit 97) (lit 98))) false st0 := by decide +kernel

/-! ## 5. trimming an atomic alternation after an empty branch (`reduceAtomic`) -/

/-- branches after an Empty branch of an atomic alternation are never used -/
theorem atomic_alt_trim (e : Env) (a b : Pat) (rtl : Bool) (st : St) :
    m e (.atomic (.alt a (.alt .empty b))) rtl st = m e (.atomic (.alt a .empty)) rtl st := by
  simp only [m]
  cases m e a rtl st <;> simp

/-- an atomic alternation whose first branch is Empty is Empty -/
theorem atomic_alt_empty_first (e : Env) (b : Pat) (rtl : Bool) (st : St) :
    m e (.atomic (.alt .empty b)) rtl st = [st] := by
  simp [m]

/-- n-ary form: everything after the first Empty branch is dropped -/
theorem atomic_altOf_trim (e : Env) (pre post : List Pat) (rtl : Bool) (st : St) :
    m e (.atomic (altOf (pre ++ .empty :: post))) rtl st = m e (.atomic (altOf (pre ++ [.empty]))) rtl st := by
  rw [m_atomic, m_atomic, m_altOf, m_altOf]
  simp only [List.flatMap_append, List.flatMap_cons, List.flatMap_nil, m]
  cases pre.flatMap (fun a => m e a rtl st) <;> simp

example : m (env [97]) (.atomic (.alt (lit 98) (.alt .empty (lit 97)))) false st0 = [st0] := by decide +kernel
/-- not without the atomic group -/
example : m (env [97]) (.alt (lit 98) (.alt .empty (lit 97))) false st0 = [st0, ⟨1, []⟩] := by decide +kernel

/-! ## 6. reordering exclusive branches (`reduceAtomic`: "hi|there|hello" ⇒ "hi|hello|there") -/

/-- two adjacent branches that cannot both succeed from the same state may be swapped — the ordered
    list of successes does not change at all (so this holds with or without the atomic group; the
    Go code only does it inside one) -/
theorem alt_swap_exclusive (e : Env) (a b : Pat) (rtl : Bool) (h : Exclusive e rtl a b) (st : St) :
    m e (.alt a b) rtl st = m e (.alt b a) rtl st := by
  simp only [m]
  rcases h st with h | h <;> simp [h]

/-- the law as the Go comment states it: inside an atomic group -/
theorem atomic_alt_reorder (e : Env) (a b : Pat) (rtl : Bool) (h : ∀ st, m e a rtl st = [] ∨ m e b rtl st = [])
    (st : St) : m e (.atomic (.alt a b)) rtl st = m e (.atomic (.alt b a)) rtl st := by
  rw [m_atomic, m_atomic, alt_swap_exclusive e a b rtl h st]

/-- inside a longer alternation: a branch `b` is moved in front of a block `xs` of branches each of
    which is exclusive with it (the branches with a different first character that it jumps over) -/
theorem altOf_move_exclusive (e : Env) (pre xs post : List Pat) (b : Pat) (rtl : Bool)
    (h : ∀ x ∈ xs, Exclusive e rtl x b) (st : St) :
    m e (altOf (pre ++ xs ++ b :: post)) rtl st = m e (altOf (pre ++ b :: xs ++ post)) rtl st := by
  simp only [m_altOf, List.flatMap_append, List.flatMap_cons, List.append_assoc]
  congr 1
  cases hb : m e b rtl st with
  | nil => simp
  | cons y ys =>
    have : xs.flatMap (fun a => m e a rtl st) = [] := by
      rw [List.flatMap_eq_nil_iff]
      intro x hx
      rcases h x hx st with h1 | h1
      · exact h1
      · rw [hb] at h1; cases h1
    simp [this]

theorem atomic_altOf_reorder (e : Env) (pre xs post : List Pat) (b : Pat) (rtl : Bool)
    (h : ∀ x ∈ xs, Exclusive e rtl x b) (st : St) :
    m e (.atomic (altOf (pre ++ xs ++ b :: post))) rtl st = m e (.atomic (altOf (pre ++ b :: xs ++ post))) rtl st := by
  rw [m_atomic, m_atomic, altOf_move_exclusive e pre xs post b rtl h st]

/-- the instance the Go code uses: branches that begin with different literal runes are exclusive
    (left-to-right; the case-insensitive variants have been turned into sets before, so a One node
    is an exact rune) -/
theorem exclusive_first_rune (e : Env) (c d : Nat) (hcd : c ≠ d) (a b : Pat) :
    Exclusive e false (.seq (lit c) a) (.seq (lit d) b) :=
  fun st => (exclusive_of_first_rune_bare e hcd st).imp (fun h => by rw [m_seq_ltr, lit, h]; rfl) (fun h => by rw [m_seq_ltr, lit, h]; rfl)

/-- "hi|there|hello" ⇒ "hi|hello|there" -/
example (e : Env) (st : St) :
    m e (altOf [.seq (lit 104) (lit 105), .seq (lit 116) (lit 104), .seq (lit 104) (lit 101)]) false st
      = m e (altOf [.seq (lit 104) (lit 105), .seq (lit 104) (lit 101), .seq (lit 116) (lit 104)]) false st :=
  altOf_move_exclusive e [.seq (lit 104) (lit 105)] [.seq (lit 116) (lit 104)] [] (.seq (lit 104) (lit 101)) false
    (fun x hx => by
      simp only [List.mem_singleton] at hx; subst hx
      exact exclusive_first_rune e 116 104 (by decide) _ _) st

/-- the side condition is needed even inside an atomic group: `(?>a|ab)` is not `(?>ab|a)` -/
example : m (env [97, 98]) (.atomic (.alt (lit 97) (.seq (lit 97) (lit 98)))) false st0
    ≠ m (env [97, 98]) (.atomic (.alt (.seq (lit 97) (lit 98)) (lit 97))) false st0 := by decide +kernel

/-! ## 7. the bump-along marker (`finalOptimize`, `UpdateBumpalong`) -/

/-- **bump-along is sound.**  The pattern starts with an unbounded single-character loop `L` (`Front`: first factor
    of possibly nested concatenations and — for a greedy loop — possibly inside atomic groups; not under a capture
    or alternation).  If the attempt at `i` fails, so does the attempt at every `j` inside the run starting at `i`:
    from `j` the loop reaches only states it already reached from `i`, in the same order. -/
theorem bumpalong_sound (e : Env) (q : Pred) (lo : Nat) (F : Pat)
    (hF : Front (.quant false lo none (.chr q)) true F) (i j : Nat) (hij : i < j) (hj : j ≤ i + runLen e q i)
    (hfail : attempt e F false i = none) : attempt e F false j = none := by
  rw [attempt_eq_none_iff] at hfail ⊢
  exact List.prefix_nil.mp (hfail ▸ front_prefix_within_run e q lo i j [] (by omega) hj hF)

/-- the lazy loop: same statement when the loop is not inside an atomic group (the successes from
    `j` are then a subset, in a different order, of those from `i`) -/
theorem bumpalong_sound_lazy (e : Env) (q : Pred) (lzy : Bool) (lo : Nat) (F : Pat)
    (hF : Front (.quant lzy lo none (.chr q)) false F) (i j : Nat) (hij : i < j) (hj : j ≤ i + runLen e q i)
    (hfail : attempt e F false i = none) : attempt e F false j = none := by
  rw [attempt_eq_none_iff] at hfail ⊢
  cases hm : m e F false ⟨j, []⟩ with
  | nil => rfl
  | cons y ys =>
    have := front_subset_within_run e q lzy lo i j [] (by omega) hj hF y (by rw [hm]; simp)
    rw [hfail] at this; cases this

/-- the plain form: `p = L k` -/
theorem bumpalong_sound_seq (e : Env) (q : Pred) (lzy : Bool) (lo : Nat) (k : Pat) (i j : Nat)
    (hij : i < j) (hj : j ≤ i + runLen e q i)
    (hfail : attempt e (.seq (.quant lzy lo none (.chr q)) k) false i = none) :
    attempt e (.seq (.quant lzy lo none (.chr q)) k) false j = none :=
  bumpalong_sound_lazy e q lzy lo _ (.seq k .here) i j hij hj hfail

/-- scan level: after a failed attempt at `i` the search may resume anywhere up to one past the
    run (the interpreter resumes at `i + run + 1`, or at `i + 1` if the run is empty) -/
theorem bumpalong_find (e : Env) (q : Pred) (lo : Nat) (F : Pat)
    (hF : Front (.quant false lo none (.chr q)) true F) (i s : Nat) (his : i < s) (hs : s ≤ i + runLen e q i + 1)
    (hfail : attempt e F false i = none) : find e F false (i + 1) = find e F false s :=
  find_skip e F i s his (fun j h1 h2 => bumpalong_sound e q lo F hF i j h1 (by omega) hfail)

/-- `a+b` on "aaac": the attempt at 0 fails, so do those at 1, 2, 3 -/
example : attempt (env [97, 97, 97, 99]) (.seq (plus 97) (lit 98)) false 0 = none
    ∧ runLen (env [97, 97, 97, 99]) (.one 97 false) 0 = 3 := by decide +kernel

example : attempt (env [97, 97, 97, 99]) (.seq (plus 97) (lit 98)) false 2 = none :=
  bumpalong_sound (env [97, 97, 97, 99]) (.one 97 false) 1 _ (.seq _ .here) 0 2 (by decide) (by decide) (by decide)

/-- the marker itself is `Empty` for the specification (the tree → `Pat` conversion of the harness
    maps `UpdateBumpalong` to `.empty`), and `Empty` in a concatenation is a no-op -/
theorem bumpalong_noop (e : Env) (l k : Pat) (rtl : Bool) (st : St) :
    m e (.seq l (.seq .empty k)) rtl st = m e (.seq l k) rtl st := by
  cases rtl <;> simp [m]

/-- **the lazy loop inside an atomic group is the exception** (fixed in /repo by "no bump-along
    marker after a lazy loop that sits inside an atomic group", 6711234): `(?>a+?b?)c` on "aabc" —
    the attempt at 0 fails (the group commits to "a"), the attempt at 1, inside the run "aa",
    succeeds with (1,3). -/
theorem bumpalong_lazy_in_atomic_counterexample :
    let p : Pat := .seq (.atomic (.seq (.quant true 1 none (lit 97)) (.quant false 0 (some 1) (lit 98)))) (lit 99)
    attempt (env [97, 97, 98, 99]) p false 0 = none
    ∧ runLen (env [97, 97, 98, 99]) (.one 97 false) 0 = 2
    ∧ attempt (env [97, 97, 98, 99]) p false 1 = some ⟨4, [(0, 1, 3)]⟩ := by decide +kernel

/-! ## 8. the certifier: tree.go's syntactic tests imply the semantic side conditions

`Model/AutoAtomic.lean` defines the syntactic side: `ks` (does a continuation fail / stay at the positions a loop
would give back — the case analysis of `canBeMadeAtomic`), `canAtomic` / `canAtomicLazy` / `canAtomicEnd` (`ks` read
for ONE loop and what follows it, the shape of a single `canBeMadeAtomic` call; the tree walk does not call them), and
`cert`/`certTop` (a walk over the un-rewritten and the rewritten tree that recognises every place where a loop became
atomic, a lazy loop was cut to its minimum or a construct was wrapped in Atomic, and checks every pending site
against each continuation it meets through `ks`).  The two oracle bits have the meaning `Oracle.Sound`: `disj p q` — no
rune satisfies both tests; `uni p` — the runes `p` accepts are all word characters or all non-word characters.  Leg Cz
evaluates `certTop` on the engine's own pair of trees with the bits computed from the engine's sets and Go's `unicode`
tables.  Of the environment sections 8–9 ask `o.Sound e` alone (`o0_sound` for the oracle that knows nothing); `TextOK`
is a hypothesis of §10 only. -/

open RegexVerif.AutoAtomic

/-- the oracle that knows nothing: only Lean's own rune comparisons are used -/
def o0 : Oracle := ⟨fun _ _ => false, fun _ => false⟩

theorem o0_sound (e : Env) : o0.Sound e :=
  ⟨fun _ _ h => (by cases h), fun _ h => (by cases h)⟩

/-- **the case analysis of `canBeMadeAtomic` is sound, "return true" cases**: a disjoint One/Notone/Set/Multi next, a
    loop with `M > 0` over one, `\z`, `$`/`\Z` with `'\n'` outside the loop's set, `\b` after a loop with `M > 0` over
    runes of one kind, looked at through Concatenate/Capture/Atomic/positive lookahead and through every branch of an
    alternation or conditional. -/
theorem ks_kills_sound {e : Env} {o : Oracle} (hs : o.Sound e) (s : Site) (k : Pat) (h : (ks o s k).1 = true) :
    Kills e (siteDead e s) k := (ks_sound hs s k).1 h

/-- **… "goto end" cases**: when `ks` says `k` *stays* (a loop with `M == 0` over a disjoint
    character, a boundary, Empty, a lookaround), `k` can only succeed without moving from such a
    position — so what follows `k` is again at a position the loop would give back. -/
theorem ks_stays_sound {e : Env} {o : Oracle} (hs : o.Sound e) (s : Site) (k : Pat) (h : (ks o s k).2 = true) :
    Stays e (siteDead e s) k := (ks_sound hs s k).2 h

/-- `[ab]*` in front of `(?:c|d+)x`: every branch fails in front of `a`/`b` (rune comparisons only) -/
example : (ks o0 (.acc (.one 97 false)) (.seq (.alt (lit 99) (plus 100)) (lit 120))).1 = true := by decide +kernel
/-- in front of `b*` it only stays -/
example : ks o0 (.acc (.one 97 false)) (star 98) = (false, true) := by decide +kernel
/-- in front of `a` neither -/
example : ks o0 (.acc (.one 97 false)) (lit 97) = (false, false) := by decide +kernel

/-- a continuation that `totalS` accepts always has a success (`b*`, Empty, `(?:x|)`, …) -/
theorem totalS_total (e : Env) (k : Pat) (h : totalS k = true) (st : St) : m e k false st ≠ [] :=
  totalS_sound e k h st

example : totalS (.seq (star 98) (.alt (lit 120) .empty)) = true := by decide +kernel

/-- the decision implies the side condition of the auto-atomic laws (for `lo = 0` it is
    `StartsOutside`, the hypothesis of `loop_atomic_disjoint`: `canAtomic_startsOutside`; for `lo ≥ 1` the dead
    positions are those between two runes the loop accepts). -/
theorem canAtomic_sound {e : Env} {o : Oracle} (hs : o.Sound e) (loopPred : Pred) (lo : Nat) (subsequent : Pat)
    (rest : List Pat) (h : canAtomic o loopPred lo subsequent rest = true) :
    Kills e (siteDead e (loopSite loopPred lo)) (seqOf (subsequent :: rest)) :=
  contKills_sound hs _ _ h

theorem canAtomic_startsOutside {e : Env} {o : Oracle} (hs : o.Sound e) (loopPred : Pred) (subsequent : Pat)
    (rest : List Pat) (h : canAtomic o loopPred 0 subsequent rest = true) :
    StartsOutside e loopPred (seqOf (subsequent :: rest)) := by
  intro st hd
  exact canAtomic_sound hs loopPred 0 subsequent rest h st (by simpa [loopSite, siteDead] using hd)

/-- **a greedy loop the decision accepts may be made atomic**: the concatenation with everything
    that follows has the same ordered successes (`processNode`, `case NtOneloop, NtNotoneloop,
    NtSetloop`) -/
theorem canAtomic_greedy {e : Env} {o : Oracle} (hs : o.Sound e) (p : Pred) (lo : Nat) (hi : Option Nat)
    (subsequent : Pat) (rest : List Pat) (h : canAtomic o p lo subsequent rest = true) (st : St) :
    m e (.seq (.quant false lo hi (.chr p)) (seqOf (subsequent :: rest))) false st
      = m e (.seq (.atomic (.quant false lo hi (.chr p))) (seqOf (subsequent :: rest))) false st :=
  (charloop_eqMod_site e p lo hi).seq_kill _ (canAtomic_sound hs p lo subsequent rest h) st

/-- **a lazy loop the decision accepts may be made the atomic greedy loop** (`case NtOnelazy, …`:
    "lazy to greedy") -/
theorem canAtomic_lazy {e : Env} {o : Oracle} (hs : o.Sound e) (p : Pred) (lo : Nat) (hi : Option Nat)
    (subsequent : Pat) (rest : List Pat) (h : canAtomicLazy o p subsequent rest = true) (st : St) :
    m e (.seq (.quant true lo hi (.chr p)) (seqOf (subsequent :: rest))) false st
      = m e (.seq (.atomic (.quant false lo hi (.chr p))) (seqOf (subsequent :: rest))) false st :=
  (lazy_charloop_eqMod_atomic e p lo hi).seq_kill _ (contKills_sound hs (.acc p) _ h) st

/-- `a*b*c`: `a*` against `b*` then `c` (the `iterateNullableSubsequent` walk) -/
example : canAtomic o0 (.one 97 false) 0 (star 98) [lit 99] = true := by decide +kernel
/-- `a*b*a`: no -/
example : canAtomic o0 (.one 97 false) 0 (star 98) [lit 97] = false := by decide +kernel
/-- `a+\b-`: a loop with minimum 1 in front of `\b`, whatever follows -/
example : canAtomic o0 (.one 97 false) 1 (.anchor .boundary) [lit 45] = true := by decide +kernel
/-- `a*\b`: not with minimum 0 (`n.M > 0`) -/
example : canAtomic o0 (.one 97 false) 0 (.anchor .boundary) [] = false := by decide +kernel
/-- the instance on a text: `a*b*c` on "aabc" -/
example : m (env [97, 97, 98, 99]) (.seq (star 97) (seqOf [star 98, lit 99])) false st0
    = m (env [97, 97, 98, 99]) (.seq (.atomic (star 97)) (seqOf [star 98, lit 99])) false st0 :=
  canAtomic_greedy (o0_sound _) _ 0 none _ _ (by decide) st0

/-- **at the end of the pattern** (`canBeMadeAtomic`: `parent == nil … return true`): when every item
    up to the end either fails at the given-back positions or stays there and always succeeds, the
    loop may be made atomic as far as the first success — all that `find` observes — is concerned
    (`a*b*` ⇒ `(?>a*)b*`; the full lists differ). -/
theorem canAtomicEnd_sound {e : Env} {o : Oracle} (hs : o.Sound e) (p : Pred) (lo : Nat) (hi : Option Nat)
    (rest : List Pat) (h : canAtomicEnd o p lo rest = true) :
    HeadEq e false (.seq (.quant false lo hi (.chr p)) (seqOf rest)) (.seq (.atomic (.quant false lo hi (.chr p))) (seqOf rest)) := by
  have hE := charloop_eqMod_site e p lo hi
  rcases contEnd_sound hs _ rest h with hk | ⟨_, ht⟩
  · exact headEq_seq_step _ hE (Or.inr hk)
  · exact headEq_seq_step _ hE (Or.inl ⟨headEq_atomic e false _, ht⟩)

example : canAtomicEnd o0 (.one 97 false) 0 [star 98] = true := by decide +kernel
/-- `a*b*` on "aab": the lists differ, the heads agree -/
example : m (env [97, 97, 98]) (.seq (star 97) (star 98)) false st0 = [⟨3, []⟩, ⟨2, []⟩, ⟨1, []⟩, ⟨0, []⟩]
    ∧ m (env [97, 97, 98]) (.seq (.atomic (star 97)) (star 98)) false st0 = [⟨3, []⟩, ⟨2, []⟩] := by decide +kernel

/-- **KF2, the negative result.**  The condition `subsequent.T == NtNonboundary && n.M > 0 &&
    !IsWordChar(n.Ch)` of `canBeMadeAtomic` (and its Set variants for `\W`, `\D`) is NOT a sound
    reason: there is an environment, a loop over a non-word rune with minimum 1 and the
    continuation `\B` for which the atomic loop changes the result. -/
theorem nonboundary_rule_unsound :
    ¬ ∀ (e : Env) (p : Pred) (lo : Nat) (hi : Option Nat), 1 ≤ lo → (∀ r, p.test e r = true → e.isWord r = false) →
      ∀ st, m e (.seq (.quant false lo hi (.chr p)) (.anchor .nonboundary)) false st
        = m e (.seq (.atomic (.quant false lo hi (.chr p))) (.anchor .nonboundary)) false st := by
  intro h
  have := h (env [45, 45, 98]) (.one 45 false) 1 none (by decide)
    (fun r hr => by
      simp only [Pred.test, Bool.false_eq_true, if_false, beq_iff_eq] at hr
      subst hr; decide) st0
  rw [show Pat.seq (.quant false 1 none (.chr (.one 45 false))) (.anchor .nonboundary) = .seq (plus 45) (.anchor .nonboundary) from rfl,
    show Pat.seq (.atomic (.quant false 1 none (.chr (.one 45 false)))) (.anchor .nonboundary) = .seq (.atomic (plus 45)) (.anchor .nonboundary) from rfl,
    kf2_nonword_loop_before_nonboundary.1, kf2_nonword_loop_before_nonboundary.2] at this
  cases this

/-- … and therefore `ks` has no such case: `\B` never discharges a site, whatever the oracle says
    (it only stays) — -/
theorem nonboundary_never_kills (o : Oracle) (s : Site) : ks o s (.anchor .nonboundary) = (false, true) := by
  cases s <;> rfl

/-- — so the engine's decision `-+\B` ⇒ `(?>-+)\B` (and every decision of that shape) is rejected
    by the certifier under every oracle; leg Cz files these under the known finding KF2. -/
theorem kf2_not_certified (o : Oracle) :
    certTop o (.seq (plus 45) (.anchor .nonboundary)) (.seq (.atomic (plus 45)) (.anchor .nonboundary)) = false := by
  rfl

/-- but `-+\Bx` ⇒ `(?>-+)\Bx` is fine (and certified): after `\B` comes something that fails -/
example : certTop o0 (.seq (plus 45) (.seq (.anchor .nonboundary) (lit 120)))
    (.seq (.atomic (plus 45)) (.seq (.anchor .nonboundary) (lit 120))) = true := by decide +kernel

/-- **the tree walk is sound**: the invariant; `auto_atomic_certified` and `auto_atomic_certified_dir` below are what
    it gives for whole patterns.  First conjunct: the same ordered successes except at a dead position of a site
    still pending; second: when the result says so, the same first success. -/
theorem cert_holds {e : Env} {o : Oracle} (hs : o.Sound e) (p : Pat) (d : Bool) (p' : Pat)
    (h : (cert o d p p').errs = []) :
    EqMod e (dead e (cert o d p p').sites) d p p' ∧ ((cert o d p p').head = true → HeadEq e d p p') :=
  cert_sound hs p d p' h

/-- no site pending: the two trees are interchangeable in every context -/
theorem cert_equal {e : Env} {o : Oracle} (hs : o.Sound e) (p : Pat) (d : Bool) (p' : Pat)
    (h : (cert o d p p').errs = []) (hsites : (cert o d p p').sites = []) (st : St) :
    m e p d st = m e p' d st :=
  (cert_sound hs p d p' h).eq hsites st

/-- `(x a*|c*)b` ⇒ `(x(?>a*)|(?>c*))b`: two sites, both discharged by `b` -/
example : (cert o0 false (.seq (.cap 1 (.alt (.seq (lit 120) (star 97)) (star 99))) (lit 98))
    (.seq (.cap 1 (.alt (.seq (lit 120) (.atomic (star 97))) (.atomic (star 99)))) (lit 98))).sites = [] := by decide +kernel

/-- Same match, same captures from every start.  Everything `findAndMakeLoopsAtomic`
    and `eliminateEndingBacktracking` did to the tree — loops made atomic in front of what `canBeMadeAtomic`
    accepted, lazy loops made greedy atomic, ending constructs made atomic or cut to their minimum, inside captures,
    alternations, conditionals, atomic groups, lookarounds and loop bodies — is covered by the one hypothesis
    `certTop o p p' = true`, which leg Cz evaluates on the engine's own trees. -/
theorem auto_atomic_certified {e : Env} {o : Oracle} (hs : o.Sound e) {p p' : Pat} (h : certTop o p p' = true)
    (start : Nat) : find e p false start = find e p' false start :=
  find_congr_head (certTopDir_headEq (d := false) hs h) start

/-- the same for either direction of the pattern (`RegexOptions.RightToLeft`): right-to-left only
    the tail-position rewrites are certified — the first factor of a concatenation is the one
    evaluated last (`atomic_at_end_rtl`) -/
theorem auto_atomic_certified_dir {e : Env} {o : Oracle} (hs : o.Sound e) {rtl : Bool} {p p' : Pat}
    (h : certTopDir o rtl p p' = true) (start : Nat) : find e p rtl start = find e p' rtl start :=
  find_congr_head (certTopDir_headEq hs h) start

/-- right-to-left `a*b` ⇒ `(?>a*)b` is certified (the loop runs last), `ab*` ⇒ `a(?>b*)` is not -/
example : certTopDir o0 true (.seq (star 97) (lit 98)) (.seq (.atomic (star 97)) (lit 98)) = true
    ∧ certTopDir o0 true (.seq (lit 97) (star 98)) (.seq (lit 97) (.atomic (star 98))) = false := by decide +kernel

/-- `a*?b(?:c+|d*)` ⇒ `(?>a*)b(?>(?>c+)|(?>d*))` (lazy to greedy, ending loops, wrapped alternation) -/
example : certTop o0
    (.seq (lazyStar 97) (.seq (lit 98) (.alt (plus 99) (star 100))))
    (.seq (.atomic (star 97)) (.seq (lit 98) (.atomic (.alt (.atomic (plus 99)) (.atomic (star 100)))))) = true := by decide +kernel

/-- the loop-body rule: `(?:ca a*){2}x` ⇒ `(?:ca(?>a*)){2}x` -/
example : certTop o0
    (.seq (.quant false 2 (some 2) (.seq (lit 99) (.seq (lit 97) (star 97)))) (lit 120))
    (.seq (.quant false 2 (some 2) (.seq (lit 99) (.seq (lit 97) (.atomic (star 97))))) (lit 120)) = true := by decide +kernel

/-- what the defect D8 of DESIGN.md §1.3 (a missing `!` on `MayOverlap` in `canBeMadeAtomic`, repaired in /repo)
    did — `[ab]*` made atomic in front of `[bc]*c` — is rejected unless the oracle claims the two sets are
    disjoint, which a sound oracle cannot -/
example : certTop o0
    (.seq (.quant false 0 none (.chr (.set (.base false [(97, 98)] []) false))) (.seq (.quant false 0 none (.chr (.set (.base false [(98, 99)] []) false))) (lit 99)))
    (.seq (.atomic (.quant false 0 none (.chr (.set (.base false [(97, 98)] []) false)))) (.seq (.quant false 0 none (.chr (.set (.base false [(98, 99)] []) false))) (lit 99))) = false := by decide +kernel

example : find (env [120, 97, 97, 98]) (.seq (star 97) (lit 98)) false 0
    = find (env [120, 97, 97, 98]) (.seq (.atomic (star 97)) (lit 98)) false 0 :=
  auto_atomic_certified (o0_sound _) (by decide) 0

/-! ## 9. `eliminateEndingBacktracking` as a function -/

theorem endAtomic_wrapIf (e : Env) (c : Bool) (orig : Pat) {p q : Pat} (h : EndAtomic e false p q) :
    EndAtomic e false p (wrapIf c orig q) := by
  unfold wrapIf
  split
  · exact .trans h (.wrap _ _)
  · exact h

/-- What `eliminateEndingBacktracking` does to a left-to-right tree
    (`Model/AutoAtomic.lean`: `endAtomic`, a function mirroring the Go switch) is an instance of the
    rewrite relation `EndAtomic`, whatever the parent is: every trailing node it makes atomic, cuts to
    its minimum or wraps is in tail position. -/
theorem endAtomic_sound (e : Env) : ∀ (p : Pat) (pa : Bool), EndAtomic e false p (endAtomic pa p) := by
  intro p
  induction p with
  | quant lzy lo hi x ih =>
    intro pa
    unfold endAtomic
    split
    · rename_i q
      cases lzy with
      | false => exact .wrap _ _
      | true =>
        simp only [if_true]
        split
        · rename_i h1
          have hmin : EndAtomic e false (.quant true lo hi (.chr q)) (.quant true lo (some lo) (.chr q)) :=
            .lazyMin _ lo hi _ (canGo_of_hiAtLeast h1)
          split
          · rename_i h0
            subst h0
            exact .trans hmin (.ofEq (quant_zero_zero e true _ false))
          · exact .trans hmin (.trans (.ofEq (repeater_lazy_eq_greedy e q lo)) (.wrap _ _))
        · exact .refl _ _
    · by_cases hl : lzy = true ∧ hiAtLeast hi lo = true
      · obtain ⟨rfl, h1⟩ := hl
        simp only [h1, and_self, if_true]
        split
        · rename_i h2
          obtain rfl : lo = 1 := by simpa using h2
          exact .trans (.lazyMin _ 1 hi _ (canGo_of_hiAtLeast h1)) (.optional true 1 (ih false))
        · exact .lazyMin _ lo hi _ (canGo_of_hiAtLeast h1)
      · simp only [hl, if_false]
        split
        · rename_i h2
          rw [h2]
          exact .optional lzy lo (ih false)
        · exact .refl _ _
  | atomic x ih =>
    intro pa
    unfold endAtomic
    split
    · exact .refl _ _
    · exact .atomic (ih true)
  | look bh ng x ih =>
    intro pa
    cases bh with
    | false => rw [endAtomic]; exact .look false ng (ih false)
    | true => simp only [endAtomic]; exact .refl _ _
  | seq a b _ ihb =>
    intro pa
    unfold endAtomic
    split
    · exact .seqLtr a (ihb pa)
    · exact .seqLtr a (endAtomic_wrapIf e _ _ (ihb false))
  | cap g a ih => intro pa; rw [endAtomic]; exact .cap g (endAtomic_wrapIf e _ _ (ih false))
  | alt a b iha ihb => intro pa; rw [endAtomic]; exact .alt (iha false) (ihb false)
  | refCond g y n ihy ihn => intro pa; rw [endAtomic]; exact .refCond g (ihy false) (ihn false)
  | exprCond c y n _ ihy ihn => intro pa; rw [endAtomic]; exact .exprCond (.refl _ c) (ihy false) (ihn false)
  | _ => intro pa; exact .refl _ _

/-- … hence the whole pattern keeps its `find` result (`finalOptimize`:
    `rootNode.eliminateEndingBacktracking()` — at the root the implicit capture has no parent, so a
    top-level alternation or loop is wrapped too) -/
theorem endAtomicTop_find (e : Env) (p : Pat) (start : Nat) :
    find e p false start = find e (endAtomicTop p) false start :=
  end_atomic_find e (endAtomic_wrapIf e true p (endAtomic_sound e p false)) start

/-- `x(?:ab*|c+?)` ⇒ `x(?>a(?>b*)|c)`; `ab*?` ⇒ `a`+Empty; `a|b+` at the root is wrapped -/
example : endAtomicTop (.seq (lit 120) (.alt (.seq (lit 97) (star 98)) (.quant true 1 none (lit 99))))
    = .seq (lit 120) (.atomic (.alt (.seq (lit 97) (.atomic (star 98))) (.atomic (.quant false 1 (some 1) (lit 99))))) := by decide +kernel
example : endAtomicTop (.seq (lit 97) (lazyStar 98)) = .seq (lit 97) .empty := by decide +kernel
example : endAtomicTop (.alt (lit 97) (plus 98)) = .atomic (.alt (lit 97) (.atomic (plus 98))) := by decide +kernel
/-- inside an Atomic group the last alternation is not wrapped again -/
example : endAtomicTop (.atomic (.seq (lit 120) (.alt (lit 97) (star 98))))
    = .atomic (.seq (lit 120) (.alt (lit 97) (.atomic (star 98)))) := by decide +kernel

/-! ## 10. the DECISIONS of the remaining tree rewrites (`Model/RewriteDecisions.lean`, leg Rw)

Sections 4–7 are laws with semantic side conditions.  This section is about what tree.go DECIDES:
`Model/RewriteDecisions.lean` mirrors, on an n-ary copy `RNode` of the engine's reduced tree, the functions
`extractCommonPrefixText` (`factorText`), `extractCommonPrefixOneNotoneSet` (`factorSet`),
`reduceSingleLetterAndNestedAlternations` (`mergeLetters`), `removeRedundantEmptiesAndNothings`,
`reduceConcatenationWithAdjacentLoops` / `…Strings` (`coalesce`, `joinStrings`), `reduceAtomic` with its alternation
block and `makeLoopAtomic`, `reduceSet`, the alternation-wrapping part of `eliminateEndingBacktracking` (`endElim`) and
the placement of the bump-along marker (`placeBump`), with the side conditions the Go code tests.  `toPat` is the
denotation in `Spec.Pat`.  The theorems say that every one of these functions keeps `Spec.m` of the denotation; leg Rw
checks on every run that the functions compute what the engine computes (model tree = engine tree up to the
auto-atomic differences validated by `cert`).

`ll = false` is the variant proved here.  It leaves out the three cases that collapse DUPLICATE successes (merging
overlapping classes `a|a ⇒ [a]`, `a*a* ⇒ a*`, a second Empty branch) — there the list of successes changes although
its set and the order of first occurrences do not (`merge_overlapping_duplicates`, `loop_loop_duplicates`) — and, of
the adjacent-loop rules, proves "item · loop" (`aa* ⇒ a+`); the other rules are modelled (`ll = true`, tied by the leg)
but not proved: `coalesce_sound_partial`, `mergeLetters_sound_partial`. -/

open RegexVerif.RewriteDecisions

/-- concrete material: `abc|abd|x` as the engine stores it -/
def altAbcAbdX : RNode := .alt 0 [.multi 0 [97, 98, 99], .multi 0 [97, 98, 100], .chr 0 (.one 120)]

/-- an environment over real code points -/
theorem env_textOK (t : List Nat) (h : ∀ r ∈ t, r ≤ 0x10FFFF) : TextOK (env t) := h

/-- **`extractCommonPrefixText` is sound** (children reduced, left-to-right, parent not Atomic).  Side conditions as in
    Go: the branches of a run start with a One/Multi (directly or as first child of a Concatenate) with the same
    options word and share a non-empty prefix; the new inner alternation is reduced again (`reduceNode`). -/
theorem factorText_sound (e : Env) (ht : TextOK e) (on : Bool) (fuel : Nat) (o : Nat) (cs : List RNode) (st : St) :
    m e (toPat false (factorText (reduceNode false false on false fuel) false o cs)) false st
      = m e (toPat false (.alt o cs)) false st :=
  NEq.eq (nEq_factorText e _ (redSound_reduceNode e ht false on fuel) false o cs) st

/-- … and under an Atomic parent (`n.Parent.T == NtAtomic`: the new inner alternation is made atomic
    too) the atomic group keeps its successes -/
theorem factorText_sound_atomic (e : Env) (ht : TextOK e) (on : Bool) (fuel : Nat) (o : Nat) (cs : List RNode) (st : St) :
    m e (.atomic (toPat false (factorText (reduceNode false false on false fuel) true o cs))) false st
      = m e (.atomic (toPat false (.alt o cs))) false st :=
  atomic_eq_of_headEq (NEq.headEq (nEq_factorText e _ (redSound_reduceNode e ht false on fuel) true o cs)) st

/-- `abc|abd|x` ⇒ `ab[cd]|x` (prefix "ab" extracted, the rest merged into a set — which keeps the `Ch` of the
    One it grew from, `mergedOpts` —, the concatenation rebuilt) -/
example : RNode.same (reduceNode false false true false 10 false altAbcAbdX)
    (.alt 0 [.cat 0 [.multi 0 [97, 98], .chr (99 * 65536) (.set (.base false [(99, 100)] []))], .chr 0 (.one 120)]) = true := by decide +kernel

example : m (env [97, 98, 100]) (toPat false altAbcAbdX) false st0 = [⟨3, []⟩] := by decide +kernel

/-- **`extractCommonPrefixOneNotoneSet` is sound**: the branches of a run are Concatenates of at least two
    children whose first children are the SAME One/Notone/Set node or loop of one with `M == N`
    (type, options, M, N, rune, set all equal; with `fk` the kind of a fixed loop is not compared — see the
    example after `factorSet_sound_atomic`) -/
theorem factorSet_sound (e : Env) (ht : TextOK e) (fk on : Bool) (fuel : Nat) (o : Nat) (cs : List RNode) (st : St) :
    m e (toPat false (factorSet (reduceNode false fk on false fuel) fk false o cs)) false st
      = m e (toPat false (.alt o cs)) false st :=
  NEq.eq (nEq_factorSet e _ (redSound_reduceNode e ht fk on fuel) fk false o cs) st

theorem factorSet_sound_atomic (e : Env) (ht : TextOK e) (fk on : Bool) (fuel : Nat) (o : Nat) (cs : List RNode) (st : St) :
    m e (.atomic (toPat false (factorSet (reduceNode false fk on false fuel) fk true o cs))) false st
      = m e (.atomic (toPat false (.alt o cs))) false st :=
  atomic_eq_of_headEq (NEq.headEq (nEq_factorSet e _ (redSound_reduceNode e ht fk on fuel) fk true o cs)) st

/-- the second reduction of an alternation in tail position (`finalOptimize`: after `findAndMakeLoopsAtomic`)
    may see two fixed repeaters that differed in kind when the tree was built, e.g. `a{2}?$b*|a{2}b` with both
    loops made atomic: ignoring the kind of a loop with `M == N` (`fk = true`) factors them — `(?>a{2})(?>$b*|b)` —
    and that is sound because the kind of a fixed repeater has no meaning -/
example : RNode.same
    (reduceNode false true true false 10 true (.alt 0 [.cat 0 [.cloop 0 .lzy (.one 97) 2 (some 2), .anchor .endz, .cloop 0 .greedy (.one 98) 0 none],
      .cat 0 [.cloop 0 .greedy (.one 97) 2 (some 2), .chr 0 (.one 98)]]))
    (.cat 0 [.cloop 0 .lzy (.one 97) 2 (some 2), .atomic (.alt 0 [.cat 0 [.anchor .endz, .cloop 0 .greedy (.one 98) 0 none], .chr 0 (.one 98)])]) = true := by
  decide +kernel

example : RNode.same
    (reduceNode false false true false 10 true (.alt 0 [.cat 0 [.cloop 0 .lzy (.one 97) 2 (some 2), .anchor .endz, .cloop 0 .greedy (.one 98) 0 none],
      .cat 0 [.cloop 0 .greedy (.one 97) 2 (some 2), .chr 0 (.one 98)]]))
    (.alt 0 [.cat 0 [.cloop 0 .lzy (.one 97) 2 (some 2), .anchor .endz, .cloop 0 .greedy (.one 98) 0 none],
      .cat 0 [.cloop 0 .greedy (.one 97) 2 (some 2), .chr 0 (.one 98)]]) = true := by decide +kernel

/-- `a{2}x|a{2}y` is factored (`a{2}[xy]`), `a{2}x|a{3}y` and `a+x|a+y` are not -/
example : RNode.same
    (reduceNode false false true false 10 false (.alt 0 [.cat 0 [.cloop 0 .greedy (.one 97) 2 (some 2), .chr 0 (.one 120)],
      .cat 0 [.cloop 0 .greedy (.one 97) 2 (some 2), .chr 0 (.one 121)]]))
    (.cat 0 [.cloop 0 .greedy (.one 97) 2 (some 2), .chr (120 * 65536) (.set (.base false [(120, 121)] []))]) = true := by decide +kernel

example : RNode.same
    (reduceNode false false true false 10 false (.alt 0 [.cat 0 [.cloop 0 .greedy (.one 97) 2 (some 2), .chr 0 (.one 120)],
      .cat 0 [.cloop 0 .greedy (.one 97) 3 (some 3), .chr 0 (.one 121)]]))
    (.alt 0 [.cat 0 [.cloop 0 .greedy (.one 97) 2 (some 2), .chr 0 (.one 120)],
      .cat 0 [.cloop 0 .greedy (.one 97) 3 (some 3), .chr 0 (.one 121)]]) = true := by decide +kernel

example : RNode.same
    (reduceNode false false true false 10 false (.alt 0 [.cat 0 [.cloop 0 .greedy (.one 97) 1 none, .chr 0 (.one 120)],
      .cat 0 [.cloop 0 .greedy (.one 97) 1 none, .chr 0 (.one 121)]]))
    (.alt 0 [.cat 0 [.cloop 0 .greedy (.one 97) 1 none, .chr 0 (.one 120)],
      .cat 0 [.cloop 0 .greedy (.one 97) 1 none, .chr 0 (.one 121)]]) = true := by decide +kernel

/-- **`reduceSingleLetterAndNestedAlternations`, proved part**: nested alternations flattened, Nothing dropped, runs of
    One/Set branches merged into one Set (`canonicalize`d as the engine does) WHEN the two classes are category-free
    and disjoint.  For overlapping classes and classes with categories the statement is false as an equality —
    `merge_overlapping_duplicates`. -/
theorem mergeLetters_sound_partial (e : Env) (ht : TextOK e) (rtl : Bool) (o : Nat) (cs : List RNode) (st : St) :
    m e (toPat rtl (mkAlt o (mergeLetters false cs))) rtl st = m e (toPat rtl (.alt o cs)) rtl st :=
  NEq.eq ((aEq_mergeLetters e ht false rtl cs).mkAlt o o) st

/-- `a|(?:c|d)|xy|(?!)|b` ⇒ `[acd]|xy|b` -/
example : RNode.same
    (mkAlt 0 (mergeLetters false [.chr 0 (.one 97), .alt 0 [.chr 0 (.one 99), .chr 0 (.one 100)], .multi 0 [120, 121], .nothing,
      .chr 0 (.one 98)]))
    (.alt 0 [.chr (97 * 65536) (.set (.base false [(97, 97), (99, 100)] [])), .multi 0 [120, 121], .chr 0 (.one 98)]) = true := by decide +kernel

/-- why the overlapping case is excluded: `a|a` has its success twice, `[a]` once — no context can tell
    (the later duplicate leads to the same continuation), but the lists differ -/
theorem merge_overlapping_duplicates :
    m (env [97]) (toPat false (.alt 0 [.chr 0 (.one 97), .chr 0 (.one 97)])) false st0 = [⟨1, []⟩, ⟨1, []⟩]
    ∧ m (env [97]) (toPat false (mkAlt 0 (mergeLetters true [.chr 0 (.one 97), .chr 0 (.one 97)]))) false st0 = [⟨1, []⟩] := by
  decide +kernel

/-- **`reduceConcatenationWithAdjacentStrings` is sound** (both directions): nested Concatenates of the same
    direction spliced, adjacent One/Multi joined (right-to-left: the later child's text in front), Empty dropped -/
theorem joinStrings_sound (e : Env) (rtl : Bool) (o : Nat) (cs : List RNode) (st : St) :
    m e (toPat rtl (mkCat o (joinStrings rtl cs))) rtl st = m e (toPat rtl (.cat o cs)) rtl st := by
  rw [m_mkCat, m_cat]; exact catEq_joinStrings e rtl cs st

/-- **`reduceConcatenationWithAdjacentLoops`, proved part**: "an individual item with a loop" — `x·x{m,n}` ⇒
    `x{m+1,n+1}` for One/Notone/Set, greedy, lazy and atomic loops, same options word, left-to-right.
    Modelled but not proved: loop·loop, loop·item, loop·Multi prefix, item·item (`coalesce true`); the first
    of them is not an equality of success lists — `loop_loop_duplicates`. -/
theorem coalesce_sound_partial (e : Env) (rtl : Bool) (cs : List RNode) (st : St) :
    mc e rtl (coalesce false rtl cs) st = mc e rtl cs st := catEq_coalesce e rtl cs st

/-- `aa*b` ⇒ `a+b` -/
example : RNode.same (reduceCat false false 0 [.chr 0 (.one 97), .cloop 0 .greedy (.one 97) 0 none, .chr 0 (.one 98)])
    (.cat 0 [.cloop 0 .greedy (.one 97) 1 none, .chr 0 (.one 98)]) = true := by decide +kernel

theorem loop_loop_duplicates :
    m (env [97]) (toPat false (.cat 0 [.cloop 0 .greedy (.one 97) 0 none, .cloop 0 .greedy (.one 97) 0 none])) false st0
        = [⟨1, []⟩, ⟨1, []⟩, ⟨0, []⟩]
    ∧ m (env [97]) (toPat false (reduceCat true false 0 [.cloop 0 .greedy (.one 97) 0 none, .cloop 0 .greedy (.one 97) 0 none])) false st0
        = [⟨1, []⟩, ⟨0, []⟩] := by decide +kernel

/-- **`reduceConcatenation` (proved variant) is sound**: 0/1 children, a Nothing child, the two passes above -/
theorem reduceCat_sound (e : Env) (rtl : Bool) (o : Nat) (cs : List RNode) (st : St) :
    m e (toPat rtl (reduceCat false rtl o cs)) rtl st = m e (toPat rtl (.cat o cs)) rtl st :=
  RewriteDecisions.reduceCat_sound e rtl o cs st

/-- **`reduceSet` is sound**: a singleton set is One, an inverse singleton Notone -/
theorem reduceSet_sound (e : Env) (o : Nat) (p : CP) (rtl : Bool) (st : St) :
    m e (toPat rtl (.chr o (reduceCP p))) rtl st = m e (toPat rtl (.chr o p)) rtl st := reduceCP_chr e o p rtl st

example : reduceCP (.set (.base true [(97, 97)] [])) = .notone 97 := by decide +kernel

/-- **`reduceAtomic` (proved variant) is sound**: nested Atomic nodes, Empty/Nothing, `makeLoopAtomic` (a lazy loop
    becomes the repeater of its minimum, Empty, or a Multi of 2…64 equal runes), and for an alternation child,
    left-to-right: first branch Empty ⇒ Empty; branches after an Empty branch dropped; every run of at least three
    branches that start with a One/Multi regrouped by first rune (stable), the alternation then reduced again with
    the Atomic parent. -/
theorem reduceAtomic_sound (e : Env) (ht : TextOK e) (on rtl : Bool) (fuel : Nat) (b : RNode) (st : St) :
    m e (toPat rtl (reduceAtomic (reduceNode false false on rtl fuel) false on rtl (.atomic b))) rtl st
      = m e (toPat rtl (.atomic b)) rtl st :=
  RewriteDecisions.reduceAtomic_sound e _ on rtl
    (fun h => by subst h; exact redSound_reduceNode e ht false on fuel) b st

/-- `(?>hi|there|hello)` ⇒ `(?>h(?>i|ello)|there)`; `(?>a||c)` ⇒ `(?>a|)`; `(?>|a)` ⇒ Empty -/
example : RNode.same
    (reduceNode false false true false 10 false (.atomic (.alt 0 [.multi 0 [104, 105], .multi 0 [116, 104, 101, 114, 101], .multi 0 [104, 101, 108, 108, 111]])))
    (.atomic (.alt 0 [.cat 0 [.chr 0 (.one 104), .atomic (.alt 0 [.chr 0 (.one 105), .multi 0 [101, 108, 108, 111]])],
      .multi 0 [116, 104, 101, 114, 101]])) = true := by decide +kernel

example : RNode.same (reduceNode false false true false 10 false (.atomic (.alt 0 [.chr 0 (.one 97), .empty, .chr 0 (.one 99)])))
    (.atomic (.alt 0 [.chr 0 (.one 97), .empty])) = true := by decide +kernel

example : RNode.same (reduceNode false false true false 10 false (.atomic (.alt 0 [.empty, .chr 0 (.one 97)]))) .empty = true := by decide +kernel

/-- the reordering alone (any run of branches that all start with a One/Multi): same ordered successes,
    with or without the Atomic node — branches with a different first rune fail -/
theorem atomicAlt_reorder_sound (e : Env) (bs : List RNode) (st : St) :
    mA e false (reorder bs).1 st = mA e false bs st := by
  have := aEq_reorder e bs st
  simpa [LRel] using this

/-- **one `reduce()` is sound** (proved variant): the same successes, or — for an alternation whose parent is
    an Atomic node — the same first success -/
theorem reduceNode_sound (e : Env) (ht : TextOK e) (fk on rtl : Bool) (fuel : Nat) (n : RNode) (st : St) :
    m e (toPat rtl (reduceNode false fk on rtl fuel false n)) rtl st = m e (toPat rtl n) rtl st :=
  NEq.eq (RewriteDecisions.reduceNode_sound e ht fk on rtl fuel false n) st

theorem reduceNode_sound_atomic_parent (e : Env) (ht : TextOK e) (fk on rtl : Bool) (fuel : Nat) (n : RNode) :
    HeadEq e rtl (toPat rtl (reduceNode false fk on rtl fuel true n)) (toPat rtl n) :=
  NEq.headEq (RewriteDecisions.reduceNode_sound e ht fk on rtl fuel true n)

/-- **the bottom-up pass is sound**: `reduceAll` (children first, then `reduce()` of the node, the ending walk inside
    Atomic nodes, lookarounds and conditions), in either direction, in every context -/
theorem reduceAll_sound (e : Env) (ht : TextOK e) (on dg : Bool) (fuel : Nat) (n : RNode) (rtl : Bool) (st : St) :
    m e (toPat rtl (reduceAll false on dg fuel rtl false n)) rtl st = m e (toPat rtl n) rtl st :=
  NEq.eq (RewriteDecisions.reduceAll_sound e ht on dg fuel n rtl false) st

/-- **the ending walk keeps the first success**: the constructs in tail position wrapped in Atomic, an alternation
    there reduced again as an atomic alternation (prefix factoring with atomic inner alternations, trimming,
    reordering) -/
theorem endElim_keeps_first (e : Env) (ht : TextOK e) (fk : Bool) (fuel f : Nat) (rtl pa w : Bool) (n : RNode) :
    HeadEq e rtl (toPat rtl (endElim (reduceNode false fk true rtl fuel) f rtl pa w n)) (toPat rtl n) :=
  endElim_headEq_reduceNode e ht fk true fuel f rtl pa w n

/-- `x(?:a||c)` ⇒ `x(?>a|)`: in tail position the alternation becomes atomic and loses the branch after Empty -/
example : RNode.same (rewriteTop false false true 12 false (.cat 0 [.chr 0 (.one 120), .alt 0 [.chr 0 (.one 97), .empty, .chr 0 (.one 99)]]))
    (.cat 0 [.chr 0 (.one 120), .atomic (.alt 0 [.chr 0 (.one 97), .empty])]) = true := by decide +kernel

/-- **the model of the gated rewrites keeps `find`**: for every tree, direction, start position -/
theorem rewrites_keep_find (e : Env) (ht : TextOK e) (fk dg : Bool) (fuel : Nat) (rtl : Bool) (n : RNode) (start : Nat) :
    find e (toPat rtl (rewriteTop false fk dg fuel rtl n)) rtl start = find e (toPat rtl n) rtl start :=
  find_congr_head (rewriteTop_headEq e ht fk dg fuel rtl n) start

/-- **the extended translation validator**: `n` the engine's tree with the rewrites off, `p'` its tree with the
    rewrites on.  If `cert` accepts the pair (the model's rewrites applied to `n`, `p'`) — the engine's tree is what the
    model decides, up to auto-atomic / ending differences that are themselves justified — both trees give the same
    `find` result from every start.  Leg Rw evaluates exactly this hypothesis on the engine's pairs of trees. -/
theorem rewrites_certified {e : Env} {o : AutoAtomic.Oracle} (hs : o.Sound e) (ht : TextOK e) (fk dg : Bool) (fuel : Nat)
    (rtl : Bool) (n : RNode) (p' : Pat)
    (h : AutoAtomic.certTopDir o rtl (toPat rtl (rewriteTop false fk dg fuel rtl n)) p' = true) (start : Nat) :
    find e (toPat rtl n) rtl start = find e p' rtl start :=
  (rewrites_keep_find e ht fk dg fuel rtl n start).symm.trans (auto_atomic_certified_dir hs h start)

/-- `x(?:ab|ac)`: the model's rewriting is `xa[bc]`, and `cert` accepts it against a tree of that shape -/
example : AutoAtomic.certTopDir o0 false
    (toPat false (rewriteTop false false true 12 false (.cat 0 [.chr 0 (.one 120), .alt 0 [.multi 0 [97, 98], .multi 0 [97, 99]]])))
    (.seq (.seq (lit 120) (lit 97)) (.chr (.set (.base false [(98, 99)] []) false))) = true := by decide +kernel

/-- **placing the bump-along marker changes no success** (the marker is Empty for the specification) -/
theorem placeBump_sound (e : Env) (rtl : Bool) (n : RNode) (ia ab : Bool) (st : St) :
    m e (toPat rtl (placeBump ia ab n)) rtl st = m e (toPat rtl n) rtl st :=
  RewriteDecisions.placeBump_sound e rtl n ia ab st

/-- **where `finalOptimize` puts the marker, resuming the scan after the loop's run is sound**: the walk (through
    Atomic nodes and first children of Concatenates) ends at an unbounded single-character loop that is the first
    child of a Concatenate — greedy or atomic anywhere, lazy only outside every Atomic group (`bumpalong_sound`,
    `bumpalong_sound_lazy`). -/
theorem bump_marker_sound (e : Env) (n : RNode) (k : LK) (p : CP) (lo : Nat)
    (hsite : bumpSite false true n = some (k, p, lo)) (i j : Nat) (hij : i < j) (hj : j ≤ i + runLen e p.pred i)
    (hfail : attempt e (toPat false n) false i = none) : attempt e (toPat false n) false j = none := by
  obtain ⟨hF, hl⟩ := bumpSite_front n false true k p lo hsite
  cases k with
  | greedy => exact bumpalong_sound e p.pred lo _ hF i j hij hj hfail
  | atomic => exact bumpalong_sound e p.pred lo _ hF i j hij hj hfail
  | lzy => exact bumpalong_sound_lazy e p.pred true lo _ hF i j hij hj hfail

/-- `(?>a+)b` gets the marker, `(?>a+?b?)c` (lazy inside Atomic) does not -/
example : RNode.same (placeBump false true (.cat 0 [.cloop 0 .atomic (.one 97) 1 none, .chr 0 (.one 98)]))
    (.cat 0 [.cloop 0 .atomic (.one 97) 1 none, .bump, .chr 0 (.one 98)]) = true := by decide +kernel

example : bumpSite false true (.cat 0 [.atomic (.cat 0 [.cloop 0 .lzy (.one 97) 1 none, .cloop 0 .greedy (.one 98) 0 (some 1)]), .chr 0 (.one 99)])
    = none := by decide +kernel

example : bumpSite false true (.cat 0 [.cloop 0 .lzy (.one 97) 1 none, .chr 0 (.one 98)]) = some (.lzy, .one 97, 1) := by decide +kernel

end RegexVerif.Props.C05
