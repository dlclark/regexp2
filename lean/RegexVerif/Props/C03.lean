/-
C03 — search acceleration never loses, adds or moves a match.

Model: `RegexVerif.Scan` mirrors `Runner.scan` over an abstract single-position attempt, an abstract
candidate finder and an abstract bump-along update (Model/Scan.lean).  The theorems say when the
accelerated scan is the naive scan, and reduce the soundness of every fact-driven candidate finder to
the truth of the fact at real matches (which is property C04).  Oracle N (leg of this property)
compares the real accelerated find with the naive-scan hook on the engine itself.

From `finder_noSearch_sound` on: the candidate finders of runner.go one by one.
Model/Finders.lean mirrors `findFirstCharDefault` and every helper it dispatches to as executable
functions of (published facts, input, position); each `finder_*_sound` derives the soundness of one
finder from the fact it consumes, stated in the form in which C04 delivers it; `finder_default_sound`
follows the dispatch; `findFirstChar_scan_eq_naive` composes with the scan-loop theorem:
facts sound (C04) ⇒ finder sound ⇒ scan = naive.  Leg Fm compares each modelled finder with the real
one (`VerifFindFirstChar`) at every position of generated inputs.  For three find modes the chain is closed down
to the specification's own attempt (`spec_trailingEnd_finder_sound`, `spec_landmarkChain_finder_sound`,
`spec_literalAfterLoop_finder_sound`).

Then the searches the finders rest on, each as the Go code runs it: the Boyer-Moore prefix (`bm_*`: the tables of
`newBmPrefix`, `Scan`, `IsMatch`; Model/BoyerMoore.lean), the raw-string prefix filters of `stringprefixfilter.go`
that run on the undecoded bytes before a string entry point decodes its input (`stringFilter_*`;
Model/StringFilter.lean), and the rune-slice loops of `helpers/indexof.go` (`indexOf*_spec`, …, and the finders over
the mirrored calls, `finder_*_uses_*`; Model/IndexOf.lean).
-/
import RegexVerif.Lemmas.Scan
import RegexVerif.Lemmas.Finders
import RegexVerif.Lemmas.BoyerMooreScan
import RegexVerif.Lemmas.StringFilter
import RegexVerif.Lemmas.IndexOf
import RegexVerif.Props.C04

namespace RegexVerif.Props.C03
open RegexVerif.Scan RegexVerif.Lemmas.Scan

/-- **Acceleration is transparent.**  With a candidate finder and a bump-along update that only skip positions at
    which the program fails, and a minimum length that holds at every successful attempt, `Runner.scan` returns
    what the naive scan returns: the first successful attempt in scan order, resuming at the match's end. -/
theorem acceleration_transparent (finder : Nat → Bool × Nat) (after : Nat → Nat) (attempt : Nat → Option (Nat × Nat))
    (rtl : Bool) (n L : Nat)
    (hS : AttemptShape rtl n attempt) (hF : FinderSound rtl n finder attempt)
    (hA : AfterSound rtl n after attempt) (hM : MinLenSound rtl n L attempt)
    (start : Nat) (prevLen : Int) (hstart : start ≤ n) :
    scan finder after attempt start prevLen rtl n L = (naive attempt start prevLen rtl n).map (Hit.ofSpan rtl) :=
  scan_eq_naive finder after attempt rtl n L hS hF hA hM start prevLen hstart

/-- The shape of every fact-driven candidate finder: jump to the first position in scan order at
    which a *necessary condition* `C` of a match holds (the leading prefix occurs here; the rune at
    the fixed offset is in the set; the literal follows the leading loop; …). -/
def condFinder (C : Nat → Bool) (rtl : Bool) (n pos : Nat) : Bool × Nat :=
  match (scanOrder rtl n pos).find? C with
  | some q => (true, q)
  | none => (false, stopPos rtl n)

theorem find?_scanOrder_spec (C : Nat → Bool) (rtl : Bool) (n pos : Nat) :
    match (scanOrder rtl n pos).find? C with
    | some q => C q = true ∧ q ∈ scanOrder rtl n pos ∧
        ∀ p, p ∈ scanOrder rtl n pos → (if rtl then q < p else p < q) → C p = false
    | none => ∀ p, p ∈ scanOrder rtl n pos → C p = false := by
  -- the positions are listed in scan order
  have hsorted : (scanOrder rtl n pos).Pairwise fun a b => if rtl then b < a else a < b := by
    cases rtl
    · exact List.pairwise_lt_range'
    · exact List.pairwise_reverse.mpr List.pairwise_lt_range
  cases hf : (scanOrder rtl n pos).find? C with
  | none => exact fun p hp => by simpa using List.find?_eq_none.mp hf p hp
  | some q =>
    obtain ⟨hq, as, bs, hl, has⟩ := List.find?_eq_some_iff_append.mp hf
    rw [hl] at hsorted ⊢
    refine ⟨hq, by simp, fun p hp hlt => ?_⟩
    rcases List.mem_append.mp hp with h | h
    · simpa using has p h
    · rcases List.mem_cons.mp h with rfl | h
      · cases rtl <;> simp at hlt
      · have := (List.pairwise_cons.mp (List.pairwise_append.mp hsorted).2.1).1 p h
        cases rtl <;> simp at this hlt <;> omega

/-- **A finder that jumps to the next position satisfying a necessary condition of a match is
    sound.**  If `C p` holds at every position where the program matches (that is: the published
    fact is true at every real match — property C04), then skipping to the first `C`-position loses
    nothing, and "no `C`-position left" means no match is left.  Both directions. -/
theorem condFinder_sound (C : Nat → Bool) (rtl : Bool) (n : Nat) (attempt : Nat → Option (Nat × Nat))
    (hC : ∀ p, p ≤ n → attempt p ≠ none → C p = true) :
    FinderSound rtl n (condFinder C rtl n) attempt := by
  -- `condFinder` is the specified search of the finder models (`findUp` / `findDown`, Model/Finders.lean)
  have heq (pos : Nat) : condFinder C rtl n pos =
      if rtl then Finders.rtlResult (Finders.findDown C pos)
      else Finders.ltrResult n (Finders.findUp C (n + 1 - pos) pos) := by
    unfold condFinder scanOrder stopPos
    cases rtl
    · simp only [Bool.false_eq_true, if_false, Lemmas.IndexOf.find?_range']
      cases Finders.findUp C (n + 1 - pos) pos <;> rfl
    · simp only [if_true, Lemmas.IndexOf.find?_range_reverse]
      cases Finders.findDown C pos <;> rfl
  cases rtl
  · exact Lemmas.Finders.finderSound_ltr n _ attempt fun pos _ => ⟨_, heq pos,
      Lemmas.Finders.findUp_opt C attempt n pos _ (by omega) hC fun p h1 h2 => by omega⟩
  · exact Lemmas.Finders.finderSound_rtl n _ attempt fun pos hpos => ⟨_, heq pos,
      Lemmas.Finders.findDown_opt C attempt n pos hpos hC⟩

/-- Corollary: with fact-driven finding, no bump-along (`after = id`) and no length cut-off, the
    scan is the naive scan as soon as the fact holds at every real match. -/
theorem fact_driven_scan_eq_naive (C : Nat → Bool) (attempt : Nat → Option (Nat × Nat)) (rtl : Bool) (n : Nat)
    (hS : AttemptShape rtl n attempt) (hC : ∀ p, p ≤ n → attempt p ≠ none → C p = true)
    (start : Nat) (prevLen : Int) (hstart : start ≤ n) :
    scan (condFinder C rtl n) id attempt start prevLen rtl n 0 = (naive attempt start prevLen rtl n).map (Hit.ofSpan rtl) := by
  exact scan_eq_naive _ _ _ rtl n 0 hS (condFinder_sound C rtl n attempt hC) (afterSound_id rtl n attempt)
    (minLenSound_zero rtl n attempt) start prevLen hstart

/-- **The minimum-length cut-off is sound as soon as the fact is**: a successful attempt needs at
    least `L` runes ahead, so positions with fewer are skipped without loss (this is `tooShort`). -/
theorem minLen_cutoff_sound (rtl : Bool) (n L pos : Nat) (attempt : Nat → Option (Nat × Nat))
    (hS : AttemptShape rtl n attempt) (hM : MinLenSound rtl n L attempt) (hpos : pos ≤ n)
    (h : tooShort rtl n L pos = true) : naiveFrom attempt rtl n pos = none :=
  naiveFrom_eq_none attempt rtl n pos (tooShort_all_fail rtl n L pos attempt hS hM hpos h)

/-! ### non-vacuity: `ab` on "xabab" with the leading-literal condition "an `a` is here" -/

def demoAttempt : Nat → Option (Nat × Nat) := fun p => if p = 1 ∨ p = 3 then some (p, 2) else none
def demoC : Nat → Bool := fun p => p = 1 || p = 3

example : AttemptShape false 5 demoAttempt := by
  intro p i l hp h; simp [demoAttempt] at h; simp; omega
example : ∀ p, p ≤ 5 → demoAttempt p ≠ none → demoC p = true := by
  intro p hp h; simp [demoAttempt] at h; simp [demoC]; omega
example : scan (condFinder demoC false 5) id demoAttempt 0 (-1) false 5 0 = some ⟨1, 2, 3⟩ := by decide +kernel
example : condFinder demoC false 5 2 = (true, 3) ∧ condFinder demoC false 5 4 = (false, 5) := by decide +kernel

/-! ## the candidate finders of runner.go, one by one -/

open RegexVerif.Finders RegexVerif.Lemmas.Finders

/-! shared instance: `ab` on "xabab" — successful attempts at 1 and 3 (`demoAttempt` above) -/

def demoText : List Nat := [120, 97, 98, 97, 98]

/-- `ab` right-to-left on "xabab": successful attempts END at 3 and 5 -/
def demoAttemptRtl : Nat → Option (Nat × Nat) := fun p => if p = 3 ∨ p = 5 then some (p - 2, 2) else none

/-- **`NoSearch`, no anchors, no prefix, no first-character set**: `findFirstCharDefault` returns
    true without moving; trivially sound in both directions. -/
theorem finder_noSearch_sound (rtl : Bool) (n : Nat) (attempt : Nat → Option (Nat × Nat)) :
    FinderSound rtl n finderNoSearch attempt :=
  finderNoSearch_sound rtl n attempt

example : finderNoSearch 2 = (true, 2) := rfl

/-- **The anchor block of `findFirstCharDefault`** (`Code.Anchors` has Beginning / Start / EndZ / End;
    the modes `LeadingAnchor_{LeftToRight,RightToLeft}_{Beginning,Start,EndZ,End}` end up here).
    If every anchor bit that is set holds at the position of every successful attempt (C04:
    `leadingAnchor_sound`) and the Boyer-Moore prefix, when there is one, occurs there, then the jumps, the early
    exits and the `IsMatch` test lose no match.  `\Z`'s two legal positions are covered (left-to-right the finder
    jumps to `end-1` and lets the loop bump to `end`; right-to-left it rejects `end-1` unless a newline is there). -/
theorem finder_anchors_sound (lower : Nat → Nat) (a : Anchors) (bm : Option Bm) (rtl : Bool) (text : List Nat)
    (textstart : Nat) (attempt : Nat → Option (Nat × Nat))
    (hA : AnchorFacts a text textstart attempt)
    (hB : ∀ b, bm = some b → BmFact lower b rtl text attempt) :
    FinderSound rtl text.length (finderAnchors lower a bm rtl text textstart) attempt :=
  finderAnchors_sound lower a bm rtl text textstart attempt hA hB

/-- `abc$` right-to-left on "xabc\n": the only successful attempt ends at 4, before the final newline -/
def endzText : List Nat := [120, 97, 98, 99, 10]
def endzAttempt : Nat → Option (Nat × Nat) := fun p => if p = 4 then some (1, 3) else none
def endzAnchors : Anchors := { endZ := true }
def endzBm : Bm := ⟨[97, 98, 99], false⟩

example : AnchorFacts endzAnchors endzText 5 endzAttempt :=
  ⟨by simp [endzAnchors], by simp [endzAnchors],
   by intro _ p hp h; simp [endzAttempt] at h; subst h; right; decide,
   by simp [endzAnchors]⟩
example : ∀ b, some endzBm = some b → BmFact id b true endzText endzAttempt := by
  intro b hb; injection hb with hb; subst hb
  intro p hp h; simp [endzAttempt] at h; subst h; decide
example : finderAnchors id endzAnchors (some endzBm) true endzText 5 5 = (false, 5) ∧
    finderAnchors id endzAnchors (some endzBm) true endzText 5 4 = (true, 4) ∧
    finderAnchors id endzAnchors (some endzBm) true endzText 5 3 = (false, 0) := by decide +kernel

/-- **A `false` answer of the anchored finder is local.**  For `abc$` right-to-left on "xabc\n" the
    finder answers `(false, 5)` at the end of the input — the prefix does not end there — although the
    match ends at 4, the second legal `\Z` position.  `FinderSound` therefore only lets a `false` answer
    vouch for the positions up to the one the finder left; the scan loop bumps to 4 and finds the match.
    (A finder that jumped to the stop position on this failure loses the match: seeded change
    C15-rtl-endz-bm.) -/
theorem anchored_false_answer_is_local :
    finderAnchors id endzAnchors (some endzBm) true endzText 5 5 = (false, 5) ∧ endzAttempt 4 ≠ none ∧
    FinderSound true endzText.length (finderAnchors id endzAnchors (some endzBm) true endzText 5) endzAttempt ∧
    scan (finderAnchors id endzAnchors (some endzBm) true endzText 5) id endzAttempt 5 (-1) true 5 3 = some ⟨1, 3, 1⟩ := by
  have hA : AnchorFacts endzAnchors endzText 5 endzAttempt :=
    ⟨by simp [endzAnchors], by simp [endzAnchors],
     by intro _ p hp h; simp [endzAttempt] at h; subst h; right; decide,
     by simp [endzAnchors]⟩
  have hB : ∀ b, some endzBm = some b → BmFact id b true endzText endzAttempt := by
    intro b hb; injection hb with hb; subst hb
    intro p hp h; simp [endzAttempt] at h; subst h; decide
  exact ⟨by decide +kernel, by decide +kernel,
    finder_anchors_sound id endzAnchors (some endzBm) true endzText 5 endzAttempt hA hB, by decide +kernel⟩

example : endzAttempt 4 ≠ none := anchored_false_answer_is_local.2.1

/-- **`BmPrefix.Scan`** (no anchor bits; the modes `LeadingString_LeftToRight`, `LeadingString_RightToLeft`
    and every other mode whose pattern also has a Boyer-Moore prefix end up here): if the prefix occurs at
    every successful attempt position — starting there left-to-right, ending there right-to-left, under
    the prefix's own comparison (exact, or `unicode.ToLower` of the text when case-insensitive) — then
    the REAL scan (the skip tables `newBmPrefix` builds, the skip loop of `Scan`; Model/BoyerMoore.lean)
    loses no match.  Nothing is assumed about `Scan` (`bm_scan_sound/complete/none` below); `BmBuilt` says that the
    pattern is one `newBmPrefix` accepts — otherwise the program has no `Code.BmPrefix`. -/
theorem finder_bmScan_sound (lower : Nat → Nat) (b : Bm) (rtl : Bool) (text : List Nat)
    (attempt : Nat → Option (Nat × Nat)) (hW : BmBuilt b rtl) (hB : BmFact lower b rtl text attempt) :
    FinderSound rtl text.length (finderBmScan lower b rtl text) attempt :=
  finderBmScan_sound lower b rtl text attempt hW hB

example : BmBuilt ⟨[97, 98], false⟩ false ∧ BmBuilt ⟨[97, 98], false⟩ true := by
  unfold BmBuilt; decide
example : BmFact id ⟨[97, 98], false⟩ false demoText demoAttempt := by
  intro p hp h; rcases Demo.succ_of (len := 2) h with rfl | rfl <;> decide
example : BmFact id ⟨[97, 98], false⟩ true demoText demoAttemptRtl := by
  intro p hp h; rcases Demo.succRtl_of h with rfl | rfl <;> decide
example : finderBmScan id ⟨[97, 98], false⟩ false demoText 2 = (true, 3) ∧
    finderBmScan id ⟨[97, 98], false⟩ false demoText 4 = (false, 5) ∧
    finderBmScan id ⟨[97, 98], false⟩ true demoText 4 = (true, 3) ∧
    finderBmScan id ⟨[97, 98], false⟩ true demoText 2 = (false, 0) := by decide +kernel

/-- **The first-character loop** (`Code.FcPrefix`; `LeadingSet_RightToLeft`, `LeadingChar_RightToLeft`,
    `TrailingAnchor_FixedLength_LeftToRight_EndZ`, wide `LeadingSet_LeftToRight` sets and `NoSearch`
    patterns with a first-character set end up here): if the first character of every match is in the
    set (`text[p]` left-to-right, `text[p-1]` right-to-left; raw, not lower-cased — the loop does not
    fold), stopping at the first such character in scan order loses no match. -/
theorem finder_fc_sound (mem : Nat → Bool) (rtl : Bool) (text : List Nat)
    (attempt : Nat → Option (Nat × Nat)) (hF : FcFact mem rtl text attempt) :
    FinderSound rtl text.length (finderFc mem rtl text) attempt :=
  finderFc_sound mem rtl text attempt hF

example : FcFact (· == 97) false demoText demoAttempt := by
  intro p hp h; rcases Demo.succ_of (len := 2) h with rfl | rfl <;> decide
example : FcFact (· == 98) true demoText demoAttemptRtl := by
  intro p hp h; rcases Demo.succRtl_of h with rfl | rfl <;> decide
example : finderFc (· == 97) false demoText 2 = (true, 3) ∧ finderFc (· == 98) true demoText 4 = (true, 3) ∧
    finderFc (· == 98) true demoText 2 = (false, 0) := by decide +kernel

/-- **`TrailingAnchor_FixedLength_LeftToRight_End`** (`findTrailingFixedLengthEnd`): if every match has
    length exactly `L` and ends at the end of the input (C04: `trailingAnchor_sound` + `fixedLength_sound`,
    i.e. `p + L = n`), then `end - L` is the only candidate. -/
theorem finder_trailingEnd_sound (n L : Nat) (attempt : Nat → Option (Nat × Nat))
    (hT : ∀ p, p ≤ n → attempt p ≠ none → p + L = n) :
    FinderSound false n (finderTrailingEnd n L) attempt :=
  finderTrailingEnd_sound n L attempt hT

example : ∀ p, p ≤ 5 → (fun p => if p = 3 then some (3, 2) else none : Nat → Option (Nat × Nat)) p ≠ none → p + 2 = 5 := by
  intro p _ h; simp at h; omega
example : finderTrailingEnd 5 2 1 = (true, 3) ∧ finderTrailingEnd 5 2 4 = (false, 5) := by decide +kernel

/-- **`LeadingString_OrdinalIgnoreCase_LeftToRight`** (and `LeadingString_LeftToRight` should it reach
    `findLeadingStringLeftToRight`): if the prefix occurs at the start of every match under the
    comparison the helper selects (exact; ASCII folding for an ASCII prefix; `c == t || ToLower(t) == c`
    otherwise) and `MinRequiredLength` is sound, then jumping to the first occurrence — and giving up
    when it starts too late for the minimum length — loses no match. -/
theorem finder_leadingString_sound (lower : Nat → Nat) (pat : List Nat) (ignoreCase : Bool) (text : List Nat)
    (minLen : Nat) (attempt : Nat → Option (Nat × Nat))
    (hP : ∀ p, p ≤ text.length → attempt p ≠ none → occursAt (stringEq lower ignoreCase pat) pat text p = true)
    (hM : MinLenSound false text.length minLen attempt) :
    FinderSound false text.length (finderLeadingString lower pat ignoreCase text minLen) attempt :=
  finderLeadingString_sound lower pat ignoreCase text minLen attempt hP hM

/-- `(?i)ab` on "xAbab" -/
def ciText : List Nat := [120, 65, 98, 97, 98]

example : ∀ p, p ≤ ciText.length → demoAttempt p ≠ none → occursAt (stringEq id true [97, 98]) [97, 98] ciText p = true := by
  intro p hp h; rcases Demo.succ_of (len := 2) h with rfl | rfl <;> decide
example : MinLenSound false 5 2 demoAttempt := by
  intro p i l hp h
  have := Demo.succ_of (len := 2) (p := p) (a := 1) (b := 3) (by show demoAttempt p ≠ none; rw [h]; simp)
  simp; omega
example : finderLeadingString id [97, 98] true ciText 2 0 = (true, 1) ∧
    finderLeadingString id [97, 98] false ciText 2 0 = (true, 3) ∧
    finderLeadingString id [97, 98] true ciText 2 4 = (false, 5) := by decide +kernel

/-- **The leading prefix as C04 delivers it**: with the exact comparison, "occurs at `p`" is
    `(text.drop p).take pat.length = pat` — the conclusion of `C04.leadingPrefix_sound_runes`. -/
theorem occursAt_exact_iff (pat text : List Nat) (p : Nat) :
    occursAt eqExact pat text p = true ↔ (text.drop p).take pat.length = pat :=
  occursAt_exact pat text p

example : occursAt eqExact [97, 98] demoText 3 = true ∧ (demoText.drop 3).take 2 = [97, 98] := by decide +kernel

/-- **`LeadingStrings_LeftToRight` / `LeadingStrings_OrdinalIgnoreCase_LeftToRight`**
    (`findLeadingStringsLeftToRight`): if one of the prefixes occurs at the start of every match
    (case-sensitive, or `c == t || ToLower(t) == c`), `MinRequiredLength` is sound and — for the path that
    skips between possible first runes — no prefix is empty and `LeadingPrefixFirstRunes` contains the first
    rune of each prefix, then the helper loses no match. -/
theorem finder_leadingStrings_sound (lower : Nat → Nat) (prefixes : List (List Nat)) (firstRunes : List Nat)
    (ignoreCase : Bool) (text : List Nat) (minLen : Nat) (attempt : Nat → Option (Nat × Nat))
    (hP : StringsFacts lower prefixes firstRunes ignoreCase text attempt)
    (hM : MinLenSound false text.length minLen attempt) :
    FinderSound false text.length (finderLeadingStrings lower prefixes firstRunes ignoreCase text minLen) attempt :=
  finderLeadingStrings_sound lower prefixes firstRunes ignoreCase text minLen attempt hP hM

example : StringsFacts id [[97, 98], [120, 121]] [97, 120] false demoText demoAttempt :=
  ⟨by intro p hp h; refine ⟨[97, 98], by simp, ?_⟩; rcases Demo.succ_of (len := 2) h with rfl | rfl <;> decide,
   by intro _ _ pre hpre; simp at hpre; rcases hpre with rfl | rfl <;> simp,
   by intro _ _ pre hpre c rest hc; simp at hpre; rcases hpre with rfl | rfl <;> simp at hc <;> simp [hc.1]⟩
example : finderLeadingStrings id [[97, 98], [120, 121]] [97, 120] false demoText 2 0 = (true, 1) ∧
    finderLeadingStrings id [[97, 98], [120, 121]] [97, 120] false demoText 2 2 = (true, 3) ∧
    finderLeadingStrings id [[97, 98], [120, 121]] [97, 120] true demoText 2 2 = (true, 3) ∧
    finderLeadingStrings id [[97, 98], [120, 121]] [97, 120] false demoText 2 4 = (false, 5) := by decide +kernel

/-- **`LeadingPrefixFirstRunes` is complete**: computed as `leadingPrefixFirstRunes` does (the distinct
    first runes of the prefixes), it contains the first rune of every prefix — the `first` assumption of
    `StringsFacts` holds by construction. -/
theorem firstRunes_complete (prefixes : List (List Nat)) :
    ∀ pre, pre ∈ prefixes → ∀ c rest, pre = c :: rest → c ∈ leadingPrefixFirstRunes prefixes :=
  leadingPrefixFirstRunes_complete prefixes

example : leadingPrefixFirstRunes [[97, 98], [120, 121], [97, 99]] = [97, 120] := by decide +kernel

/-- **`FixedDistanceChar_LeftToRight`** (`findFixedDistanceCharLeftToRight`): if the character `c`
    stands `d` positions after the start of every match (`text[p+d] = c`) and `MinRequiredLength` is
    sound, then searching `c` from `pos+d` on and stepping back `d` loses no match. -/
theorem finder_fixedChar_sound (c d : Nat) (text : List Nat) (minLen : Nat) (attempt : Nat → Option (Nat × Nat))
    (hC : ∀ p, p ≤ text.length → attempt p ≠ none → text[p + d]? = some c)
    (hM : MinLenSound false text.length minLen attempt) :
    FinderSound false text.length (finderFixedChar c d text minLen) attempt :=
  finderFixedChar_sound c d text minLen attempt hC hM

example : ∀ p, p ≤ demoText.length → demoAttempt p ≠ none → demoText[p + 1]? = some 98 := by
  intro p hp h; rcases Demo.succ_of (len := 2) h with rfl | rfl <;> decide
example : finderFixedChar 98 1 demoText 2 0 = (true, 1) ∧ finderFixedChar 98 1 demoText 2 2 = (true, 3) ∧
    finderFixedChar 98 1 demoText 2 4 = (false, 5) := by decide +kernel

/-- **`FixedDistanceString_LeftToRight`** (`findFixedDistanceStringLeftToRight`): the same for a
    case-sensitive literal at distance `d`. -/
theorem finder_fixedString_sound (lit : List Nat) (d : Nat) (text : List Nat) (minLen : Nat)
    (attempt : Nat → Option (Nat × Nat))
    (hC : ∀ p, p ≤ text.length → attempt p ≠ none → occursAt eqExact lit text (p + d) = true)
    (hM : MinLenSound false text.length minLen attempt) :
    FinderSound false text.length (finderFixedString lit d text minLen) attempt :=
  finderFixedString_sound lit d text minLen attempt hC hM

/-- `.ab` on "xxabab": successful attempts at 1 and 3 -/
def fdText : List Nat := [120, 120, 97, 98, 97, 98]
def fdAttempt : Nat → Option (Nat × Nat) := fun p => if p = 1 ∨ p = 3 then some (p, 3) else none

example : ∀ p, p ≤ fdText.length → fdAttempt p ≠ none → occursAt eqExact [97, 98] fdText (p + 1) = true := by
  intro p hp h; rcases Demo.succ_of (len := 3) h with rfl | rfl <;> decide
example : finderFixedString [97, 98] 1 fdText 3 0 = (true, 1) ∧ finderFixedString [97, 98] 1 fdText 3 2 = (true, 3) ∧
    finderFixedString [97, 98] 1 fdText 3 4 = (false, 6) := by decide +kernel

/-- **`FixedDistanceSets_LeftToRight` and `LeadingSet_LeftToRight`** (`findFixedDistanceSetsLeftToRight`):
    if at every match each published set contains the character at its distance
    (`fixedDistanceSetsMatchAt`, membership as `charInFixedDistanceSet` computes it: `Chars`, else `Range`,
    else the `CharSet`), the list is non-empty and its first set carries its `CharSet`, and
    `MinRequiredLength` is sound, then searching the primary set and checking the others loses no match. -/
theorem finder_fixedSets_sound (sets : List FDSet) (text : List Nat) (minLen : Nat) (attempt : Nat → Option (Nat × Nat))
    (hwf : ∃ primary rest, sets = primary :: rest ∧ primary.set.isSome = true)
    (hS : ∀ p, p ≤ text.length → attempt p ≠ none → fixedSetsMatchAt sets text p = true)
    (hM : MinLenSound false text.length minLen attempt) :
    FinderSound false text.length (finderFixedSets sets text minLen) attempt :=
  finderFixedSets_sound sets text minLen attempt hwf hS hM

/-- `.[ab][a-b]` : a `Chars` set at distance 1 and a `Range` set at distance 2 -/
def fdSets : List FDSet :=
  [{ chars := [97, 98], set := some (fun c => c == 97 || c == 98), distance := 1 },
   { range := some (97, 98), set := some (fun c => c == 97 || c == 98), distance := 2 }]

example : ∀ p, p ≤ fdText.length → fdAttempt p ≠ none → fixedSetsMatchAt fdSets fdText p = true := by
  intro p hp h; rcases Demo.succ_of (len := 3) h with rfl | rfl <;> decide
example : finderFixedSets fdSets fdText 3 0 = (true, 1) ∧ finderFixedSets fdSets fdText 3 4 = (false, 6) := by decide +kernel

/-- **`LiteralAfterLoop_LeftToRight`** (`findLiteralAfterLoopLeftToRight`): if from the start of every
    match a run of loop-set characters leads to an occurrence of the literal (string, one of `Chars`, or
    `Char`), and `MinRequiredLength` is sound, then searching the literal and walking back over the loop set
    (not beyond the current position) loses no match. -/
theorem finder_literalAfterLoop_sound (lower : Nat → Nat) (l : LitAfterLoop) (S : Nat → Bool) (text : List Nat)
    (minLen : Nat) (attempt : Nat → Option (Nat × Nat))
    (hset : l.loopSet = some S)
    (hL : LitAfterLoopFact lower l S text attempt)
    (hM : MinLenSound false text.length minLen attempt) :
    FinderSound false text.length (finderLiteralAfterLoop lower l text minLen) attempt :=
  finderLiteralAfterLoop_sound lower l S text minLen attempt hset hL hM

/-- `x*ab` on "xxabab": successful attempts at 0, 1, 2 (ending after the first "ab") and 4 -/
def lalAttempt : Nat → Option (Nat × Nat) := fun p => if p ≤ 2 then some (p, 4 - p) else if p = 4 then some (4, 2) else none
def lalLit : LitAfterLoop := { str := [97, 98], loopSet := some (· == 120) }

example : LitAfterLoopFact id lalLit (· == 120) fdText lalAttempt := by
  intro p hp h
  by_cases h2 : p ≤ 2
  · refine ⟨2, h2, by decide +kernel, ?_⟩
    intro j hj1 hj2
    have : j = 0 ∨ j = 1 := by omega
    rcases this with rfl | rfl <;> decide
  · by_cases h4 : p = 4
    · subst h4
      exact ⟨4, Nat.le_refl _, by decide +kernel, fun j h1 h2 => by omega⟩
    · simp [lalAttempt, h2, h4] at h
example : finderLiteralAfterLoop id lalLit fdText 2 0 = (true, 0) ∧ finderLiteralAfterLoop id lalLit fdText 2 3 = (true, 4) ∧
    finderLiteralAfterLoop id lalLit fdText 2 5 = (false, 6) := by decide +kernel

/-- **`RequiredLandmarkChain_LeftToRight`** (`findRequiredLandmarkChainLeftToRight`): if at every successful
    attempt position `p` the text has, from `p`, a run of leading-loop characters, then a run of characters
    that can be leading whitespace of the first landmark, then an alternative of the first landmark as
    `requiredLandmarkAlternativeMatch` tests it, then every later landmark in order, each no earlier than the
    previous core start plus the shortest width of the alternative used (`LandmarkFact`) — and
    `MinRequiredLength` is sound — then the chain search loses no match. -/
theorem finder_landmarkChain_sound (ch : LmChain) (S : Nat → Bool) (first : List LmAlt) (rest : List (List LmAlt))
    (text : List Nat) (minLen : Nat) (attempt : Nat → Option (Nat × Nat))
    (hS : ch.loopSet = some S) (hL : ch.landmarks = first :: rest)
    (hF : LandmarkFact S first rest text attempt)
    (hM : MinLenSound false text.length minLen attempt) :
    FinderSound false text.length (finderLandmarkChain ch text minLen) attempt :=
  finderLandmarkChain_sound ch S first rest text minLen attempt hS hL hF hM

/-- `x*\s*ab(?:cd|c)` as a chain: loop set {x}; landmark 1 = `ab` with optional leading whitespace, landmark 2
    = `cd` or `c`.  On "xx abcd": successful attempts at 0, 1, 2 (all end at 7) and 3. -/
def lmDemoChain : LmChain :=
  { loopSet := some (· == 120),
    landmarks := [[{ literal := [97, 98], leadWs := some (· == 32), minRepeat := 1, maxRepeat := 1 }],
                  [{ literal := [99, 100], minRepeat := 1, maxRepeat := 1 }, { literal := [99], minRepeat := 1, maxRepeat := 1 }]] }
def lmDemoText : List Nat := [120, 120, 32, 97, 98, 99, 100]
def lmDemoAttempt : Nat → Option (Nat × Nat) := fun p => if p ≤ 3 then some (p, 7 - p) else none

example : LandmarkFact (· == 120) [{ literal := [97, 98], leadWs := some (· == 32), minRepeat := 1, maxRepeat := 1 }]
    [[{ literal := [99, 100], minRepeat := 1, maxRepeat := 1 }, { literal := [99], minRepeat := 1, maxRepeat := 1 }]]
    lmDemoText lmDemoAttempt := by
  intro p hp h
  have hp3 : p ≤ 3 := by
    by_cases h3 : p ≤ 3
    · exact h3
    · simp [lmDemoAttempt, h3] at h
  refine ⟨max p 2, 3, _, by omega, by omega, ?_, ?_, List.mem_cons_self, by decide +kernel,
    ⟨5, _, by decide +kernel, List.mem_cons_self, by decide +kernel, trivial⟩⟩
  · intro j h1 h2
    have : j = 0 ∨ j = 1 := by omega
    rcases this with rfl | rfl <;> decide
  · intro j h1 h2
    have : j = 2 := by omega
    subst this; decide
example : finderLandmarkChain lmDemoChain lmDemoText 3 0 = (true, 0) ∧ finderLandmarkChain lmDemoChain lmDemoText 3 1 = (true, 1) ∧
    finderLandmarkChain lmDemoChain lmDemoText 3 4 = (false, 7) := by decide +kernel

/-- **`findFirstCharDefault` as a whole.**  Whatever path the dispatch takes — anchor bits, else the
    Boyer-Moore prefix, else the helper of the find mode when `shouldUseFindFirstCharOptimized` says so,
    else the first-character set, else nothing — if the facts that path consumes are true at every
    successful attempt (`FactsSound`; every path consumes a FACT about matches, none assumes the soundness or
    the specification of a search routine), the finder only skips positions at which the program fails. -/
theorem finder_default_sound (f : Facts) (text : List Nat) (textstart : Nat) (attempt : Nat → Option (Nat × Nat))
    (h : FactsSound f text textstart attempt) :
    FinderSound f.rtl text.length (finderDefault f text textstart) attempt :=
  finderDefault_sound f text textstart attempt h

/-- `.ab`: mode `FixedDistanceString_LeftToRight`, "ab" at distance 1, minimum length 3 -/
def demoFacts : Facts :=
  { opts := { mode := .fixedDistanceStringLtr, minLen := 3, fixedString := [97, 98], fixedDistance := 1 } }

example : FactsSound demoFacts fdText 0 fdAttempt :=
  ⟨by simp [demoFacts, Anchors.any], by simp [demoFacts], by intro _ b hb; simp [demoFacts] at hb,
   by
    intro _ _ _
    refine ⟨rfl, ?_, ?_⟩
    · intro p i l hp h
      have := Demo.succ_of (len := 3) (p := p) (a := 1) (b := 3) (by show fdAttempt p ≠ none; rw [h]; simp)
      simp [demoFacts, fdText]; omega
    · show ∀ p, p ≤ fdText.length → fdAttempt p ≠ none → occursAt eqExact [97, 98] fdText (p + 1) = true
      intro p hp h; rcases Demo.succ_of (len := 3) h with rfl | rfl <;> decide,
   by intro _ _ h; simp [demoFacts, shouldUse] at h⟩

example : finderDefault demoFacts fdText 0 0 = (true, 1) ∧ finderDefault demoFacts fdText 0 2 = (true, 3) := by decide +kernel

/-- **Facts sound ⇒ scan = naive scan** (both directions; `f.rtl` is the direction).  With the real
    dispatch of `findFirstCharDefault` as candidate finder, a sound bump-along update and a sound
    `MinRequiredLength`, `Runner.scan` from any start offset and previous-match length returns the first
    successful attempt in scan order.  Together with C04 (the published facts are true at every match)
    this is C03 for the modelled finders. -/
theorem findFirstChar_scan_eq_naive (f : Facts) (text : List Nat) (textstart : Nat)
    (after : Nat → Nat) (attempt : Nat → Option (Nat × Nat))
    (hS : AttemptShape f.rtl text.length attempt)
    (hF : FactsSound f text textstart attempt)
    (hA : AfterSound f.rtl text.length after attempt)
    (hM : MinLenSound f.rtl text.length f.opts.minLen attempt)
    (start : Nat) (prevLen : Int) (hstart : start ≤ text.length) :
    scan (finderDefault f text textstart) after attempt start prevLen f.rtl text.length f.opts.minLen =
      (naive attempt start prevLen f.rtl text.length).map (Hit.ofSpan f.rtl) :=
  scan_eq_naive _ after attempt f.rtl text.length f.opts.minLen hS
    (finderDefault_sound f text textstart attempt hF) hA hM start prevLen hstart

example : scan (finderDefault demoFacts fdText 0) id fdAttempt 0 (-1) false 6 3 = some ⟨1, 3, 4⟩ := by decide +kernel
example : AttemptShape false 6 fdAttempt := by
  intro p i l hp h
  have hp13 := Demo.succ_of (len := 3) (p := p) (a := 1) (b := 3) (by show fdAttempt p ≠ none; rw [h]; simp)
  simp only [fdAttempt, hp13, if_true, Option.some.injEq, Prod.mk.injEq] at h
  simp; omega

/-- the left-to-right instance with no bump-along (`after = id`), in the shape of
    `fact_driven_scan_eq_naive` -/
theorem findFirstChar_scan_eq_naive_ltr (f : Facts) (hdir : f.rtl = false) (text : List Nat) (textstart : Nat)
    (attempt : Nat → Option (Nat × Nat))
    (hS : AttemptShape false text.length attempt) (hF : FactsSound f text textstart attempt)
    (hM : MinLenSound false text.length f.opts.minLen attempt)
    (start : Nat) (prevLen : Int) (hstart : start ≤ text.length) :
    scan (finderDefault f text textstart) id attempt start prevLen false text.length f.opts.minLen =
      (naive attempt start prevLen false text.length).map (Hit.ofSpan false) := by
  have := findFirstChar_scan_eq_naive f text textstart id attempt (by rwa [hdir]) hF (afterSound_id _ _ _)
    (by rwa [hdir]) start prevLen hstart
  rwa [hdir] at this

example : demoFacts.rtl = false := rfl

/-- the right-to-left instance with no bump-along -/
theorem findFirstChar_scan_eq_naive_rtl (f : Facts) (hdir : f.rtl = true) (text : List Nat) (textstart : Nat)
    (attempt : Nat → Option (Nat × Nat))
    (hS : AttemptShape true text.length attempt) (hF : FactsSound f text textstart attempt)
    (hM : MinLenSound true text.length f.opts.minLen attempt)
    (start : Nat) (prevLen : Int) (hstart : start ≤ text.length) :
    scan (finderDefault f text textstart) id attempt start prevLen true text.length f.opts.minLen =
      (naive attempt start prevLen true text.length).map (Hit.ofSpan true) := by
  have := findFirstChar_scan_eq_naive f text textstart id attempt (by rwa [hdir]) hF (afterSound_id _ _ _)
    (by rwa [hdir]) start prevLen hstart
  rwa [hdir] at this

/-- `abc$` right-to-left with the anchor bit EndZ and the Boyer-Moore prefix "abc" -/
def endzFacts : Facts := { rtl := true, anchors := endzAnchors, bm := some endzBm, opts := { mode := .leadingAnchorRtlEndZ, minLen := 3 } }

example : FactsSound endzFacts endzText 5 endzAttempt :=
  ⟨fun _ => ⟨by simp [endzFacts, endzAnchors], by simp [endzFacts, endzAnchors],
      by intro _ p hp h; simp [endzAttempt] at h; subst h; right; decide, by simp [endzFacts, endzAnchors]⟩,
   by intro b hb; simp [endzFacts] at hb; subst hb; intro p hp h; simp [endzAttempt] at h; subst h; decide,
   by intro h; simp [endzFacts, endzAnchors, Anchors.any] at h,
   by intro h; simp [endzFacts, endzAnchors, Anchors.any] at h,
   by intro h; simp [endzFacts, endzAnchors, Anchors.any] at h⟩
example : scan (finderDefault endzFacts endzText 5) id endzAttempt 5 (-1) true 5 3 = some ⟨1, 3, 1⟩ := by decide +kernel

/-! ## the trailing-anchor mode down to the specification: C04 ⇒ finder sound ⇒ scan = naive

`TrailingAnchor_FixedLength_LeftToRight_End` consumes only facts whose analyses C04 models
(`findLeadingOrTrailingAnchor(root, false)`, `ComputeMinLength`, `computeMaxLength`), so for it the
chain closes inside Lean, for the specification's own attempt.  (The anchor bits `Code.Anchors`, the
Boyer-Moore prefix and the first-character set come from `getAnchors` / `getPrefix` /
`getFirstCharsPrefix`, which C04 does not model: for those paths the hypothesis of the finder theorem
is discharged per case by leg H of C04.) -/

/-- the specification's single-position attempt in the shape of the scan model (as in
    `C04.minLenSound_spec`) -/
def specAttempt (e : Spec.Env) (p : Spec.Pat) (rtl : Bool) : Nat → Option (Nat × Nat) :=
  fun i => (Spec.attempt e p rtl i).bind (fun st => Spec.lastCap st.caps 0)

/-- **C04 delivers the fact of the trailing-anchor mode**: if the pattern's trailing anchor is `\z`
    and its minimum and maximum lengths coincide, every successful attempt of the specification starts
    exactly `minLen` before the end of the input. -/
theorem spec_trailingEnd_fact (e : Spec.Env) (p : Spec.Pat)
    (ht : Facts.trailingAnchor false p = some .«end») (hk : Facts.maxLen p = some (Facts.minLen p)) :
    ∀ i, i ≤ e.n → specAttempt e p false i ≠ none → i + Facts.minLen p = e.n := by
  intro i hi hne
  unfold specAttempt at hne
  cases hat : Spec.attempt e p false i with
  | none => rw [hat] at hne; simp at hne
  | some st =>
    obtain ⟨y, hy, _, _⟩ := Facts.attempt_success e p false i st hat
    have h1 := C04.trailingAnchor_sound e p false .«end» ht _ y hy
    have h2 := C04.fixedLength_sound e p false _ y hy hk
    have h3 := C04.m_monotone e p false _ y hy
    simp [Spec.anchorHolds] at h1 h2 h3
    omega

/-- **The chain for `TrailingAnchor_FixedLength_LeftToRight_End`**: for a pattern with trailing `\z`
    and fixed length, `findTrailingFixedLengthEnd` is a sound finder for the specification's attempt —
    no hypothesis about the input or the match is left. -/
theorem spec_trailingEnd_finder_sound (e : Spec.Env) (p : Spec.Pat)
    (ht : Facts.trailingAnchor false p = some .«end») (hk : Facts.maxLen p = some (Facts.minLen p)) :
    FinderSound false e.n (finderTrailingEnd e.n (Facts.minLen p)) (specAttempt e p false) :=
  finder_trailingEnd_sound e.n (Facts.minLen p) _ (spec_trailingEnd_fact e p ht hk)

/-- `ab\z`: Concatenate(One a, One b, End) on "xab" -/
def tePat : Spec.Pat := .seq (.chr (.one 97 false)) (.seq (.chr (.one 98 false)) (.anchor .«end»))
def teEnv : Spec.Env := { text := [120, 97, 98], textstart := 0, named := [], word := [], fold := [] }

example : Facts.trailingAnchor false tePat = some .«end» ∧ Facts.maxLen tePat = some (Facts.minLen tePat) := by decide +kernel
example : specAttempt teEnv tePat false 1 = some (1, 2) ∧ finderTrailingEnd teEnv.n (Facts.minLen tePat) 0 = (true, 1) := by decide +kernel

/-- **`AnchorFacts` is `Spec.anchorHolds`**: the hypothesis of `finder_anchors_sound` for a bit is
    exactly that the specification's anchor predicate (`\A`, `\G`, `\Z`, `\z`) holds at the position of
    every successful attempt — the conclusion of `C04.leadingAnchor_sound`. -/
theorem anchorFacts_of_anchorHolds (e : Spec.Env) (a : Anchors) (attempt : Nat → Option (Nat × Nat))
    (hb : a.beginning = true → ∀ p, p ≤ e.n → attempt p ≠ none → Spec.anchorHolds e .beginning p = true)
    (hs : a.start = true → ∀ p, p ≤ e.n → attempt p ≠ none → Spec.anchorHolds e .start p = true)
    (hz : a.endZ = true → ∀ p, p ≤ e.n → attempt p ≠ none → Spec.anchorHolds e .endz p = true)
    (he : a.«end» = true → ∀ p, p ≤ e.n → attempt p ≠ none → Spec.anchorHolds e .«end» p = true) :
    AnchorFacts a e.text e.textstart attempt := by
  refine ⟨?_, ?_, ?_, ?_⟩
  · intro h p hp ha; have := hb h p hp ha; simpa [Spec.anchorHolds] using this
  · intro h p hp ha; have := hs h p hp ha; simpa [Spec.anchorHolds] using this
  · intro h p hp ha
    have := hz h p hp ha
    simp only [Spec.anchorHolds, Spec.Env.n, Bool.or_eq_true, beq_iff_eq, Bool.and_eq_true] at this
    exact this
  · intro h p hp ha; have := he h p hp ha; simpa [Spec.anchorHolds, Spec.Env.n] using this

example : Spec.anchorHolds teEnv .endz 3 = true ∧ Spec.anchorHolds teEnv .beginning 0 = true := by decide +kernel

/-! ## the Boyer-Moore prefix: `newBmPrefix`, `Scan`, `IsMatch` (Model/BoyerMoore.lean)

The tables are the ones `newBmPrefix` builds (leg Bm: the Go arrays EQUAL the model's, both directions), the
scan is the skip loop of `Scan`.  The theorems hold for ALL patterns `newBmPrefix` accepts, all texts, all
start indices and windows `beglimit ≤ index ≤ endlimit ≤ len(text)`, case-sensitive and case-insensitive
(`lower` = `unicode.ToLower` is an arbitrary function here), left-to-right and right-to-left.  An occurrence
is `bmIsMatch`: the (lower-cased) pattern starts at `i` left-to-right, ends at `i` right-to-left, text
characters read through `lower` when case-insensitive. -/

section BoyerMoore
open RegexVerif.BoyerMoore

/-- the window positions in scan direction from `index`: left-to-right the occurrence starts at or after
    `index` and ends within `endlimit`; right-to-left it ends at or before `index` and starts at or after
    `beglimit` -/
def bmInWindow (rtl : Bool) (len index beglimit endlimit i : Nat) : Prop :=
  if rtl then i ≤ index ∧ beglimit + len ≤ i else index ≤ i ∧ i + len ≤ endlimit

/-- `a` comes before `b` in scan direction -/
def bmBefore (rtl : Bool) (a b : Nat) : Prop := if rtl then b < a else a < b

theorem newBmPrefix_built (lower : Nat → Nat) (pat : List Nat) (ci rtl : Bool) (t : Tables)
    (hb : newBmPrefix lower pat ci rtl = some t) :
    t.rtl = rtl ∧ t.ci = ci ∧ t.pattern = (if ci then pat.map lower else pat) ∧ pat ≠ [] ∧
    build t.pattern t.ci t.rtl = some t := by
  unfold newBmPrefix at hb
  obtain ⟨h1, _, h3, h4, h5, _⟩ := Lemmas.BoyerMoore.build_some _ ci rtl t hb
  refine ⟨h3, h4, h5, ?_, by rw [h3, h4, h5]; exact hb⟩
  intro h0; subst h0; simp at h1

/-- **`Scan` is sound**: a returned index lies in the window and the pattern occurs there. -/
theorem bm_scan_sound (lower : Nat → Nat) (pat : List Nat) (ci rtl : Bool) (t : Tables)
    (hb : newBmPrefix lower pat ci rtl = some t) (text : List Nat) (index beglimit endlimit : Nat)
    (h1 : beglimit ≤ index) (h2 : index ≤ endlimit) (h3 : endlimit ≤ text.length)
    (i : Nat) (hs : scan lower t text index beglimit endlimit = some i) :
    bmInWindow rtl t.pattern.length index beglimit endlimit i ∧ bmIsMatch lower ⟨t.pattern, ci⟩ rtl text i = true := by
  have hb' := Lemmas.BoyerMoore.newBmPrefix_eq_build lower pat ci rtl t hb
  cases rtl
  · obtain ⟨⟨x1, x2, x3⟩, _⟩ := (Lemmas.BoyerMoore.scan_first lower _ ci t hb' text index beglimit endlimit h1 h3).1 i hs
    exact ⟨⟨x1, x2⟩, x3⟩
  · obtain ⟨⟨x1, x2, x3⟩, _⟩ := (Lemmas.BoyerMoore.scan_last lower _ ci t hb' text index beglimit endlimit h1 h2 h3).1 i hs
    exact ⟨⟨x1, x2⟩, x3⟩

/-- **`Scan` skips no occurrence**: the returned index is the FIRST window position in scan direction at
    which the pattern occurs — leftmost at or after `index` left-to-right, rightmost ending at or before
    `index` right-to-left.  (This is the statement about the skip tables: `positive[m]` and the negative
    entry of the mismatching rune never exceed the distance to the next possible occurrence.) -/
theorem bm_scan_complete (lower : Nat → Nat) (pat : List Nat) (ci rtl : Bool) (t : Tables)
    (hb : newBmPrefix lower pat ci rtl = some t) (text : List Nat) (index beglimit endlimit : Nat)
    (h1 : beglimit ≤ index) (h2 : index ≤ endlimit) (h3 : endlimit ≤ text.length)
    (i : Nat) (hs : scan lower t text index beglimit endlimit = some i)
    (j : Nat) (hj : bmInWindow rtl t.pattern.length index beglimit endlimit j) (hji : bmBefore rtl j i) :
    bmIsMatch lower ⟨t.pattern, ci⟩ rtl text j = false := by
  have hb' := Lemmas.BoyerMoore.newBmPrefix_eq_build lower pat ci rtl t hb
  refine Bool.eq_false_iff.mpr fun hm => ?_
  cases rtl
  · exact ((Lemmas.BoyerMoore.scan_first lower _ ci t hb' text index beglimit endlimit h1 h3).1 i hs).2 j hji ⟨hj.1, hj.2, hm⟩
  · exact ((Lemmas.BoyerMoore.scan_last lower _ ci t hb' text index beglimit endlimit h1 h2 h3).1 i hs).2 j hji ⟨hj.1, hj.2, hm⟩

/-- **`Scan` returns -1 only when the pattern occurs nowhere in the window.** -/
theorem bm_scan_none (lower : Nat → Nat) (pat : List Nat) (ci rtl : Bool) (t : Tables)
    (hb : newBmPrefix lower pat ci rtl = some t) (text : List Nat) (index beglimit endlimit : Nat)
    (h1 : beglimit ≤ index) (h2 : index ≤ endlimit) (h3 : endlimit ≤ text.length)
    (hs : scan lower t text index beglimit endlimit = none)
    (j : Nat) (hj : bmInWindow rtl t.pattern.length index beglimit endlimit j) :
    bmIsMatch lower ⟨t.pattern, ci⟩ rtl text j = false := by
  have hb' := Lemmas.BoyerMoore.newBmPrefix_eq_build lower pat ci rtl t hb
  refine Bool.eq_false_iff.mpr fun hm => ?_
  cases rtl
  · exact (Lemmas.BoyerMoore.scan_first lower _ ci t hb' text index beglimit endlimit h1 h3).2 hs j ⟨hj.1, hj.2, hm⟩
  · exact (Lemmas.BoyerMoore.scan_last lower _ ci t hb' text index beglimit endlimit h1 h2 h3).2 hs j ⟨hj.1, hj.2, hm⟩

/-- `(?i)AbAb` (lower-cased to "abab" by the constructor; `lower` folds A–Z) on "xxaBabAb": left-to-right
    from 0 the scan returns 2, from 3 it returns 4, from 5 nothing; right-to-left from 8 it returns the end 8,
    from 7 the end 6.  The periodic pattern exercises the good-suffix table (`positive = [1, 2, 1, 1]`). -/
def bmLower : Nat → Nat := fun c => if 65 ≤ c ∧ c ≤ 90 then c + 32 else c
def bmText : List Nat := [120, 120, 97, 66, 97, 98, 65, 98]

example : ∃ t, newBmPrefix bmLower [65, 98, 65, 98] true false = some t ∧ t.pattern = [97, 98, 97, 98] ∧
    t.positive = [1, 2, 1, 1] ∧ t.negValue 97 = 1 ∧ t.negValue 98 = 0 ∧ t.negValue 120 = 4 ∧
    scan bmLower t bmText 0 0 8 = some 2 ∧ scan bmLower t bmText 3 0 8 = some 4 ∧ scan bmLower t bmText 5 0 8 = none ∧
    bmIsMatch bmLower ⟨t.pattern, true⟩ false bmText 2 = true ∧ bmIsMatch bmLower ⟨t.pattern, true⟩ false bmText 3 = false :=
  ⟨_, rfl, by decide +kernel⟩
example : ∃ t, newBmPrefix bmLower [65, 98, 65, 98] true true = some t ∧ t.positive = [-1, -1, -2, -1] ∧
    t.negValue 97 = 0 ∧ t.negValue 98 = -1 ∧ t.negValue 120 = -4 ∧
    scan bmLower t bmText 8 0 8 = some 8 ∧ scan bmLower t bmText 7 0 8 = some 6 ∧ scan bmLower t bmText 5 0 8 = none :=
  ⟨_, rfl, by decide +kernel⟩

/-- **`IsMatch` over the whole input** (what the anchored path of `findFirstCharDefault` calls) is the
    occurrence test the finder model uses: the loop of `matchPattern` and the two window guards compute
    `bmIsMatch`. -/
theorem bm_isMatch_spec (lower : Nat → Nat) (pat : List Nat) (ci rtl : Bool) (t : Tables)
    (hb : newBmPrefix lower pat ci rtl = some t) (text : List Nat) (index : Nat) :
    isMatch lower t text index 0 text.length = bmIsMatch lower ⟨t.pattern, ci⟩ rtl text index := by
  have hb' := Lemmas.BoyerMoore.newBmPrefix_eq_build lower pat ci rtl t hb
  exact Lemmas.BoyerMoore.isMatch_eq lower t.pattern ci rtl t hb' text index

example : ∃ t, newBmPrefix bmLower [65, 98, 65, 98] true true = some t ∧
    isMatch bmLower t bmText 8 0 8 = true ∧ isMatch bmLower t bmText 7 0 8 = false ∧ isMatch bmLower t bmText 3 0 8 = false :=
  ⟨_, rfl, by decide +kernel⟩

/-- **The candidate finder behind `Code.BmPrefix` IS its specification**: for every pattern `newBmPrefix`
    accepts, the real scan answers, from every position, what "first position in scan order at which
    `IsMatch` holds" answers (`finderBmScanSpec`). -/
theorem finder_bmScan_eq_spec (lower : Nat → Nat) (b : Bm) (rtl : Bool) (text : List Nat) (hW : BmBuilt b rtl)
    (pos : Nat) (hpos : pos ≤ text.length) :
    finderBmScan lower b rtl text pos = finderBmScanSpec lower b rtl text pos :=
  finderBmScan_eq_spec lower b rtl text hW pos hpos

example : finderBmScan id ⟨[97, 98], false⟩ false demoText 2 = finderBmScanSpec id ⟨[97, 98], false⟩ false demoText 2 := by decide +kernel

/-- **Defect D43 (fixed in /repo 649b08f), as a theorem about the old lookup.**  `newBmPrefix` files U+FFFF
    under `negativeUnicode[0xff][0xff]`, but `Scan` consulted the table only for `chTest < 0xffff`; for
    U+FFFF it took the default advance `len(pattern)`.  With that lookup (`old = true`) the pattern
    `\uFFFFa` is not found in "x\uFFFFa" although it occurs at 1; the current lookup finds it. -/
theorem old_scan_skips_ffff :
    ∃ t, newBmPrefix id [0xffff, 97] false false = some t ∧
      scanWith true id t [120, 0xffff, 97] 0 0 3 = none ∧
      bmIsMatch id ⟨t.pattern, false⟩ false [120, 0xffff, 97] 1 = true ∧
      scan id t [120, 0xffff, 97] 0 0 3 = some 1 :=
  ⟨_, rfl, by decide +kernel⟩

end BoyerMoore

/-! ## the landmark chain and the literal after a loop down to the specification: C04 ⇒ fact ⇒ finder sound -/

section LoopFactsChain
open RegexVerif.LoopFacts

/-- **The chain for `RequiredLandmarkChain_LeftToRight`**: for a pattern from which Lean computes a landmark
    chain (`C04.landmarkChain_sound`), the chain finder run on that chain is a sound candidate finder for the
    specification's attempt — no hypothesis about the input or the matches is left.  Leg L checks per
    explored pattern that the chain the engine publishes IS that chain (up to dropped later landmarks, for
    which `C04.published_landmarkChain_sound` gives the fact). -/
theorem spec_landmarkChain_finder_sound (e : Spec.Env) (k : Nat) (p : Spec.Pat) (sc : SymChain)
    (h : chainOf k p = some sc) :
    FinderSound false e.n (finderLandmarkChain (sc.toLm e) e.text (Facts.minLen p)) (specAttempt e p false) := by
  obtain ⟨l, ls, hl, hF⟩ := C04.landmarkChain_sound e k p sc h
  exact finder_landmarkChain_sound (sc.toLm e) (sc.loop.test e) (l.map (SymAlt.toLm e)) (Lemmas.LoopFacts.lmOf e ls)
    e.text (Facts.minLen p) (specAttempt e p false) rfl
    (by simp [SymChain.toLm, hl, Lemmas.LoopFacts.lmOf]) hF (C04.minLenSound_spec e p false)

example : ∃ sc, chainOf 4 C04.lmPat = some sc ∧
    finderLandmarkChain (sc.toLm C04.lmEnv) C04.lmEnv.text (Facts.minLen C04.lmPat) 0 = (true, 0) ∧
    finderLandmarkChain (sc.toLm C04.lmEnv) C04.lmEnv.text (Facts.minLen C04.lmPat) 2 = (true, 2) ∧
    finderLandmarkChain (sc.toLm C04.lmEnv) C04.lmEnv.text (Facts.minLen C04.lmPat) 3 = (false, 6) :=
  ⟨_, rfl, by decide +kernel⟩

/-- **The chain for `LiteralAfterLoop_LeftToRight`**: a published record whose loop set contains the loop's
    test and whose literal includes the character tests Lean computes (`C04.LalIncluded`, what leg L
    checks) makes `findLiteralAfterLoopLeftToRight` a sound candidate finder for the specification's
    attempt. -/
theorem spec_literalAfterLoop_finder_sound (e : Spec.Env) (k : Nat) (p : Spec.Pat) (sl : SymLal)
    (h : lalOf k p = some sl) (lower : Nat → Nat) (l : LitAfterLoop) (S : Nat → Bool) (hset : l.loopSet = some S)
    (hS : ∀ r, sl.loop.test e r = true → S r = true) (hinc : C04.LalIncluded e lower l sl.lit) :
    FinderSound false e.n (finderLiteralAfterLoop lower l e.text (Facts.minLen p)) (specAttempt e p false) :=
  finder_literalAfterLoop_sound lower l S e.text (Facts.minLen p) (specAttempt e p false) hset
    (C04.published_literalAfterLoop_sound e k p sl h lower l S hS hinc) (C04.minLenSound_spec e p false)

example : finderLiteralAfterLoop id { str := [97, 98], loopSet := some (fun c => c == 120 || c == 121) }
    [120, 121, 97, 98, 99] 3 0 = (true, 0) := by decide +kernel

end LoopFactsChain

/-! ## the raw-string (byte-level) prefix filters (`stringprefixfilter.go`)

A filter runs on the UNDECODED string; the facts it relies on are about RUNES of the decoded string.  Below,
`input : List Nat` is the string as bytes, `Utf8.decodeB input` what `for range` yields (one rune per invalid
byte), `Utf8.runesOf input` the runes, `Utf8.byteOff input p` the byte offset of rune `p`, `attempt` the
single-position attempts of the program on `runesOf input`.  `StrFilterSound input attempt f`: for every `startAt`
on a rune boundary, `ok = false` only if no attempt succeeds at a rune whose byte offset is `≥ startAt`; a
candidate is a rune boundary `≥ startAt` and no attempt succeeds at a rune with byte offset in `[startAt, candidate)`. -/
section StringFilters
open RegexVerif.Utf8 RegexVerif.StringFilter RegexVerif.Lemmas.StringFilter

/-- "é\xffab": runes `é`, U+FFFD (the invalid byte), `a`, `b`; byte offsets 0, 2, 3, 4, 5 -/
def sfInput : List Nat := [0xC3, 0xA9, 0xFF, 97, 98]
/-- one successful attempt, at rune `q` -/
def sfAttempt (q len : Nat) : Nat → Option (Nat × Nat) := fun p => if p = q then some (q, len) else none

theorem sfAttempt_at {q len p : Nat} (h : sfAttempt q len p ≠ none) : p = q := by
  unfold sfAttempt at h; by_cases hp : p = q
  · exact hp
  · simp [hp] at h

theorem sfMinLen (q len L : Nat) (h : q + L ≤ 4) : MinLenSound false (decodeB sfInput).length L (sfAttempt q len) := by
  intro p i l _ hp
  have := sfAttempt_at (p := p) (by rw [hp]; simp)
  subst this
  have : (decodeB sfInput).length = 4 := by decide +kernel
  simp [this]; omega

example : runesOf sfInput = [233, 0xFFFD, 97, 98] ∧ (List.range 5).map (byteOff sfInput) = [0, 2, 3, 4, 5] := by decide +kernel

/-- **`helpers.IndexStringIgnoreCaseASCII`** (the byte search of the ignore-case filters, mirrored with its skip
    loop over `indexASCIIByteIgnoreCase`): the result is the FIRST byte offset at which the prefix occurs under
    ASCII case folding, and `-1` (`none`) only when it occurs nowhere. -/
theorem indexStringIgnoreCaseASCII_first (s pre : List Nat) :
    (∀ i, indexStringIgnoreCaseASCII s pre = some i →
      prefixOf eqAsciiFold pre (s.drop i) = true ∧ ∀ j, j < i → prefixOf eqAsciiFold pre (s.drop j) ≠ true) ∧
    (indexStringIgnoreCaseASCII s pre = none → ∀ j, prefixOf eqAsciiFold pre (s.drop j) ≠ true) :=
  indexStringIgnoreCaseASCII_spec s pre

example : indexStringIgnoreCaseASCII [120, 65, 97, 66, 97, 98] [97, 98] = some 2 ∧
    indexStringIgnoreCaseASCII [120, 65, 97] [97, 98] = none ∧ indexStringIgnoreCaseASCII [120] [] = some 0 := by decide +kernel

/-- **`utf8.DecodeLastRuneInString` agrees with the forward decoding, so `stringFixedDistanceCandidateStart` counts
    RUNES.**  From the boundary of rune `ki` it reaches, after `d` backward steps, the boundary of rune `ki - d` —
    one step per invalid byte, one per well-formed multi-byte sequence — and fails exactly when that would lie
    before the rune `ks` of `startAt`.  (The distance is in runes, the walk in bytes: the seeded changes
    C03b / C10b lived between the two.) -/
theorem stringFilter_candidateStart_counts_runes (s : List Nat) (ks d ki : Nat)
    (hki : ki ≤ (decodeB s).length) (hks : ks ≤ ki) :
    candidateStart s (byteOff s ks) d (byteOff s ki) = if ks + d ≤ ki then some (byteOff s (ki - d)) else none :=
  candidateStart_spec s ks d ki hki hks

example : candidateStart sfInput 0 2 (byteOff sfInput 3) = some 2 ∧ candidateStart sfInput 2 2 (byteOff sfInput 2) = none := by decide +kernel

/-- **`stringIndexPrefixFilter`** (modes `LeadingString_LeftToRight`, `LeadingString_OrdinalIgnoreCase_LeftToRight`):
    if every match starts with the runes of the prefix (exactly, or under ASCII folding) and `MinRequiredLength`
    (runes) is sound, the first BYTE occurrence at or after `startAt` is a sound candidate.  `PrefixOK`: valid UTF-8
    without U+FFFD, or ASCII when the comparison folds; the constructor installs no filter for an empty prefix. -/
theorem stringFilter_prefix_sound (pre : List Nat) (ic : Bool) (minLen : Nat) (input : List Nat)
    (attempt : Nat → Option (Nat × Nat)) (hne : pre ≠ []) (hok : PrefixOK ic pre)
    (hP : ∀ p, p ≤ (decodeB input).length → attempt p ≠ none → runeOcc ic input pre p)
    (hM : MinLenSound false (decodeB input).length minLen attempt) :
    StrFilterSound input attempt (prefixFilterBody pre ic minLen) :=
  prefixFilter_sound pre ic minLen input attempt hne hok hP hM

example : PrefixOK false [97, 98] ∧ PrefixOK true [97, 98] := ⟨clean_ascii _ (by decide +kernel), by simp [PrefixOK, isASCIIString]⟩
example : ∀ p, p ≤ (decodeB sfInput).length → sfAttempt 2 2 p ≠ none → runeOcc false sfInput [97, 98] p := by
  intro p _ h; rw [sfAttempt_at h]; unfold runeOcc; decide
example : prefixFilterBody [97, 98] false 2 sfInput 0 = (3, true) ∧ prefixFilterBody [65, 66] true 2 sfInput 2 = (3, true) ∧
    prefixFilterBody [97, 98] false 2 sfInput 4 = (0, false) := by decide +kernel

/-- **`indexAnyPrefixFallback`** (`LeadingStrings_[OrdinalIgnoreCase_]LeftToRight` without a shared first byte):
    if every match starts with the runes of ONE of the prefixes, the smallest first byte occurrence over all
    prefixes is a sound candidate. -/
theorem stringFilter_prefixesFallback_sound (prefixes : List (List Nat)) (ic : Bool) (minLen : Nat) (input : List Nat)
    (attempt : Nat → Option (Nat × Nat)) (hok : ∀ pre ∈ prefixes, PrefixOK ic pre)
    (hP : ∀ p, p ≤ (decodeB input).length → attempt p ≠ none → ∃ pre ∈ prefixes, runeOcc ic input pre p)
    (hM : MinLenSound false (decodeB input).length minLen attempt) :
    StrFilterSound input attempt (indexAnyPrefixFallback prefixes ic minLen) :=
  prefixesFallback_sound prefixes ic minLen input attempt hok hP hM

example : ∀ p, p ≤ (decodeB sfInput).length → sfAttempt 2 2 p ≠ none → ∃ pre ∈ [[120, 121], [97, 98]], runeOcc false sfInput pre p := by
  intro p _ h; rw [sfAttempt_at h]; exact ⟨[97, 98], by simp, by unfold runeOcc; decide⟩
example : indexAnyPrefixFallback [[120, 121], [97, 98]] false 2 sfInput 0 = (3, true) := by decide +kernel

/-- **`asciiStringSetPrefixFilter.index`** (case-sensitive ASCII prefixes with a shared first byte): the scan over
    first bytes with bucket verification is sound under the same fact. -/
theorem stringFilter_prefixesSet_sound (prefixes : List (List Nat)) (minLen : Nat) (f : AsciiSetFilter) (input : List Nat)
    (attempt : Nat → Option (Nat × Nat))
    (hc : compileASCIIStringSetPrefixFilter prefixes false minLen = some f)
    (hP : ∀ p, p ≤ (decodeB input).length → attempt p ≠ none → ∃ pre ∈ prefixes, runeOcc false input pre p)
    (hM : MinLenSound false (decodeB input).length minLen attempt) :
    StrFilterSound input attempt f.index := by
  obtain ⟨c1, c2, c3, c4⟩ := compile_spec prefixes minLen f hc
  exact asciiSetFilter_sound f input attempt (by rw [c1]; exact c3) (by rw [c1]; exact c4) (by rw [c1]; exact hP) (by rw [c2]; exact hM)

example : ((compileASCIIStringSetPrefixFilter [[97, 98], [97, 99]] false 2).map fun f => f.index sfInput 0) = some (3, true) := by decide +kernel

/-- **`stringFixedDistanceSetFilter`** (`LeadingSet_LeftToRight` with an ASCII `Chars` list or `Range`): `Q` is the
    scanner's byte test, ASCII only (`hQ`), and `index` searches the first byte passing it (`hidx`) —
    `newASCIISetStringScanner` builds such scanners only.  The distance is in RUNES. -/
theorem stringFilter_set_sound (sc : Scanner) (Q : Nat → Bool) (minLen : Nat) (input : List Nat)
    (attempt : Nat → Option (Nat × Nat)) (hQ : ∀ c, Q c = true → c < 128) (hidx : ∀ u, sc.index u = indexByteP Q u)
    (hC : ∀ p, p ≤ (decodeB input).length → attempt p ≠ none → memAt Q (runesOf input) (p + sc.distance) = true)
    (hM : MinLenSound false (decodeB input).length minLen attempt) :
    StrFilterSound input attempt (setFilterBody sc minLen) :=
  setFilter_sound sc Q minLen input attempt hQ hidx hC hM

example : setFilterBody ⟨[97, 98], 0, 0, false, 0⟩ 1 sfInput 0 = (3, true) := by decide +kernel

/-- **`stringFixedDistanceCharFilter`** (`FixedDistanceChar_LeftToRight`): if every match has the rune `ch` exactly
    `d` RUNES after its start, the filter is sound — for every `ch`, including U+FFFD (which `strings.IndexRune`
    finds at every invalid byte), surrogates and runes above U+10FFFF (never found, never in a decoded string). -/
theorem stringFilter_fixedChar_sound (ch d minLen : Nat) (input : List Nat) (attempt : Nat → Option (Nat × Nat))
    (hC : ∀ p, p ≤ (decodeB input).length → attempt p ≠ none → (runesOf input)[p + d]? = some ch)
    (hM : MinLenSound false (decodeB input).length minLen attempt) :
    StrFilterSound input attempt (fixedCharFilterBody ch d minLen) :=
  fixedCharFilter_sound ch d minLen input attempt hC hM

example : ∀ p, p ≤ (decodeB sfInput).length → sfAttempt 0 2 p ≠ none → (runesOf sfInput)[p + 1]? = some 0xFFFD := by
  intro p _ h; rw [sfAttempt_at h]; decide
example : fixedCharFilterBody 0xFFFD 1 2 sfInput 0 = (0, true) ∧ fixedCharFilterBody 97 2 3 sfInput 0 = (0, true) ∧
    fixedCharFilterBody 97 2 3 sfInput 2 = (0, false) := by decide +kernel

/-- **`stringFixedDistanceStringFilter`** (`FixedDistanceString_LeftToRight`): the literal stands `d` RUNES after
    every match start; it is not empty and `Clean` (valid UTF-8 without U+FFFD): the constructor and the U+FFFD
    guard of `newStringPrefixFilter` see to both. -/
theorem stringFilter_fixedString_sound (lit : List Nat) (d minLen : Nat) (input : List Nat) (attempt : Nat → Option (Nat × Nat))
    (hne : lit ≠ []) (hc : Clean lit)
    (hC : ∀ p, p ≤ (decodeB input).length → attempt p ≠ none → occursAt eqExact (runesOf lit) (runesOf input) (p + d) = true)
    (hM : MinLenSound false (decodeB input).length minLen attempt) :
    StrFilterSound input attempt (fixedStringFilterBody lit d minLen) :=
  fixedStringFilter_sound lit d minLen input attempt hne hc hC hM

example : ∀ p, p ≤ (decodeB sfInput).length → sfAttempt 1 3 p ≠ none → occursAt eqExact (runesOf [97, 98]) (runesOf sfInput) (p + 1) = true := by
  intro p _ h; rw [sfAttempt_at h]; decide
example : fixedStringFilterBody [97, 98] 1 3 sfInput 0 = (2, true) ∧ fixedStringFilterBody [97, 98] 1 3 sfInput 3 = (0, false) := by decide +kernel

/-- **`stringLiteralAfterLoopFilter`** (`LiteralAfterLoop_LeftToRight`): if every match contains the literal (string,
    one of `Chars`, or `Char`) somewhere at or after its start, "the literal occurs in `input[startAt:]`" loses
    no match; the candidate is `startAt` itself. -/
theorem stringFilter_literalAfterLoop_sound (l : LitB) (minLen : Nat) (input : List Nat) (attempt : Nat → Option (Nat × Nat))
    (hstr : l.str.isEmpty = false → PrefixOK l.strIgnoreCase l.str)
    (hL : ∀ p, p ≤ (decodeB input).length → attempt p ≠ none → ∃ k, p ≤ k ∧ litAtB l (runesOf input) k)
    (hM : MinLenSound false (decodeB input).length minLen attempt) :
    StrFilterSound input attempt (literalAfterLoopFilterBody l minLen) :=
  literalAfterLoopFilter_sound l minLen input attempt hstr hL hM

example : ∀ p, p ≤ (decodeB sfInput).length → sfAttempt 2 2 p ≠ none → ∃ k, p ≤ k ∧ litAtB { char := 98, hasLoopSet := true } (runesOf sfInput) k := by
  intro p _ h; rw [sfAttempt_at h]; exact ⟨3, by omega, by unfold litAtB; decide⟩
example : literalAfterLoopFilterBody { char := 98, hasLoopSet := true } 2 sfInput 2 = (2, true) ∧
    literalAfterLoopFilterBody { char := 0xFFFD, hasLoopSet := true } 1 sfInput 3 = (0, false) ∧
    literalAfterLoopFilterBody { char := 0xFFFD, hasLoopSet := true } 1 sfInput 2 = (2, true) := by decide +kernel

/-- **`newStringPrefixFilter`: whatever it installs is sound**, given the facts of the record's find mode
    (`StrFactsSound`: the fact predicates of the candidate finders, on the decoded input, distances in runes). -/
theorem stringFilter_dispatch_sound (code : CodeB) (o : StrOpts) (k : Kind) (f : Filter) (input : List Nat)
    (attempt : Nat → Option (Nat × Nat))
    (ho : code.opts = some o) (hinst : newStringPrefixFilter code = some (k, f))
    (hF : StrFactsSound o input attempt) : StrFilterSound input attempt f :=
  dispatch_sound code o k f input attempt ho hinst hF

def sfCode : CodeB := { opts := some { mode := .leadingStringLtr, minLen := 2, leadingPrefix := [97, 98] } }
example : ((newStringPrefixFilter sfCode).map fun kf => (kf.1, kf.2 sfInput 0)) = some (Kind.«prefix», (3, true)) := by decide +kernel
example : StrFactsSound { mode := .leadingStringLtr, minLen := 2, leadingPrefix := [97, 98] } sfInput (sfAttempt 2 2) :=
  ⟨sfMinLen 2 2 2 (by omega), by intro p _ h; rw [sfAttempt_at h]; unfold runeOcc; decide⟩

/-- **… and it installs none where none is sound**: right-to-left programs, programs that use `\G` (the search is
    restarted at the candidate, which would rebind `\G`: `Props.C02`, D2), and a U+FFFD in one of the literal strings
    (every invalid input byte decodes to U+FFFD without containing its three bytes: D22). -/
theorem stringFilter_dispatch_none (code : CodeB)
    (h : code.rightToLeft = true ∨ code.usesStartAnchor = true ∨ ∃ o, code.opts = some o ∧ hasRuneError o = true) :
    newStringPrefixFilter code = none := by
  unfold newStringPrefixFilter
  cases ho : code.opts with
  | none => rfl
  | some o =>
    rcases h with h | h | ⟨o', ho', h⟩
    · simp [h]
    · simp [h]
    · obtain rfl := Option.some.inj (ho ▸ ho')
      simp [h]

example : hasRuneError { mode := .leadingStringLtr, leadingPrefix := [97, 0xEF, 0xBF, 0xBD] } = true ∧
    hasRuneError { mode := .fixedDistanceStringLtr, fixedString := [97, 0xFF] } = true := by decide +kernel
-- the case the guard exists for: `a\x{FFFD}` on "xa\xffy" matches at rune 1, the byte search for "a\xef\xbf\xbd" finds nothing
example : prefixFilterBody [97, 0xEF, 0xBF, 0xBD] false 2 [120, 97, 0xFF, 121] 0 = (0, false) ∧
    occursAt eqExact (runesOf [97, 0xEF, 0xBF, 0xBD]) (runesOf [120, 97, 0xFF, 121]) 1 = true := by decide +kernel

end StringFilters

/-! ## the rune-slice searches of `helpers/indexof.go`

The candidate finders above are proved against SPECIFIED searches (`findUp`: the first index at which a test
holds).  `Model/IndexOf.lean` mirrors the Go loops themselves, line by line (`none` = the Go function panics);
below, every mirror is proved to return the FIRST (LAST) index satisfying its documented test, `-1` exactly when
there is none, without a panic under the precondition its callers guarantee — and the finders are stated a second
time, over the mirrored calls (`…_uses_…`), so that `finder_*_sound` rest on the loops of `indexof.go`, not on a
specification of them.  Leg Ix ties the mirrors to the Go functions.

`FirstIdx P r` / `LastIdx P r`: `r = -1` and `P` holds nowhere, or `r` is an index with `P r` and `P` holds at no
smaller (larger) index.  `RuneAt inp Q i`: `inp[i]` exists and satisfies `Q`.  `SubAt inp find i`:
`inp[i : i+len(find)] = find`. -/
section IndexOfHelpers
open RegexVerif.IndexOf RegexVerif.Lemmas.IndexOf

/-- **`helpers.IndexOfAny(in, find)`**: the first index whose rune is one of `find`; `-1` when there is none (in
    particular for an empty `find`); never panics. -/
theorem indexOfAny_spec (inp find : List Nat) :
    ∃ r, indexOfAny inp find = some r ∧ FirstIdx (RuneAt inp (· ∈ find)) r :=
  ⟨_, indexOfAny_eq inp find, rangeLoop_firstP _ _ (fun c => by simp) inp⟩

example : indexOfAny [120, 98, 97] [97, 98] = some 1 ∧ indexOfAny [120] [97, 98] = some (-1) ∧
    indexOfAny [97] [] = some (-1) := by decide +kernel

/-- **`helpers.IndexOfAny1(in, find)`**: the first index holding `find`. -/
theorem indexOfAny1_spec (inp : List Nat) (find : Nat) :
    ∃ r, indexOfAny1 inp find = some r ∧ FirstIdx (RuneAt inp (· = find)) r :=
  ⟨_, rfl, rangeLoop_firstP _ _ (fun c => by simp) inp⟩

example : indexOfAny1 [120, 97, 97] 97 = some 1 ∧ indexOfAny1 [120] 97 = some (-1) ∧ indexOfAny1 [] 97 = some (-1) := by
  decide

/-- **`helpers.IndexOfAny2(in, find1, find2)`**: the first index holding one of the two runes. -/
theorem indexOfAny2_spec (inp : List Nat) (find1 find2 : Nat) :
    ∃ r, indexOfAny2 inp find1 find2 = some r ∧ FirstIdx (RuneAt inp (fun c => c = find1 ∨ c = find2)) r :=
  ⟨_, rfl, rangeLoop_firstP _ _ (fun c => by simp) inp⟩

example : indexOfAny2 [120, 98, 97] 97 98 = some 1 ∧ indexOfAny2 [120] 97 98 = some (-1) := by decide +kernel

/-- **`helpers.IndexOfAny3(in, find1, find2, find3)`**: the first index holding one of the three runes. -/
theorem indexOfAny3_spec (inp : List Nat) (find1 find2 find3 : Nat) :
    ∃ r, indexOfAny3 inp find1 find2 find3 = some r ∧
      FirstIdx (RuneAt inp (fun c => c = find1 ∨ c = find2 ∨ c = find3)) r :=
  ⟨_, rfl, rangeLoop_firstP _ _ (fun c => by simp [or_assoc]) inp⟩

example : indexOfAny3 [120, 99, 97] 97 98 99 = some 1 ∧ indexOfAny3 [120] 97 98 99 = some (-1) := by decide +kernel

/-- **`helpers.IndexOfAnyInRange(in, first, last)`**: the first index whose rune lies in `first..last` (both ends
    included). -/
theorem indexOfAnyInRange_spec (inp : List Nat) (first last : Nat) :
    ∃ r, indexOfAnyInRange inp first last = some r ∧ FirstIdx (RuneAt inp (fun c => first ≤ c ∧ c ≤ last)) r :=
  ⟨_, rfl, rangeLoop_firstP _ _ (fun c => by simp) inp⟩

example : indexOfAnyInRange [96, 97, 122, 123] 97 122 = some 1 ∧ indexOfAnyInRange [123, 122] 97 122 = some 1 ∧
    indexOfAnyInRange [96, 123] 97 122 = some (-1) := by decide +kernel

/-- **`helpers.IndexOfAnyExcept(in, bad)`**: the first index whose rune is NOT one of `bad` (the inner loop with
    its `found` flag is mirrored). -/
theorem indexOfAnyExcept_spec (inp bad : List Nat) :
    ∃ r, indexOfAnyExcept inp bad = some r ∧ FirstIdx (RuneAt inp (fun c => c ∉ bad)) r :=
  ⟨_, rfl, rangeLoop_firstP _ _ (fun c => by simp [foundIn_eq]) inp⟩

example : indexOfAnyExcept [97, 98, 120] [98, 97] = some 2 ∧ indexOfAnyExcept [97, 98] [98, 97] = some (-1) ∧
    indexOfAnyExcept [97] [] = some 0 := by decide +kernel

/-- **`helpers.IndexOfAnyExcept1(in, bad)`**: the first index not holding `bad`. -/
theorem indexOfAnyExcept1_spec (inp : List Nat) (bad : Nat) :
    ∃ r, indexOfAnyExcept1 inp bad = some r ∧ FirstIdx (RuneAt inp (· ≠ bad)) r :=
  ⟨_, rfl, rangeLoop_firstP _ _ (fun c => by simp) inp⟩

example : indexOfAnyExcept1 [97, 97, 120] 97 = some 2 ∧ indexOfAnyExcept1 [97, 97] 97 = some (-1) := by decide +kernel

/-- **`helpers.IndexOfAnyExcept2(in, bad1, bad2)`**: the first index holding neither rune. -/
theorem indexOfAnyExcept2_spec (inp : List Nat) (bad1 bad2 : Nat) :
    ∃ r, indexOfAnyExcept2 inp bad1 bad2 = some r ∧ FirstIdx (RuneAt inp (fun c => c ≠ bad1 ∧ c ≠ bad2)) r :=
  ⟨_, rfl, rangeLoop_firstP _ _ (fun c => by simp) inp⟩

example : indexOfAnyExcept2 [97, 98, 120] 97 98 = some 2 ∧ indexOfAnyExcept2 [98, 97] 97 98 = some (-1) := by decide +kernel

/-- **`helpers.IndexOfAnyExcept3(in, bad1, bad2, bad3)`**: the first index holding none of the three runes. -/
theorem indexOfAnyExcept3_spec (inp : List Nat) (bad1 bad2 bad3 : Nat) :
    ∃ r, indexOfAnyExcept3 inp bad1 bad2 bad3 = some r ∧
      FirstIdx (RuneAt inp (fun c => c ≠ bad1 ∧ c ≠ bad2 ∧ c ≠ bad3)) r :=
  ⟨_, rfl, rangeLoop_firstP _ _ (fun c => by simp [and_assoc]) inp⟩

example : indexOfAnyExcept3 [97, 99, 120] 97 98 99 = some 2 ∧ indexOfAnyExcept3 [99, 97] 97 98 99 = some (-1) := by decide +kernel

/-- **`helpers.IndexOfAnyExceptInRange(in, first, last)`**: the first index whose rune lies OUTSIDE `first..last`
    (the two `if`s — above `last`, below `first` — are mirrored). -/
theorem indexOfAnyExceptInRange_spec (inp : List Nat) (first last : Nat) :
    ∃ r, indexOfAnyExceptInRange inp first last = some r ∧
      FirstIdx (RuneAt inp (fun c => ¬ (first ≤ c ∧ c ≤ last))) r :=
  ⟨_, rfl, rangeLoop_firstP _ _ (fun c => by
    by_cases h1 : c > last
    · simp [h1]
    · by_cases h2 : c < first
      · simp [h1, h2]
      · simp [h1, h2]) inp⟩

example : indexOfAnyExceptInRange [97, 122, 123] 97 122 = some 2 ∧ indexOfAnyExceptInRange [122, 96] 97 122 = some 1 ∧
    indexOfAnyExceptInRange [97, 122] 97 122 = some (-1) := by decide +kernel

/-- **`helpers.IndexFunc(in, f)`**: the first index whose rune passes `f`. -/
theorem indexFunc_spec (inp : List Nat) (f : Nat → Bool) :
    ∃ r, indexFunc inp f = some r ∧ FirstIdx (RuneAt inp (fun c => f c = true)) r :=
  ⟨_, rfl, rangeLoop_firstP _ _ (fun _ => Iff.rfl) inp⟩

example : indexFunc [96, 98, 97] (· % 2 == 1) = some 2 ∧ indexFunc [96] (· % 2 == 1) = some (-1) := by decide +kernel

/-- **`helpers.LastIndexOfAny1(in, find)`**: the LAST index holding `find`; the loop starts at `len(in) - 1` and
    never reads outside the slice. -/
theorem lastIndexOfAny1_spec (inp : List Nat) (find : Nat) :
    ∃ r, lastIndexOfAny1 inp find = some r ∧ LastIdx (RuneAt inp (· = find)) r :=
  downLoop_lastP _ _ (fun c => by simp) inp

example : lastIndexOfAny1 [97, 120, 97, 120] 97 = some 2 ∧ lastIndexOfAny1 [120, 97] 97 = some 1 ∧
    lastIndexOfAny1 [120] 97 = some (-1) ∧ lastIndexOfAny1 [] 97 = some (-1) := by decide +kernel

/-- **`helpers.LastIndexOfAnyExcept1(in, not)`**: the last index not holding `not`. -/
theorem lastIndexOfAnyExcept1_spec (inp : List Nat) (not : Nat) :
    ∃ r, lastIndexOfAnyExcept1 inp not = some r ∧ LastIdx (RuneAt inp (· ≠ not)) r :=
  downLoop_lastP _ _ (fun c => by simp) inp

example : lastIndexOfAnyExcept1 [120, 97, 97] 97 = some 0 ∧ lastIndexOfAnyExcept1 [97, 120] 97 = some 1 ∧
    lastIndexOfAnyExcept1 [97] 97 = some (-1) := by decide +kernel

/-- **`helpers.LastIndexOfAnyInRange(in, first, last)`**: the last index whose rune lies in `first..last`. -/
theorem lastIndexOfAnyInRange_spec (inp : List Nat) (first last : Nat) :
    ∃ r, lastIndexOfAnyInRange inp first last = some r ∧ LastIdx (RuneAt inp (fun c => first ≤ c ∧ c ≤ last)) r :=
  downLoop_lastP _ _ (fun c => by simp) inp

example : lastIndexOfAnyInRange [97, 122, 123] 97 122 = some 1 ∧ lastIndexOfAnyInRange [96, 123] 97 122 = some (-1) := by
  decide

/-- **`helpers.IndexOf(in, find)`** for a non-empty `find` (the Go code reads `find[0]`; its comment: "Since we
    auto-gen the find code this shouldn't happen"): the FIRST index at which `find` lies in `in` as a contiguous
    sub-slice, `-1` when it lies nowhere; the loop bound `i <= len(in) - len(find)` loses no position and reads
    nothing outside the slice. -/
theorem indexOf_first (inp find : List Nat) (hne : find ≠ []) :
    ∃ r, indexOf inp find = some r ∧ FirstIdx (SubAt inp find) r :=
  ⟨_, indexOf_eq inp find hne, (occursAt_firstIdx eqExact inp find hne).congr fun i => occursAt_exact find inp i⟩

example : indexOf [120, 97, 97, 98, 97, 98] [97, 98] = some 2 ∧ indexOf [97, 98] [97, 98] = some 0 ∧
    indexOf [120, 97, 98] [97, 98] = some 1 ∧ indexOf [97, 97] [97, 98] = some (-1) ∧ indexOf [97] [97, 98] = some (-1) ∧
    indexOf [] [97] = some (-1) := by decide +kernel

/-- **`helpers.LastIndexOf(in, find)`** for a non-empty `find`: the LAST index at which `find` lies in `in`; the
    loop starts at `len(in) - len(find)`, the two-rune pre-check (`first`, `last`) rejects no occurrence. -/
theorem lastIndexOf_spec (inp find : List Nat) (hne : find ≠ []) :
    ∃ r, lastIndexOf inp find = some r ∧ LastIdx (SubAt inp find) r := by
  obtain ⟨r, hr, hl⟩ := lastIndexOf_last inp find hne
  exact ⟨r, hr, hl.congr fun i => occursAt_exact find inp i⟩

example : lastIndexOf [97, 98, 97, 98, 120] [97, 98] = some 2 ∧ lastIndexOf [120, 97, 98] [97, 98] = some 1 ∧
    lastIndexOf [97, 98, 120] [97, 98] = some 0 ∧ lastIndexOf [97, 97] [97, 98] = some (-1) ∧
    lastIndexOf [97] [97, 98] = some (-1) := by decide +kernel

/-- **What "occurs under a comparison" means** (`occursAt eq find in i`, the vocabulary of the finder theorems):
    the needle fits from `i` and every rune of it is matched by the text rune at the same offset. -/
theorem occursAt_iff_pointwise (eq : Nat → Nat → Bool) (find inp : List Nat) (i : Nat) (hi : i ≤ inp.length) :
    occursAt eq find inp i = true ↔
      (i + find.length ≤ inp.length ∧
        ∀ j, j < find.length → ∃ t c, inp[i + j]? = some t ∧ find[j]? = some c ∧ eq t c = true) := by
  unfold occursAt
  rw [prefixOf_pointwise]
  simp only [List.length_drop, List.getElem?_drop]
  constructor
  · rintro ⟨h1, h2⟩; exact ⟨by omega, h2⟩
  · rintro ⟨h1, h2⟩; exact ⟨by omega, h2⟩

example : occursAt (eqLower id) [97, 98] [120, 97, 98] 1 = true ∧ occursAt (eqLower id) [97, 98] [120, 97] 1 = false := by
  decide

/-- **`helpers.IndexOfIgnoreCase(in, find)`** for a non-empty `find`, relative to the oracle `lower` =
    `unicode.ToLower`: the first index at which every rune of `find` equals the text rune or its `ToLower`
    (`eqLower`: `t == c || lower t == c`; the needle is NOT lowered — "find should always be sent in lower-case"). -/
theorem indexOfIgnoreCase_spec (lower : Nat → Nat) (inp find : List Nat) (hne : find ≠ []) :
    ∃ r, indexOfIgnoreCase lower inp find = some r ∧ FirstIdx (fun i => occursAt (eqLower lower) find inp i = true) r :=
  ⟨_, indexOfIgnoreCase_eq lower inp find hne, occursAt_firstIdx _ inp find hne⟩

example : indexOfIgnoreCase (fun c => if c = 0x212A then 107 else c) [120, 75, 0x212A, 98] [107, 98] = some 2 ∧
    indexOfIgnoreCase id [65, 98] [97, 98] = some (-1) ∧ indexOfIgnoreCase bmLower [65, 66] [97, 98] = some 0 := by decide +kernel

/-- **`helpers.IndexOfIgnoreCaseAscii(in, find)`**: the first index at which `find` lies under ASCII case folding
    of BOTH sides (`foldASCII`: `A..Z` ↦ `a..z`, everything else unchanged); `0` for an empty `find`; never panics. -/
theorem indexOfIgnoreCaseAscii_spec (inp find : List Nat) :
    (find = [] → indexOfIgnoreCaseAscii inp find = some 0) ∧
    (find ≠ [] → ∃ r, indexOfIgnoreCaseAscii inp find = some r ∧
      FirstIdx (fun i => occursAt eqAsciiFold find inp i = true) r) :=
  ⟨fun h => by subst h; rfl, fun hne => ⟨_, indexOfIgnoreCaseAscii_eq inp find hne, occursAt_firstIdx _ inp find hne⟩⟩

example : indexOfIgnoreCaseAscii [120, 65, 90, 97, 122] [97, 90] = some 1 ∧
    indexOfIgnoreCaseAscii [64, 91] [96, 123] = some (-1) ∧ indexOfIgnoreCaseAscii [0x212A] [107] = some (-1) := by decide +kernel

/-- **`helpers.StartsWith(in, find)`** for a non-empty `find`: `true` exactly when `in` begins with `find`. -/
theorem startsWith_spec (inp find : List Nat) (hne : find ≠ []) :
    ∃ b, startsWith inp find = some b ∧ (b = true ↔ SubAt inp find 0) :=
  ⟨_, startsWith_eq inp find hne, occursAt_exact find inp 0⟩

example : startsWith [97, 98, 120] [97, 98] = some true ∧ startsWith [97, 120] [97, 98] = some false ∧
    startsWith [97] [97, 98] = some false := by decide +kernel

/-- **An empty needle makes the exact searches PANIC** (`find[0]`, `&find[0]` in `bytesEqual`): `IndexOf`,
    `LastIndexOf`, `IndexOfIgnoreCase`, `StartsWith` — the precondition of the four theorems above is needed.
    (Every call site in `runner.go` tests `len(prefix) == 0` / `len(literal) == 0` first, or passes a non-empty
    string; `findLeadingStringsLeftToRight` calls `StartsWith` unguarded only on its position-by-position path,
    which the case-sensitive mode takes only when `LeadingPrefixFirstRunes` is empty, i.e. never with ≥ 2 distinct
    prefixes.) -/
theorem exact_searches_fault_on_empty_needle (lower : Nat → Nat) (inp : List Nat) :
    indexOf inp [] = none ∧ lastIndexOf inp [] = none ∧ indexOfIgnoreCase lower inp [] = none ∧
    startsWith inp [] = none := by
  refine ⟨rfl, rfl, rfl, ?_⟩
  simp [startsWith, slice, bytesEqual]

/-- **`helpers.StartsWithIgnoreCase(in, find)`**, relative to `lower` = `unicode.ToLower`: `true` exactly when every
    rune of `find` equals the rune of `in` at its offset or that rune's `ToLower`; never panics (an empty `find`
    gives `true`). -/
theorem startsWithIgnoreCase_spec (lower : Nat → Nat) (inp find : List Nat) :
    startsWithIgnoreCase lower inp find = some (occursAt (eqLower lower) find inp 0) :=
  startsWithIgnoreCase_eq lower inp find

example : startsWithIgnoreCase bmLower [65, 98, 120] [97, 98] = some true ∧
    startsWithIgnoreCase bmLower [97, 98] [65, 98] = some false ∧ startsWithIgnoreCase id [97] [97, 98] = some false ∧
    startsWithIgnoreCase id [] [] = some true := by decide +kernel

/-- **`helpers.Equals(in, start, length, find)`** when the window `in[start : start+length]` lies in the slice and is
    non-empty unless `find` is empty (`bytesEqual` takes `&a[0]`): `true` exactly when `find` is empty or the window
    IS `find` (a window of another length is unequal). -/
theorem equals_spec (inp : List Nat) (start length : Nat) (find : List Nat)
    (hfit : start + length ≤ inp.length) (hwin : find = [] ∨ 0 < length) :
    ∃ b, equals inp start length find = some b ∧ (b = true ↔ (find = [] ∨ (inp.drop start).take length = find)) :=
  ⟨_, equals_eq inp start length find hfit hwin, by simp⟩

example : equals [120, 97, 98] 1 2 [97, 98] = some true ∧ equals [120, 97, 98] 0 2 [97, 98] = some false ∧
    equals [120, 97, 98] 1 1 [97, 98] = some false ∧ equals [120] 1 0 [] = some true ∧
    equals [120, 97] 1 2 [97, 98] = none := by decide +kernel

/-- **`helpers.EqualsIgnoreCase(in, start, len(find), find)`** when the window lies in the slice (its only caller,
    `searchvalues.go`, passes `length = len(find)` after testing `len(in)-start >= len(find)`), relative to `lower`:
    `true` exactly when every rune of `find` equals the window's rune or both have the same `ToLower`.  (The loop
    ignores `length`: with another `length` it compares `len(find)` runes from `start` all the same.) -/
theorem equalsIgnoreCase_spec (lower : Nat → Nat) (inp : List Nat) (start : Nat) (find : List Nat)
    (hfit : start + find.length ≤ inp.length) :
    equalsIgnoreCase lower inp start find.length find = some (occursAt (eqLowerBoth lower) find inp start) :=
  equalsIgnoreCase_eq lower inp start find hfit

example : equalsIgnoreCase bmLower [120, 65, 98] 1 2 [97, 66] = some true ∧
    equalsIgnoreCase bmLower [120, 65, 99] 1 2 [97, 66] = some false ∧ equalsIgnoreCase id [120] 1 0 [] = some true := by
  decide

/-! ### the finders over the mirrored calls -/

/-- **`findFixedDistanceCharLeftToRight` over the real `IndexOfAny1`**: the finder with the call
    `helpers.IndexOfAny1(r.Runtext[searchStart:], ch)` spelled out (`-1` ↦ give up, else `searchStart + offset`)
    is the finder model of `finder_fixedChar_sound`, position by position — so that theorem holds for the loop of
    `indexof.go`. -/
theorem finder_fixedChar_uses_indexOfAny1 (c d : Nat) (text : List Nat) (minLen : Nat) (attempt : Nat → Option (Nat × Nat))
    (hC : ∀ p, p ≤ text.length → attempt p ≠ none → text[p + d]? = some c)
    (hM : MinLenSound false text.length minLen attempt) :
    finderFixedCharIx c d text minLen = finderFixedChar c d text minLen ∧
    FinderSound false text.length (finderFixedCharIx c d text minLen) attempt :=
  eq_and_sound (finderFixedCharIx_eq c d text minLen) (finder_fixedChar_sound c d text minLen attempt hC hM)

example : finderFixedCharIx 98 1 demoText 2 0 = (true, 1) ∧ finderFixedCharIx 98 1 demoText 2 2 = (true, 3) ∧
    finderFixedCharIx 98 1 demoText 2 4 = (false, 5) := by decide +kernel

/-- **`findFixedDistanceStringLeftToRight` over the real `IndexOf`.** -/
theorem finder_fixedString_uses_indexOf (lit : List Nat) (d : Nat) (text : List Nat) (minLen : Nat)
    (attempt : Nat → Option (Nat × Nat))
    (hC : ∀ p, p ≤ text.length → attempt p ≠ none → occursAt eqExact lit text (p + d) = true)
    (hM : MinLenSound false text.length minLen attempt) :
    finderFixedStringIx lit d text minLen = finderFixedString lit d text minLen ∧
    FinderSound false text.length (finderFixedStringIx lit d text minLen) attempt :=
  eq_and_sound (finderFixedStringIx_eq lit d text minLen) (finder_fixedString_sound lit d text minLen attempt hC hM)

example : finderFixedStringIx [97, 98] 1 fdText 3 0 = (true, 1) ∧ finderFixedStringIx [97, 98] 1 fdText 3 2 = (true, 3) ∧
    finderFixedStringIx [97, 98] 1 fdText 3 4 = (false, 6) := by decide +kernel

/-- **`findFixedDistanceSetsLeftToRight` (and `LeadingSet_LeftToRight`) over the real `indexOfSet`**: whichever of
    `IndexOfAny`, `IndexOfAnyExcept`, `IndexOfAnyInRange`, `IndexOfAnyExceptInRange`, `IndexFunc` the dispatcher
    selects for the primary set. -/
theorem finder_fixedSets_uses_indexOfSet (sets : List FDSet) (text : List Nat) (minLen : Nat) (attempt : Nat → Option (Nat × Nat))
    (hwf : ∃ primary rest, sets = primary :: rest ∧ primary.set.isSome = true)
    (hS : ∀ p, p ≤ text.length → attempt p ≠ none → fixedSetsMatchAt sets text p = true)
    (hM : MinLenSound false text.length minLen attempt) :
    finderFixedSetsIx sets text minLen = finderFixedSets sets text minLen ∧
    FinderSound false text.length (finderFixedSetsIx sets text minLen) attempt :=
  eq_and_sound (finderFixedSetsIx_eq sets text minLen) (finder_fixedSets_sound sets text minLen attempt hwf hS hM)

example : finderFixedSetsIx fdSets fdText 3 0 = (true, 1) ∧ finderFixedSetsIx fdSets fdText 3 4 = (false, 6) := by decide +kernel

/-- **`findLeadingStringLeftToRight` over the real `IndexOf` / `IndexOfIgnoreCaseAscii` / `IndexOfIgnoreCase`**
    (the three-way choice by `ignoreCase` and `isASCIIRunes(prefix)`). -/
theorem finder_leadingString_uses_indexOf (lower : Nat → Nat) (pat : List Nat) (ignoreCase : Bool) (text : List Nat)
    (minLen : Nat) (attempt : Nat → Option (Nat × Nat))
    (hP : ∀ p, p ≤ text.length → attempt p ≠ none → occursAt (stringEq lower ignoreCase pat) pat text p = true)
    (hM : MinLenSound false text.length minLen attempt) :
    finderLeadingStringIx lower pat ignoreCase text minLen = finderLeadingString lower pat ignoreCase text minLen ∧
    FinderSound false text.length (finderLeadingStringIx lower pat ignoreCase text minLen) attempt :=
  eq_and_sound (finderLeadingStringIx_eq lower pat ignoreCase text minLen)
    (finder_leadingString_sound lower pat ignoreCase text minLen attempt hP hM)

example : finderLeadingStringIx id [97, 98] true ciText 2 0 = (true, 1) ∧
    finderLeadingStringIx id [97, 98] false ciText 2 0 = (true, 3) ∧
    finderLeadingStringIx id [97, 98] true ciText 2 4 = (false, 5) := by decide +kernel

/-- **`findLiteralAfterLoopLeftToRight` over the real `indexOfLiteralAfterLoop`** (`IndexOf` /
    `IndexOfIgnoreCaseAscii` / `IndexOfIgnoreCase` for a string, `IndexOfAny` for `Chars`, `IndexOfAny1` for `Char`). -/
theorem finder_literalAfterLoop_uses_helpers (lower : Nat → Nat) (l : LitAfterLoop) (S : Nat → Bool) (text : List Nat)
    (minLen : Nat) (attempt : Nat → Option (Nat × Nat))
    (hset : l.loopSet = some S)
    (hL : LitAfterLoopFact lower l S text attempt)
    (hM : MinLenSound false text.length minLen attempt) :
    finderLiteralAfterLoopIx lower l text minLen = finderLiteralAfterLoop lower l text minLen ∧
    FinderSound false text.length (finderLiteralAfterLoopIx lower l text minLen) attempt :=
  eq_and_sound (finderLiteralAfterLoopIx_eq lower l text minLen)
    (finder_literalAfterLoop_sound lower l S text minLen attempt hset hL hM)

example : finderLiteralAfterLoopIx id lalLit fdText 2 0 = (true, 0) ∧ finderLiteralAfterLoopIx id lalLit fdText 2 3 = (true, 4) ∧
    finderLiteralAfterLoopIx id lalLit fdText 2 5 = (false, 6) := by decide +kernel

/-- **The helper calls of `findLeadingStringsLeftToRight` and of the landmark chain** are the tests and searches
    their models (`finderLeadingStrings`, `anyPrefixWithFirst`, `lmCore`) use: `StartsWith(r.Runtext[start:], prefix)`
    for a non-empty prefix and `StartsWithIgnoreCase(r.Runtext[start:], prefix)` are `occursAt` at `start`;
    `indexOfAnyRunes(r.Runtext[searchAt:latest+1], firstRunes)` (whichever of `IndexOfAny1/2/3`, `IndexOfAny` its
    `switch` selects) is the specified search for a first rune in `[searchAt, latest]`. -/
theorem finder_leadingStrings_uses_helpers (lower : Nat → Nat) (text pre firstRunes : List Nat) (s e : Nat)
    (he : e ≤ text.length) :
    (pre ≠ [] → startsWith (text.drop s) pre = some (occursAt eqExact pre text s)) ∧
    startsWithIgnoreCase lower (text.drop s) pre = some (occursAt (eqLower lower) pre text s) ∧
    absIdx s (indexOfAnyRunes ((text.take e).drop s) firstRunes) =
      findUp (memAt (fun c => firstRunes.contains c) text) (e - s) s :=
  ⟨fun hne => startsWith_callsite text pre hne s, startsWithIgnoreCase_callsite lower text pre s,
   indexOfAnyRunes_callsite text firstRunes s e he⟩

example : startsWith (fdText.drop 2) [97, 98] = some true ∧ startsWithIgnoreCase id (fdText.drop 3) [97, 98] = some false ∧
    absIdx 1 (indexOfAnyRunes ((fdText.take 5).drop 1) [98, 99]) = some 3 ∧
    absIdx 4 (indexOfAnyRunes ((fdText.take 5).drop 4) [98, 99]) = none := by decide +kernel

end IndexOfHelpers

end RegexVerif.Props.C03
