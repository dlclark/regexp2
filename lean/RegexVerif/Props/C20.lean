/-
C20 — case-insensitive matching ignores case.

Under IgnoreCase every character test of the pattern (literal, class, back-reference) is the `ci` variant of the
specification: it compares runes up to simple case partners, which come in as the oracle table `Env.fold` (rows of
Go's `unicode.SimpleFold` restricted to two-element orbits).  The theorems here say that `Spec.m` / `Spec.find` (what
leg S-ci compares the Go engine with) then really ignores case:

* input side — successes, hence the match found, its span and all captures, are the same on two inputs that differ
  only in the case of letters (`m_flip_invariant`, `find_flip_invariant`);
* pattern side — the case of a literal, and of the endpoints of a class range, may be changed without changing any
  result, also inside negated classes and subtractions (`m_pattern_flip_invariant`, `find_pattern_flip_invariant`,
  under `PatTestEq`); the last section is about the re-cased pattern `Spec.recase e ch p` (Model/Recase.lean) for an
  arbitrary choice `ch` of letters: no `PatTestEq` hypothesis, but the decidable range condition `RecaseOK`.

All that is used of the oracle tables is `Spec.FoldOK`: the partner relation is an involution, `\b`'s word test agrees
on partners, `'\n'` has no partner.  Closure of the named classes (`\w`, `\d`, …) under partners is not needed: a `ci`
class accepts a rune when it or its partner is in the positive part.  `FoldOK` follows from the executable check
`Spec.foldCheck` (`foldOK_of_foldCheck`).
-/
import RegexVerif.Lemmas.Recase

namespace RegexVerif.Props.C20
open RegexVerif RegexVerif.Spec RegexVerif.Spec.FlipDemo

/- The `example`s use the instance `Spec.FlipDemo` (end of Lemmas/SpecFlip.lean, Lemmas/Recase.lean): case pairs a↔A, b↔B,
   the texts "abAB" / "ABab", the pattern `(?i)(a)[a-b\p{0}-[a]]+?\1\B` (`demoPat`) and its upper-case spelling
   `demoPat'`. -/

/-! ### the relation "equal up to case" -/

/-- **Equality up to simple case partners is an equivalence relation** when the partner table is an involution: what
    makes a case-insensitive back-reference meaningful (the captured slice and the compared slice may be re-cased
    independently). -/
theorem eqCi_equiv (e : Env) (hf : FoldOK e) :
    (∀ a, e.eqCi a a = true) ∧
    (∀ a b, e.eqCi a b = true → e.eqCi b a = true) ∧
    (∀ a b c, e.eqCi a b = true → e.eqCi b c = true → e.eqCi a c = true) :=
  ⟨eqCi_refl e, fun _ _ h => eqCi_symm hf h, fun _ _ _ h1 h2 => eqCi_trans hf h1 h2⟩

example : FoldOK (demoEnv demoText) ∧ (demoEnv demoText).eqCi 97 65 = true ∧ (demoEnv demoText).eqCi 97 66 = false :=
  ⟨demo_foldOK _, by decide, by decide⟩

/-- **`SameUpToCase` is what it says**: same length, and at every position the runes are equal or the second is the
    simple case partner of the first. -/
theorem sameUpToCase_pointwise (e : Env) (t t' : List Nat) :
    SameUpToCase e t t' ↔
      t'.length = t.length ∧ ∀ (i a b : Nat), t[i]? = some a → t'[i]? = some b → (a = b ∨ e.partner a = some b) := by
  rw [sameUpToCase_iff]
  simp only [eqCi_iff]

example : SameUpToCase (demoEnv demoText) demoText demoText' ∧ ¬ SameUpToCase (demoEnv demoText) demoText [65, 65, 97, 98] := by
  refine ⟨demo_same, ?_⟩
  intro h
  have := ((sameUpToCase_pointwise _ _ _).mp h).2 1 98 65 rfl rfl
  revert this; decide

/-- "equal up to case" is symmetric: it does not matter which of the two inputs is the original -/
theorem sameUpToCase_symm (e : Env) (hf : FoldOK e) (t t' : List Nat) (h : SameUpToCase e t t') :
    SameUpToCase e t' t := by
  induction h with
  | nil => exact SameUpToCase.nil
  | cons hab _ ih => exact SameUpToCase.cons (eqCi_symm hf hab) ih

example : SameUpToCase (demoEnv demoText) demoText' demoText := sameUpToCase_symm _ (demo_foldOK _) _ _ demo_same

/-- **The executable table check implies `FoldOK`.**  (The harness supplies rows of `unicode.SimpleFold` for
    two-element orbits, both directions listed.) -/
theorem foldOK_of_foldCheck (e : Env) (h : foldCheck e = true) : FoldOK e := foldOK_of_check h

example : foldCheck (demoEnv demoText) = true := by decide
/-- the check rejects a table with a three-element orbit k → K → KELVIN SIGN → k -/
example : foldCheck { demoEnv demoText with fold := [(107, 75), (75, 8490), (8490, 107)] } = false := by decide

/-! ### input side -/

/-- **A case-insensitive character test does not distinguish case-equal runes** (literal, negated literal, class
    with negation, named classes and subtraction). -/
theorem pred_test_flip_invariant (e : Env) (hf : FoldOK e) (r r' : Nat) (h : e.eqCi r r' = true) (p : Pred)
    (hp : p.isCi = true) : p.test e r' = p.test e r :=
  pred_test_flip hf h p hp

example : (Pred.set (.diff (.base true [(97, 97)] [(0, false)]) (.base false [(98, 98)] [])) true).isCi = true ∧
    (demoEnv demoText).eqCi 98 66 = true := ⟨rfl, by decide⟩

/-- **Flip invariance of the specification's list of successes**: end positions *and* capture logs.  For the Go
    engine (through leg S-ci): under IgnoreCase the priority order of the backtracking search, the spans and all
    group captures do not depend on the case of input letters. -/
theorem m_flip_invariant (e : Env) (hf : FoldOK e) (t' : List Nat) (ht : SameUpToCase e e.text t')
    (p : Pat) (hp : AllCi p) :
    ∀ (rtl : Bool) (st : St), m { e with text := t' } p rtl st = m e p rtl st :=
  fun rtl st => by rw [m_flip hf ht p hp]

example : FoldOK (demoEnv demoText) ∧ SameUpToCase (demoEnv demoText) (demoEnv demoText).text demoText' ∧
    AllCi demoPat ∧
    m (demoEnv demoText) demoPat false { pos := 0, caps := [] } = [{ pos := 3, caps := [(1, 0, 1)] }] ∧
    m { demoEnv demoText with text := demoText' } demoPat false { pos := 0, caps := [] } =
      [{ pos := 3, caps := [(1, 0, 1)] }] :=
  ⟨demo_foldOK _, demo_same, by decide +kernel⟩

/-- **Flip invariance of find**: the match found from any start position in either direction (`none`, or the end
    position with the capture log, group 0 included) is the same on both inputs. -/
theorem find_flip_invariant (e : Env) (hf : FoldOK e) (t' : List Nat) (ht : SameUpToCase e e.text t')
    (p : Pat) (hp : AllCi p) (rtl : Bool) (start : Nat) :
    find { e with text := t' } p rtl start = find e p rtl start := by
  rw [find, funext (attempt_flip hf ht p hp rtl), find, n_text, ht.length_eq, Env.n]

example : find (demoEnv demoText) demoPat false 0 = some { pos := 3, caps := [(1, 0, 1), (0, 0, 3)] } ∧
    find (demoEnv demoText') demoPat false 0 = some { pos := 3, caps := [(1, 0, 1), (0, 0, 3)] } ∧
    find (demoEnv demoText) (.seq (.cap 1 (.chr (.one 97 true))) (.chr (.notone 97 true))) true 4 =
      some { pos := 2, caps := [(1, 2, 1), (0, 2, 2)] } ∧
    find (demoEnv demoText') (.seq (.cap 1 (.chr (.one 97 true))) (.chr (.notone 97 true))) true 4 =
      some { pos := 2, caps := [(1, 2, 1), (0, 2, 2)] } :=
  by decide +kernel

/-- the hypothesis `AllCi` is needed: a case-sensitive literal tells the two inputs apart -/
example : find (demoEnv demoText) (.chr (.one 97 false)) false 0 ≠ find (demoEnv demoText') (.chr (.one 97 false)) false 0 := by
  decide +kernel

/-! ### pattern side -/

/-- **The case of a ci literal does not matter**: `(?i)a` and `(?i)A` accept the same runes. -/
theorem pred_one_flip_pattern (e : Env) (hf : FoldOK e) (c c' : Nat) (h : e.eqCi c c' = true) (r : Nat) :
    (Pred.one c' true).test e r = (Pred.one c true).test e r :=
  Spec.pred_one_flip_pattern hf h r

/-- **The case of a ci negated literal does not matter**: `(?i)[^a]` and `(?i)[^A]` accept the same
    runes. -/
theorem pred_notone_flip_pattern (e : Env) (hf : FoldOK e) (c c' : Nat) (h : e.eqCi c c' = true) (r : Nat) :
    (Pred.notone c' true).test e r = (Pred.notone c true).test e r :=
  Spec.pred_notone_flip_pattern hf h r

example : (demoEnv demoText).eqCi 97 65 = true ∧
    (Pred.one 65 true).test (demoEnv demoText) 97 = true ∧ (Pred.notone 65 true).test (demoEnv demoText) 97 = false :=
  ⟨by decide, by decide, by decide⟩

/-- **The case of the endpoints of a ci class range does not matter**: a range `lo-hi` may be replaced by `lo'-hi'`
    when every rune of either range is case-equal to a rune of the other, e.g. `a-z` by `A-Z`. -/
theorem cls_range_flip_pattern (e : Env) (hf : FoldOK e) (neg : Bool) (rs₁ rs₂ : List (Nat × Nat))
    (ns : List (Nat × Bool)) (lo hi lo' hi' : Nat)
    (h1 : ∀ x, lo ≤ x → x ≤ hi → ∃ y, e.eqCi x y = true ∧ lo' ≤ y ∧ y ≤ hi')
    (h2 : ∀ y, lo' ≤ y → y ≤ hi' → ∃ x, e.eqCi y x = true ∧ lo ≤ x ∧ x ≤ hi) (r : Nat) :
    (Cls.base neg (rs₁ ++ (lo', hi') :: rs₂) ns).mem e true r =
      (Cls.base neg (rs₁ ++ (lo, hi) :: rs₂) ns).mem e true r := by
  apply cls_base_ranges_congr
  have hp : ciRanges e [(lo', hi')] r = ciRanges e [(lo, hi)] r :=
    Bool.eq_iff_iff.mpr ⟨ciRanges_single_mono hf h2 r, ciRanges_single_mono hf h1 r⟩
  rw [ciRanges_append, ciRanges_cons, hp, ← ciRanges_cons, ← ciRanges_append]

/-- **Flip invariance in the pattern.**  `PatTestEq`: same shape, pointwise equal tests — by the three theorems
    above this covers re-casing ci literals and ci range endpoints, under negation and subtraction via
    `cls_diff_congr`. -/
theorem m_pattern_flip_invariant (e : Env) (p p' : Pat) (h : PatTestEq e p p') :
    ∀ (rtl : Bool) (st : St), m e p' rtl st = m e p rtl st :=
  fun rtl st => by rw [m_congr_tests h]

/-- **Flip invariance of find in the pattern**: same hypotheses, same match (span and captures). -/
theorem find_pattern_flip_invariant (e : Env) (p p' : Pat) (h : PatTestEq e p p') (rtl : Bool) (start : Nat) :
    find e p' rtl start = find e p rtl start := by
  unfold find attempt
  rw [m_congr_tests (.cap 0 h)]

example : PatTestEq (demoEnv demoText) demoPat demoPat' ∧ demoPat ≠ demoPat' ∧
    find (demoEnv demoText) demoPat' false 0 = some { pos := 3, caps := [(1, 0, 1), (0, 0, 3)] } :=
  ⟨demo_patTestEq _, by simp [demoPat, demoPat'], by decide +kernel⟩

/-- **Both sides at once**: re-casing the input and the pattern of a case-insensitive search gives
    the same match. -/
theorem find_flip_both (e : Env) (hf : FoldOK e) (t' : List Nat) (ht : SameUpToCase e e.text t')
    (p p' : Pat) (hp : AllCi p) (h : PatTestEq e p p') (rtl : Bool) (start : Nat) :
    find { e with text := t' } p' rtl start = find e p rtl start := by
  have h' : PatTestEq { e with text := t' } p p' := h.text t'
  rw [find_pattern_flip_invariant _ p p' h', find_flip_invariant e hf t' ht p hp]

example : find { demoEnv demoText with text := demoText' } demoPat' false 0 = find (demoEnv demoText) demoPat false 0 :=
  find_flip_both _ (demo_foldOK _) _ demo_same _ _ (by decide) (demo_patTestEq _) false 0

/-! ### pattern side, closed: the re-casing function

`Spec.recase e ch p` (Model/Recase.lean) writes the letters of the case-insensitive tests of `p` in the other case
wherever the choice function `ch` says so: ci literals, ci negated literals, and the lower and upper endpoint of every
range of every ci class *independently*, in negated classes and on both sides of subtractions.  `ch` is indexed by
the path to the letter, so every leaf-by-leaf re-casing of `p` is `recase e ch p` for some `ch`.  The side condition
`RecaseOK e ch p` is decidable and concerns ranges only: a range whose endpoints were changed must have kept its
closure under case partners (`Spec.rangeCiEq`).  It is exact (`range_recase_exact`), always holds for literals and
single class members (`member_recase_ok`) and for a range moved as a whole where the partner map is a shift
(`range_recase_shift_up/down`: `[a-z]` ↦ `[A-Z]`), and fails for mixed re-casings such as `[a-c]` ↦ `[A-c]`. -/

open RegexVerif.Spec.RecaseDemo in
/-- the examples use `Spec.RecaseDemo` (end of Lemmas/Recase.lean): pairs a↔A b↔B c↔C x↔X;
    `(?i)[a-c-[b]]x` re-cased everywhere is `(?i)[A-C-[B]]X`, and the side condition holds -/
example : recase (env tAx) all pat = patUpper ∧ pat ≠ patUpper ∧ RecaseOK (env tAx) all pat ∧
    recase (env tNeg) all negPat = negPatUpper ∧ RecaseOK (env tNeg) all negPat :=
  ⟨rfl, by simp [pat, patUpper], by decide +kernel, rfl, by decide +kernel⟩

/-- **The range condition is exact**: `rangeCiEq e a b` holds if and only if the ci classes `[a]` and `[b]` — or
    `[^a]` and `[^b]` — accept the same runes. -/
theorem range_recase_exact (e : Env) (hf : FoldOK e) (neg : Bool) (a b : Nat × Nat) :
    rangeCiEq e a b = true ↔ ∀ r, (Cls.base neg [b] []).mem e true r = (Cls.base neg [a] []).mem e true r := by
  constructor
  · intro h r
    rw [cls_single_mem, cls_single_mem, rangeCiEq_sound hf h r]
  · intro h
    apply rangeCiEq_complete
    intro r
    have := h r
    rw [cls_single_mem, cls_single_mem] at this
    revert this
    cases ciRanges e [b] r <;> cases ciRanges e [a] r <;> cases neg <;> simp

open RegexVerif.Spec.RecaseDemo in
/-- the boundary: `[a-c]` ↦ `[A-C]` passes, the mixed `[a-c]` ↦ `[A-c]` does not (`[A-c]` contains `_`,
    `D`, …), and the re-cased pattern `(?i)[A-c-[b]]x` then really finds a different result on "_x" -/
example : rangeCiEq (env []) (97, 99) (65, 67) = true ∧ rangeCiEq (env []) (97, 99) (65, 99) = false ∧
    recase (env tUx) loOnly pat = patMixed ∧ ¬ RecaseOK (env tUx) loOnly pat ∧
    find (env tUx) pat false 0 = none ∧
    find (env tUx) patMixed false 0 = some { pos := 2, caps := [(0, 0, 2)] } :=
  ⟨by decide +kernel, by decide +kernel, rfl, by decide +kernel⟩

/-- **Literals and single class members may always be re-cased**: the range `(c, c)` with both endpoints re-cased
    by the same bit passes the range check. -/
theorem member_recase_ok (e : Env) (hf : FoldOK e) (b : Bool) (c : Nat) :
    rangeOK e (c, c) (recaseRune e b c, recaseRune e b c) = true :=
  rangeOK_member hf b c

example : recaseRune (RecaseDemo.env []) true 98 = 66 ∧ recaseRune (RecaseDemo.env []) true 95 = 95 := ⟨by decide, by decide⟩

/-- **Patterns without proper ranges need no table condition**: for literals, negated literals and classes of
    single members (negated, subtracted), re-cased with the two endpoints of a range together (`Choice.Paired`),
    `RecaseOK` holds by `FoldOK` alone. -/
theorem recaseOK_of_members (e : Env) (hf : FoldOK e) (ch : Choice) (p : Pat) (hch : ch.Paired)
    (hp : p.onlyMembers = true) : RecaseOK e ch p :=
  recaseOK_members hf p hch hp

/-- `(?i)a[^bc-[c]]` with all letters re-cased -/
example : RecaseDemo.all.Paired ∧
    (Pat.seq (.chr (.one 97 true)) (.chr (.set (.diff (.base true [(98, 98), (99, 99)] []) (.base false [(99, 99)] [])) true))).onlyMembers = true ∧
    RecaseDemo.pat.onlyMembers = false :=
  ⟨fun _ _ => rfl, rfl, rfl⟩

/-- **A range re-cased as a whole, upper to lower** (`[A-Z]` ↦ `[a-z]`). -/
theorem range_recase_shift_up (e : Env) (hf : FoldOK e) (lo hi d : Nat)
    (h : ∀ x, lo ≤ x → x ≤ hi → e.partner x = some (x + d)) (hlh : lo ≤ hi) :
    (recaseRune e true lo, recaseRune e true hi) = (lo + d, hi + d) ∧
    rangeOK e (lo, hi) (recaseRune e true lo, recaseRune e true hi) = true := by
  rw [recaseRune_partner (h lo (Nat.le_refl _) hlh), recaseRune_partner (h hi hlh (Nat.le_refl _))]
  exact ⟨rfl, rangeOK_of_ciEq (rangeCiEq_shift_up hf h)⟩

/-- **A range re-cased as a whole, lower to upper** (`[a-z]` ↦ `[A-Z]`). -/
theorem range_recase_shift_down (e : Env) (hf : FoldOK e) (lo hi d : Nat) (hd : d ≤ lo)
    (h : ∀ x, lo ≤ x → x ≤ hi → e.partner x = some (x - d)) (hlh : lo ≤ hi) :
    (recaseRune e true lo, recaseRune e true hi) = (lo - d, hi - d) ∧
    rangeOK e (lo, hi) (recaseRune e true lo, recaseRune e true hi) = true := by
  rw [recaseRune_partner (h lo (Nat.le_refl _) hlh), recaseRune_partner (h hi hlh (Nat.le_refl _))]
  exact ⟨rfl, rangeOK_of_ciEq (rangeCiEq_shift_down hf hd hlh h)⟩

/-- the demo tables shift a-c down by 32 and A-C up by 32 -/
example : (∀ x, 97 ≤ x → x ≤ 99 → (RecaseDemo.env []).partner x = some (x - 32)) ∧
    (∀ x, 65 ≤ x → x ≤ 67 → (RecaseDemo.env []).partner x = some (x + 32)) := by
  constructor
  · intro x h1 h2
    have hx : x = 97 ∨ x = 98 ∨ x = 99 := by omega
    rcases hx with rfl | rfl | rfl <;> rfl
  · intro x h1 h2
    have hx : x = 65 ∨ x = 66 ∨ x = 67 := by omega
    rcases hx with rfl | rfl | rfl <;> rfl

/-- **A re-cased pattern has the same character tests**: `recase e ch p` has the shape of `p` and each of its
    tests accepts exactly the runes the corresponding test of `p` accepts. -/
theorem recase_patTestEq (e : Env) (hf : FoldOK e) (ch : Choice) (p : Pat) (hok : RecaseOK e ch p) :
    PatTestEq e p (recase e ch p) :=
  Spec.recase_patTestEq hf p ch hok

/-- **Re-casing the pattern changes no list of successes** (no `PatTestEq` hypothesis): end positions and capture
    logs. -/
theorem m_recase_invariant (e : Env) (hf : FoldOK e) (ch : Choice) (p : Pat) (hok : RecaseOK e ch p) :
    ∀ (rtl : Bool) (st : St), m e (recase e ch p) rtl st = m e p rtl st :=
  fun rtl st => by rw [m_congr_tests (recase_patTestEq e hf ch p hok)]

open RegexVerif.Spec.RecaseDemo in
example : FoldOK (env tAx) ∧ RecaseOK (env tAx) all pat ∧
    m (env tAx) pat false { pos := 0, caps := [] } = [{ pos := 2, caps := [] }] ∧
    m (env tAx) (recase (env tAx) all pat) false { pos := 0, caps := [] } = [{ pos := 2, caps := [] }] ∧
    m (env tbx) pat false { pos := 0, caps := [] } = [] ∧
    m (env tbx) (recase (env tbx) all pat) false { pos := 0, caps := [] } = [] :=
  ⟨foldOK _, by decide +kernel⟩

/-- **Re-casing the pattern changes no match**: `(?i)[a-c-[b]]x` and `(?i)[A-C-[B]]X`, `(?i)[^a-b]+` and
    `(?i)[^A-B]+`, …  For the Go engine through leg S-ci. -/
theorem find_recase_invariant (e : Env) (hf : FoldOK e) (ch : Choice) (p : Pat) (hok : RecaseOK e ch p)
    (rtl : Bool) (start : Nat) :
    find e (recase e ch p) rtl start = find e p rtl start :=
  find_pattern_flip_invariant e _ _ (recase_patTestEq e hf ch p hok) rtl start

open RegexVerif.Spec.RecaseDemo in
example : find (env tAx) pat false 0 = some { pos := 2, caps := [(0, 0, 2)] } ∧
    find (env tAx) patUpper false 0 = some { pos := 2, caps := [(0, 0, 2)] } ∧
    find (env tbx) pat false 0 = none ∧ find (env tbx) patUpper false 0 = none ∧
    -- negated class: "xCaB", `(?i)[^a-b]+` and `(?i)[^A-B]+` both find "xC"
    find (env tNeg) negPat false 0 = some { pos := 2, caps := [(0, 0, 2)] } ∧
    find (env tNeg) (recase (env tNeg) all negPat) false 0 = some { pos := 2, caps := [(0, 0, 2)] } ∧
    find (env tNeg) negPat true 4 = some { pos := 0, caps := [(0, 0, 2)] } ∧
    find (env tNeg) negPatUpper true 4 = some { pos := 0, caps := [(0, 0, 2)] } :=
  by decide +kernel

/-- **Pattern re-cased and input flipped** at once. -/
theorem find_recase_and_flip (e : Env) (hf : FoldOK e) (t' : List Nat) (ht : SameUpToCase e e.text t')
    (ch : Choice) (p : Pat) (hp : AllCi p) (hok : RecaseOK e ch p) (rtl : Bool) (start : Nat) :
    find { e with text := t' } (recase e ch p) rtl start = find e p rtl start :=
  find_flip_both e hf t' ht p (recase e ch p) hp (recase_patTestEq e hf ch p hok) rtl start

open RegexVerif.Spec.RecaseDemo in
example : SameUpToCase (env tNeg) (env tNeg).text tNeg' ∧ AllCi negPat ∧ AllCi pat ∧
    find { env tNeg with text := tNeg' } (recase (env tNeg) all negPat) false 0 = some { pos := 2, caps := [(0, 0, 2)] } ∧
    find (env tNeg) negPat false 0 = some { pos := 2, caps := [(0, 0, 2)] } :=
  ⟨.cons (by decide) (.cons (by decide) (.cons (by decide) (.cons (by decide) .nil))), by decide +kernel⟩

/-- **`recase` covers every re-casing.**  `Recased e p p'` (Lemmas/Recase.lean) is the choice-free description: `p'`
    has the shape of `p` and every letter of a case-insensitive test is, each occurrence on its own, the rune or its
    simple case partner.  So the theorems above reach every re-casing `p'`: it is `recase e ch p` for some `ch`, and
    they apply when THAT `ch` passes `RecaseOK e ch p`.  The condition is on the choice only; from `Recased` alone
    the invariance follows only where `RecaseOK` can be shown for every `ch` (`recaseOK_of_members`: paired choices
    on patterns whose ranges are single members). -/
theorem recased_iff_recase (e : Env) (p p' : Pat) : Recased e p p' ↔ ∃ ch : Choice, p' = recase e ch p :=
  ⟨Recased.choice, fun ⟨ch, h⟩ => h ▸ recase_recased e p ch⟩

open RegexVerif.Spec.RecaseDemo in
/-- both the all-upper-case spelling and the mixed one are re-casings of `(?i)[a-c-[b]]x`; only the
    first passes `RecaseOK` -/
example : Recased (env []) pat patUpper ∧ Recased (env []) pat patMixed ∧ ¬ Recased (env []) pat negPat :=
  ⟨(recased_iff_recase _ _ _).mpr ⟨all, rfl⟩, (recased_iff_recase _ _ _).mpr ⟨loOnly, rfl⟩,
   fun h => by cases h⟩

end RegexVerif.Props.C20
