/-
C17 — Group numbers and names form one consistent map.

Theorems about `Groups.assign`, the model of the capture bookkeeping of `syntax/parser.go`
(pre-scan, `assignNameSlots`, `assignOrderedNameSlots`, main parse), `syntax/writer.go` (dense
remap) and of the lookup functions of `regexp.go`, `match.go`, `scanDollar`/`replacerdata.go`.
Leg G of the harness checks on every run that `assign` computes exactly Go's tables
(`GetGroupNumbers`, `GetGroupNames`, `Code.Caps`, `Capsize`, the number every group captures into)
for patterns printed from random event lists.

Hypotheses (defined, with what they leave out, in `Lemmas/Groups.lean`): `GoodNames evs` — no written name is empty
or equals `strconv.Itoa k`; `NoOrdNumbered cfg evs`, only for `name_number_inverse` — no `(?<k>…)` under
MaintainCaptureOrder / ECMAScript, where it is booked under the *name* "k" (fix 4579bd8); everything else
(numbering, alignment, remap, references) holds there too.

The model follows /repo after the fixes 2bf8733, 9af4686, 4181360, 14b4ba0, 4579bd8; the `example`s at
the end show the fixed behaviour of the former findings F1–F6 (design.d/C17.md).
-/
import RegexVerif.Lemmas.Groups

namespace RegexVerif.Props.C17
open RegexVerif.Groups

/-! ### the numbering rule -/

/-- **C17, numbering rule (default order).** Without MaintainCaptureOrder / ECMAScript:
    * the `j`-th unnamed group (by opening parenthesis) captures into number `j` — or into nothing
      under ExplicitCapture;
    * an explicitly numbered group `(?<k>…)` captures into `k`;
    * a named group captures into the number `GroupNumberFromName` gives for its name, so groups
      with the same name share one number;
    * a non-capturing group captures into nothing. -/
theorem numbering_rule {evs : List Event} {cfg : Cfg} {m : Maps} (h : assign evs cfg = some m)
    (ho : cfg.ord = false) (hg : GoodNames evs) (i : Nat) (e : Event) (he : evs[i]? = some e) :
    match e with
    | .unnamed => m.evNums[i]? =
        some (if cfg.explicitCapture then none else some (1 + countUnnamed (evs.take i)))
    | .numbered k => m.evNums[i]? = some (some k)
    | .numbered0 k => m.evNums[i]? = some (some k)
    | .named nm => ∃ k, groupNumberFromName m nm = some k ∧ m.evNums[i]? = some (some k)
    | .noncap => m.evNums[i]? = some none := by
  obtain ⟨t, _, rfl, _, hgn, _⟩ := assign_tables h
  have hs := (groupNumbers_spec ho evs 1 m.evNums hgn).2 i e he
  cases e with
  | unnamed => exact hs
  | numbered k => exact hs.1
  | numbered0 k => exact hs.1
  | noncap => exact hs
  | named nm =>
    obtain ⟨k, hk1, hk2⟩ := hs
    exact ⟨k, groupNumberFromName_of_bind hk1, hk2⟩

/-- `(a)(?<x>b)(?<7>c)(?<x>d)(?:e)`: 1, x ↦ 2, 7, x again, nothing -/
example : (assign [.unnamed, .named "x", .numbered 7, .named "x", .noncap] {}).map (·.evNums) =
    some [some 1, some 2, some 7, some 2, none] := by decide +kernel

/-- **C17, numbering rule, named groups (default order).** The distinct names of the pattern, in
    order of first appearance, get ascending numbers: the first name the least number above the
    count of unnamed groups (0 under ExplicitCapture) that no group claims explicitly, every further
    name the least such number above its predecessor's (`ChainRule`: `prev < k`, `k` is not an
    explicit number, every number strictly between is one). -/
theorem named_numbers_rule {evs : List Event} {cfg : Cfg} {m : Maps} (h : assign evs cfg = some m)
    (ho : cfg.ord = false) (hg : GoodNames evs) :
    ChainRule (groupNumberFromName m) (fun c => c ∈ explicitNumbers evs)
      (if cfg.explicitCapture then 0 else countUnnamed evs) (namesInOrder evs) :=
  assign_named_rule h ho hg

/-- `(?<y>a)(b)(?<3>c)(?<x>d)(e)(?<y>f)(?<2>g)`: the unnamed groups are 1 and 2, the numbers 2 and 3
    are also claimed explicitly, so y ↦ 4 and x ↦ 5 -/
example : (assign [.named "y", .unnamed, .numbered 3, .named "x", .unnamed, .named "y", .numbered 2] {}).map
    (fun m => (namesInOrder [.named "y", .unnamed, .numbered 3, .named "x", .unnamed, .named "y", .numbered 2],
               groupNumberFromName m "y", groupNumberFromName m "x", m.evNums)) =
    some (["y", "x"], some 4, some 5, [some 4, some 1, some 3, some 5, some 2, some 4, some 2]) := by decide +kernel

/-- **C17, numbering rule (pattern order).** With MaintainCaptureOrder or ECMAScript the numbers
    are handed out in one pass over the pattern: every unnamed group and every first occurrence of
    a name takes the next number, a repeated name shares the number of its first occurrence; an
    explicitly numbered group `(?<k>…)` counts as a group named "k" (`orderSpec`).  These are the
    numbers the main parse hands out, for every pattern that parses; that the pre-scan has booked
    each of them is `group_number_listed`. -/
theorem order_numbering_rule {evs : List Event} {cfg : Cfg} {m : Maps} (h : assign evs cfg = some m)
    (ho : cfg.ord = true) :
    m.evNums = orderSpec cfg.explicitCapture evs [] 1 :=
  (assign_ord_spec h ho).1

/-- `(a)(?<x>b)(c)(?<x>d)(?<y>e)` under MaintainCaptureOrder: 1 2 3 2 4 -/
example : (assign [.unnamed, .named "x", .unnamed, .named "x", .named "y"] { mco := true }).map (·.evNums) =
    some [some 1, some 2, some 3, some 2, some 4] := by decide +kernel

/-- `(?<7>a)(b)(?<07>c)(?<x>d)` under MaintainCaptureOrder: 1 2 1 3 -/
example : (assign [.numbered 7, .unnamed, .numbered0 7, .named "x"] { mco := true }).map
    (fun m => (m.evNums, getGroupNames m)) = some ([some 1, some 2, some 1, some 3], ["0", "7", "2", "x"]) := by
  decide +kernel

/-! ### names ↔ numbers -/

/-- **C17, the two lists are aligned.** `GetGroupNames()` and `GetGroupNumbers()` have the same
    length (`capsize`), the numbers are strictly ascending, and `GetGroupNames()[i]` is
    `GroupNameFromNumber(GetGroupNumbers()[i])`. -/
theorem names_numbers_aligned {evs : List Event} {cfg : Cfg} {m : Maps} (h : assign evs cfg = some m)
    (hg : GoodNames evs) :
    (getGroupNames m).length = m.capsize ∧ (getGroupNumbers m).length = m.capsize ∧
    (getGroupNumbers m).Pairwise (· < ·) ∧
    ∀ (i n : Nat), (getGroupNumbers m)[i]? = some n →
      (getGroupNames m)[i]? = some (groupNameFromNumber m n) := by
  have hm := (assign_inv h hg).1
  exact ⟨hm.names_len, hm.nums_length, hm.nums_sorted, fun i n hi => hm.aligned hi⟩

/-- **C17, the lookups are inverse.** For every listed number `n` whose name is not empty (outside
    ECMAScript no name is empty): `GroupNumberFromName(GroupNameFromNumber(n)) = n`; for every
    listed non-empty name `s`: `GroupNameFromNumber(GroupNumberFromName(s)) = s`. -/
theorem name_number_inverse {evs : List Event} {cfg : Cfg} {m : Maps} (h : assign evs cfg = some m)
    (hg : GoodNames evs) (hno : NoOrdNumbered cfg evs) :
    (∀ n ∈ getGroupNumbers m, groupNameFromNumber m n ≠ "" →
        groupNumberFromName m (groupNameFromNumber m n) = some n) ∧
    (∀ s ∈ getGroupNames m, s ≠ "" →
        ∃ n, groupNumberFromName m s = some n ∧ n ∈ getGroupNumbers m ∧ groupNameFromNumber m n = s) ∧
    (cfg.ecma = false → "" ∉ getGroupNames m) := by
  have hm := (assign_inv h hg).1
  obtain ⟨_, _, _, hecma, _⟩ := assign_tables h
  refine ⟨fun n hn hne => ?_, fun s hs hne => ?_, fun he => ?_⟩
  · obtain ⟨i, hi⟩ := List.mem_iff_getElem?.mp hn
    rw [hm.number_of_listed_name hno (hm.aligned hi) hne, hi]
  · obtain ⟨i, hi⟩ := List.mem_iff_getElem?.mp hs
    have hlt : i < (getGroupNumbers m).length := by
      rw [hm.nums_length, ← hm.names_len]; exact (List.getElem?_eq_some_iff.mp hi).1
    have hn : (getGroupNumbers m)[i]? = some (getGroupNumbers m)[i] := List.getElem?_eq_getElem hlt
    exact ⟨_, (hm.number_of_listed_name hno hi hne).trans hn, List.getElem_mem hlt,
      (Option.some.inj (hi.symm.trans (hm.aligned hn))).symm⟩
  · unfold getGroupNames
    cases hc : m.caplist with
    | none => simpa using fun x _ => itoa_ne_empty x
    | some cl => exact hm.t.nonempty hno (hecma ▸ he) cl hc

/-- sparse numbers, a duplicate name, a digit-like name: `(a)(?<x1>b)(?<7>c)(?<x1>d)` -/
example : (assign [.unnamed, .named "x1", .numbered 7, .named "x1"] {}).map
    (fun m => (getGroupNumbers m, getGroupNames m, (getGroupNumbers m).map (groupNameFromNumber m),
               (getGroupNames m).map (groupNumberFromName m))) =
    some ([0, 1, 2, 7], ["0", "1", "x1", "7"], ["0", "1", "x1", "7"], [some 0, some 1, some 2, some 7]) := by
  decide +kernel

/-! ### the dense remap -/

/-- **C17, dense remap.** `writer.mapCapnum` is a bijection from the used numbers
    (`GetGroupNumbers`, which are exactly the numbers the parser's `isCaptureSlot` accepts) onto the
    slots `0 … capsize-1`.  (That it is monotone — the `i`-th number in ascending order gets slot
    `i` — is `groups_order_eq_numbers`.) -/
theorem dense_remap_bijective {evs : List Event} {cfg : Cfg} {m : Maps} (h : assign evs cfg = some m)
    (hg : GoodNames evs) :
    (∀ n, n ∈ getGroupNumbers m ↔ n ∈ m.caps) ∧
    (∀ n ∈ getGroupNumbers m, ∃ s, slotOf m n = some s ∧ s < m.capsize) ∧
    (∀ a ∈ getGroupNumbers m, ∀ b ∈ getGroupNumbers m, slotOf m a = slotOf m b → a = b) ∧
    (∀ s, s < m.capsize → ∃ n ∈ getGroupNumbers m, slotOf m n = some s) := by
  have hm := (assign_inv h hg).1
  refine ⟨fun _ => hm.mem_nums, fun n hn => ?_, fun a ha b hb hab => ?_, fun s hs => ?_⟩
  · obtain ⟨i, hi⟩ := List.mem_iff_getElem?.mp hn
    exact ⟨i, hm.slotOf_getElem hi, hm.lt_capsize hi⟩
  · obtain ⟨i, hi⟩ := List.mem_iff_getElem?.mp ha
    obtain ⟨j, hj⟩ := List.mem_iff_getElem?.mp hb
    rw [hm.slotOf_getElem hi, hm.slotOf_getElem hj] at hab
    cases hab
    exact Option.some.inj (hi.symm.trans hj)
  · have hlt : s < (getGroupNumbers m).length := hm.nums_length.symm ▸ hs
    exact ⟨_, List.getElem_mem hlt, hm.slotOf_getElem (List.getElem?_eq_getElem hlt)⟩

/-- **C17, order of `Match.Groups()`.** `Groups()[i]` is the dense slot `i`; the number whose captures
    live there is `GetGroupNumbers()[i]`, `GroupByNumber` of that number returns slot `i`, and
    `Groups()[i].Name` is `GetGroupNames()[i]` (for `i ≥ 1`; group 0 is named by `newMatch`). -/
theorem groups_order_eq_numbers {evs : List Event} {cfg : Cfg} {m : Maps} (h : assign evs cfg = some m)
    (hg : GoodNames evs) (i n : Nat) (hi : (getGroupNumbers m)[i]? = some n) :
    slotOf m n = some i ∧ groupByNumberSlot m n = some i ∧
    (1 ≤ i → (getGroupNames m)[i]? = some (groupsName m i)) := by
  have hm := (assign_inv h hg).1
  have hs := hm.slotOf_getElem hi
  have hlt := hm.lt_capsize hi
  refine ⟨hs, by rw [groupByNumberSlot_eq, ← slotOf_eq (List.mem_of_getElem? hi)]; exact hs, ?_⟩
  intro h1
  rw [hm.names_getElem? hlt, groupsName, if_neg (by omega)]

/-- **C17, numbers that are no groups.** `GroupByNumber(n)` is nil for every `n` that is not one of
    `GetGroupNumbers()`, also when the numbers are sparse. -/
theorem group_by_unknown_number {evs : List Event} {cfg : Cfg} {m : Maps} (h : assign evs cfg = some m)
    (hg : GoodNames evs) (n : Nat) (hn : n ∉ getGroupNumbers m) : groupByNumberSlot m n = none :=
  (groupByNumberSlot_eq m n).trans (idxOf?_eq_none.mpr hn)

example : (assign [.numbered 5, .unnamed, .numbered 3] {}).map
    (fun m => (getGroupNumbers m, (getGroupNumbers m).map (slotOf m), (getGroupNumbers m).map (groupByNumberSlot m), m.capsize)) =
    some ([0, 1, 3, 5], [some 0, some 1, some 2, some 3], [some 0, some 1, some 2, some 3], 4) := by decide +kernel

example : (assign [.numbered 5, .unnamed, .numbered 3] {}).map
    (fun m => ([2, 4, 6].map (groupByNumberSlot m), (List.range m.capsize).map (groupsName m), getGroupNames m)) =
    some ([none, none, none], ["0", "1", "3", "5"], ["0", "1", "3", "5"]) := by decide +kernel

/-! ### references -/

/-- every group of the pattern captures into a number the tables list (before the fixes 14b4ba0 + 4579bd8 this failed
    for `(?<01>a)(b)` under MaintainCaptureOrder, where the engine then indexed past `capsize`) -/
theorem group_number_listed {evs : List Event} {cfg : Cfg} {m : Maps} (h : assign evs cfg = some m)
    (hg : GoodNames evs) (i n : Nat) (hi : m.evNums[i]? = some (some n)) :
    n ∈ m.caps := by
  cases ho : cfg.ord with
  | false => exact evNums_mem_caps h ho hg i n hi
  | true => exact (assign_ord_spec h ho).2 i n hi

/-- **C17, backreferences.** If the `i`-th group of the pattern captures into number `n`, then `\n`
    (and `\k<n>`) compiles to a reference to the very slot that group writes; if the group is written
    with the name `s`, so does `\k<s>` / `(?P=s)`; and `GroupByNumber(n)` / `GroupByName(s)` read
    that slot.  (`backrefNameSlot` is the lookup by name; for a name that begins with a digit, which
    only RE2's `(?P<1x>…)` can write, Go reads `\k<1x>` through its decimal branch instead, and only
    `(?P=1x)` is this lookup.) -/
theorem backref_same_slot {evs : List Event} {cfg : Cfg} {m : Maps} (h : assign evs cfg = some m)
    (hg : GoodNames evs) (i n : Nat) (hi : m.evNums[i]? = some (some n)) :
    (∃ s, evSlot m i = some s ∧ s < m.capsize ∧ backrefSlot m n = some s ∧ groupByNumberSlot m n = some s) ∧
    (∀ nm, evs[i]? = some (.named nm) → backrefNameSlot m nm = evSlot m i ∧ groupByNameSlot m nm = evSlot m i) := by
  have hm := (assign_inv h hg).1
  have hmem : n ∈ m.caps := group_number_listed h hg i n hi
  have hn : n ∈ getGroupNumbers m := hm.mem_nums.mpr hmem
  obtain ⟨j, hj⟩ := List.mem_iff_getElem?.mp hn
  have hs1 := hm.slotOf_getElem hj
  have hs2 : groupByNumberSlot m n = some j := by rw [groupByNumberSlot_eq, ← slotOf_eq hn]; exact hs1
  have hev : evSlot m i = some j := by unfold evSlot; simp [hi, hs1]
  refine ⟨⟨j, hev, hm.lt_capsize hj, by unfold backrefSlot; simp [hmem, hs1], hs2⟩, fun nm he => ?_⟩
  have hk : (m.capnames.bind fun c => c.lookup nm) = some n := by
    obtain ⟨t, _, rfl, _, hgn, _⟩ := assign_tables h
    exact Option.some.inj ((groupNumbers_named evs 1 m.evNums hgn i he).symm.trans hi)
  constructor
  · unfold backrefNameSlot; rw [hk, hev]; exact hs1
  · unfold groupByNameSlot; rw [groupNumberFromName_of_bind hk, hev]; exact hs2

/-- **C17, replacement references.** `$n` / `${n}` for a listed number and `${s}` for a name written
    in the pattern resolve (`scanDollar`, then `caps[slot]` in `NewReplacerData`) to the same dense
    slot as the backreferences `\n` and `\k<s>`.  (`replNameSlot` is the lookup by name; a name that
    begins with a digit is read by `scanDollar` through its decimal branch, as in `backref_same_slot`.) -/
theorem repl_ref_same_slot {evs : List Event} {cfg : Cfg} {m : Maps} (h : assign evs cfg = some m)
    (hg : GoodNames evs) :
    (∀ n ∈ getGroupNumbers m, replSlot m n = backrefSlot m n ∧ (replSlot m n).isSome) ∧
    (∀ nm, Event.named nm ∈ evs → replNameSlot m nm = backrefNameSlot m nm ∧ (replNameSlot m nm).isSome) := by
  obtain ⟨hm, hnames⟩ := assign_inv h hg
  constructor
  · intro n hn
    obtain ⟨s, hs⟩ := idxOf?_of_mem hn
    rw [replSlot_eq, groupByNumberSlot_eq, backrefSlot, if_pos (hm.mem_nums.mp hn), slotOf_eq hn, hs]
    exact ⟨rfl, rfl⟩
  · intro nm hnm
    obtain ⟨k, hk1, hk2⟩ := hnames nm hnm
    obtain ⟨s, hs⟩ := idxOf?_of_mem (hm.mem_nums.mpr hk2)
    rw [replNameSlot_eq, backrefNameSlot, hk1, Option.bind_some, slotOf_eq (hm.mem_nums.mpr hk2), hs]
    exact ⟨rfl, rfl⟩

/-- `(a)(?<x>b)(?<7>c)`: `\7`, `$7`, `${x}`, `\k<x>` and the groups themselves -/
example : (assign [.unnamed, .named "x", .numbered 7] {}).map
    (fun m => [evSlot m 2, backrefSlot m 7, replSlot m 7, groupByNumberSlot m 7,
               evSlot m 1, backrefNameSlot m "x", replNameSlot m "x", groupByNameSlot m "x"]) =
    some [some 3, some 3, some 3, some 3, some 2, some 2, some 2, some 2] := by decide +kernel

/-! ### the former findings F1–F6 (design.d/C17.md), now fixed in /repo -/

/-- F1 (2bf8733): with sparse numbers `Match.Groups()[i].Name` is `GetGroupNames()[i]`
    (was: `["0", "1", "x", ""]`, the dense slot was looked up as a group number) -/
example : (assign [.unnamed, .named "x", .numbered 7] {}).map
    (fun m => (getGroupNames m, (List.range m.capsize).map (groupsName m))) =
    some (["0", "1", "x", "7"], ["0", "1", "x", "7"]) := by decide +kernel

/-- F2 (9af4686): `GroupByNumber(3)` is nil when 3 is not a group number (was: the slot of group 7) -/
example : (assign [.unnamed, .named "x", .numbered 7] {}).map (fun m => (getGroupNumbers m, groupByNumberSlot m 3)) =
    some ([0, 1, 2, 7], none) := by decide +kernel

/-- F3 (4579bd8): `(a)(?<1>b)` under MaintainCaptureOrder: each group captures into its own slot, the
    second one is booked under the name "1" (was: both captured into 1, slot 2 never captured).
    The name "1" is now listed twice — automatic name of slot 1, written name of slot 2 — and
    `GroupNumberFromName("1")` answers 2: this is why `name_number_inverse` has the hypothesis
    `NoOrdNumbered`. -/
example : (assign [.unnamed, .numbered 1] { mco := true }).map
    (fun m => (m.evNums, getGroupNames m, groupNumberFromName m "1", evSlot m 0, evSlot m 1)) =
    some ([some 1, some 2], ["0", "1", "1"], some 2, some 1, some 2) := by decide +kernel

/-- F3 (4579bd8): `(?<5>a)` alone compiles under MaintainCaptureOrder: slot 1, named "5" (was: rejected) -/
example : (assign [.numbered 5] { mco := true }).map (fun m => (m.evNums, getGroupNames m)) =
    some ([some 1], ["0", "5"]) := by decide +kernel

/-- F4 (4181360): on a pattern without named groups only the canonical decimal strings of the group
    numbers are names (was: "" and "00" gave 0, "01" gave 1) -/
example : (assign [.unnamed, .unnamed] {}).map
    (fun m => ["", "00", "01", "0", "1", "2", "3", "1x"].map (groupNumberFromName m)) =
    some [none, none, none, some 0, some 1, some 2, none, none] := by decide +kernel

/-- F5 (14b4ba0): `(?<x>a)(?<01>b)`: the number written with a leading zero is reserved, `x` gets 2
    (was: both groups captured into 1) -/
example : (assign [.named "x", .numbered0 1] {}).map (fun m => (m.evNums, getGroupNames m)) =
    some ([some 2, some 1], ["0", "1", "x"]) := by decide +kernel

/-- F6 (14b4ba0 + 4579bd8): `(?<01>a)(b)` under MaintainCaptureOrder: slots 1 and 2, both listed
    (was: the second group captured into 2 with `capsize` 2 — an index out of range at match time) -/
example : (assign [.numbered0 1, .unnamed] { mco := true }).map (fun m => (m.evNums, getGroupNumbers m, m.capsize)) =
    some ([some 1, some 2], [0, 1, 2], 3) := by decide +kernel

end RegexVerif.Props.C17
