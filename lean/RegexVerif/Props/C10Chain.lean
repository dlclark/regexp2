/-
C10 for Compile + match as ONE statement about pattern text (the chain).

Every link is a theorem of its own: `parse_total` (the parser model returns a tree or an ErrorCode for every rune
list), `reduceTree_wf_partial` (the reducer keeps node shapes), `compilePattern_total_partial` (no writer error
after a successful parse), `emit_vm_wf` / `emit_has_typing` / `emitted_no_fault` (for every `treeWf` tree the
interpreter model never faults on any text).  This file states the composition and proves it from ONE named
hypothesis on the parser's result (J3):

* **J1 (proved, `Lemmas/ReduceCaps*.lean`)** the reducer never invents a group number: `Reduce.reduceTree_capsOk`;
  `boundsOk`, the third component of `treeWf`, is used by none of the interpreter theorems (`Lemmas.Chain.treeOk`).
* **J2 (proved, `parse_shape`)** the raw tree has the node shapes the reducer assumes.  It was NOT true of the parser before /repo debc02b: under RE2 `(?<n>a)(?(?P=n)b)` parsed into an
  ExprCond with ONE child (the `(` that should open the condition was consumed as the Python backreference `(?P=n)`)
  and `regexp2.Compile` panicked on it (`ComputeMinLength`, index out of range) — D50, found stating this joint.
* **J3 (hypothesis `PrescanAgrees`)** the capture pre-scan and the main scan agree on the group numbers.

`RawShapeOk` and `PrescanAgrees` are decidable predicates on the parse result; leg Pl evaluates both on every explored
pattern; `wfTree`, which the drivers evaluate on every `ok` answer, implies them up to the table facts of
`wfTree_gives_chain_hyps`.
-/
import RegexVerif.Props.C10Parser
import RegexVerif.Lemmas.Chain
import RegexVerif.Lemmas.ParserRawShape

namespace RegexVerif.Props.C10
open RegexVerif RegexVerif.Reduce RegexVerif.Lemmas.Chain

/-- the two hypotheses, evaluated on the outcome of the parser (`true` when the parser reports an error) -/
def chainHypB (E : Parser.Env) : Bool :=
  match Parser.parse E with
  | .ok t => RawShapeOk t && PrescanAgrees t
  | _ => true

/-- **Reducer joint (J1).**  If the raw tree has the parser's node shapes and every group number it uses maps to a
    slot of the capture array the writer will allocate (`PrescanAgrees`), then the reduced tree — after every
    `reduce()`, `eliminateEndingBacktracking`, `findAndMakeLoopsAtomic` and the marker placement, the reused
    alternation / concatenation / atomic rewrites included — satisfies the writer's and the interpreter's
    precondition `GoNode.ok ∧ capsOk`: reductions move and delete nodes, they never invent a group number. -/
theorem reduceTree_keeps_caps (orc : Orc) (on rtl : Bool) (t : Parser.RawTree) (h2 : RawShapeOk t = true)
    (h3 : PrescanAgrees t = true) :
    (reduceTree orc on t).ok = true ∧
    Writer.capsOk (Writer.mainCfg (treeInfo rtl t)) (Writer.capsize (treeInfo rtl t)) (reduceTree orc on t) = true := by
  have := treeOk_of_raw orc on rtl t h2 h3
  simpa [treeOk] using this

/-- **The interpreter theorems need `ok ∧ capsOk` only** (`boundsOk` is not used): no fault of any kind for the
    main program of such a tree — every text, start position in the text, `\G` origin, oracle set, fuel. -/
theorem emitted_no_fault_of_caps (ti : Writer.TreeInfo) (root : Writer.GoNode) (hok : root.ok = true)
    (hcaps : Writer.capsOk (Writer.mainCfg ti) (Writer.capsize ti) root = true)
    (env : VM.Env) (pos : Int) (h0 : 0 ≤ pos) (hn : pos ≤ env.len) (fuel : Nat) :
    ∃ s0, VM.init (Writer.emit ti root) pos = .ok s0 ∧ ∀ f, (VM.run (Writer.emit ti root) env fuel s0).1 ≠ .fault f :=
  emitted_no_fault_of_treeOk ti root (by simp [treeOk, hok, hcaps]) env pos h0 hn fuel

/-- **C10 for Compile + match from both decidable hypotheses**: the statement of `compile_and_run_no_fault_partial`
    below with `RawShapeOk` as a second hypothesis — the form that composes with any proof of the two joints.  `hJ2` is
    `parse_shape` (false before /repo debc02b — `(?<n>a)(?(?P=n)b)` under RE2, D50), `hJ3` is open.  Both are evaluated by
    leg Pl on every explored pattern (`Pl:wf`, fifth bit). -/
theorem compile_and_run_no_fault_of_hyps (pattern : List Nat) (opts : Parser.Opts) (mco : Bool)
    (orc : Parser.Oracles) (rorc : Orc)
    (hJ2 : ∀ t, Parser.parse { pat := pattern, opts := opts, mco := mco, orc := orc } = .ok t → RawShapeOk t = true)
    (hJ3 : ∀ t, Parser.parse { pat := pattern, opts := opts, mco := mco, orc := orc } = .ok t → PrescanAgrees t = true) :
    (match compilePattern rorc { pat := pattern, opts := opts, mco := mco, orc := orc } with
     | .error e => ∃ code, e = .parse code
     | .ok prog => ∀ (env : VM.Env) (pos : Int) (fuel : Nat), 0 ≤ pos → pos ≤ env.len →
         ∃ s0, VM.init prog pos = .ok s0 ∧ ∀ f, (VM.run prog env fuel s0).1 ≠ .fault f) ∧
    (match compilePatternQuick rorc { pat := pattern, opts := opts, mco := mco, orc := orc } with
     | .error e => ∃ code, e = .parse code
     | .ok none => True
     | .ok (some qp) => ∀ (env : VM.Env) (pos : Int) (fuel : Nat), 0 ≤ pos → pos ≤ env.len →
         ∃ s0, VM.init qp pos = .ok s0 ∧ ∀ f, (VM.run qp env fuel s0).1 ≠ .fault f) := by
  rcases parse_total' { pat := pattern, opts := opts, mco := mco, orc := orc } with ⟨t, hp⟩ | ⟨c, hp⟩
  · have h2 := hJ2 t hp
    have h3 := hJ3 t hp
    have hc := compilePattern_ok rorc _ t hp h2
    have htree := treeOk_of_raw rorc true opts.r t h2 h3
    rw [hc.1, hc.2]
    refine ⟨fun env pos fuel h0 hn => emitted_no_fault_of_treeOk _ _ htree env pos h0 hn fuel, ?_⟩
    cases hq : Writer.emitQuick (treeInfo opts.r t) (reduceTree rorc true t) with
    | none => trivial
    | some qp => exact fun env pos fuel h0 hn => emittedQuick_no_fault_of_treeOk _ _ htree qp hq env pos h0 hn fuel
  · have hc := compilePattern_error rorc _ c hp
    rw [hc.1, hc.2]
    exact ⟨⟨c, rfl⟩, ⟨c, rfl⟩⟩

/-- **J2: the raw tree has the node shapes the reducer assumes.**  If `Parse` returns a tree, every node of it has a
    known node type with the child count `Reduce.okRaw` asks for — leaves none, a Loop / Lazyloop / Capture / Group /
    lookaround / Atomic exactly one, an Alternate at least one unless it is the empty alternation of `()`, a BackRefCond
    one or two, an ExprCond two or three (its condition first), a Concatenate any number.
    Proof (`Lemmas/ParserPartial.lean`, `ParserTreeInv.lean`, `ParserExact.lean`, `ParserRawShape.lean`): value facts of
    the node-returning scanners and a tree invariant through every tree-building operation, in a partial-correctness
    logic over the parser monad; and, so that `addGroup` never closes an ExprCond that still waits for its condition:
    after `(?(` the next turn skips nothing, does not take the inner `(` for the RE2 backreference `(?P=name)`
    (`stepIsPythonRef_ignore` — the repair of /repo debc02b, D50: before it this theorem was false) and opens a group. -/
theorem parse_tree_shape (pat : List Nat) (opts : Parser.Opts) (mco : Bool) (orc : Parser.Oracles) (fuel : Nat)
    (hf : pat.length < fuel) (t : Parser.RawTree)
    (h : Parser.parseFuel { pat := pat, opts := opts, mco := mco, orc := orc } fuel = .ok t) : Parser.shp t.root = true :=
  Parser.shp_parseFuel _ fuel t h

/-- **J2 at the reducer's interface**: `parse E = .ok t → RawShapeOk t` — the hypothesis of `reduceTree_wf_partial`,
    `compilePattern_total_partial` (Props/C01.lean) and of J1 holds for every tree the parser returns. -/
theorem parse_shape (E : Parser.Env) (t : Parser.RawTree) (h : Parser.parse E = .ok t) : RawShapeOk t = true := by
  have hroot := Parser.parseFuel_root E _ (Nat.lt_succ_self _) t h
  unfold RawShapeOk okRawTree
  rw [Parser.okRaw_of_shp t.root (Parser.shp_parseFuel E _ t h), Bool.true_and]
  cases hr : t.root with
  | mk tt o ch str set m n kids =>
    rw [hr] at hroot
    simp only [Parser.RNode.t, Parser.RNode.kids] at hroot
    simp only [ofRaw, Node.t, Node.kids, ofRaws_eq_map, List.length_map, hroot.1, hroot.2.2]
    rfl

/-- **C10 for Compile + match, conditional on J3 only.**  For EVERY pattern text (`pattern : List Nat`), option set,
    `MaintainCaptureOrder` flag, parser oracle and reducer oracle: if the tree the parser returns (when it returns one)
    has registered group numbers (`PrescanAgrees`: every group number of a Ref / BackRefCond / Capture maps to a slot of
    the capture array the writer allocates; evaluated by leg Pl on every explored pattern), then

    * `compilePattern` (= `emit ∘ reduceTree ∘ parse`, the model of `regexp2.Compile`, tied to it stage by stage
      by leg Pl) returns a program or a PARSE error — never a parser fault, never fuel exhaustion, never a writer error;
    * every attempt of the compiled program — every text, `\G` origin, interpreter oracle set (`env`), start position
      inside the text and number of iterations — starts and never ends in a fault of any of the thirteen kinds of
      `VM.Fault`: it returns, or is still running when the fuel ends;
    * the same for the bool-only program (`compilePatternQuick`) whenever it exists.

    The full statement (not proved): the same without `hJ3`.  It needs a simulation between `countCaptures` and `scanRegex`
    (every number the main scan hands out was registered by the pre-scan) and — in the model, where a pattern is an
    unbounded rune list — a bound on the pattern length (`noteCaptureSlot`'s `MaxInt32` case: design.d/C10-chain.md). -/
theorem compile_and_run_no_fault_partial (pattern : List Nat) (opts : Parser.Opts) (mco : Bool)
    (orc : Parser.Oracles) (rorc : Orc)
    (hJ3 : ∀ t, Parser.parse { pat := pattern, opts := opts, mco := mco, orc := orc } = .ok t → PrescanAgrees t = true) :
    (match compilePattern rorc { pat := pattern, opts := opts, mco := mco, orc := orc } with
     | .error e => ∃ code, e = .parse code
     | .ok prog => ∀ (env : VM.Env) (pos : Int) (fuel : Nat), 0 ≤ pos → pos ≤ env.len →
         ∃ s0, VM.init prog pos = .ok s0 ∧ ∀ f, (VM.run prog env fuel s0).1 ≠ .fault f) ∧
    (match compilePatternQuick rorc { pat := pattern, opts := opts, mco := mco, orc := orc } with
     | .error e => ∃ code, e = .parse code
     | .ok none => True
     | .ok (some qp) => ∀ (env : VM.Env) (pos : Int) (fuel : Nat), 0 ≤ pos → pos ≤ env.len →
         ∃ s0, VM.init qp pos = .ok s0 ∧ ∀ f, (VM.run qp env fuel s0).1 ≠ .fault f) :=
  compile_and_run_no_fault_of_hyps pattern opts mco orc rorc (fun t ht => parse_shape _ t ht) hJ3

/-- **Compile never ends in a writer error, a parser fault or fuel exhaustion** — for every pattern text, with no
    hypothesis left (J2 + the shape theorem of the reducer): `compilePattern` returns a program or a parse error. -/
theorem compilePattern_total (E : Parser.Env) (rorc : Orc) :
    (∃ prog, compilePattern rorc E = .ok prog) ∨ (∃ code, compilePattern rorc E = .error (.parse code)) := by
  rcases parse_total' E with ⟨t, hp⟩ | ⟨c, hp⟩
  · exact Or.inl ⟨_, (compilePattern_ok rorc E t hp (parse_shape E t hp)).1⟩
  · exact Or.inr ⟨c, (compilePattern_error rorc E c hp).1⟩

/-- the same from the evaluated check -/
theorem compile_and_run_no_fault_checked (E : Parser.Env) (rorc : Orc) (h : chainHypB E = true) :
    (match compilePattern rorc E with
     | .error e => ∃ code, e = .parse code
     | .ok prog => ∀ (env : VM.Env) (pos : Int) (fuel : Nat), 0 ≤ pos → pos ≤ env.len →
         ∃ s0, VM.init prog pos = .ok s0 ∧ ∀ f, (VM.run prog env fuel s0).1 ≠ .fault f) := by
  refine (compile_and_run_no_fault_partial E.pat E.opts E.mco E.orc rorc fun t ht => ?_).1
  simp only [chainHypB, ht, Bool.and_eq_true] at h
  exact h.2

/-- **`wfTree` gives J2 and J3.**  `Parser.wfTree` is what the driver evaluates on every `ok` answer of leg Pr; that
    every tree the parser returns passes it is not proved (`parse_wf_partial` gives the root).  `groupsZero`: Group nodes
    have `M = 0`; `TablesOk`: the capture tables have the shape `assignNameSlots` leaves (0 registered, keys ≤ MaxInt32,
    dense without a `Capnumlist`, a non-empty `Capnumlist` of another length than `Captop` otherwise). -/
theorem wfTree_gives_chain_hyps (t : Parser.RawTree) (hwf : Parser.wfTree t = true) (hz : groupsZero t.root = true)
    (htb : TablesOk t.tables = true) : RawShapeOk t = true ∧ PrescanAgrees t = true :=
  chain_hyps_of_wfTree t hwf hz htb

/-- **C10 for Compile + match from `wfTree`**: the chain theorem with the hypotheses the driver evaluates on leg Pr. -/
theorem compile_and_run_no_fault_of_wfTree (pattern : List Nat) (opts : Parser.Opts) (mco : Bool)
    (orc : Parser.Oracles) (rorc : Orc)
    (hwf : ∀ t, Parser.parse { pat := pattern, opts := opts, mco := mco, orc := orc } = .ok t →
      Parser.wfTree t = true ∧ groupsZero t.root = true ∧ TablesOk t.tables = true) :
    (match compilePattern rorc { pat := pattern, opts := opts, mco := mco, orc := orc } with
     | .error e => ∃ code, e = .parse code
     | .ok prog => ∀ (env : VM.Env) (pos : Int) (fuel : Nat), 0 ≤ pos → pos ≤ env.len →
         ∃ s0, VM.init prog pos = .ok s0 ∧ ∀ f, (VM.run prog env fuel s0).1 ≠ .fault f) ∧
    (match compilePatternQuick rorc { pat := pattern, opts := opts, mco := mco, orc := orc } with
     | .error e => ∃ code, e = .parse code
     | .ok none => True
     | .ok (some qp) => ∀ (env : VM.Env) (pos : Int) (fuel : Nat), 0 ≤ pos → pos ≤ env.len →
         ∃ s0, VM.init qp pos = .ok s0 ∧ ∀ f, (VM.run qp env fuel s0).1 ≠ .fault f) :=
  compile_and_run_no_fault_partial pattern opts mco orc rorc
    fun t ht => (chain_hyps_of_wfTree t (hwf t ht).1 (hwf t ht).2.1 (hwf t ht).2.2).2

/-! ### non-vacuity -/

private def rawN (t : Parser.NT) (m n : Int) (kids : List Parser.RNode) : Parser.RNode := .mk t {} 0 [] none m n kids
private def rawGroup (t : Parser.NT) (m n : Int) (body : List Parser.RNode) : Parser.RNode :=
  rawN t m n [rawN .alternate 0 0 [rawN .concatenate 0 0 body]]

/-- the raw tree of `(a)(?:b|\1)*` (dense numbering), written out by hand (`Parser.parse` is evaluated on `[]` and `[97]`
    only) -/
def chainDemo : Parser.RawTree :=
  { root := rawGroup .capture 0 (-1)
      [rawGroup .capture 1 (-1) [.mk .one {} 97 [] none 0 0 []],
       rawN .loop 0 2147483647 [rawN .group 0 0 [rawN .alternate 0 0
         [rawN .concatenate 0 0 [.mk .one {} 98 [] none 0 0 []], rawN .concatenate 0 0 [rawN .ref 1 0 []]]]]],
    tables := { caps := [0, 1], capnumlist := none, captop := 2, capnames := none, caplist := none } }

/-- the raw tree of `(?<5>a)(?<-5>b)(?(5)c)` (sparse numbering: the writer remaps 5 ↦ 1; a balancing group) -/
def chainDemoSparse : Parser.RawTree :=
  { root := rawGroup .capture 0 (-1)
      [rawGroup .capture 5 (-1) [.mk .one {} 97 [] none 0 0 []],
       rawGroup .capture (-1) 5 [.mk .one {} 98 [] none 0 0 []],
       rawN .backRefCond 5 0 [rawN .concatenate 0 0 [.mk .one {} 99 [] none 0 0 []]]],
    tables := { caps := [0, 5], capnumlist := some [0, 5], captop := 6,
                capnames := some [("0", 0), ("5", 5)], caplist := some ["0", "5"] } }

/-- an oracle for the examples -/
def chainOrc : Orc := { charIn := fun _ _ => false, overlap := fun _ _ => false, isWord := fun _ => true, isEcmaWord := fun _ => true }

/-- the hypotheses of `wfTree_gives_chain_hyps` hold on both trees, and so do its conclusions (evaluated) -/
example : Parser.wfTree chainDemo = true ∧ groupsZero chainDemo.root = true ∧ TablesOk chainDemo.tables = true ∧
    Parser.wfTree chainDemoSparse = true ∧ groupsZero chainDemoSparse.root = true ∧ TablesOk chainDemoSparse.tables = true := by
  decide
example : RawShapeOk chainDemo = true ∧ PrescanAgrees chainDemo = true ∧
    RawShapeOk chainDemoSparse = true ∧ PrescanAgrees chainDemoSparse = true := by decide
/-- J1 applies, and its conclusion evaluated: the reduced trees keep their group numbers; a group number that is not
    registered (`\2` in a pattern with one group) is rejected by the hypothesis -/
example : (reduceTree chainOrc true chainDemo).ok = true ∧
    Writer.capsOk (Writer.mainCfg (treeInfo false chainDemo)) (Writer.capsize (treeInfo false chainDemo))
      (reduceTree chainOrc true chainDemo) = true :=
  reduceTree_keeps_caps chainOrc true false chainDemo (by decide) (by decide)
example : Writer.treeWf (treeInfo false chainDemoSparse) (reduceTree chainOrc true chainDemoSparse) = true := by decide +kernel
example : PrescanAgrees { chainDemo with root := rawGroup .capture 0 (-1) [rawN .ref 2 0 []] } = false := by decide
/-- the program of the reduced tree of `(a)(?:b|\1)*` never faults: the interpreter theorem applies through J1 -/
example : ∃ s0, VM.init (Writer.emit (treeInfo false chainDemo) (reduceTree chainOrc true chainDemo)) 1 = .ok s0 ∧
    ∀ f, (VM.run (Writer.emit (treeInfo false chainDemo) (reduceTree chainOrc true chainDemo)) Lemmas.VM.demoEnv 1000 s0).1 ≠ .fault f :=
  emitted_no_fault_of_caps _ _ (reduceTree_keeps_caps chainOrc true false chainDemo (by decide) (by decide)).1
    (reduceTree_keeps_caps chainOrc true false chainDemo (by decide) (by decide)).2 Lemmas.VM.demoEnv 1 (by decide) (by decide) 1000

/-- the shape predicate of J2, evaluated: it holds on both trees; an ExprCond with one child — the tree
    `(?<n>a)(?(?P=n)b)` had before /repo debc02b — fails it (and `RawShapeOk`) -/
example : Parser.shp chainDemo.root = true ∧ Parser.shp chainDemoSparse.root = true := by decide
example : Parser.shp (rawGroup .capture 0 (-1) [rawN .exprCond 0 0 [rawN .concatenate 0 0 []]]) = false ∧
    RawShapeOk { chainDemo with root := rawGroup .capture 0 (-1) [rawN .exprCond 0 0 [rawN .concatenate 0 0 []]] } = false := by
  decide

/-- the whole chain on pattern text: for the empty pattern and for `a` the kernel evaluates the parser and both
    hypotheses, so `compile_and_run_no_fault_checked` applies to them without hypotheses left -/
example : chainHypB (env0 []) = true := by rfl
set_option maxRecDepth 20000 in
example : chainHypB (env0 [97]) = true := by
  -- the tree is named first: on the parser's unevaluated answer every look at a node would run the parser again
  have h : Parser.parse (env0 [97]) = .ok
      { root := rawGroup .capture 0 (-1) [.mk .one {} 97 [] none 0 0 []],
        tables := { caps := [0], capnumlist := none, captop := 1, capnames := none, caplist := none } } := by rfl
  rw [chainHypB, h]
  rfl
/-- a parse error is the other documented outcome: `)` -/
example : compilePattern chainOrc (env0 [41]) = .error (.parse .unexpectedParen) := by rfl

end RegexVerif.Props.C10
