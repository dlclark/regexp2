/-
C14 — Timeouts fire, only when due, and the clock cleans up.

*Partial* property: the wall clock and the scheduler are assumptions.  What is proved is the logic of
the clock state machine `RegexVerif.Clock` (Model/Clock.lean), a line-by-line model of fastclock.go,
under the timing assumption that one iteration of runClock takes between `period` and `period + eps`
(`eps` is a parameter).  In `RegexVerif.Clock` a whole makeDeadline call is one event; the sections
from "makeDeadline in atomic steps" on drop that: in `RegexVerif.ClockConc`
(Model/ClockConc.lean) only the critical sections and the single lock-free atomic reads are atomic,
calls of any number of goroutines interleave step by step with each other, with the updater and with
StopTimeoutClock, and the bounds on early timeouts, the firing bound (measured from the time the
deadline was made), exit and restart are proved again for every interleaving.  The same
model executes the two earlier versions of makeDeadline, for which concrete interleavings yield a
deadline that lies in the past (defects D37, D38).  The model is tied to the source by the regenerated
facts `Generated.Clock` (constants and the statement skeleton of every function that is modelled) and
to the running code by legs H, B and I (I replays forced interleavings of the real code on
`ClockConc.simulate`).
-/
import RegexVerif.Lemmas.ClockConc
import RegexVerif.Generated.Clock

namespace RegexVerif.Props.C14
open RegexVerif.Clock RegexVerif.Lemmas.Clock

/-! ### obligations regenerated from the Go source (`Generated.Clock`) -/

/-- The constants of fastclock.go are the ones the model uses: `durationToTicks` shifts right by 20,
    `extendClock` keeps the clock alive one second (`time.Second`) beyond the largest deadline, and the
    default period is 100 ms. -/
theorem source_constants :
    Generated.Clock.tickShift = 20 ∧ (2 : Int) ^ Generated.Clock.tickShift = tickNs ∧
    Generated.Clock.slopNs = goSlop ∧ Generated.Clock.defaultClockPeriodNs = goDefaultPeriod ∧
    Generated.Clock.clockPeriodInit = "DefaultClockPeriod" := ⟨rfl, rfl, rfl, rfl, rfl⟩

/-- `makeDeadline`, `extendClock` and `deadlineTicks` are, statement for statement, what
    `Clock.makeDeadline`, `Clock.extendClock` and `Clock.deadlineTicks` model: the order of the reads of
    `current`/`clockEnd`, the refresh of `current` under `!running && !start.IsZero()`, the recomputed
    `end`, the `time.Second` slop, `running = true; go runClock()`. -/
theorem source_makeDeadline :
    Generated.Clock.makeDeadlineSrc =
      ["{",
       "clockEnd := fast.clockEnd.read()",
       "end := fast.current.read() + deadlineTicks(d)",
       "if end > clockEnd {",
       "fast.mu.Lock()",
       "if !fast.running && !fast.start.IsZero() {",
       "fast.current.write(durationToTicks(time.Since(fast.start)))",
       "}",
       "end = fast.current.read() + deadlineTicks(d)",
       "extendClock(end)",
       "fast.mu.Unlock()",
       "}",
       "return end",
       "}"] ∧
    Generated.Clock.extendClockSrc =
      ["{",
       "if fast.start.IsZero() {",
       "fast.start = time.Now()",
       "}",
       "if shutdown := end + durationToTicks(time.Second); shutdown > fast.clockEnd.read() {",
       "fast.clockEnd.write(shutdown)",
       "}",
       "if !fast.running {",
       "fast.running = true",
       "go runClock()",
       "}",
       "}"] ∧
    Generated.Clock.deadlineTicksSrc =
      ["{",
       "if d > math.MaxInt64-clockPeriod {",
       "return durationToTicks(math.MaxInt64)",
       "}",
       "return durationToTicks(d + clockPeriod)",
       "}"] ∧
    Generated.Clock.durationToTicksSrc = ["{", "return fasttime(d) >> 20", "}"] ∧
    Generated.Clock.reachedSrc = ["{", "return fast.current.read() >= t", "}"] := ⟨rfl, rfl, rfl, rfl, rfl⟩

/-- `runClock` and `stopClock` are what `Clock.tick` and `Clock.stop` model: the loop condition
    `current <= clockEnd` evaluated right after `current` is written, `running = false` on exit; stop
    writes `clockEnd = 0` only when a clock is running. -/
theorem source_runClock :
    Generated.Clock.runClockSrc =
      ["{",
       "fast.mu.Lock()",
       "defer fast.mu.Unlock()",
       "for fast.current.read() <= fast.clockEnd.read() {",
       "fast.mu.Unlock()",
       "time.Sleep(clockPeriod)",
       "fast.mu.Lock()",
       "newTime := durationToTicks(time.Since(fast.start))",
       "fast.current.write(newTime)",
       "}",
       "fast.running = false",
       "}"] ∧
    Generated.Clock.stopClockSrc =
      ["{",
       "fast.mu.Lock()",
       "if fast.running {",
       "fast.clockEnd.write(fasttime(0))",
       "}",
       "fast.mu.Unlock()",
       "isRunning := true",
       "for isRunning {",
       "time.Sleep(clockPeriod / 2)",
       "fast.mu.Lock()",
       "isRunning = fast.running",
       "fast.mu.Unlock()",
       "}",
       "}"] ∧
    Generated.Clock.stopTimeoutClockSrc = ["{", "stopClock()", "}"] ∧
    Generated.Clock.setTimeoutCheckPeriodSrc = ["{", "clockPeriod = d", "}"] := ⟨rfl, rfl, rfl, rfl⟩

/-- The runner side is what `Clock.startWatch` and `Clock.reached` model: MatchTimeout = MaxInt64
    switches checking off, otherwise one `makeDeadline(timeout)` per scan, and a timeout error is
    returned exactly when `deadline.reached()`; the scan loop checks once per candidate and the
    interpreter loop has one check per step. -/
theorem source_runner :
    Generated.Clock.scanTimeoutSrc =
      ["r.timeout = timeout",
       "r.ignoreTimeout = (time.Duration(math.MaxInt64) == timeout)",
       "call startTimeoutWatch",
       "call CheckTimeout"] ∧
    Generated.Clock.startTimeoutWatchSrc =
      ["{", "if r.ignoreTimeout {", "return", "}", "r.deadline = makeDeadline(r.timeout)", "}"] ∧
    Generated.Clock.checkTimeoutSrc =
      ["{",
       "if r.ignoreTimeout || !r.deadline.reached() {",
       "return nil",
       "}",
       "return fmt.Errorf(\"match timeout after %v on input `%v`\", r.timeout, string(r.Runtext))",
       "}"] ∧
    Generated.Clock.executeCheckTimeoutCalls = 1 := ⟨rfl, rfl, rfl, rfl⟩

/-! ### the deadline arithmetic (fix 45a1777) -/

/-- **No wrap-around.** The argument handed to `durationToTicks` stays within int64
    (`effDur ≤ MaxInt64`, so the Go addition `d + clockPeriod` is only evaluated when it cannot
    overflow); the tick count is non-negative, monotone in `d`, at least the tick count of `d` itself
    and at most `durationToTicks(MaxInt64)`.  (Go: `deadlineTicks`.) -/
theorem deadline_no_wrap (period d d' : Int) (hp : 0 ≤ period) (hp' : period ≤ maxInt64)
    (hd : 0 ≤ d) (hdd : d ≤ d') (hd' : d' ≤ maxInt64) :
    deadlineTicks period d = ticks (effDur period d) ∧ d ≤ effDur period d ∧ effDur period d ≤ maxInt64 ∧
    0 ≤ deadlineTicks period d ∧ ticks d ≤ deadlineTicks period d ∧
    deadlineTicks period d ≤ deadlineTicks period d' ∧ deadlineTicks period d' ≤ ticks maxInt64 := by
  have h1 := deadlineTicks_eq period d
  have h1' := deadlineTicks_eq period d'
  have h2 := effDur_cases period d
  have h2' := effDur_cases period d'
  simp only [ticks_eq]
  omega

/-- the hypotheses are satisfiable and the saturating branch is exercised: period 1 ms, d = MaxInt64-1 -/
example : deadlineTicks 1000000 (maxInt64 - 1) = 8796093022207 ∧ deadlineTicks 1000000 50000000 = 48 := by decide

/-- **The defect before 45a1777**, documented: with the old formula
    `durationToTicks(d + clockPeriod)` (int64 addition) a timeout within one period of MaxInt64 gives a
    *negative* tick count, so the deadline lies in the past and the match times out at once; the tick
    count is not monotone in `d`. -/
example : oldDeadlineTicks 1000000 (maxInt64 - 1) = -8796093022208 := by decide
example : ¬ (∀ d, 0 ≤ d → d ≤ maxInt64 → 0 ≤ oldDeadlineTicks 100000000 d) := by
  intro h; exact absurd (h (maxInt64 - 1) (by decide) (by decide)) (by decide)
example : ¬ (∀ d d', 0 ≤ d → d ≤ d' → d' ≤ maxInt64 → oldDeadlineTicks 1000000 d ≤ oldDeadlineTicks 1000000 d') := by
  intro h; exact absurd (h 0 (maxInt64 - 1) (by decide) (by decide) (by decide)) (by decide)
/-- on five sample timeouts for which no wrap occurs the old and the new formula agree -/
example : ∀ d ∈ [0, 1, 20000000, 3600000000000, maxInt64 - 1000000], oldDeadlineTicks 1000000 d = deadlineTicks 1000000 d := by decide

/-! ### invariants of the clock state machine (every reachable state) -/

/-- **`current` never runs ahead of real time**: `0 ≤ current ≤ durationToTicks(now - start)` once the clock
    has been started, `0` before.  (Go: the value compared by `reached()` is a time that has really passed.) -/
theorem current_le_now (p : Params) (hp : p.Valid) (s : State) (h : Reachable p s) :
    (s.started = true → 0 ≤ s.current ∧ s.current ≤ ticks (s.now - s.startNs)) ∧
    (s.started = false → s.current = 0) := by
  have hi := inv_of_reachable hp h
  exact ⟨hi.current_le_now, fun hs => (hi.unstarted hs).1⟩

/-- **A running clock is fresh.** While an updater is running, `current` is the tick count of a real
    time `w` that is at most `period + eps` old (its last wake-up, or its birth — when `current` was
    re-read from the wall clock).  This is the staleness the `+clockPeriod` slack of `deadlineTicks`
    compensates. -/
theorem fresh_when_running (p : Params) (hp : p.Valid) (s : State) (h : Reachable p s)
    (hr : s.running = true) :
    ∃ w, s.current = ticks (w - s.startNs) ∧ w ≤ s.now ∧ s.now - w ≤ p.period + p.eps :=
  (inv_of_reachable hp h).fresh_when_running hr

/-- **No early timeout.** If a pending deadline — made at real time `t0` for
    MatchTimeout `d` — is `reached()`, then the real time elapsed since `t0` is at least
    `min(d+period, MaxInt64) - period - eps - 2097150 ns`; for `d ≤ MaxInt64 - period` that is
    `d - eps - (2 ticks - 2 ns)`.  Why: the deadline is `current + ticks(d+period)`; `current` was stale by
    at most `period + eps` when the deadline was made (the updater wakes at least that often) — this is
    what the `+clockPeriod` slack pays for — and each of the two floor divisions loses less than one
    tick.  When no updater was running (`fresh`) `current` was re-read from the wall clock first, and the
    bound is `d + period - (2 ticks - 2 ns)`: the slack is not even used up. -/
theorem no_early_timeout (p : Params) (hp : p.Valid) (s : State) (h : Reachable p s)
    (e : Deadline) (he : e ∈ s.pending) (hr : reached s e.dl = true) :
    effDur p.period e.d - p.period - p.eps - 2097150 ≤ s.now - e.t0 ∧
    (e.d ≤ maxInt64 - p.period → e.d - p.eps - 2097150 ≤ s.now - e.t0) ∧
    (e.fresh = true → effDur p.period e.d - 2097150 ≤ s.now - e.t0) := by
  have hi := inv_of_reachable hp h
  have hd := hi.dls e he
  have hp0 := hp.1
  have he0 := hp.2.2.1
  have ht := hd.t0_le
  cases hs : s.started
  · have hu := hd.unstarted hs
    exact ⟨by omega, fun h1 => by have := effDur_of_le h1; omega, fun _ => by omega⟩
  · have hreal := reached_real hi hs hr
    have h1 := hd.early hs
    exact ⟨by omega, fun h3 => by have := effDur_of_le h3; omega, fun hf => by have := hd.earlyFresh hs hf; omega⟩

/-- **The clock covers every pending deadline** (made since the last StopTimeoutClock), and keeps ticking
    until it has been `reached()`. -/
theorem clock_covers_deadlines (p : Params) (hp : p.Valid) (s : State) (h : Reachable p s)
    (e : Deadline) (he : e ∈ s.pending) :
    e.dl ≤ s.clockEnd ∧ (reached s e.dl = false → s.running = true) := by
  have hd := (inv_of_reachable hp h).dls e he
  exact ⟨hd.covered, fun hr => hd.live.resolve_right (of_decide_eq_false hr)⟩

/-- **Timeouts fire.** A pending deadline made at `t0` for timeout `d` is
    `reached()` as soon as real time is `≥ t0 + d + 2·period + eps`: the first wake-up of the updater at
    or after `t0 + d + period` stores a time `≥` the deadline, wake-ups are at most `period + eps` apart,
    and the updater is alive by `clock_covers_deadlines`.  (The runner then sees it at its next
    CheckTimeout: once per scan candidate and once per interpreter step.) -/
theorem timeout_within (p : Params) (hp : p.Valid) (s : State) (h : Reachable p s)
    (e : Deadline) (he : e ∈ s.pending) (hn : e.t0 + e.d + 2 * p.period + p.eps ≤ s.now) :
    reached s e.dl = true := by
  have hi := inv_of_reachable hp h
  have hd := hi.dls e he
  simp only [reached, decide_eq_true_eq]
  rcases hd.live with hr | h1
  · have hpr := hi.progress hr
    have hc := hi.cur_eq hpr.1
    have := hd.within hpr.1
    omega
  · exact h1

/-- the step form of `timeout_within`, for the wake-up that happens at a real time `≥ t0 + d + period` -/
theorem timeout_at_tick (p : Params) (hp : p.Valid) (s s' : State) (h : Reachable p s) (dt : Int)
    (hs : step p s (.tick dt) = some s') (e : Deadline) (he : e ∈ s.pending)
    (hn : e.t0 + e.d + p.period ≤ s'.now) : reached s' e.dl = true := by
  have hi' := inv_of_reachable hp (Reachable.step _ h hs)
  obtain ⟨rfl, hr, _⟩ := step_tick hs
  have hw := (hi'.dls e he).within ((inv_of_reachable hp h).progress hr).1
  simp only [reached, decide_eq_true_eq]
  simp only [tick, ticks_eq] at hw hn ⊢
  omega

/-- **The clock goroutine exits** at a wake-up at a real time `≥ start + 2^20·(clockEnd+1)`. -/
theorem clock_exits (p : Params) (_hp : p.Valid) (s s' : State) (_h : Reachable p s) (dt : Int)
    (hs : step p s (.tick dt) = some s') (hn : s.startNs + 1048576 * (s.clockEnd + 1) ≤ s.now + dt) :
    s'.running = false := by
  obtain ⟨rfl, _⟩ := step_tick hs
  exact tick_exits hn

/-- … and that wake-up comes in time: with no new deadline the goroutine is gone `period + eps` after the
    end of the slop. -/
theorem clock_exit_bound (p : Params) (hp : p.Valid) (s : State) (h : Reachable p s)
    (hr : s.running = true) (hc : s.current ≤ s.clockEnd) :
    s.now < s.startNs + 1048576 * (s.clockEnd + 1) + p.period + p.eps :=
  (inv_of_reachable hp h).exit_bound hr hc

/-- Conversely the updater is not lost early: for one second after the latest deadline the goroutine is
    there, unless StopTimeoutClock. -/
theorem clock_runs_until_end (p : Params) (hp : p.Valid) (s : State) (h : Reachable p s)
    (hs : s.started = true) (hn : ticks (s.now - s.startNs) ≤ s.clockEnd) : s.running = true := by
  have hi := inv_of_reachable hp h
  have hcur := hi.cur_eq hs
  have hl := hi.lw_le
  rw [ticks_eq] at hn
  cases hr : s.running
  · have := hi.stopped hs hr; omega
  · rfl

/-- StopTimeoutClock: after the write of `clockEnd = 0` the next wake-up of the updater that sees a
    non-zero time leaves the loop. -/
theorem stop_exits (p : Params) (s s' : State) (dt : Int)
    (hs : step p (stop s) (.tick dt) = some s') (hc : 0 < s'.current) (hr : s.running = true) :
    s'.running = false := by
  obtain ⟨rfl, _⟩ := step_tick hs
  simp only [tick, stop, hr, ↓reduceIte, decide_eq_false_iff_not] at hc ⊢
  omega

/-- **Restart on demand.** With no updater running — never started, exited after
    `clockEnd`, or stopped — a new timed match (`0 ≤ d < MaxInt64`; on the very first use also
    `d + period ≥ 1 tick`) starts one: afterwards `running`, `current` is the exact tick count of real
    time (the refresh: no stale value enters the deadline), the new deadline is `current + deadlineTicks d`
    and `clockEnd` covers it plus the slop. -/
theorem restart_on_demand (p : Params) (hp : p.Valid) (s : State) (h : Reachable p s)
    (hr : s.running = false) (d : Int) (hd0 : 0 ≤ d) (hd1 : d < maxInt64)
    (hfirst : s.started = true ∨ 1048576 ≤ d + p.period) :
    (startWatch p s d).running = true ∧ (startWatch p s d).started = true ∧
    (startWatch p s d).current = ticks ((startWatch p s d).now - (startWatch p s d).startNs) ∧
    ∃ e, (startWatch p s d).pending = e :: s.pending ∧ e.fresh = true ∧ e.t0 = s.now ∧
      e.dl = (startWatch p s d).current + deadlineTicks p.period d ∧
      e.dl + ticks p.slop ≤ (startWatch p s d).clockEnd := by
  obtain ⟨h1, h2, h3, _, h5, h6, h7⟩ :=
    makeDeadline_restart hp (inv_of_reachable hp h) hr hd0 (by omega) hfirst
  unfold startWatch
  rw [if_neg (by omega)]
  exact ⟨h1, h2, h3 ▸ h5, _, congrArg _ (makeDeadline_pending p s d), by simp [hr], rfl, h6, h7⟩

/-- **No int64 overflow in the clock arithmetic.** As long as the process has run for less than
    MaxInt64 ns since the clock was first used (292 years), for every `0 ≤ d ≤ MaxInt64` the deadline
    returned by `makeDeadline` and the `shutdown` value `end + durationToTicks(time.Second)` lie in
    `[0, MaxInt64]` — the unbounded integers of the model and Go's int64 agree. -/
theorem no_int64_overflow (p : Params) (hp : p.Valid) (s : State) (h : Reachable p s)
    (hage : s.started = true → s.now - s.startNs ≤ maxInt64) (d : Int) (hd0 : 0 ≤ d) (hd1 : d ≤ maxInt64) :
    0 ≤ (makeDeadline p s d).2 ∧ (makeDeadline p s d).2 + ticks p.slop ≤ maxInt64 ∧
    s.current + deadlineTicks p.period d ≤ maxInt64 := by
  have hdt := deadlineTicks_eq p.period d
  have heff := effDur_cases p.period d
  have hp0 := hp.1
  have hp1 := hp.2.1
  have hs1 := hp.2.2.2.2
  -- `current`, before and after the refresh, is a tick count of a time that has passed since the start
  have hcl := current_le_now p hp s h
  simp only [ticks_eq] at hcl ⊢
  have hcur : 0 ≤ s.current ∧ s.current ≤ maxInt64 / 1048576 := by
    cases hst : s.started
    · have := hcl.2 hst; unfold maxInt64; omega
    · have := hcl.1 hst; have := hage hst; omega
  have hcur' : 0 ≤ (refresh s).current ∧ (refresh s).current ≤ maxInt64 / 1048576 := by
    simp only [refresh, ticks_eq]
    split
    · next hc =>
      simp only [Bool.and_eq_true] at hc
      have := hage hc.2; have := hcl.1 hc.2; omega
    · exact hcur
  unfold maxInt64 at *
  by_cases hgt : s.current + deadlineTicks p.period d > s.clockEnd
  · rw [makeDeadline_lock hgt]; dsimp only; omega
  · rw [makeDeadline_free hgt]; dsimp only; omega

/-! ### the hypotheses are satisfiable: a concrete history

period 400 ms, eps 1 ms.  5 µs after program start a match with MatchTimeout 1 s begins (first use
of the clock: deadline 1335 ticks ≈ 1.4 s, clockEnd 2288 ticks ≈ 2.4 s); the updater wakes every
400 ms. -/

def pEx : Params := { period := 400000000, eps := 1000000, slop := goSlop }

example : pEx.Valid := by unfold Params.Valid pEx goSlop maxInt64; decide

def evsEx (nTicks : Nat) : List Event :=
  [.idle 5000, .make 1000000000] ++ List.replicate nTicks (.tick 400000000)

/-- after three wake-ups (1.2 s) the deadline is pending, not reached, the updater running -/
example : ∃ s, run pEx State.init (evsEx 3) = some s ∧ Reachable pEx s ∧
    s.pending = [{ t0 := 5000, d := 1000000000, dl := 1335, fresh := true }] ∧
    reached s 1335 = false ∧ s.running = true ∧ s.clockEnd = 2288 :=
  ⟨_, rfl, reachable_of_run pEx (evsEx 3) _ _ Reachable.init rfl, by decide⟩

/-- the fourth wake-up (1.6 s ≥ t0 + d + period) makes it reached — 1.6 s after it was made, not
    earlier than d -/
example : ∃ s, run pEx State.init (evsEx 4) = some s ∧ reached s 1335 = true ∧ s.now - 5000 = 1600000000 :=
  exists_some_of_decide (by decide +kernel)

/-- the fifth wake-up happens at 2.0 s ≥ t0 + d + 2·period + eps = 1.801 s: the hypothesis of
    `timeout_within` is met by a reachable state with a pending deadline -/
example : ∃ s e, run pEx State.init (evsEx 5) = some s ∧ e ∈ s.pending ∧
    e.t0 + e.d + 2 * pEx.period + pEx.eps ≤ s.now ∧ reached s e.dl = true :=
  ⟨_, { t0 := 5000, d := 1000000000, dl := 1335, fresh := true }, rfl, by decide⟩

/-- hypotheses of `clock_exits`: after six wake-ups (2.4 s, current = 2288 = clockEnd, still running) the
    seventh comes at 2.8 s ≥ start + 2^20·(clockEnd+1) = 2.40019 s -/
example : ∃ s s', run pEx State.init (evsEx 6) = some s ∧ s.running = true ∧ s.current = s.clockEnd ∧
    step pEx s (.tick 400000000) = some s' ∧ s.startNs + 1048576 * (s.clockEnd + 1) ≤ s.now + 400000000 ∧
    s'.running = false :=
  ⟨_, _, rfl, by decide, by decide, rfl, by decide, by decide⟩

/-- the runner returns; the seventh wake-up (2.8 s > clockEnd) ends the updater, and a timed match
    after a further idle minute starts a new one with an exact `current` (57029 ticks = 59.8 s) -/
example : ∃ s, run pEx State.init (evsEx 4 ++ [.finish 0] ++ List.replicate 3 (.tick 400000000)) = some s ∧
    s.running = false ∧ s.pending = [] ∧ s.current = 2670 ∧
    ∃ s', run pEx s [.idle 57000000000, .make 50000000] = some s' ∧ s'.running = true ∧
      s'.current = 57029 ∧ s'.pending = [{ t0 := 59800005000, d := 50000000, dl := 57458, fresh := true }] :=
  ⟨_, rfl, by decide, by decide, by decide, _, rfl, by decide⟩

/-- documented quirk: StopTimeoutClock while a timed match is in flight.  After `stop` and the next
    wake-up no updater runs and `current` (381) will never reach the runner's deadline (1335): that match
    can no longer time out unless another timed match restarts the clock.  The model drops such deadlines
    from `pending`, so the theorems above speak about deadlines made after the last stop. -/
example : ∃ s, run pEx State.init [.idle 5000, .make 1000000000, .stop, .tick 400000000] = some s ∧
    s.running = false ∧ s.current = 381 ∧ reached s 1335 = false ∧ s.pending = [] :=
  exists_some_of_decide (by decide +kernel)

/-! ### makeDeadline in atomic steps: every interleaving (`RegexVerif.ClockConc`)

From here on a makeDeadline call is not one event.  A call is `begin d` followed by up to three
steps of its goroutine - the atomic read of `clockEnd`, the atomic read of `current` (with the
comparison of the locals), the locked section - and between any two of them other calls, wake-ups of
the updater, idle time and StopTimeoutClock may come.  `Variant.new` is the code in /repo;
`Variant.split` (648a49f) and `Variant.old` (before it) are the two earlier versions. -/

/-- **No early timeout, whatever the interleaving.**  `Variant.new`; every state reachable by any
    interleaving of any number of makeDeadline calls with the updater, idle periods and
    StopTimeoutClock.  If a call that began at real time `t0` for MatchTimeout `d` has returned the
    deadline `e`, and `e` is `reached()`, then the real time elapsed since `t0` is at least
    `min(d+period, MaxInt64) - period - eps - 2097150 ns`; for `d ≤ MaxInt64 - period` that is
    `d - eps - (2 ticks - 2 ns)` - the first two bounds of `no_early_timeout` (its third is about the ghost
    `fresh`, absent here).  Why it survives the interleaving: a deadline returned without the mutex
    satisfies `current₂ + D ≤ clockEnd₁` (indices: order of the two reads); had the clock been stopped at the first read, `clockEnd₁ < current₁ ≤
    current₂` would contradict that (`D ≥ 0`), so an updater was running at the first read, which is
    after `t0`, and `current` was at most `period + eps` old then and only grows.  A deadline computed
    under the mutex reads a `current` that was just refreshed or belongs to a running updater, and it
    is always recomputed there - nothing read before the mutex is kept. -/
theorem conc_no_early_deadline (p : Params) (hp : p.Valid) (s : ClockConc.CState)
    (h : ClockConc.Reachable .new p s) (g : ClockConc.G) (hg : g ∈ s.gs) (hpc : g.pc = .done)
    (hr : reached s.clk g.e = true) :
    effDur p.period g.d - p.period - p.eps - 2097150 ≤ s.clk.now - g.t0 ∧
    (g.d ≤ maxInt64 - p.period → g.d - p.eps - 2097150 ≤ s.clk.now - g.t0) := by
  have hi := Lemmas.ClockConc.inv_of_reachable hp h
  have hd := hi.gs g hg
  have hp0 := hp.1
  have he0 := hp.2.2.1
  have ht := hd.t0_le
  cases hs : s.clk.started
  · have h1 := (hd.early hpc).2 hs
    have : g.e ≤ s.clk.current := of_decide_eq_true hr
    have := (hi.clk.unstarted hs).1
    exact ⟨by omega, fun h2 => by have := effDur_of_le h2; omega⟩
  · have hreal := reached_real hi.clk hs hr
    have h1 := (hd.early hpc).1 hs
    exact ⟨by omega, fun h2 => by have := effDur_of_le h2; omega⟩

/-- **The clock covers the deadline, whatever the interleaving**: `clock_covers_deadlines` for `Variant.new`,
    for a returned call during which StopTimeoutClock was not called, and none since (`s0 = stops`). -/
theorem conc_clock_covers_deadline (p : Params) (hp : p.Valid) (s : ClockConc.CState)
    (h : ClockConc.Reachable .new p s) (g : ClockConc.G) (hg : g ∈ s.gs) (hpc : g.pc = .done)
    (hstop : g.s0 = s.stops) :
    g.e ≤ s.clk.clockEnd ∧ (reached s.clk g.e = false → s.clk.running = true) := by
  have hd := (Lemmas.ClockConc.inv_of_reachable hp h).gs g hg
  have hc := hd.covDone hstop hpc
  exact ⟨hc.1, fun hr => hc.2.resolve_right (of_decide_eq_false hr)⟩

/-- **The clock invariants survive the interleaving.**  `Variant.new`, every reachable state:
    `current` never runs ahead of real time (`current_le_now`), a running clock is at most
    `period + eps` old (`fresh_when_running`), and a clock that is not running has passed its
    `clockEnd` - so a lock-free `end <= clockEnd` can only succeed against a running clock. -/
theorem conc_clock_invariants (p : Params) (hp : p.Valid) (s : ClockConc.CState)
    (h : ClockConc.Reachable .new p s) :
    (s.clk.started = true → 0 ≤ s.clk.current ∧ s.clk.current ≤ ticks (s.clk.now - s.clk.startNs)) ∧
    (s.clk.started = false → s.clk.current = 0 ∧ s.clk.clockEnd = 0 ∧ s.clk.running = false) ∧
    (s.clk.running = true →
      ∃ w, s.clk.current = ticks (w - s.clk.startNs) ∧ w ≤ s.clk.now ∧ s.clk.now - w ≤ p.period + p.eps) ∧
    (s.clk.started = true → s.clk.running = false → s.clk.clockEnd < s.clk.current) := by
  have hc := (Lemmas.ClockConc.inv_of_reachable hp h).clk
  exact ⟨hc.current_le_now, hc.unstarted, hc.fresh_when_running, hc.stopped⟩

/-- **The small-step model refines the atomic one.**  Every variant, every state (reachable or
    not): a call whose steps are executed with nothing in between - `begin d`, then `k ≤ 4` steps of
    the new goroutine - ends with exactly the clock state and the deadline of `Clock.makeDeadline`,
    the atomic event the theorems of the first part speak about.  (The variants differ only under
    interleaving.) -/
theorem conc_sequential_eq (v : ClockConc.Variant) (p : Params) (s : ClockConc.CState) (d : Int)
    (hd0 : 0 ≤ d) (hd1 : d ≤ maxInt64) :
    ∃ k, k ≤ 4 ∧ ClockConc.run v p s (ClockConc.soloEvents s d k) =
      some { clk := (makeDeadline p s.clk d).1,
             gs := s.gs ++ [{ t0 := s.clk.now, d := d, pc := .done, ce := s.clk.clockEnd,
                              e := (makeDeadline p s.clk d).2, s0 := s.stops, tMade := s.clk.now }],
             stops := s.stops } := by
  obtain ⟨k, hk, hit⟩ := Lemmas.ClockConc.iterG_makeDeadline v p s.clk (ClockConc.newG s d) rfl
  exact ⟨k, hk, Lemmas.ClockConc.run_solo v p s d ⟨hd0, hd1⟩ k _ hit⟩

/-! #### concrete interleavings (period 1 ms, eps 1 ms)

`warmEvs`: a first timed call (100 ms) runs alone and starts the clock at t = 0; its runner returns;
StopTimeoutClock; the updater wakes twice (at 1 ms `current = 0 <= clockEnd = 0` still holds, at 2 ms
it leaves the loop with `current = 1`); 130 ms pass.  Now `current = 1` is 130 ms old, longer than the
timeout of the calls that follow. -/

def pConc : Params := { period := 1000000, eps := 1000000, slop := goSlop }

example : pConc.Valid := by unfold Params.Valid pConc goSlop maxInt64; decide

def warmEvs (solo : Nat) : List ClockConc.Event :=
  [.begin 100000000] ++ List.replicate solo (.stepG 0) ++ [.retire 0, .stop, .tick 1000000, .tick 1000000, .idle 130000000]

/-- goroutines A (index 0) and B (index 1), both MatchTimeout 100 ms, at t = 132 ms: B does its two
    lock-free reads, A runs its whole call, B does the rest of its own.  `solo` = number of steps of a
    call that takes the mutex: 4 in the variants with two critical sections, 3 in the new one. -/
def raceLockEvs (solo : Nat) : List ClockConc.Event :=
  warmEvs solo ++ [.begin 100000000, .begin 100000000, .stepG 1, .stepG 1] ++ List.replicate solo (.stepG 0) ++
    List.replicate (solo - 2) (.stepG 1)

/-- A has MatchTimeout 1 h; B does its first read, A runs its whole call, B does its second read. -/
def raceFastEvs (solo : Nat) : List ClockConc.Event :=
  warmEvs solo ++ [.begin 3600000000000, .begin 100000000, .stepG 1] ++ List.replicate solo (.stepG 0) ++ [.stepG 1]

/-- the stopped, stale clock all three races start from -/
example : ∃ s, ClockConc.run .old pConc ClockConc.CState.init (warmEvs 4) = some s ∧
    s.clk.running = false ∧ s.clk.started = true ∧ s.clk.current = 1 ∧ s.clk.clockEnd = 0 ∧
    s.clk.now = 132000000 ∧ s.gs = [] :=
  exists_some_of_decide (by decide +kernel)

/-- **Defect D37, the path through the mutex** (code before 648a49f).  B computes `end_B = 1 + 96`
    from the stale `current` and sees `end_B > clockEnd`; A runs completely (refreshes `current` to 125
    ticks = 132 ms under the mutex, restarts the updater); B takes the mutex, finds `running` true, does
    not recompute, and returns 97: a deadline that was reached 30 ms before the call began.  The
    state is reachable, B's runner sees `reached()` at its first check, 0 ns after the call.
    (In order: run, reachability, B's record, `reached`, `current`, 0 ns elapsed, the failing bound of
    `conc_no_early_deadline`; `startNs = 0` from the warm-up call.) -/
theorem old_makeDeadline_stale_deadline :
    ∃ s, ClockConc.run .old pConc ClockConc.CState.init (raceLockEvs 4) = some s ∧
      ClockConc.Reachable .old pConc s ∧
      s.gs[1]? = some { t0 := 132000000, d := 100000000, pc := .done, ce := 0, e := 97, s0 := 1, tMade := 132000000 } ∧
      reached s.clk 97 = true ∧ s.clk.current = 125 ∧ s.clk.now - 132000000 = 0 ∧
      ¬ (100000000 - pConc.eps - 2097150 ≤ s.clk.now - 132000000) :=
  Lemmas.ClockConc.exists_reachable_of_decide (by decide +kernel)

/-- **Defect D37, the lock-free path** (code before 648a49f).  B reads the stale `current`
    (`end_B = 97`); A, with MatchTimeout 1 h, runs completely (`clockEnd` = 1 h + 1 s ahead); B reads
    that `clockEnd`, finds `end_B <= clockEnd` and returns 97 without ever taking the mutex. -/
theorem old_makeDeadline_stale_fastpath :
    ∃ s, ClockConc.run .old pConc ClockConc.CState.init (raceFastEvs 4) = some s ∧
      ClockConc.Reachable .old pConc s ∧
      s.gs[1]? = some { t0 := 132000000, d := 100000000, pc := .done, ce := 3434306, e := 97, s0 := 1, tMade := 132000000 } ∧
      reached s.clk 97 = true ∧ s.clk.current = 125 ∧ s.clk.now - 132000000 = 0 :=
  Lemmas.ClockConc.exists_reachable_of_decide (by decide +kernel)

/-- the same schedules on the new code (a whole call is three steps there): B's deadline is computed
    from the refreshed time, 221 = 125 + 96, and is not reached; in the second schedule B's second
    read sees `current = 125`, `221 > clockEnd₁ = 0` sends it to the mutex, and the
    locked section finishes it -/
example : ∃ s, ClockConc.run .new pConc ClockConc.CState.init (raceLockEvs 3) = some s ∧
    s.gs[1]? = some { t0 := 132000000, d := 100000000, pc := .done, ce := 0, e := 221, s0 := 1, tMade := 132000000 } ∧
    reached s.clk 221 = false :=
  exists_some_of_decide (by decide +kernel)
example : ∃ s, ClockConc.run .new pConc ClockConc.CState.init (raceFastEvs 3) = some s ∧
    s.gs[1]? = some { t0 := 132000000, d := 100000000, pc := .needLock, ce := 0, e := 221, s0 := 1, tMade := 132000000 } :=
  exists_some_of_decide (by decide +kernel)
example : ∃ s, ClockConc.run .new pConc ClockConc.CState.init (raceFastEvs 3 ++ [.stepG 1]) = some s ∧
    s.gs[1]? = some { t0 := 132000000, d := 100000000, pc := .done, ce := 0, e := 221, s0 := 1, tMade := 132000000 } ∧
    reached s.clk 221 = false ∧ s.clk.clockEnd = 3434306 :=
  exists_some_of_decide (by decide +kernel)
/-- 648a49f (`split`) also returns 221 on the first of the two schedules (four steps per call) -/
example : ∃ s, ClockConc.run .split pConc ClockConc.CState.init (raceLockEvs 4) = some s ∧
    s.gs[1]? = some { t0 := 132000000, d := 100000000, pc := .done, ce := 0, e := 221, s0 := 1, tMade := 132000000 } :=
  exists_some_of_decide (by decide +kernel)

/-- A (index 0, 100 ms) at t = 132 ms: both reads and the first locked section (refresh: `current` =
    125); A is descheduled for 50 ms; A's extendClock restarts the updater at t = 182 ms; C (index 1,
    100 ms) begins at t = 182 ms and does its two reads; then the updater ticks 50 times. -/
def splitEvs : List ClockConc.Event :=
  warmEvs 4 ++ [.begin 100000000, .stepG 0, .stepG 0, .stepG 0, .idle 50000000, .stepG 0,
    .begin 100000000, .stepG 1, .stepG 1] ++ List.replicate 50 (.tick 1000000)

/-- **Defect D38: two critical sections** (/repo at 648a49f).  The locked block of makeDeadline
    refreshed `current` and released the mutex; `extendClock` took it again.  If the goroutine is
    descheduled between the two (50 ms here; no updater is alive, so nothing bounds the delay), the
    clock it then starts is `running` with a `current` that is 50 ms old and stays so until the first
    wake-up.  C, which begins right after, reads `clockEnd` (covers) and `current` (stale) and returns
    `221 = 125 + 96` lock-free (through the mutex it would get the same: `running` is true, no
    refresh).  Its deadline is reached 50 ms after the call began, with MatchTimeout 100 ms: earlier
    than `d - eps - 2 ticks` by 47 ms - the bound of `conc_no_early_deadline` fails for this variant,
    and a running clock is not fresh in the state after A's extendClock (third conjunct of
    `conc_clock_invariants`). -/
theorem split_sections_stale_after_restart :
    ∃ s, ClockConc.run .split pConc ClockConc.CState.init splitEvs = some s ∧
      ClockConc.Reachable .split pConc s ∧
      s.gs[1]? = some { t0 := 182000000, d := 100000000, pc := .done, ce := 1174, e := 221, s0 := 1, tMade := 182000000 } ∧
      reached s.clk 221 = true ∧ s.clk.now - 182000000 = 50000000 ∧
      ¬ (100000000 - pConc.eps - 2097150 ≤ s.clk.now - 182000000) :=
  Lemmas.ClockConc.exists_reachable_of_decide (by decide +kernel)

/-- the state right after A's late extendClock (the first 16 events: the 10 of `warmEvs 4`, then A's `begin`, three
    steps, the idle and its fourth step): running, and `current` (125 ticks = 131.07 ms) is older than
    `period + eps` - `conc_clock_invariants` does not hold for the split variant -/
example : ∃ s, ClockConc.run .split pConc ClockConc.CState.init (splitEvs.take 16) = some s ∧
    s.clk.running = true ∧ s.clk.current = 125 ∧ s.clk.now = 182000000 ∧
    ¬ (s.clk.now - (s.clk.startNs + 1048576 * (s.clk.current + 1)) ≤ pConc.period + pConc.eps) :=
  exists_some_of_decide (by decide +kernel)

/-- in the new code the schedule does not exist: after A's single locked section (third step) an
    updater is alive, so 50 ms cannot pass without its wake-ups … -/
example : ClockConc.run .new pConc ClockConc.CState.init
    (warmEvs 3 ++ [.begin 100000000, .stepG 0, .stepG 0, .stepG 0, .idle 50000000]) = none := rfl
/-- … and with them C's deadline is computed from a time at most one period old: 269 = 173 + 96, which
    is reached 101 ms after C began -/
example : ∃ s, ClockConc.run .new pConc ClockConc.CState.init
    (warmEvs 3 ++ [.begin 100000000, .stepG 0, .stepG 0, .stepG 0] ++ List.replicate 50 (.tick 1000000) ++
      [.begin 100000000, .stepG 1, .stepG 1] ++ List.replicate 101 (.tick 1000000)) = some s ∧
    s.gs[1]? = some { t0 := 182000000, d := 100000000, pc := .done, ce := 1174, e := 269, s0 := 1, tMade := 182000000 } ∧
    reached s.clk 269 = true ∧ s.clk.now - 182000000 = 101000000 :=
  exists_some_of_decide (by decide +kernel)

/-! non-vacuity of `conc_no_early_deadline` / `conc_clock_covers_deadline`: a state reachable in the
    new variant with two finished calls - the first through the mutex (first use of the clock), the
    second, begun 3 ms later, lock-free - after 101 wake-ups: the first deadline (96) is reached 101 ms
    after its call began, not before the bound `100 ms - 1 ms - 2.1 ms`; the second (98) is not reached,
    is `≤ clockEnd`, and the updater is running. -/
def twoCallsEvs : List ClockConc.Event :=
  [.begin 100000000, .stepG 0, .stepG 0, .stepG 0, .tick 1000000, .tick 1000000, .tick 1000000,
    .begin 100000000, .stepG 1, .stepG 1] ++ List.replicate 98 (.tick 1000000)

example : ∃ s, ClockConc.run .new pConc ClockConc.CState.init twoCallsEvs = some s ∧
    ClockConc.Reachable .new pConc s ∧
    s.gs = [{ t0 := 0, d := 100000000, pc := .done, ce := 0, e := 96, s0 := 0, tMade := 0 },
            { t0 := 3000000, d := 100000000, pc := .done, ce := 1049, e := 98, s0 := 0, tMade := 3000000 }] ∧
    reached s.clk 96 = true ∧ 100000000 - pConc.eps - 2097150 ≤ s.clk.now - 0 ∧ s.clk.now = 101000000 ∧
    reached s.clk 98 = false ∧ 98 ≤ s.clk.clockEnd ∧ s.clk.running = true ∧ s.stops = 0 :=
  Lemmas.ClockConc.exists_reachable_of_decide (by decide +kernel)

/-- `conc_sequential_eq` instantiated: a call alone on the stale stopped clock, each variant -/
example : ∀ v ∈ [ClockConc.Variant.old, .split, .new], ∃ s k s', k ≤ 4 ∧
    ClockConc.run .new pConc ClockConc.CState.init (warmEvs 3) = some s ∧
    ClockConc.run v pConc s (ClockConc.soloEvents s 100000000 k) = some s' ∧
    s'.clk.current = 125 ∧ s'.gs = [{ t0 := 132000000, d := 100000000, pc := .done, ce := 0, e := 221, s0 := 1, tMade := 132000000 }] ∧
    (makeDeadline pConc s.clk 100000000).2 = 221 := by
  intro v hv
  simp only [List.mem_cons, List.mem_nil_iff, or_false] at hv
  rcases hv with rfl | rfl | rfl
  · exact ⟨_, 4, _, by decide, rfl, rfl, by decide⟩
  · exact ⟨_, 4, _, by decide, rfl, rfl, by decide⟩
  · exact ⟨_, 3, _, by decide, rfl, rfl, by decide⟩

/-! ### liveness under interleaving (`Variant.new`)

The deadline of a call is `current + deadlineTicks d` for the `current` read in the step that computed
the returned `end` - the lock-free read, or the locked section.  That step happens at or after the
call (`t0`), but arbitrarily later if the goroutine is descheduled between `begin` and its steps:
nothing in the model (and nothing in Go) bounds that delay.  So the firing time is bounded from the
real time `tMade` at which the deadline was made (ghost field of `G`, written by the step that writes
`e`), and from `t0` only under an explicit bound `lat` on the duration of the call's own steps. -/

/-- **The deadline is made during the call**, in flight or returned.  (`tMade = t0` when the steps of the
    call run without delay - see `conc_sequential_eq`.) -/
theorem conc_made_during_call (p : Params) (hp : p.Valid) (s : ClockConc.CState)
    (h : ClockConc.Reachable .new p s) (g : ClockConc.G) (hg : g ∈ s.gs) :
    g.t0 ≤ g.tMade ∧ g.tMade ≤ s.clk.now := by
  have hd := (Lemmas.ClockConc.inv_of_reachable hp h).gs g hg
  exact ⟨hd.made_ge, hd.made_le⟩

/-- **Timeouts fire, whatever the interleaving.**  `Variant.new`, every reachable state.  A returned
    deadline `e` of a call with MatchTimeout `d`, made at real time `tMade`, with no StopTimeoutClock
    since the call began, is `reached()` as soon as real time is
    `≥ tMade + min(d+period, MaxInt64) + period + eps` - for `d ≤ MaxInt64 - period` that is
    `tMade + d + 2·period + eps`, the bound of `timeout_within` with `tMade` in the place of `t0`.
    Why: `2^20·e ≤ (tMade - start) + effDur` because `current` never runs ahead of real time
    (`conc_clock_invariants`); as long as `e` is not reached an updater is alive
    (`conc_clock_covers_deadline`), its wake-ups are at most `period + eps` apart, and the first one at
    or after `tMade + effDur` stores a time `≥ e` (`conc_timeout_at_tick`).  The runner then sees it
    at its next CheckTimeout. -/
theorem conc_timeout_within (p : Params) (hp : p.Valid) (s : ClockConc.CState)
    (h : ClockConc.Reachable .new p s) (g : ClockConc.G) (hg : g ∈ s.gs) (hpc : g.pc = .done)
    (hstop : g.s0 = s.stops)
    (hn : g.tMade + effDur p.period g.d + p.period + p.eps ≤ s.clk.now) :
    reached s.clk g.e = true := by
  have hi := Lemmas.ClockConc.inv_of_reachable hp h
  have hd := hi.gs g hg
  have hc := hi.clk
  simp only [reached, decide_eq_true_eq]
  rcases (hd.covDone hstop hpc).2 with hr | h1
  · have hpr := hc.progress hr
    have hcur := hc.cur_eq hpr.1
    have := hd.within hpc hpr.1
    omega
  · exact h1

/-- … measured from the call: if the steps of the call took at most `lat` ns in total (the deadline
    was made at most `lat` after the call began - an assumption about the scheduler, like `eps`), the
    deadline is reached once real time is `≥ t0 + lat + d + 2·period + eps`.  With `lat = 0` this is
    `timeout_within` of the atomic model. -/
theorem conc_timeout_within_from_call (p : Params) (hp : p.Valid) (s : ClockConc.CState)
    (h : ClockConc.Reachable .new p s) (g : ClockConc.G) (hg : g ∈ s.gs) (hpc : g.pc = .done)
    (hstop : g.s0 = s.stops) (lat : Int) (hlat : g.tMade ≤ g.t0 + lat)
    (hn : g.t0 + lat + g.d + 2 * p.period + p.eps ≤ s.clk.now) :
    reached s.clk g.e = true := by
  have hd := (Lemmas.ClockConc.inv_of_reachable hp h).gs g hg
  have heff := effDur_cases p.period g.d
  exact conc_timeout_within p hp s h g hg hpc hstop (by omega)

/-- the step form, for the wake-up that happens at a real time `≥ tMade + effDur` (no hypothesis about
    StopTimeoutClock: the wake-up is given) -/
theorem conc_timeout_at_tick (p : Params) (hp : p.Valid) (s s' : ClockConc.CState)
    (h : ClockConc.Reachable .new p s) (dt : Int) (hs : ClockConc.step .new p s (.tick dt) = some s')
    (g : ClockConc.G) (hg : g ∈ s.gs) (hpc : g.pc = .done)
    (hn : g.tMade + effDur p.period g.d ≤ s'.clk.now) : reached s'.clk g.e = true := by
  have hi' := Lemmas.ClockConc.inv_of_reachable hp (ClockConc.Reachable.step _ h hs)
  obtain ⟨rfl, hc⟩ := Lemmas.ClockConc.step_tick hs
  have hw := (hi'.gs g hg).within hpc
    ((Lemmas.ClockConc.inv_of_reachable hp h).clk.progress (step_tick hc).2.1).1
  simp only [reached, decide_eq_true_eq]
  simp only [tick, ticks_eq] at hw hn ⊢
  omega

/-- **The clock goroutine exits, and exits safely.**  `Variant.new`, every reachable state: a wake-up
    of the updater at a real time `≥ start + 2^20·(clockEnd+1)` leaves the loop (`running = false`);
    no call is touched; and at that moment every returned deadline of a call with no
    StopTimeoutClock since it began is `reached()` - the updater never goes away under a deadline that
    is still waiting.  (Calls still in flight re-read `current`: a stopped clock has passed the
    `clockEnd` they may have read, `conc_clock_invariants`, so they take the mutex and restart it.) -/
theorem conc_clock_exits (p : Params) (hp : p.Valid) (s s' : ClockConc.CState)
    (h : ClockConc.Reachable .new p s) (dt : Int) (hs : ClockConc.step .new p s (.tick dt) = some s')
    (hn : s.clk.startNs + 1048576 * (s.clk.clockEnd + 1) ≤ s.clk.now + dt) :
    s'.clk.running = false ∧ s'.gs = s.gs ∧ s'.stops = s.stops ∧
    ∀ g ∈ s'.gs, g.pc = .done → g.s0 = s'.stops → reached s'.clk g.e = true := by
  have hi' := Lemmas.ClockConc.inv_of_reachable hp (ClockConc.Reachable.step _ h hs)
  obtain ⟨rfl, _⟩ := Lemmas.ClockConc.step_tick hs
  have hrun : (tick s.clk dt).running = false := tick_exits hn
  refine ⟨hrun, rfl, rfl, fun g hg hpc hst => ?_⟩
  simp only [reached, decide_eq_true_eq]
  rcases ((hi'.gs g hg).covDone hst hpc).2 with hr | h1
  · rw [hrun] at hr; cases hr
  · exact h1

/-- `clock_exit_bound` for the interleaving model: once no call extends
    `clockEnd` any more - every returned deadline reached, no call in flight - the goroutine is gone
    `period + eps` after the end of the slop. -/
theorem conc_clock_exit_bound (p : Params) (hp : p.Valid) (s : ClockConc.CState)
    (h : ClockConc.Reachable .new p s) (hr : s.clk.running = true) (hc : s.clk.current ≤ s.clk.clockEnd) :
    s.clk.now < s.clk.startNs + 1048576 * (s.clk.clockEnd + 1) + p.period + p.eps :=
  (Lemmas.ClockConc.inv_of_reachable hp h).clk.exit_bound hr hc

/-- **Restart on demand, in steps.**  `Variant.new`, a reachable state with no updater running (never
    started / exited / stopped), whatever calls are in flight.  A new call (`0 ≤ d ≤ MaxInt64`; on
    the very first use also `d + period ≥ 1 tick`) whose steps run next - `begin d` and `k ≤ 4` steps
    of the new goroutine, by `conc_sequential_eq` the atomic `Clock.makeDeadline` - ends with an
    updater running, `current` the exact tick count of real time (the refresh under the mutex: no
    stale value enters the deadline), the returned deadline `current + deadlineTicks d`, made at the
    time of the call (`tMade = t0 = now`), and `clockEnd` covering it plus the slop. -/
theorem conc_restart_on_demand (p : Params) (hp : p.Valid) (s : ClockConc.CState)
    (h : ClockConc.Reachable .new p s) (hr : s.clk.running = false) (d : Int) (hd0 : 0 ≤ d)
    (hd1 : d ≤ maxInt64) (hfirst : s.clk.started = true ∨ 1048576 ≤ d + p.period) :
    ∃ k s' g, k ≤ 4 ∧ ClockConc.run .new p s (ClockConc.soloEvents s d k) = some s' ∧
      ClockConc.Reachable .new p s' ∧ s'.gs = s.gs ++ [g] ∧
      s'.clk.running = true ∧ s'.clk.started = true ∧ s'.clk.now = s.clk.now ∧
      s'.clk.current = ticks (s'.clk.now - s'.clk.startNs) ∧
      g.pc = .done ∧ g.d = d ∧ g.t0 = s.clk.now ∧ g.tMade = s.clk.now ∧ g.s0 = s'.stops ∧
      g.e = s'.clk.current + deadlineTicks p.period d ∧ g.e + ticks p.slop ≤ s'.clk.clockEnd := by
  obtain ⟨k, hk, hrun⟩ := conc_sequential_eq .new p s d hd0 hd1
  have hc := (Lemmas.ClockConc.inv_of_reachable hp h).clk
  obtain ⟨h1, h2, h3, _, h5, h6, h7⟩ :=
    makeDeadline_restart hp hc hr hd0 hd1 hfirst
  refine ⟨k, _, _, hk, hrun, Lemmas.ClockConc.reachable_of_run h hrun, rfl, h1, h2, h3, ?_,
    rfl, rfl, rfl, rfl, rfl, h6, h7⟩
  rw [h5]; simp only [h3]

/-! #### the hypotheses are satisfiable: a call that is descheduled after `begin`

period 1 ms, eps 1 ms (`pConc`).  A (index 0, 100 ms) is the first use of the clock at t = 0 and runs
through the mutex.  B (index 1, 100 ms) begins at t0 = 3 ms and is descheduled for 20 ms before its
first step; its two lock-free reads happen at tMade = 23 ms: `e = ticks(23 ms) + 96 = 117`. -/

def lateEvs (n : Nat) : List ClockConc.Event :=
  [.begin 100000000, .stepG 0, .stepG 0, .stepG 0, .tick 1000000, .tick 1000000, .tick 1000000,
    .begin 100000000] ++ List.replicate 20 (.tick 1000000) ++ [.stepG 1, .stepG 1] ++
    List.replicate n (.tick 1000000)

/-- B's record; `conc_made_during_call`: t0 = 3 ms < tMade = 23 ms ≤ now -/
example : ∃ s, ClockConc.run .new pConc ClockConc.CState.init (lateEvs 0) = some s ∧
    ClockConc.Reachable .new pConc s ∧
    s.gs[1]? = some { t0 := 3000000, d := 100000000, pc := .done, ce := 1049, e := 117, s0 := 0, tMade := 23000000 } ∧
    s.clk.now = 23000000 :=
  Lemmas.ClockConc.exists_reachable_of_decide (by decide +kernel)

/-- measured from `t0` the bound of `timeout_within` is false under interleaving: at
    t0 + d + 2·period + eps = 106 ms B's deadline is not reached (`e = 117` against 98 for the call of
    `twoCallsEvs`, which began at the same `t0` and ran at once: 19 ticks ≈ 20 ms later) - this is why `conc_timeout_within` is stated from `tMade` -/
example : ∃ s g, ClockConc.run .new pConc ClockConc.CState.init (lateEvs 83) = some s ∧ s.gs[1]? = some g ∧
    g.t0 + g.d + 2 * pConc.period + pConc.eps ≤ s.clk.now ∧ g.s0 = s.stops ∧ reached s.clk g.e = false :=
  exists_some₂_of_decide (by decide +kernel)

/-- hypotheses of `conc_timeout_within` (and of `conc_timeout_within_from_call` with `lat` = 20 ms):
    reachable, returned, no stop, now = 126 ms = tMade + effDur + period + eps; and the conclusion -/
example : ∃ s g, ClockConc.run .new pConc ClockConc.CState.init (lateEvs 103) = some s ∧
    ClockConc.Reachable .new pConc s ∧ g ∈ s.gs ∧ g.pc = .done ∧ g.s0 = s.stops ∧ g.t0 < g.tMade ∧
    g.tMade + effDur pConc.period g.d + pConc.period + pConc.eps ≤ s.clk.now ∧
    g.tMade ≤ g.t0 + 20000000 ∧ g.t0 + 20000000 + g.d + 2 * pConc.period + pConc.eps ≤ s.clk.now ∧
    s.clk.now = 126000000 ∧ reached s.clk g.e = true :=
  (Lemmas.ClockConc.exists_reachable_of_decide (by decide +kernel)).elim fun s h =>
    ⟨s, { t0 := 3000000, d := 100000000, pc := .done, ce := 1049, e := 117, s0 := 0, tMade := 23000000 }, h⟩

/-- the bound is not slack by more than the two roundings and one period: one wake-up before the
    first that satisfies `conc_timeout_at_tick` (122 ms) the deadline is not reached; the wake-up at
    124 ms = tMade + effDur satisfies its hypothesis -/
example : ∃ s s' g, ClockConc.run .new pConc ClockConc.CState.init (lateEvs 99) = some s ∧ s.gs[1]? = some g ∧
    reached s.clk g.e = false ∧ s.clk.now = 122000000 ∧
    ClockConc.run .new pConc s [.tick 1000000, .tick 1000000] = some s' ∧
    g.tMade + effDur pConc.period g.d ≤ s'.clk.now ∧ reached s'.clk g.e = true :=
  ⟨_, _, _, rfl, rfl, by decide, by decide, rfl, by decide⟩

/-! #### exit and restart (period 400 ms, eps 1 ms: `pEx`; MatchTimeout 1 s, first use at t = 5 µs) -/

def exitEvs (n : Nat) : List ClockConc.Event :=
  [.idle 5000, .begin 1000000000, .stepG 0, .stepG 0, .stepG 0] ++ List.replicate n (.tick 400000000)

/-- hypotheses of `conc_clock_exit_bound` and `conc_clock_exits`: after six wake-ups (2.4 s) the
    updater runs with `current = clockEnd = 2288`; the seventh comes at 2.8 s
    `≥ start + 2^20·(clockEnd+1)` = 2.40019 s and leaves the loop; the deadline 1335 of the returned
    call is reached -/
example : ∃ s s', ClockConc.run .new pEx ClockConc.CState.init (exitEvs 6) = some s ∧
    ClockConc.Reachable .new pEx s ∧ s.clk.running = true ∧ s.clk.current = 2288 ∧ s.clk.clockEnd = 2288 ∧
    s.clk.now < s.clk.startNs + 1048576 * (s.clk.clockEnd + 1) + pEx.period + pEx.eps ∧
    ClockConc.step .new pEx s (.tick 400000000) = some s' ∧
    s.clk.startNs + 1048576 * (s.clk.clockEnd + 1) ≤ s.clk.now + 400000000 ∧
    s'.clk.running = false ∧
    s'.gs = [{ t0 := 5000, d := 1000000000, pc := .done, ce := 0, e := 1335, s0 := 0, tMade := 5000 }] ∧
    reached s'.clk 1335 = true :=
  ⟨_, _, rfl, Lemmas.ClockConc.reachable_of_run (evs := exitEvs 6) .init rfl, by decide, by decide,
    by decide, by decide, rfl, by decide, by decide, by decide, by decide⟩

/-- hypotheses of `conc_restart_on_demand`: the runner returns, an idle minute passes on the exited
    clock (`current` = 2670 is 57 s stale); a call with MatchTimeout 50 ms, run in three steps, restarts
    the updater with the exact time 57029 ticks = 59.8 s and gets 57029 + 429 -/
example : ∃ s s', ClockConc.run .new pEx ClockConc.CState.init (exitEvs 7 ++ [.retire 0, .idle 57000000000]) = some s ∧
    ClockConc.Reachable .new pEx s ∧ s.clk.running = false ∧ s.clk.started = true ∧ s.clk.current = 2670 ∧
    ClockConc.run .new pEx s (ClockConc.soloEvents s 50000000 3) = some s' ∧
    s'.clk.running = true ∧ s'.clk.current = 57029 ∧
    s'.gs = [{ t0 := 59800005000, d := 50000000, pc := .done, ce := 2288, e := 57458, s0 := 0, tMade := 59800005000 }] ∧
    57458 + ticks pEx.slop ≤ s'.clk.clockEnd :=
  ⟨_, _, rfl, Lemmas.ClockConc.reachable_of_run (evs := exitEvs 7 ++ [.retire 0, .idle 57000000000]) .init rfl,
    by decide, by decide, by decide, rfl, by decide, by decide, by decide, by decide⟩

/-- … and on the very first use of the clock (`started = false`, the second disjunct of `hfirst`) -/
example : ClockConc.Reachable .new pEx ClockConc.CState.init ∧ ClockConc.CState.init.clk.running = false ∧
    (1048576 : Int) ≤ 50000000 + pEx.period ∧
    ∃ s', ClockConc.run .new pEx ClockConc.CState.init (ClockConc.soloEvents ClockConc.CState.init 50000000 3) = some s' ∧
      s'.clk.running = true ∧ s'.clk.current = 0 ∧ s'.clk.startNs = 0 :=
  ⟨.init, rfl, by decide, _, rfl, by decide⟩

end RegexVerif.Props.C14
