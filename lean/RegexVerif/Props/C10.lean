/-
C10 — arbitrary patterns and inputs never panic: the interpreter part.

`RegexVerif.VM` (Model/VM.lean) is a small-step model of `executeDefault` in which every Go slice access
that can be out of range is an explicit fault.  Leg W ties it to the running code: for every compiled
program it explores (main and bool-only) and every start position, the Go interpreter and the model go
through the same states iteration by iteration, and `Prog.wf` is evaluated on every program.

The theorems below say: for a well-formed program, from the state in which `executeDefault` starts, no
iteration ever raises a *structural* fault — `Codes[…]`, `Strings[…]`, `Sets[…]`, `Runtext[…]` out of range,
a Back / Back2 case popping slots that are not there, `backtrack()` on an empty stack, a capture number
outside the capture arrays, an operator without a `case` — for every input, every start position and
any number of iterations.  They hold for all well-formed programs, not only for those the writer emits.

What the sections before the last do not exclude (the faults with `Fault.structural = false`): `stackUnderflow`,
`crawlUnderflow`, `tracktoRange`, `textposRange`, `capRange`.  These depend on the discipline of the grouping stack
(what kind of value sits where), which is a property of the programs the writer emits, not of `wf`.  The last
section ("The grouping-stack typing is a guarantee") excludes them too: for every program with a stack typing —
hence (`emit_has_typing`) for every program the writer emits — no run ends in any fault (`emitted_no_fault`).
-/
import RegexVerif.Props.C10Parser
import RegexVerif.Props.C10Chain
import RegexVerif.Lemmas.VM
import RegexVerif.Lemmas.Compose
import RegexVerif.Lemmas.StackTyping
import RegexVerif.Lemmas.StackTypingStep
import RegexVerif.Lemmas.StackTypingEmit

namespace RegexVerif.Props.C10
open RegexVerif.VM RegexVerif.Code RegexVerif.Lemmas.VM

/-- a state of an attempt of a well-formed program that satisfies the frame invariant
    (`Lemmas.VM.Inv`): the code position is an instruction boundary and the operator is the instruction
    there; the text position is inside `[0, len]`; the backtracking stack is a sequence of whole frames,
    each with exactly the data slots its Back / Back2 case pops and with saved text positions from which
    that case reads only inside the text, on top of the frame of the `Lazybranch` at code position 0 -/
def Safe (p : Prog) (env : Env) (s : VMState) : Prop := ∃ bs, WF p bs ∧ Inv p bs env s

/-- **What `Prog.wf` checks.**  If the decidable check `p.wf` succeeds (leg W evaluates it on every
    compiled program), then there is a list `bs` of instruction boundaries such that every instruction is a
    known opcode without Back/Back2 bits, lies inside the code array together with its operands, is followed by
    another instruction unless it is `Stop`, has its string / set / capture-slot operands in range and its jump
    target in `bs`; code position 0 is a `Lazybranch` whose target is a `Stop`. -/
theorem wf_sound (p : Prog) (h : p.wf = true) : ∃ bs, WF p bs := wf_spec h

/-- **The start state of an attempt satisfies the invariant** (`executeDefault` after its `goTo(0)`), for every
    start position inside the text. -/
theorem attempt_starts_safe (p : Prog) (env : Env) (pos : Int) (h : p.wf = true)
    (h0 : 0 ≤ pos) (hn : pos ≤ env.len) : ∃ s0, init p pos = .ok s0 ∧ Safe p env s0 := by
  obtain ⟨bs, hwf⟩ := wf_spec h
  obtain ⟨s0, hi, hinv, _, _⟩ := init_inv (env := env) hwf pos h0 hn
  exact ⟨s0, hi, bs, hwf, hinv⟩

/-- **No structural fault, one step.**  From a safe state, an iteration of the interpreter loop raises none of the
    structural faults listed at the head of the file. -/
theorem step_no_structural_fault (p : Prog) (env : Env) (s : VMState) (hs : Safe p env s) (f : Fault)
    (h : step p env s = .fault f) : f.structural = false := by
  obtain ⟨bs, _, hinv⟩ := hs
  have := step_ok hinv
  rw [h] at this
  exact this

/-- **The invariant is preserved** by an iteration that continues, so every reachable state is `Safe`. -/
theorem step_preserves_safe (p : Prog) (env : Env) (s s' : VMState) (chk : Bool) (hs : Safe p env s)
    (h : step p env s = .next s' chk) : Safe p env s' := by
  obtain ⟨bs, hwf, hinv⟩ := hs
  have := step_ok hinv
  rw [h] at this
  exact ⟨bs, hwf, this⟩

/-- **No structural fault, ever.**  However long the interpreter runs from a safe state (any fuel), the
    run does not end in a structural fault: it returns, is still running when the fuel ends, or stops at one
    of the faults that depend on the grouping-stack discipline. -/
theorem run_no_structural_fault (p : Prog) (env : Env) : ∀ (fuel : Nat) (s : VMState), Safe p env s →
    ∀ f, (run p env fuel s).1 = .fault f → f.structural = false := by
  intro fuel s hs f h
  obtain ⟨s1, h1, hf⟩ := run_fault p env (step_preserves_safe p env) fuel s hs f h
  exact step_no_structural_fault p env s1 h1 f hf

/-- **An attempt of a well-formed program never faults structurally**, whatever the text, the start position in it, the
    `\G` origin, the oracles and the number of iterations. -/
theorem attempt_no_structural_fault (p : Prog) (env : Env) (pos : Int) (h : p.wf = true)
    (h0 : 0 ≤ pos) (hn : pos ≤ env.len) (fuel : Nat) :
    ∃ s0, init p pos = .ok s0 ∧ ∀ f, (run p env fuel s0).1 = .fault f → f.structural = false := by
  obtain ⟨s0, hi, hs⟩ := attempt_starts_safe p env pos h h0 hn
  exact ⟨s0, hi, run_no_structural_fault p env fuel s0 hs⟩

/-! ### non-vacuity: the compiled program of `(?:ab?)*c` on "ababc" -/

example : demo.wf = true := Lemmas.StackTypingEmit.demo_wf
example : demo.boundaries = some [0, 2, 3, 4, 6, 8, 11, 13, 15, 18] := by decide +kernel

/-- the hypotheses of the theorems are met: the start state at position 0 is safe -/
example : ∃ s0, init demo 0 = .ok s0 ∧ Safe demo demoEnv s0 :=
  attempt_starts_safe demo demoEnv 0 Lemmas.StackTypingEmit.demo_wf (by decide) (by decide)

/-- the attempt at 0: 16 iterations (as the Go trace shows), a match of `[0, 5)`, final text position 5 -/
example : (match init demo 0 with
    | .ok s0 => match run demo demoEnv 100 s0 with
      | (.done s, n) => (n, matched s, s.textpos, MatchBuilder.matchCapture s.cap.m)
      | _ => (0, false, 0, (0, 0))
    | .error _ => (0, false, 0, (0, 0))) = (16, true, 5, (0, 5)) := by decide +kernel

/-- the attempt at 1 fails after backtracking through the root frame: 13 iterations, empty stack at `Stop` -/
example : (match init demo 1 with
    | .ok s0 => match run demo demoEnv 100 s0 with
      | (.done s, n) => (n, matched s, s.track.length)
      | _ => (0, true, 0)
    | .error _ => (0, true, 0)) = (13, false, 0) := by decide +kernel

/-- a program without `Stop` -/
def broken : Prog := { demo with codes := #[9, 97] }

/-- the fault channel is real: a program that is not well-formed runs off the code array -/
example : broken.wf = false ∧
    (match init broken 0 with
     | .ok s0 => (match (run broken demoEnv 10 s0).1 with
        | .fault .codeIndex => true
        | _ => false)
     | .error _ => false) = true := by decide +kernel

/-!
### Composition with the writer: no per-program hypothesis left

`Writer.emit ti root` (Model/Writer.lean) is the program `syntax.Write` produces for the reduced tree `root`
(tied to the Go writer word for word by leg Wr), `Writer.treeWf` the decidable tree well-formedness the parser
guarantees (leg Wr evaluates it on every parsed tree).  The theorems of this section discharge the hypothesis
`p.wf = true` of the theorems above for every program the writer emits, main and bool-only: the safety
statement holds for every pattern tree, not per compiled program. -/

section Emitted
open RegexVerif.Writer RegexVerif.Lemmas.Compose

/-- **The writer emits well-formed programs.**  For every tree with `treeWf` the emitted program passes the
    interpreter's own check `Prog.wf` (what it checks: `wf_sound`). -/
theorem emit_vm_wf (ti : TreeInfo) (root : GoNode) (h : treeWf ti root = true) : (emit ti root).wf = true :=
  Lemmas.Compose.emit_vm_wf ti root h

/-- the same for the bool-only program (`makeQuickCode`: the second writer's code with the first program's
    tables, `TrackCount` and `Capsize`), whenever it exists -/
theorem emitQuick_vm_wf (ti : TreeInfo) (root : GoNode) (h : treeWf ti root = true) (qp : Prog)
    (hq : emitQuick ti root = some qp) : qp.wf = true :=
  Lemmas.Compose.emitQuick_vm_wf ti root h qp hq

/-- **No structural fault for any pattern.**  For every well-formed tree, text, start position inside the text, `\G`
    origin, oracle set (`env`) and number of iterations: the attempt of the emitted program starts, and its run never
    ends in a structural fault. -/
theorem emitted_no_structural_fault (ti : TreeInfo) (root : GoNode) (h : treeWf ti root = true)
    (env : Env) (pos : Int) (h0 : 0 ≤ pos) (hn : pos ≤ env.len) (fuel : Nat) :
    ∃ s0, init (emit ti root) pos = .ok s0 ∧
      ∀ f, (run (emit ti root) env fuel s0).1 = .fault f → f.structural = false :=
  attempt_no_structural_fault (emit ti root) env pos (emit_vm_wf ti root h) h0 hn fuel

/-- the same for the bool-only program -/
theorem emittedQuick_no_structural_fault (ti : TreeInfo) (root : GoNode) (h : treeWf ti root = true) (qp : Prog)
    (hq : emitQuick ti root = some qp) (env : Env) (pos : Int) (h0 : 0 ≤ pos) (hn : pos ≤ env.len) (fuel : Nat) :
    ∃ s0, init qp pos = .ok s0 ∧ ∀ f, (run qp env fuel s0).1 = .fault f → f.structural = false :=
  attempt_no_structural_fault qp env pos (emitQuick_vm_wf ti root h qp hq) h0 hn fuel

/-! non-vacuity: the trees of `(?:ab?)*c`, `(a)|b\1` and `(x)y` (Lemmas/Compose.lean; their emitted code is what
    `regexp2.MustCompile` produces) are well-formed; the first emits the program `demo` of the examples above; the
    third has a bool-only program -/
example : treeWf info1 tree1 = true ∧ treeWf info2 tree2 = true ∧ treeWf info2 tree3 = true := by decide +kernel
example : (emit info1 tree1).codes = demo.codes ∧ (emit info1 tree1).wf = true ∧ (emit info2 tree2).wf = true :=
  ⟨by decide +kernel, emit_vm_wf info1 tree1 (by decide +kernel), Lemmas.StackTypingEmit.emit2_wf⟩
example : ∃ s0, init (emit info2 tree2) 1 = .ok s0 ∧
    ∀ f, (run (emit info2 tree2) demoEnv 1000 s0).1 = .fault f → f.structural = false :=
  emitted_no_structural_fault info2 tree2 (by decide +kernel) demoEnv 1 (by decide) (by decide) 1000
example : ∃ qp, emitQuick info2 tree3 = some qp ∧ qp.wf = true ∧ qp.codes.toList = [23, 10, 31, 9, 120, 9, 121, 32, 0, -1, 40] :=
  ⟨_, rfl, emitQuick_vm_wf info2 tree3 (by decide +kernel) _ rfl, by decide +kernel⟩

/-! ### the grouping-stack typing (Model/StackTyping.lean)

`StackTyping.typed p` — a height and a kind (text position / mark / counter / saved backtracking depth / saved
crawl depth) for every grouping-stack slot at every instruction boundary, consistent along fall-through, jumps and
the continuations of the Back cases — is decidable and leg W evaluates it on every compiled program
(`W:untyped:<opcode>`).  The examples here show the check is not vacuous: the emitted programs are typed, and a program
that is `wf` and `potOk` but untyped runs into `stackUnderflow`. -/

example : StackTyping.typed demo = true ∧ StackTyping.typed (emit info2 tree2) = true ∧
    StackTyping.maxHeight (emit info2 tree2) = 4 ∧
    (emitQuick info2 tree3).map StackTyping.typed = some true :=
  ⟨Lemmas.StackTypingEmit.demo_typed, Lemmas.StackTypingEmit.emit2_typed, Lemmas.StackTypingEmit.emit2_maxHeight,
    by decide +kernel⟩

example : Lemmas.StackTyping.untypedDemo.wf = true ∧ potOk Lemmas.StackTyping.untypedDemo = true ∧
    StackTyping.typed Lemmas.StackTyping.untypedDemo = false ∧
    StackTyping.typeReport Lemmas.StackTyping.untypedDemo = 1 + Generated.Opcodes.opGetmark ∧
    (match init Lemmas.StackTyping.untypedDemo 0 with
     | .ok s0 => (match (run Lemmas.StackTyping.untypedDemo demoEnv 10 s0).1 with
        | .fault .stackUnderflow => true
        | _ => false)
     | .error _ => false) = true := by decide +kernel

end Emitted

/-!
### The grouping-stack typing is a guarantee

`Lemmas/StackTypingSound.lean`, `StackTypingCases.lean`, `StackTypingStep.lean`: an invariant over `step` that adds to
the frame invariant above — the grouping stack has, at every instruction boundary, a refined type below the one the
typing assigns there (text positions in `[0, len]`, marks in `[-1, len]`, the two slots of a `Setjump` holding exactly
the crawl depth and the backtracking depth at which it ran); the backtracking stack is a chain in which every frame
knows, through its saved code position and the typing there, the stack type its Back / Back2 case will find and the
type and crawl depth it leaves to the frame below. -/

section TypingSound
open RegexVerif.Lemmas.StackTyping RegexVerif.Lemmas.StackTypingSound

/-- **Soundness of the typing, Prop-level.**  A well-formed program with ANY grouping-stack typing `a`
    (`TypingW`: `[]` at position 0, closed and consistent under the transfer function `flow`; `Lemmas.StackTyping.Typing`,
    what `StackTyping.typed` checks, implies it): for every text, start position in the text, `\G` origin, oracle set and
    number of iterations, the attempt starts and its run never ends in a fault of ANY kind, structural or of the
    grouping-stack discipline: it returns, or is still running when the fuel ends. -/
theorem typing_sound (p : Prog) (h : p.wf = true) (bs : List Nat) (hb : p.boundaries = some bs)
    (a : StackTyping.Assign) (hty : TypingW p bs a)
    (env : Env) (pos : Int) (h0 : 0 ≤ pos) (hn : pos ≤ env.len) (fuel : Nat) :
    ∃ s0, init p pos = .ok s0 ∧ ∀ f, (run p env fuel s0).1 ≠ .fault f :=
  Lemmas.StackTypingSound.typed_run_no_fault p h bs hb a hty env pos h0 hn fuel

/-- **Soundness of the evaluated check.**  `StackTyping.typed p = true` (what leg W evaluates on every compiled
    program) and `p.wf = true`: no run of any attempt ends in a fault of any of the thirteen kinds — the
    discipline faults `stackUnderflow`, `tracktoRange`, `textposRange`, `crawlUnderflow`, `capRange` included. -/
theorem typed_no_discipline_fault (p : Prog) (h : p.wf = true) (ht : StackTyping.typed p = true)
    (env : Env) (pos : Int) (h0 : 0 ≤ pos) (hn : pos ≤ env.len) (fuel : Nat) :
    ∃ s0, init p pos = .ok s0 ∧ ∀ f, (run p env fuel s0).1 ≠ .fault f := by
  obtain ⟨bs, hb, hty⟩ := typed_spec ht
  exact typing_sound p h bs hb _ (Typing.toW hty) env pos h0 hn fuel

/-- non-vacuity: `demo` (`(?:ab?)*c`) and the program of `(a)|b\1` are well-formed and typed — the theorem applies
    to them on any input —, and the hypothesis `typed` cannot be dropped: `untypedDemo` (`Lazybranch 3; Getmark; Stop`)
    is `wf`, not typed, and its attempt ends in `stackUnderflow` (example above) -/
example : ∃ s0, init demo 0 = .ok s0 ∧ ∀ f, (run demo demoEnv 1000 s0).1 ≠ .fault f :=
  typed_no_discipline_fault demo Lemmas.StackTypingEmit.demo_wf Lemmas.StackTypingEmit.demo_typed demoEnv 0 (by decide)
    (by decide) 1000
example : ∃ s0, init (Writer.emit Lemmas.Compose.info2 Lemmas.Compose.tree2) 1 = .ok s0 ∧
    ∀ f, (run (Writer.emit Lemmas.Compose.info2 Lemmas.Compose.tree2) demoEnv 1000 s0).1 ≠ .fault f :=
  typed_no_discipline_fault _ Lemmas.StackTypingEmit.emit2_wf Lemmas.StackTypingEmit.emit2_typed demoEnv 1 (by decide)
    (by decide) 1000

/-- **Every emitted program has a grouping-stack typing.**  For every tree with `treeWf` an explicit assignment —
    the stack type as a structural function of the tree position (`Lemmas.StackTypingEmit.tyAt`) — satisfies `TypingW`
    for the program `syntax.Write` produces.
    NOT proved: `StackTyping.typed (emit ti root) = true` (that the executable inference finds a typing — completeness
    of `infer`); it is not needed for the guarantee below and stays evaluated by leg W. -/
theorem emit_has_typing (ti : Writer.TreeInfo) (root : Writer.GoNode) (h : Writer.treeWf ti root = true) :
    ∃ bs a, (Writer.emit ti root).boundaries = some bs ∧ TypingW (Writer.emit ti root) bs a :=
  Lemmas.StackTypingEmit.emit_typing ti root h

/-- the same for the bool-only program -/
theorem emitQuick_has_typing (ti : Writer.TreeInfo) (root : Writer.GoNode) (h : Writer.treeWf ti root = true)
    (qp : Prog) (hq : Writer.emitQuick ti root = some qp) : ∃ bs a, qp.boundaries = some bs ∧ TypingW qp bs a :=
  Lemmas.StackTypingEmit.emitQuick_typing ti root h qp hq

/-- **No interpreter fault for any pattern.**  For every well-formed tree, text, start position inside the text, `\G`
    origin, oracle set and number of iterations: the attempt of the emitted program starts and its run never ends in a
    fault — none of the thirteen kinds of `VM.Fault`: no `Codes` / `Strings` / `Sets` / `Runtext` access out of range, no
    pop below the bottom of the backtracking, grouping or crawl stack, no `trackto` to a depth that is not a frame
    boundary, no text position outside `[0, len]` taken from the grouping stack, no capture slot outside the arrays, no
    backreference reading outside the text, no operator without a `case`.
    No per-program hypothesis is left; what remains trusted is the tie model ↔ Go (legs Wr and W) and that the parser
    produces `treeWf` trees (evaluated by leg Wr). -/
theorem emitted_no_fault (ti : Writer.TreeInfo) (root : Writer.GoNode) (h : Writer.treeWf ti root = true)
    (env : Env) (pos : Int) (h0 : 0 ≤ pos) (hn : pos ≤ env.len) (fuel : Nat) :
    ∃ s0, init (Writer.emit ti root) pos = .ok s0 ∧ ∀ f, (run (Writer.emit ti root) env fuel s0).1 ≠ .fault f := by
  obtain ⟨bs, a, hb, hty⟩ := emit_has_typing ti root h
  exact typing_sound _ (emit_vm_wf ti root h) bs hb a hty env pos h0 hn fuel

/-- the same for the bool-only program -/
theorem emittedQuick_no_fault (ti : Writer.TreeInfo) (root : Writer.GoNode) (h : Writer.treeWf ti root = true)
    (qp : Prog) (hq : Writer.emitQuick ti root = some qp)
    (env : Env) (pos : Int) (h0 : 0 ≤ pos) (hn : pos ≤ env.len) (fuel : Nat) :
    ∃ s0, init qp pos = .ok s0 ∧ ∀ f, (run qp env fuel s0).1 ≠ .fault f := by
  obtain ⟨bs, a, hb, hty⟩ := emitQuick_has_typing ti root h qp hq
  exact typing_sound _ (emitQuick_vm_wf ti root h qp hq) bs hb a hty env pos h0 hn fuel

/-! non-vacuity of `emit_has_typing` and `emitted_no_fault` -/

/-- the reduced tree of `(?=a)\w+(?<!b)` (the set payload is `CharSet.Hash()` of `\w`) -/
def tree4 : Writer.GoNode :=
  .capture 0 (-1) (.concat [.poslook (.char Generated.Opcodes.opOne false false 97),
    .setloop Generated.Opcodes.opSetloop false false [0, 0, 0, 0, 0, 1, 0, 0, 0, 1, 87] 1 Writer.maxInt32,
    .neglook (.char Generated.Opcodes.opOne true false 98)])

/-- its emitted code is what `regexp2.MustCompile` produces; it is well-formed, and the executable check finds it typed -/
example : (Writer.emit Lemmas.Compose.info1 tree4).codes.toList =
    [23, 25, 31, 34, 31, 9, 97, 33, 36, 2, 0, 1, 5, 0, 2147483647, 34, 23, 21, 73, 98, 35, 36, 32, 0, -1, 40] ∧
    (Writer.emit Lemmas.Compose.info1 tree4).trackcount = 12 ∧
    Writer.treeWf Lemmas.Compose.info1 tree4 = true ∧
    StackTyping.typed (Writer.emit Lemmas.Compose.info1 tree4) = true := by decide +kernel

/-- the hypotheses of `emit_has_typing` and `emitted_no_fault` are met by the trees of `(?:ab?)*c`, `(a)|b\1` and `(?=a)\w+(?<!b)` -/
example : ∃ bs a, (Writer.emit Lemmas.Compose.info1 Lemmas.Compose.tree1).boundaries = some bs ∧
    TypingW (Writer.emit Lemmas.Compose.info1 Lemmas.Compose.tree1) bs a :=
  emit_has_typing _ _ (by decide +kernel)
example : ∃ s0, init (Writer.emit Lemmas.Compose.info2 Lemmas.Compose.tree2) 1 = .ok s0 ∧
    ∀ f, (run (Writer.emit Lemmas.Compose.info2 Lemmas.Compose.tree2) demoEnv 1000 s0).1 ≠ .fault f :=
  emitted_no_fault _ _ (by decide +kernel) demoEnv 1 (by decide) (by decide) 1000
example : ∃ s0, init (Writer.emit Lemmas.Compose.info1 tree4) 0 = .ok s0 ∧
    ∀ f, (run (Writer.emit Lemmas.Compose.info1 tree4) demoEnv 1000 s0).1 ≠ .fault f :=
  emitted_no_fault _ _ (by decide +kernel) demoEnv 0 (by decide) (by decide) 1000
example : ∃ qp, Writer.emitQuick Lemmas.Compose.info2 Lemmas.Compose.tree3 = some qp ∧
    ∃ s0, init qp 0 = .ok s0 ∧ ∀ f, (run qp demoEnv 1000 s0).1 ≠ .fault f :=
  ⟨_, rfl, emittedQuick_no_fault Lemmas.Compose.info2 Lemmas.Compose.tree3 (by decide +kernel) _ rfl demoEnv 0
    (by decide) (by decide) 1000⟩

/-- the typing hypothesis cannot be dropped: `untypedDemo` (`Lazybranch 3; Getmark; Stop`) is well-formed, its attempt
    ends in `stackUnderflow` (example in the section above), hence it has NO typing at all -/
example : Lemmas.StackTyping.untypedDemo.wf = true ∧
    ¬ ∃ bs a, Lemmas.StackTyping.untypedDemo.boundaries = some bs ∧ TypingW Lemmas.StackTyping.untypedDemo bs a := by
  have hwf : Lemmas.StackTyping.untypedDemo.wf = true := by decide +kernel
  refine ⟨hwf, ?_⟩
  rintro ⟨bs, a, hb, hty⟩
  obtain ⟨s0, hi, hf⟩ := typing_sound _ hwf bs hb a hty demoEnv 0 (by decide) (by decide) 10
  have hdec : (match init Lemmas.StackTyping.untypedDemo 0 with
     | .ok s0 => (match (run Lemmas.StackTyping.untypedDemo demoEnv 10 s0).1 with
        | .fault .stackUnderflow => true
        | _ => false)
     | .error _ => false) = true := by decide +kernel
  rw [hi] at hdec
  simp only at hdec
  split at hdec
  · next h => exact hf _ h
  · cases hdec

end TypingSound

end RegexVerif.Props.C10
