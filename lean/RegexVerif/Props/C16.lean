/-
C16 — character-class membership is exact set algebra.

`RegexVerif.Class` (Model/Class.lean) mirrors `syntax/charclass.go`; leg K ties it to the Go code
(structure of parsed classes, lookups, case equivalences).  The theorems below say that every lookup
path of the model computes the set-algebra specification `memAlg`, and that every normalisation and
building operation changes `memAlg` exactly as set algebra prescribes.  `cat` is the Unicode
category oracle (arbitrary), runes are `Nat`, `maxRune = 0x10FFFF`.
-/
import RegexVerif.Lemmas.ClassBuild
import RegexVerif.Generated.Class
import RegexVerif.Lemmas.ClassQuery
import RegexVerif.Generated.ClassQuery

namespace RegexVerif.Props.C16
open RegexVerif.Class

/-- a concrete class used to show that hypotheses are satisfiable: `[a-cf-hk-mp-rt-vx-z\p{7}-[b-[^\p{2}]]]`
(six ranges: the binary-search path; a category; two nested subtractions, the inner one negated) -/
def sample : Class :=
  .minus { ranges := [(97, 99), (102, 104), (107, 109), (112, 114), (116, 118), (120, 122)], cats := [(7, false)] }
    (.minus { ranges := [(98, 98)] } (.leaf { cats := [(2, false)], neg := true }))

/-- a toy oracle: category `id` holds the multiples of `id` -/
def sampleCat : Nat → Nat → Bool := fun id ch => ch % id == 0

/-- **The slow path computes set algebra.**  For a class whose range lists are sorted with
non-decreasing ends (every class the parser or `canonicalize` produces; see `canonicalize_canonical`)
`charInSlow` — linear scan for at most four ranges, binary search otherwise, the category loop,
`negate`, the recursive `!sub.CharIn` which may read the subtractor's bitmap — equals
((some range ∨ some category entry) xor negate) ∧ ¬ subtracted. -/
theorem memImpl_eq_memAlg (cat : Nat → Nat → Bool) (c : Class) (ch : Nat)
    (hl : Class.RangesOk c) (hb : BitmapOk cat c) : charInSlow cat c ch = memAlg cat c ch :=
  charInSlow_eq_memAlg cat c ch hl hb

example : Class.RangesOk sample ∧ BitmapOk sampleCat sample := by
  have hs : strip sample = sample := by decide
  refine ⟨⟨?_, ?_, ?_⟩, hs ▸ bitmapOk_strip sampleCat sample⟩ <;> (simp only [Class.RangesOk, LookupOk]; decide)

example : charInSlow sampleCat sample 121 = true ∧ charInSlow sampleCat sample 98 = false ∧
    charInSlow sampleCat sample 99 = true ∧ charInSlow sampleCat sample 100 = false ∧
    charInSlow sampleCat sample 14 = true ∧ charInSlow sampleCat sample 1001 = true := by decide

/-- **`CharIn` (fast path included) computes set algebra** whenever the bitmaps present are the ones
`prepareASCIIBitmap` built (`BitmapOk`). -/
theorem charIn_eq_memAlg (cat : Nat → Nat → Bool) (c : Class) (ch : Nat)
    (hl : Class.RangesOk c) (hb : BitmapOk cat c) : charIn cat c ch = memAlg cat c ch := by
  rw [charIn_eq_charInSlow cat c ch hb]; exact charInSlow_eq_memAlg cat c ch hl hb

/-- **The ASCII bitmap is exact.**  After `prepareASCIIBitmap` (subtractor first, then 128 calls of
`charInSlow`) the class has a bitmap, every bitmap in it agrees with the slow path, and `CharIn`
answers every rune — below 128 from the bitmap, otherwise from the slow path — as the slow path
of the class before preparation did. -/
theorem bitmap_eq (cat : Nat → Nat → Bool) (c : Class) (hb : BitmapOk cat c) :
    BitmapOk cat (prepare cat c) ∧ (prepare cat c).flat.ascii ≠ none ∧
      ∀ ch, charIn cat (prepare cat c) ch = charInSlow cat c ch := by
  obtain ⟨h1, h2, h3⟩ := prepare_spec cat c hb
  exact ⟨h1, h3, fun ch => by rw [charIn_eq_charInSlow cat _ ch h1]; exact h2 ch⟩

/-- the same, read at the level of bits: bit `ch` of the bitmap of a prepared class is set-algebra
membership of `ch` (for classes with sorted range lists) -/
theorem bitmap_bit_eq_memAlg (cat : Nat → Nat → Bool) (c : Class) (hl : Class.RangesOk c)
    (bm : Nat × Nat) (h : (prepare cat (strip c)).flat.ascii = some bm) (ch : Nat) (hch : ch < 128) :
    bitTest bm ch = memAlg cat (strip c) ch := by
  have hb := bitmapOk_strip cat c
  rw [← charInSlow_eq_memAlg cat _ ch (rangesOk_strip c hl) hb, ← (bitmap_eq cat (strip c) hb).2.2 ch, charIn]
  unfold viaBitmap
  rw [if_pos hch, h]

-- the two 64-bit words of the bitmap of `sample`: bits 0–63 and 64–127 (`bitTest`), as `prepareASCIIBitmap` fills them
set_option maxRecDepth 20000 in
example : (prepare sampleCat sample).flat.ascii = some (9295997013522923649, 5185679234845122624) := by
  decide +kernel

/-- **The category loop is a disjunction** (after commit 4abd18d): `charInCategories` answers true
exactly when some entry accepts the rune — a positive entry whose category contains it or a negated
entry whose category does not. -/
theorem catLoop_is_disjunction (cat : Nat → Nat → Bool) (cs : List (Nat × Bool)) (ch : Nat) :
    catLoop cat cs ch = true ↔ ∃ c ∈ cs, cat c.1 ch ≠ c.2 := by
  rw [catLoop_eq_inCats]
  simp [inCats, catAccepts, List.any_eq_true]

/-- `[\W\d]`-like witness of the old defect: a negated entry that rejects, then a positive one that accepts -/
example : catLoop sampleCat [(2, true), (3, false)] 6 = true := by decide

/-- **Singleton reduction (`reduceSet`).**  A class for which `IsSingleton` holds matches exactly
`SingletonChar`; one for which `IsSingletonInverse` holds matches exactly the other runes. -/
theorem singleton_reduce_mem (cat : Nat → Nat → Bool) (c : Class) :
    (c.isSingleton = true → ∃ x, c.singletonChar = some x ∧ ∀ ch, memAlg cat c ch = decide (ch = x)) ∧
    (c.isSingletonInverse = true → ∃ x, c.singletonChar = some x ∧ ∀ ch, memAlg cat c ch = !decide (ch = x)) := by
  refine ⟨fun h => ?_, fun h => ?_⟩
  · obtain ⟨x, hx, hm⟩ := singleton_mem cat c false h
    exact ⟨x, hx, fun ch => by rw [hm, Bool.bne_false]⟩
  · obtain ⟨x, hx, hm⟩ := singleton_mem cat c true h
    exact ⟨x, hx, fun ch => by rw [hm, Bool.bne_true]⟩

example : (Class.leaf { ranges := [(65, 65)] }).isSingleton = true ∧
    (Class.leaf { ranges := [(65, 65)], neg := true }).isSingletonInverse = true := by decide

/-! ## `canonicalize` -/

/-- **`canonicalize` does not change membership** of any valid rune: sorting, merging overlapping or
abutting ranges (with the early exit once a range reaches U+10FFFF), and the three normal forms
("everything but a gap" → negated gap; one range covering everything → `anything`, categories
dropped; ranges omit one character and there are categories → `anything` or negated singleton,
by asking the categories about that character).  With `hasSub` the normal forms are skipped; the
subtractor is untouched (`canonicalize_mem_class`). -/
theorem canonicalize_mem (cat : Nat → Nat → Bool) (hasSub : Bool) (f : Flat) (ch : Nat) (hch : ch ≤ maxRune) :
    (f.canonicalize cat hasSub).memAlg cat ch = f.memAlg cat ch :=
  Flat.canonicalize_mem cat hasSub f ch hch

theorem canonicalize_mem_class (cat : Nat → Nat → Bool) (c : Class) (ch : Nat) (hch : ch ≤ maxRune) :
    memAlg cat (c.withFlat (c.flat.canonicalize cat c.hasSub)) ch = memAlg cat c ch := by
  cases c with
  | leaf f => exact Flat.canonicalize_mem cat false f ch hch
  | minus f s => simp only [Class.withFlat, Class.flat, Class.hasSub, memAlg, Flat.canonicalize_mem cat true f ch hch]

/-- the normal forms at work: `[\x00-ac-\x{10FFFF}]` becomes `[^b]`, and `[\x00-46-\x{10FFFF}\p{5}]`
(toy category 5 = multiples of 5, and '5' = 53 is not one) becomes `[^5]` -/
example : (({ ranges := [(99, maxRune), (0, 97)] } : Flat).canonicalize sampleCat false) = { ranges := [(98, 98)], neg := true } := by
  decide
example : (({ ranges := [(54, maxRune), (0, 52)], cats := [(5, false)] } : Flat).canonicalize sampleCat false)
    = { ranges := [(53, 53)], neg := true } := by decide
example : (({ ranges := [(56, maxRune), (0, 54)], cats := [(5, false)] } : Flat).canonicalize sampleCat false)
    = { ranges := [(0, maxRune)], anything := true } := by decide

/-- **`canonicalize` produces the canonical form** the lookups rely on (the precondition of
`memImpl_eq_memAlg`), when every range is a non-empty interval. -/
theorem canonicalize_canonical (cat : Nat → Nat → Bool) (hasSub : Bool) (f : Flat)
    (hw : ∀ r ∈ f.ranges, r.1 ≤ r.2) :
    Canon (f.canonicalize cat hasSub).ranges ∧ LookupOk (f.canonicalize cat hasSub).ranges :=
  ⟨Flat.canonicalize_canon cat hasSub f hw, (Flat.canonicalize_canon cat hasSub f hw).lookupOk⟩

example : (({ ranges := [(99, 102), (97, 100), (120, 120), (103, 103), (0x10FFFF, 0x10FFFF), (50, 0x10FFFF)] } : Flat).canonicalize sampleCat true).ranges
    = [(50, 0x10FFFF)] := by decide
example : (({ ranges := [(99, 102), (97, 100), (120, 120), (103, 103)] } : Flat).canonicalize sampleCat false).ranges
    = [(97, 103), (120, 120)] := by decide

/-! ## building operations -/

/-- **`addRange` adds exactly the range to the positive side** (`addChar` is the case `lo = hi`):
membership afterwards is ((old ranges ∨ categories ∨ lo ≤ ch ≤ hi) xor negate), whatever normal form
`canonicalize` then chooses. -/
theorem addRange_mem (cat : Nat → Nat → Bool) (hasSub : Bool) (f : Flat) (lo hi ch : Nat) (hch : ch ≤ maxRune) :
    (f.addRange cat hasSub lo hi).memAlg cat ch = ((f.pos cat ch || inRange (lo, hi) ch) != f.neg) := by
  unfold Flat.addRange
  rw [Flat.canonicalize_mem cat hasSub _ ch hch]
  simp only [Flat.memAlg, Flat.pos, inRanges_append, inRanges_cons, inRanges_nil, Bool.or_false]
  cases inRanges f.ranges ch <;> cases inCats cat f.cats ch <;> simp

/-- **The complement construction of `addNegativeRanges` is exact** over the valid runes, on `NegOk`
lists.  The code tests `hi < MaxRune` strictly, so a list ending at U+10FFFE would lose U+10FFFF
(counter-instance below); no table in the source is of that kind (`posix_tables_ok`). -/
theorem negatedRanges_mem (rs : List (Nat × Nat)) (hok : NegOk rs) (ch : Nat) (hch : ch ≤ maxRune) :
    inRanges (negGo 0 rs) ch = !inRanges rs ch :=
  negGo_zero_mem rs hok ch hch

example : negGo 0 [(65, 90), (97, 122)] = [(0, 64), (91, 96), (123, maxRune)] := by decide
/-- the latent off-by-one: the complement of `[\x00-\x{10FFFE}]` comes out empty -/
example : negGo 0 [(0, maxRune - 1)] = [] ∧ ¬ NegOk [(0, maxRune - 1)] := by decide

/-- **Facts regenerated from the source on every run:** every POSIX table of `addNamedASCII`
satisfies the precondition of `negatedRanges_mem`, consists of non-empty intervals, and the
linear-scan threshold of `charInSlow` is the one the model uses. -/
theorem posix_tables_ok :
    (∀ t ∈ RegexVerif.Generated.posixTables, NegOk t.2) ∧ RegexVerif.Generated.linearScanMax = 4 := by decide

/-- **`scanCharSet` builds the union of its items.**  For `[` (`^`)? item… (`-[sub]`)? `]` read without
IgnoreCase — items added while the class is marked `building`, then one full `canonicalize` — the head
`CharSet` matches a valid rune exactly when (some item matches it) xor (`^` was written).
`[:^name:]` tables must be `NegOk` (they are: `posix_tables_ok`).
Before commit 493eae7 this was false (`[\D5]` under ECMAScript). -/
theorem build_mem (cat : Nat → Nat → Bool) (neg : Bool) (items : List Item) (hasSub : Bool)
    (hok : ∀ it ∈ items, it.Ok) (ch : Nat) (hch : ch ≤ maxRune) :
    (build cat neg items hasSub).memAlg cat ch = (items.any (fun it => it.mem cat ch) != neg) := by
  obtain ⟨hinv, hpos, _⟩ := buildItems_spec cat neg items hok
  unfold build Flat.finish
  rw [Flat.canonicalize_mem cat hasSub _ ch hch]
  show ((buildItems cat neg items).pos cat ch != (buildItems cat neg items).neg) = _
  rw [hpos ch hch, hinv.negEq]
  rfl

/-- the class's ranges come out canonical (so the lookups are exact on it) when the items' ranges are
non-empty intervals -/
theorem build_canonical (cat : Nat → Nat → Bool) (neg : Bool) (items : List Item) (hasSub : Bool)
    (hok : ∀ it ∈ items, it.Wf ∧ it.Ok) :
    Canon (build cat neg items hasSub).ranges ∧ LookupOk (build cat neg items hasSub).ranges :=
  canonicalize_canonical cat hasSub _
    ((buildItems_spec cat neg items fun it h => (hok it h).2).wf (fun _ h => nomatch h) fun it h => (hok it h).1)

/-- ECMAScript `[\D5]`: `\D` is the pair of ranges around 0-9; the class must contain '5' (53), and
`[^\p{2}\P{2}]` (a category and its negation) must be empty -/
example : (build sampleCat false [.ranges [(0, 47), (58, maxRune)], .range 53 53] false) = { ranges := [(0, 47), (53, 53), (58, maxRune)] } ∧
    (build sampleCat false [.ranges [(0, 47), (58, maxRune)]] false) = { ranges := [(48, 57)], neg := true } ∧
    (build sampleCat false [.ranges [(0, 47), (58, maxRune)], .range 53 53] false).memAlg sampleCat 53 = true ∧
    (build sampleCat true [.cats [(2, false)], .cats [(2, true)]] false).memAlg sampleCat 7 = false := by decide

/-- **Every written class meets the structural hypotheses of the query theorems**: parsed as `scanCharSet`
does (no IgnoreCase, nested subtraction, items with non-empty ranges and the source's POSIX tables) it has
sorted range lists on every level, no (hence no untruthful) bitmap — `MayOverlap` runs while the tree is
reduced, before `prepareASCIIBitmap` — and its membership is set algebra over its parts. -/
theorem parsed_class_wellformed (cat : Nat → Nat → Bool) (a : Ast) (hok : ∀ it ∈ a.items, it.Wf ∧ it.Ok) :
    Class.RangesOk (strip (Ast.parse cat a)) ∧ BitmapOk cat (strip (Ast.parse cat a)) ∧
      ∀ ch, ch ≤ maxRune → memAlg cat (strip (Ast.parse cat a)) ch = Ast.mem cat a ch := by
  have hr : Class.RangesOk (Ast.parse cat a) ∧ ∀ ch, ch ≤ maxRune → memAlg cat (Ast.parse cat a) ch = Ast.mem cat a ch := by
    induction a with
    | leaf neg items =>
      have h1 : ∀ it ∈ items, it.Wf ∧ it.Ok := fun it hit => hok it hit
      exact ⟨(build_canonical cat neg items false h1).2, fun ch hch => build_mem cat neg items false (fun it hit => (h1 it hit).2) ch hch⟩
    | minus neg items sub ih =>
      have h1 : ∀ it ∈ items, it.Wf ∧ it.Ok := fun it hit => hok it (List.mem_append_left _ hit)
      obtain ⟨ih1, ih2⟩ := ih (fun it hit => hok it (List.mem_append_right _ hit))
      refine ⟨⟨(build_canonical cat neg items true h1).2, ih1⟩, fun ch hch => ?_⟩
      simp only [Ast.parse, memAlg, Ast.mem, ih2 ch hch, build_mem cat neg items true (fun it hit => (h1 it hit).2) ch hch]
  exact ⟨rangesOk_strip _ hr.1, bitmapOk_strip cat _, fun ch hch => by rw [memAlg_strip, hr.2 ch hch]⟩

/-- **End to end (no IgnoreCase): a written class, parsed, prepared and looked up, is set algebra over
its parts**: parse each level as `scanCharSet` does, build the ASCII bitmaps as `Compile` does, look
the rune up with `CharIn` — the answer is ((some item of the level matches) xor `^`) and not (the
same for the subtracted class). -/
theorem parsed_class_exact (cat : Nat → Nat → Bool) (a : Ast) (hok : ∀ it ∈ a.items, it.Wf ∧ it.Ok)
    (ch : Nat) (hch : ch ≤ maxRune) :
    charIn cat (prepare cat (strip (Ast.parse cat a))) ch = Ast.mem cat a ch ∧
    charInSlow cat (strip (Ast.parse cat a)) ch = Ast.mem cat a ch := by
  obtain ⟨hl, hb, hm⟩ := parsed_class_wellformed cat a hok
  have hslow : charInSlow cat (strip (Ast.parse cat a)) ch = Ast.mem cat a ch := by
    rw [charInSlow_eq_memAlg cat _ ch hl hb, hm ch hch]
  exact ⟨by rw [(bitmap_eq cat _ hb).2.2 ch, hslow], hslow⟩

/-- `[a-f\p{7}-[d-[^\p{2}]]]` (toy categories: multiples): 'd' (100, even) is not in the inner
`[^\p{2}]`, so it is subtracted; 'c' (99) is in; 'p' (112 = 7·16) is in through the category -/
example :
    let a : Ast := .minus false [.range 97 102, .cats [(7, false)]] (.minus false [.range 100 100] (.leaf true [.cats [(2, false)]]))
    (∀ it ∈ a.items, it.Wf ∧ it.Ok) ∧ Ast.mem sampleCat a 99 = true ∧ Ast.mem sampleCat a 100 = false ∧
      Ast.mem sampleCat a 98 = true ∧ Ast.mem sampleCat a 112 = true ∧ Ast.mem sampleCat a 103 = false := by
  refine ⟨?_, by decide⟩
  intro it hit
  simp [Ast.items] at hit
  rcases hit with rfl | rfl | rfl | rfl <;> simp [Item.Wf, Item.Ok]

/-- **`addSet` is union** on the positive side (callers require both classes un-negated and
subtraction-free, `IsMergeable`): with truthful `anything` flags, membership afterwards is
((own ranges ∨ own categories ∨ the other's ranges ∨ the other's categories) xor own negate). -/
theorem addSet_mem (cat : Nat → Nat → Bool) (hasSub : Bool) (f s : Flat) (hf : f.AnyOk cat) (hs : s.AnyOk cat)
    (ch : Nat) (hch : ch ≤ maxRune) :
    (f.addSet cat hasSub s).memAlg cat ch = ((f.pos cat ch || s.pos cat ch) != f.neg) :=
  Flat.addSet_mem cat hasSub f s hf hs ch hch

example : (({ ranges := [(97, 99)], cats := [(7, false)] } : Flat).addSet sampleCat false { ranges := [(98, 104)], cats := [(7, true)] })
    = { ranges := [(0, maxRune)], anything := true } := by decide

/-- **`addCaseEquivalences` closes every level under case equivalence** (`orbit i` = the other
members of `i`'s `SimpleFold` orbit): afterwards a valid rune is in the class exactly when, level
by level, ((it or a rune it is an equivalent of lies in a range, or a category entry accepts it) xor
negate) and it is not in the likewise folded subtractor — the subtractor is folded too (commit
ec20cf4), and the normal forms are taken only afterwards (commit d62d6ac). -/
theorem caseEquiv_mem (cat : Nat → Nat → Bool) (orbit : Nat → List Nat) (c : Class) (hc : Class.AnyOk cat c)
    (ch : Nat) (hch : ch ≤ maxRune) :
    memAlg cat (Class.addCaseEquivalences cat orbit c) ch = memAlgFold cat orbit c ch ∧
    (∀ rs, foldHit orbit rs ch = true ↔ ∃ r ∈ rs, ∃ i, r.1 ≤ i ∧ i ≤ r.2 ∧ ch ∈ orbit i) :=
  ⟨Class.addCaseEquivalences_mem cat orbit c hc ch hch, fun rs => foldHit_iff orbit rs ch⟩

/-- `(?i)[a-z-[b]]` with a toy orbit (letter ↔ letter ∓ 32): 'B' (66) and 'b' are both removed -/
example :
    let orbit : Nat → List Nat := fun i => if 97 ≤ i ∧ i ≤ 122 then [i - 32] else if 65 ≤ i ∧ i ≤ 90 then [i + 32] else []
    let c := Class.addCaseEquivalences sampleCat orbit (.minus { ranges := [(97, 122)] } (.leaf { ranges := [(98, 98)] }))
    memAlg sampleCat c 66 = false ∧ memAlg sampleCat c 98 = false ∧ memAlg sampleCat c 67 = true := by decide

/-!
## The query functions (`Model/ClassQuery.lean`; leg Kq)

The rewrites and the prefix analyses never ask only "is r a member": they ask `MayOverlap`, `Equals`,
`IsSingleton`, `GetSetChars`, … .  Each theorem below states what an answer of the modelled function
means for MEMBERSHIP (`memAlg`, which the theorems above tie to every lookup path).
-/

/-- the constants of the source: the three category names are parameters (symbolic), the rune tables are the
regenerated ones -/
def srcConsts (space word nd : Nat) : Consts :=
  { space := space, word := word, nd := nd, ecmaSpace := RegexVerif.Generated.ecmaSpace,
    ecmaWord := RegexVerif.Generated.ecmaWord, ecmaDigit := RegexVerif.Generated.ecmaDigit,
    whitespaceChars := RegexVerif.Generated.whitespaceChars }

/-- a toy oracle for the examples: category 0 = {32}, category 1 = letters a-z, category 2 = digits 0-9 -/
def toyCat : Nat → Nat → Bool := fun id ch =>
  if id = 0 then ch == 32 else if id = 1 then decide (97 ≤ ch ∧ ch ≤ 122) else decide (48 ≤ ch ∧ ch ≤ 57)

/-- **Facts regenerated from the source on every run (query functions).**  `knownDistinctSets` compares its
first argument with `SpaceClass`/`ECMASpaceClass` and its second with
`DigitClass`/`WordClass`/`ECMADigitClass`/`ECMAWordClass` (what `Class.knownDistinctSets` mirrors); these six
constant classes are constructed as `Consts.*Class` constructs them; and the ECMAScript space table is
disjoint from the ECMAScript word and digit tables (`TableFacts`). -/
theorem query_constants_expected :
    RegexVerif.Generated.knownDistinctFirst = ["SpaceClass", "ECMASpaceClass"] ∧
    RegexVerif.Generated.knownDistinctSecond = ["DigitClass", "WordClass", "ECMADigitClass", "ECMAWordClass"] ∧
    RegexVerif.Generated.categoryClasses =
      [("WordClass", false, false, [RegexVerif.Generated.wordCategoryText]),
       ("NotWordClass", true, false, [RegexVerif.Generated.wordCategoryText]),
       ("SpaceClass", false, false, [RegexVerif.Generated.spaceCategoryText]),
       ("NotSpaceClass", true, false, [RegexVerif.Generated.spaceCategoryText]),
       ("DigitClass", false, false, ["Nd"]), ("NotDigitClass", false, true, ["Nd"])] ∧
    (RegexVerif.Generated.oldStringClasses.filter (fun c => c.1 = "ECMASpaceClass" ∨ c.1 = "ECMAWordClass" ∨ c.1 = "ECMADigitClass")) =
      [("ECMAWordClass", RegexVerif.Generated.ecmaWord, false), ("ECMASpaceClass", RegexVerif.Generated.ecmaSpace, false),
       ("ECMADigitClass", RegexVerif.Generated.ecmaDigit, false)] ∧
    ∀ s w n, TableFacts (srcConsts s w n) := by
  refine ⟨rfl, rfl, rfl, by decide +kernel, fun s w n => ⟨?_, ?_⟩⟩
  · show rangesDisjoint (fromOldString RegexVerif.Generated.ecmaSpace false).ranges (fromOldString RegexVerif.Generated.ecmaWord false).ranges = true
    decide
  · show rangesDisjoint (fromOldString RegexVerif.Generated.ecmaSpace false).ranges (fromOldString RegexVerif.Generated.ecmaDigit false).ranges = true
    decide

/-- the ECMAScript tables as classes: `\s` = 9-13, 32, 160, 5760, 8192-8202, 8232-8233, 8239, 8287, 12288, 65279 -/
example : (fromOldString RegexVerif.Generated.ecmaSpace false).ranges =
    [(9, 13), (32, 32), (160, 160), (5760, 5760), (8192, 8202), (8232, 8233), (8239, 8239), (8287, 8287), (12288, 12288), (65279, 65279)] ∧
    (fromOldString RegexVerif.Generated.ecmaWord true).ranges = [(0, 47), (58, 64), (91, 94), (96, 96), (123, maxRune)] ∧
    (fromOldString [0] false) = { ranges := [(0, maxRune)], anything := true } ∧
    -- the sizing quirk: an odd-length text starting with 0, negated, leaves a zero range at the end
    (fromOldString [0, 5, 9] true).ranges = [(5, 8), (0, 0)] := by decide

/-- **`MayOverlap` is sound: a `false` answer means the two classes share no rune**, for ALL pairs of
classes as compiled (sorted range lists, truthful bitmaps).  The three ways to `false`: the inverse case
(`!set1.equals(set2, true)`); the table of known distinct classes (`\s` against `\d`/`\w`, default and
ECMAScript; under the facts about the oracle that leg `Kq-facts` checks against Go's `unicode` tables, and the
regenerated table facts); the enumeration of the category-free side through `CharIn` of the other.  It is the side
condition under which `canBeMadeAtomic` makes a set loop atomic in front of a set (C05: `loop_atomic_disjoint`). -/
theorem mayOverlap_sound (cat : Nat → Nat → Bool) (k : Consts) (hk : OracleFacts cat k) (ht : TableFacts k)
    (a b : Class) (ha : Class.RangesOk a) (hab : BitmapOk cat a) (hb : Class.RangesOk b) (hbb : BitmapOk cat b)
    (h : mayOverlap cat k a b = false) (r : Nat) (hr : r ≤ maxRune) :
    ¬ (memAlg cat a r = true ∧ memAlg cat b r = true) := by
  rintro ⟨ma, mb⟩
  -- with a common rune every test of `MayOverlap` that could answer `false` fails
  have t := @ite_cases Bool (· = true)
  refine Bool.false_ne_true (h.symm.trans ?_)
  unfold mayOverlap
  refine t (fun _ => rfl) fun _ => t (fun _ => rfl) fun _ => t (fun hn => ?_) fun hn => t (fun _ => rfl) fun hna =>
    t (fun hkd => ?_) fun _ => ?_
  · -- one negated, one not: were everything else equal, the heads would be complementary
    cases he : Class.equalsGo a b true
    · rfl
    · rw [equalsGo_true_mem cat a b he r, memAlg_split cat b, Flat.memAlg] at *
      revert ma mb hn
      unfold Class.isNegated
      cases b.flat.pos cat r <;> cases a.flat.neg <;> cases b.flat.neg <;> simp
  · exact ((Bool.or_eq_true _ _).mp hkd).elim (fun h => (knownDistinct_sound cat k hk ht a b h r hr ⟨ma, mb⟩).elim)
      fun h => (knownDistinct_sound cat k hk ht b a h r hr ⟨mb, ma⟩).elim
  · have hna' : a.flat.neg = false := Bool.not_eq_true _ ▸ hna
    have hnb' : b.flat.neg = false := by simpa [Class.isNegated, hna'] using hn
    have hc : ∀ c : Class, (!c.hasSubtraction && c.flat.cats.isEmpty) = true → c.hasSubtraction = false ∧ c.flat.cats = [] :=
      fun c h => by simpa using h
    exact t (fun h => (mayOverlapByEnumeration_exact cat a b ha hab hnb' (hc b h).1 (hc b h).2).2 ⟨r, ma, mb⟩) fun _ =>
      t (fun h => (mayOverlapByEnumeration_exact cat b a hb hbb hna' (hc a h).1 (hc a h).2).2 ⟨r, mb, ma⟩) fun _ => rfl
/-- the toy oracle satisfies the facts; `\s` vs `\d` (known distinct), `[^abc]` vs `[abc]` (inverse), `[a-f]` vs
`[g-k]` (enumeration) are declared disjoint; `[a-f]` vs `[f-k]` and `\w` vs `\d` are not -/
example : OracleFacts toyCat (srcConsts 0 1 2) ∧
    mayOverlap toyCat (srcConsts 0 1 2) (.leaf { cats := [(0, false)] }) (.leaf { cats := [(2, false)] }) = false ∧
    mayOverlap toyCat (srcConsts 0 1 2) (.leaf { ranges := [(97, 99)], neg := true }) (.leaf { ranges := [(97, 99)] }) = false ∧
    mayOverlap toyCat (srcConsts 0 1 2) (.leaf { ranges := [(97, 102)] }) (.leaf { ranges := [(103, 107)] }) = false ∧
    mayOverlap toyCat (srcConsts 0 1 2) (.leaf { ranges := [(97, 102)] }) (.leaf { ranges := [(102, 107)] }) = true ∧
    mayOverlap toyCat (srcConsts 0 1 2) (.leaf { cats := [(1, false)] }) (.leaf { cats := [(2, false)] }) = true := by
  -- the toy categories are ranges: that a table avoids one is decided on the range lists
  have off : ∀ (t : List Nat) (lo hi : Nat), rangesDisjoint (fromOldString t false).ranges [(lo, hi)] = true →
      ∀ r, inRanges (fromOldString t false).ranges r = true → ¬ (lo ≤ r ∧ r ≤ hi) :=
    fun t lo hi h r hr hlh => rangesDisjoint_spec h r ⟨hr, by simpa using hlh⟩
  refine ⟨⟨?_, ?_, ?_, ?_, ?_, ?_⟩, by decide, by decide, by decide, by decide, by decide⟩
  · intro r _ h; simp [toyCat, srcConsts] at h ⊢; omega
  · intro r _ h; simp [toyCat, srcConsts] at h ⊢; omega
  · exact fun r _ h => decide_eq_false (off _ 48 57 (by decide) r h)
  · exact fun r _ h => decide_eq_false (off _ 97 122 (by decide) r h)
  · intro r _ h; have := off _ 32 32 (by decide) r h; simp [toyCat, srcConsts]; omega
  · intro r _ h; have := off _ 32 32 (by decide) r h; simp [toyCat, srcConsts]; omega

/-- **What `MayOverlap = true` means on the enumeration path: a common rune exists** (the answer is exact
there, not merely conservative): both classes un-negated, not equal, no `anything` flag, not in the table,
and `set2` without categories and subtraction. -/
theorem mayOverlapByEnumeration_complete (cat : Nat → Nat → Bool) (a b : Class)
    (ha : Class.RangesOk a) (hab : BitmapOk cat a) (hn : b.flat.neg = false) (hs : b.hasSub = false) (hc : b.flat.cats = [])
    (h : mayOverlapByEnumeration cat a b = true) : ∃ r, memAlg cat a r = true ∧ memAlg cat b r = true :=
  (mayOverlapByEnumeration_exact cat a b ha hab hn hs hc).1 h

example : mayOverlapByEnumeration toyCat (.leaf { cats := [(1, false)] }) (.leaf { ranges := [(90, 97)] }) = true := by decide

/-- **`Equals` implies equal membership**, for every rune and every pair of classes (no precondition: the
comparison is structural — `negate`, `anything`, ranges, categories, recursively the subtractor).  It is what
`reduceConcatenationWithAdjacentLoops`, the writer's set table and `knownDistinctSets` rely on. -/
theorem equals_spec (cat : Nat → Nat → Bool) (a b : Class) (h : a.equals b = true) (r : Nat) :
    memAlg cat a r = memAlg cat b r :=
  equalsGo_false_mem cat a b h r

/-- **`equals(c2, ignoreNegate = true)`**: the two classes have the same positive part and equal
subtractors; with equal `negate` they are the same set, with different `negate` the first is the complement
of the second's head, minus the common subtractor — in particular they are disjoint. -/
theorem equalsIgnoreNegate_spec (cat : Nat → Nat → Bool) (a b : Class) (h : Class.equalsGo a b true = true) (r : Nat) :
    (a.flat.neg = b.flat.neg → memAlg cat a r = memAlg cat b r) ∧
    (a.flat.neg ≠ b.flat.neg → memAlg cat a r = (!(b.flat.memAlg cat r) && !(b.subMem cat r))) := by
  rw [equalsGo_true_mem cat a b h r, memAlg_split cat b, Flat.memAlg]
  constructor
  · intro hn; rw [hn]
  · cases a.flat.neg <;> cases b.flat.neg <;> simp

example : Class.equalsGo (.minus { ranges := [(97, 122)], neg := true } (.leaf { ranges := [(101, 101)] }))
      (.minus { ranges := [(97, 122)] } (.leaf { ranges := [(101, 101)] })) true = true ∧
    (Class.leaf { ranges := [(97, 122)], neg := true }).equals (.leaf { ranges := [(97, 122)] }) = false ∧
    -- a different subtractor is not ignored
    Class.equalsGo (.minus { ranges := [(97, 122)], neg := true } (.leaf { ranges := [(101, 101)] }))
      (.minus { ranges := [(97, 122)] } (.leaf { ranges := [(102, 102)] })) true = false := by decide

/-- **`IsSingleton` ⇒ exactly one rune is a member, and it is `SingletonChar`.**  (`reduceSet` turns the set
into `One`; the runner's `forwardcharnext` short-cut.) -/
theorem isSingleton_spec (cat : Nat → Nat → Bool) (c : Class) (h : c.isSingleton = true) :
    ∃ x, c.singletonChar = some x ∧ memAlg cat c x = true ∧ ∀ r, memAlg cat c r = true → r = x := by
  obtain ⟨x, hx, hm⟩ := (singleton_reduce_mem cat c).1 h
  exact ⟨x, hx, by simp [hm], fun r hr => by simpa [hm] using hr⟩

/-- **`IsSingletonInverse` ⇒ exactly one rune is NOT a member, and it is `SingletonChar`** (`reduceSet` →
`Notone`). -/
theorem isSingletonInverse_spec (cat : Nat → Nat → Bool) (c : Class) (h : c.isSingletonInverse = true) :
    ∃ x, c.singletonChar = some x ∧ memAlg cat c x = false ∧ ∀ r, memAlg cat c r = false → r = x := by
  obtain ⟨x, hx, hm⟩ := (singleton_reduce_mem cat c).2 h
  exact ⟨x, hx, by simp [hm], fun r hr => by simpa [hm] using hr⟩

/-- **`SingletonChar` is defined whenever one of the two tests holds** (it indexes `ranges[0]` unguarded) and
is then the first bound of the only range. -/
theorem singletonChar_spec (c : Class) (h : c.isSingleton = true ∨ c.isSingletonInverse = true) :
    ∃ x, c.singletonChar = some x ∧ c.flat.ranges = [(x, x)] := by
  have key : ∀ ng, (bif ng then c.isSingletonInverse else c.isSingleton) = true →
      ∃ x, c.singletonChar = some x ∧ c.flat.ranges = [(x, x)] := by
    intro ng hng
    obtain ⟨f, x, rfl, hr, -, -⟩ := singleton_shape c ng hng
    exact ⟨x, by rw [Class.singletonChar, Class.flat, hr]; rfl, hr⟩
  exact h.elim (key false) (key true)

example : (Class.leaf { ranges := [(65, 65)] }).isSingleton = true ∧ (Class.leaf { ranges := [(65, 65)] }).singletonChar = some 65 ∧
    (Class.leaf { ranges := [(65, 66)] }).isSingleton = false ∧
    (Class.minus { ranges := [(65, 65)] } (.leaf {})).isSingleton = false := by decide

/-- **`IsEmpty` ⇒ no rune is a member — of the un-negated class** (membership of every rune is `negate`:
a negated class without ranges, categories and subtraction matches everything).  `getFirstCharsPrefix`
reads the flag as "no first character". -/
theorem isEmpty_spec (cat : Nat → Nat → Bool) (c : Class) (h : c.isEmpty = true) (r : Nat) :
    memAlg cat c r = c.isNegated := by
  simp only [Class.isEmpty, Bool.and_eq_true, List.isEmpty_iff, Bool.not_eq_true'] at h
  obtain ⟨f, rfl⟩ := Class.eq_leaf h.2
  rw [memAlg, Flat.memAlg, Flat.pos, show f.ranges = [] from h.1.1, show f.cats = [] from h.1.2]
  exact Bool.false_bne _

example : (Class.leaf {}).isEmpty = true ∧ (Class.leaf { neg := true }).isEmpty = true ∧
    memAlg toyCat (Class.leaf { neg := true }) 5 = true := by decide

/-- **`IsAnything` ⇒ every rune is a member — for an un-negated class without subtraction whose flag is
truthful** (`AnyOk`: set only by `makeAnything` and `getCharSetFromOldString`).  The flag alone does not imply
it (`[^\s\S]` below); all callers use it conservatively (`MayOverlap` answers true, the prefix analysis
drops the set). -/
theorem isAnything_spec (cat : Nat → Nat → Bool) (c : Class) (h : c.isAnything = true) (hok : Class.AnyOk cat c)
    (hn : c.isNegated = false) (hs : c.hasSubtraction = false) (r : Nat) (hr : r ≤ maxRune) :
    memAlg cat c r = true := by
  obtain ⟨f, rfl⟩ := Class.eq_leaf hs
  rw [memAlg, Flat.memAlg, hok h r hr, show f.neg = false from hn]
  rfl

/-- `[^\s\S]`: the base collapsed to `anything` while the class was parsed, `negate` stays: the flag is set
and the class is empty -/
example : (Class.leaf (({ neg := true } : Flat).addCategories [(0, false), (0, true)])).isAnything = true ∧
    memAlg toyCat (Class.leaf (({ neg := true } : Flat).addCategories [(0, false), (0, true)])) 32 = false := by decide

/-- **`IsMergeable` is what the alternation merge needs**: both classes un-negated and subtraction-free ⇒
membership is the positive part alone, and `addSet` (what `reduceSingleLetterAndNestedAlternations` and the
first-character analysis do with two mergeable classes) is exactly the union. -/
theorem isMergeable_spec (cat : Nat → Nat → Bool) (a b : Class) (ha : a.isMergeable = true) (hb : b.isMergeable = true)
    (hoa : a.flat.AnyOk cat) (hob : b.flat.AnyOk cat) (r : Nat) (hr : r ≤ maxRune) :
    memAlg cat a r = a.flat.pos cat r ∧
    memAlg cat (.leaf (a.flat.addSet cat false b.flat)) r = (memAlg cat a r || memAlg cat b r) := by
  have key : ∀ c : Class, c.isMergeable = true → c.flat.neg = false ∧ memAlg cat c r = c.flat.pos cat r := by
    intro c hc
    simp only [Class.isMergeable, Bool.and_eq_true, Bool.not_eq_true'] at hc
    obtain ⟨f, rfl⟩ := Class.eq_leaf hc.2
    exact ⟨hc.1, by rw [memAlg, Flat.memAlg, show f.neg = false from hc.1, Bool.bne_false]; rfl⟩
  obtain ⟨h1, h2⟩ := key a ha
  rw [h2, (key b hb).2, memAlg, Flat.addSet_mem cat false a.flat b.flat hoa hob r hr, h1, Bool.bne_false]
  exact ⟨rfl, rfl⟩

example : (Class.leaf { ranges := [(97, 99)] }).isMergeable = true ∧ (Class.leaf { ranges := [(97, 99)], neg := true }).isMergeable = false ∧
    (Class.minus { ranges := [(97, 99)] } (.leaf {})).isMergeable = false ∧
    (({ ranges := [(97, 99)] } : Flat).addSet toyCat false { cats := [(2, false)] }) = { ranges := [(97, 99)], cats := [(2, false)] } := by decide

/-- **`GetSetChars`: a non-nil answer lists exactly the members — exactly the NON-members when
`IsNegated`** — with the subtraction factored in (a negated class with a subtraction is refused), at most
`maxChars` of them, in strictly ascending order on canonical ranges.  These lists become the published
first-character sets, the multi-prefix alternatives and the `IndexOfAny` arguments of the finders (C04/C03). -/
theorem getSetChars_spec (cat : Nat → Nat → Bool) (c : Class) (k : Nat) (chars : List Nat)
    (hl : Class.RangesOk c) (hb : BitmapOk cat c) (h : getSetChars cat c k = some chars) :
    chars.length ≤ k ∧ (∀ r, r ∈ chars ↔ (memAlg cat c r != c.isNegated) = true) ∧
      (Canon c.flat.ranges → chars.Pairwise (· < ·)) := by
  rw [getSetChars, Option.ite_none_left_eq_some, Option.ite_none_left_eq_some, Option.map_eq_some_iff] at h
  obtain ⟨h1, h2, ⟨w', acc'⟩, hl', rfl⟩ := h
  obtain ⟨h3, h4, h5⟩ := setCharsLoop_spec _ k _ 0 [] w' acc' hl' (Nat.zero_le _) (Nat.le_refl _)
  rw [List.nil_append] at h5
  subst h5
  have hc : c.flat.cats = [] ∧ c.flat.ranges.length ≤ k := by simpa using h1
  refine ⟨Nat.le_trans h4 h3, fun r => ?_, enumChars_sorted _ _⟩
  rw [mem_enumChars, charIn_eq_memAlg cat c r hl hb]
  cases c with
  | leaf f =>
    simp only [Class.hasSubtraction, Class.hasSub, Class.flat, Class.isNegated, memAlg, Flat.memAlg, Flat.pos,
      show f.cats = [] from hc.1, inCats_nil, Bool.or_false, Bool.false_and, Bool.not_false, and_true]
    cases inRanges f.ranges r <;> cases f.neg <;> simp
  | minus f s =>
    have hn : f.neg = false := by simpa [Class.isNegated, Class.hasSubtraction, Class.hasSub, Class.flat] using h2
    simp only [Class.hasSubtraction, Class.hasSub, Class.flat, Class.isNegated, memAlg, Flat.memAlg, Flat.pos,
      show f.cats = [] from hc.1, hn, inCats_nil, Bool.or_false, Bool.true_and, Bool.not_not, Bool.bne_false]
    cases inRanges f.ranges r <;> simp

/-- `[a-e-[bd]]` → a, c, e; `[^x]` → x (to be read as "everything but"); a category, too many characters,
negation together with subtraction → nil; work is counted before the subtraction is applied -/
example : getSetChars toyCat (.minus { ranges := [(97, 101)] } (.leaf { ranges := [(98, 98), (100, 100)] })) 5 = some [97, 99, 101] ∧
    getSetChars toyCat (.leaf { ranges := [(120, 120)], neg := true }) 5 = some [120] ∧
    getSetChars toyCat (.leaf { ranges := [(120, 120)], cats := [(1, false)] }) 5 = none ∧
    getSetChars toyCat (.leaf { ranges := [(97, 102)] }) 5 = none ∧
    getSetChars toyCat (.minus { ranges := [(97, 101)], neg := true } (.leaf { ranges := [(98, 98)] })) 5 = none ∧
    getSetChars toyCat (.minus { ranges := [(97, 101)] } (.leaf { ranges := [(98, 98), (100, 100)] })) 4 = none ∧
    getSetChars toyCat (.leaf {}) 5 = some [] := by decide

/-- **`GetIfNRanges(n)`: a non-nil answer is the whole range list, of length `n`, and the class is exactly
those ranges — their complement when `IsNegated`** (no categories, no subtraction). -/
theorem getIfNRanges_spec (cat : Nat → Nat → Bool) (c : Class) (n : Nat) (rs : List (Nat × Nat))
    (h : getIfNRanges c n = some rs) :
    rs = c.flat.ranges ∧ rs.length = n ∧ ∀ r, inRanges rs r = (memAlg cat c r != c.isNegated) := by
  rw [getIfNRanges, Option.ite_none_left_eq_some, Option.ite_none_left_eq_some, Option.ite_none_right_eq_some,
    Option.some.injEq] at h
  obtain ⟨h1, h2, rfl, rfl⟩ := h
  obtain ⟨f, rfl⟩ := Class.eq_leaf (Bool.not_eq_true _ ▸ h2)
  have hc : f.cats = [] := by simpa [Class.flat] using h1
  rw [List.take_length]
  refine ⟨rfl, rfl, fun r => ?_⟩
  show _ = ((f.memAlg cat r) != f.neg)
  rw [Flat.memAlg, Flat.pos, hc, inCats_nil, Bool.or_false, Bool.bne_assoc, bne_self_eq_false, Bool.bne_false]
  rfl

example : getIfNRanges (.leaf { ranges := [(97, 102)], neg := true }) 1 = some [(97, 102)] ∧
    getIfNRanges (.leaf { ranges := [(97, 102)] }) 2 = none ∧
    getIfNRanges (.leaf { ranges := [(97, 102)], cats := [(1, false)] }) 1 = none ∧
    getIfNRanges (.minus { ranges := [(97, 102)] } (.leaf {})) 1 = none := by decide

/-- **`containsAsciiIgnoreCaseCharacter`: `true` ⇒ the class is exactly `{C, c}` for one ASCII letter**, and
the slice it returns is `[C, c]` (upper case first: `TryGetOrdinalCaseInsensitiveString` writes
`twoChars[0] | 0x20`, the multi-prefix analysis `setChars[1]`).  `isLetter` is `unicode.IsLetter`, assumed to
be A-Z, a-z below U+007F (leg `Kq-facts`).  The published ordinal
case-insensitive prefix is sound only because of this (cf. the seeded change `/verif/seeded/C03-ascii-pair-nonletters`: without
the letter test `[@`]`, `[\[{]` would qualify). -/
theorem containsAsciiIgnoreCaseCharacter_spec (cat : Nat → Nat → Bool) (isLetter : Nat → Bool) (c : Class)
    (hl : Class.RangesOk c) (hb : BitmapOk cat c) (hcan : Canon c.flat.ranges)
    (hL : ∀ r, r < maxASCII → isLetter r = asciiLetter r)
    (h : (containsAsciiIgnoreCaseCharacter cat isLetter c).1 = true) :
    ∃ u, 65 ≤ u ∧ u ≤ 90 ∧ (containsAsciiIgnoreCaseCharacter cat isLetter c).2 = some [u, u + 32] ∧
      ∀ r, memAlg cat c r = true ↔ (r = u ∨ r = u + 32) := by
  unfold containsAsciiIgnoreCaseCharacter at h ⊢
  split at h
  · cases h
  rename_i hneg
  simp only [hneg, Bool.false_eq_true, ↓reduceIte]
  simp only [] at h
  split at h
  · rename_i a b hg
    simp only [Bool.and_eq_true, decide_eq_true_eq, beq_iff_eq] at h
    obtain ⟨⟨⟨⟨ha, hb'⟩, hor⟩, hla⟩, hlb⟩ := h
    obtain ⟨_, hmem, hsorted⟩ := getSetChars_spec cat c 3 [a, b] hl hb hg
    have hlt : a < b := by
      have := hsorted hcan
      simpa using this
    rw [hL a ha] at hla
    rw [hL b hb'] at hlb
    obtain ⟨h1, h2, h3⟩ := ascii_pair a b hla hlb hlt hor
    refine ⟨a, h1, h2, by rw [hg, h3], fun r => ?_⟩
    have := hmem r
    have hn : c.isNegated = false := by simpa using hneg
    simp only [hn, Bool.bne_false, List.mem_cons, List.not_mem_nil, or_false] at this
    rw [← this, h3]
  · cases h

/-- `[Kk]` qualifies, with the upper-case letter first; `[@`]` (same `| 0x20`, not letters), `[k]`, `[^Kk]`,
`[Kkx]` do not -/
example :
    let isL : Nat → Bool := asciiLetter
    containsAsciiIgnoreCaseCharacter toyCat isL (.leaf { ranges := [(75, 75), (107, 107)] }) = (true, some [75, 107]) ∧
    (containsAsciiIgnoreCaseCharacter toyCat isL (.leaf { ranges := [(64, 64), (96, 96)] })).1 = false ∧
    (containsAsciiIgnoreCaseCharacter toyCat isL (.leaf { ranges := [(107, 107)] })).1 = false ∧
    containsAsciiIgnoreCaseCharacter toyCat isL (.leaf { ranges := [(75, 75), (107, 107)], neg := true }) = (false, none) ∧
    (containsAsciiIgnoreCaseCharacter toyCat isL (.leaf { ranges := [(75, 75), (107, 107), (120, 120)] })).1 = false ∧
    Canon [(75, 75), (107, 107)] := by
  refine ⟨by decide, by decide, by decide, by decide, by decide, ?_⟩
  simp [Canon]

/-- **`IsUnicodeCategoryOfSmallCharCount`: `isSmall` ⇒ the characters are exactly the members — the
non-members when `negated`.**  For the white-space classes this needs that `whitespaceChars` is the white-space
category (checked by leg `Kq-facts` against `unicode.IsSpace` over all code points). -/
theorem isUnicodeCategoryOfSmallCharCount_spec (cat : Nat → Nat → Bool) (k : Consts) (c : Class)
    (hws : ∀ r, r ≤ maxRune → (r ∈ k.whitespaceChars ↔ cat k.space r = true))
    (chars : List Nat) (negated : Bool) (d : Nat)
    (h : isUnicodeCategoryOfSmallCharCount k c = some (chars, negated, d)) (r : Nat) (hr : r ≤ maxRune) :
    r ∈ chars ↔ (memAlg cat c r != negated) = true := by
  have single : ∀ ng, (bif ng then c.isSingletonInverse else c.isSingleton) = true →
      (r ∈ [c.singletonChar.getD 0] ↔ (memAlg cat c r != ng) = true) := by
    intro ng hng
    obtain ⟨x, hx, hm⟩ := singleton_mem cat c ng hng
    rw [hx, hm]; simp
  have space : ∀ ng, c.equals (.leaf (fromCategoryString ng false [k.space])) = true →
      (r ∈ k.whitespaceChars ↔ (memAlg cat c r != ng) = true) := by
    intro ng hng
    rw [mem_of_equals_cat cat c ng k.space hng r, hws r hr]; simp
  unfold isUnicodeCategoryOfSmallCharCount at h
  by_cases h1 : c.isSingleton = true
  · rw [if_pos h1] at h; cases h; exact single false h1
  by_cases h2 : c.isSingletonInverse = true
  · rw [if_neg h1, if_pos h2] at h; cases h; exact single true h2
  by_cases h3 : c.equals k.spaceClass = true
  · rw [if_neg h1, if_neg h2, if_pos h3] at h; cases h; exact space false h3
  by_cases h4 : c.equals k.notSpaceClass = true
  · rw [if_neg h1, if_neg h2, if_neg h3, if_pos h4] at h; cases h; exact space true h4
  · rw [if_neg h1, if_neg h2, if_neg h3, if_neg h4] at h; cases h

example : isUnicodeCategoryOfSmallCharCount (srcConsts 0 1 2) (.leaf { cats := [(0, false)], neg := true }) =
      some (RegexVerif.Generated.whitespaceChars, true, 1) ∧
    isUnicodeCategoryOfSmallCharCount (srcConsts 0 1 2) (.leaf { ranges := [(65, 65)], neg := true }) = some ([65], true, 0) ∧
    isUnicodeCategoryOfSmallCharCount (srcConsts 0 1 2) (.leaf { cats := [(2, false)] }) = none := by decide

/-- **`GetIfOnlyUnicodeCategories`: a non-nil answer `(cats, negate)` reads "in one of the listed categories,
xor `negate`" — when the entries are un-negated or there is exactly one.**  For SEVERAL negated entries the
class is a union of complements while the answer reads as the complement of a union: see
`getIfOnlyUnicodeCategories_two_negated`.  (No caller inside the engine.) -/
theorem getIfOnlyUnicodeCategories_spec (cat : Nat → Nat → Bool) (k : Consts) (c : Class)
    (cats : List (Nat × Bool)) (negate : Bool) (h : getIfOnlyUnicodeCategories k c = some (cats, negate))
    (hshape : (∀ ct ∈ cats, ct.2 = false) ∨ cats.length = 1) (r : Nat) :
    memAlg cat c r = (cats.any (fun ct => cat ct.1 r) != negate) := by
  rw [getIfOnlyUnicodeCategories, Option.ite_none_left_eq_some, Option.ite_none_left_eq_some] at h
  obtain ⟨h1, h2, h⟩ := h
  obtain ⟨f, rfl⟩ := Class.eq_leaf (Bool.not_eq_true _ ▸ h1)
  have hr : f.ranges = [] := by simpa [Class.flat] using h2
  rw [memAlg, Flat.memAlg, Flat.pos, hr, inRanges_nil, Bool.false_or]
  rw [Class.flat] at h
  rcases hcs : f.cats with _ | ⟨c0, rest⟩
  · rw [hcs] at h; cases h
  rw [hcs, Option.ite_none_left_eq_some] at h
  cases h.2
  rcases hshape with hs | hs
  · -- un-negated entries accept what their category holds
    have key : ∀ l : List (Nat × Bool), (∀ ct ∈ l, ct.2 = false) → inCats cat l r = l.any (fun ct => cat ct.1 r) := by
      intro l
      induction l with
      | nil => intro _; rfl
      | cons x xs ih =>
        intro hx
        rw [inCats_cons, List.any_cons, catAccepts, hx x (List.mem_cons_self ..), Bool.bne_false,
          ih fun ct hct => hx ct (List.mem_cons_of_mem _ hct)]
    rw [key _ hs, hs c0 (List.mem_cons_self ..), Bool.false_bne]
  · obtain rfl : rest = [] := List.length_eq_zero_iff.mp (Nat.succ.inj hs)
    rw [inCats_cons, inCats_nil, Bool.or_false, List.any_cons, List.any_nil, Bool.or_false, catAccepts, Bool.bne_assoc]

/-- the counter-instance: `[\P{1}\P{2}]` (toy categories 1 = a-z, 2 = 0-9) contains every rune (none is in
both), the answer `([\P{1}, \P{2}], negate = true)` read as "not in category 1 or 2" excludes `a`.  (`srcConsts 0 100 2`:
the function refuses the `word` name, so toy category 1 must not be it.) -/
theorem getIfOnlyUnicodeCategories_two_negated :
    getIfOnlyUnicodeCategories (srcConsts 0 100 2) (.leaf { cats := [(1, true), (2, true)] }) = some ([(1, true), (2, true)], true) ∧
    memAlg toyCat (.leaf { cats := [(1, true), (2, true)] }) 97 = true ∧
    (([(1, true), (2, true)] : List (Nat × Bool)).any (fun ct => toyCat ct.1 97) != true) = false := by decide

example : getIfOnlyUnicodeCategories (srcConsts 0 100 2) (.leaf { cats := [(1, false), (2, false)], neg := true }) = some ([(1, false), (2, false)], true) ∧
    getIfOnlyUnicodeCategories (srcConsts 0 100 2) (.leaf { cats := [(0, false)] }) = none ∧
    getIfOnlyUnicodeCategories (srcConsts 0 100 2) (.leaf { cats := [(1, false), (2, true)] }) = none := by decide

/-- **The serialisation round trip: `NewCharSetRuntime(Hash(c))` is `c`** — structurally, as `Copy()` gives it
(no `building` mark, no bitmap), hence with the same membership (only this second conjunct speaks of `cat`).
`HashOk`: range endpoints are Unicode scalar values (the hash writes them with `WriteRune`), category names are at
most 127 bytes and not empty when negated (the `int8` length carries `Negate` in its sign), fewer than 2³¹
ranges and categories.  `nameOf`/`idOf` spell category names out and back; the length of the hash always
suffices as fuel (`hash_length`).  The writer keys its set table by this string and the code generator reads
classes back from it. -/
theorem hash_roundtrip (cat : Nat → Nat → Bool) (nameOf : Nat → List Nat) (idOf : List Nat → Nat) (c : Class)
    (hok : Class.HashOk nameOf idOf c) :
    newCharSetRuntime idOf (Class.hash nameOf c).length (Class.hash nameOf c) = c.copy ∧
    ∀ r, memAlg cat (newCharSetRuntime idOf (Class.hash nameOf c).length (Class.hash nameOf c)) r = memAlg cat c r := by
  have h := newCharSetRuntime_hash nameOf idOf c _ hok (hash_length nameOf c)
  exact ⟨h, fun r => by rw [h, memAlg_copy]⟩

/-- `[^a-cé-[\P{7}x]]` with the name of category 7 spelled "Lu": the hash and the way back -/
example :
    let nameOf : Nat → List Nat := fun _ => [76, 117]
    let idOf : List Nat → Nat := fun _ => 7
    let c : Class := .minus { ranges := [(97, 99), (233, 233)], neg := true } (.leaf { ranges := [(120, 120)], cats := [(7, true)] })
    Class.HashOk nameOf idOf c ∧
    Class.hash nameOf c = [1, 2, 0, 0, 0, 0, 0, 0, 0, 97, 99, 195, 169, 195, 169, 0, 1, 0, 0, 0, 1, 0, 0, 0, 120, 120, 254, 76, 117] ∧
    newCharSetRuntime idOf 29 (Class.hash nameOf c) = c := by
  refine ⟨⟨⟨by decide, by decide, ?_, by simp⟩, ⟨by decide, by decide, ?_, ?_⟩⟩, by decide, by decide⟩
  · intro r hr; simp at hr; rcases hr with rfl | rfl <;> simp [Scalar, maxRune]
  · intro r hr; simp at hr; subst hr; simp [Scalar, maxRune]
  · intro ct hct; simp at hct; subst hct; simp [CatOk]

/-- **The scalar-value hypothesis is needed (defect D48 of DESIGN.md §1.3): a surrogate endpoint does not survive the hash.**
`[\uD800]` and `[\uD801]` have the same hash (both endpoints are written as U+FFFD), the round trip yields
`[�]`, and membership of U+D800 is lost. -/
theorem hash_surrogate_counterexample :
    let nameOf : Nat → List Nat := fun _ => []
    let idOf : List Nat → Nat := fun _ => 0
    let c1 : Class := .leaf { ranges := [(0xD800, 0xD800)] }
    let c2 : Class := .leaf { ranges := [(0xD801, 0xD801)] }
    Class.hash nameOf c1 = Class.hash nameOf c2 ∧
    newCharSetRuntime idOf 20 (Class.hash nameOf c1) = .leaf { ranges := [(0xFFFD, 0xFFFD)] } ∧
    memAlg toyCat c1 0xD800 = true ∧ memAlg toyCat (newCharSetRuntime idOf 20 (Class.hash nameOf c1)) 0xD800 = false := by
  decide

/-- **`Copy()` keeps membership and every query answer that depends on the structure** (`negate`, `anything`,
ranges, categories at every level): the copy `Equals` the original.  (That the copy shares no storage with
the original — what the callers want it for — is not expressible in this value-level model; the slices are
rebuilt with `append(nil…, …)` and the subtractor is copied recursively, leg Kq compares the dumps.) -/
theorem copy_spec (cat : Nat → Nat → Bool) (c : Class) :
    c.copy.equals c = true ∧ ∀ r, memAlg cat c.copy r = memAlg cat c r := by
  refine ⟨?_, fun r => memAlg_copy cat c r⟩
  induction c with
  | leaf f => simp [Class.copy, Flat.copy, Class.equals, Class.equalsGo, Flat.eqFields]
  | minus f s ih =>
    simp only [Class.equals] at ih
    simp [Class.copy, Flat.copy, Class.equals, Class.equalsGo, Flat.eqFields, ih]

example : (Class.minus { ranges := [(97, 99)], building := true, ascii := some (1, 2) } (.leaf { cats := [(1, true)] })).copy =
    .minus { ranges := [(97, 99)] } (.leaf { cats := [(1, true)] }) := by decide

/-- **End to end for written classes: two class expressions for which `MayOverlap` of their parsed forms is
`false` have no rune in common — in the set algebra of their written parts.**  No hypothesis about the
`CharSet`s is left; what remains are the facts about the category oracle and the regenerated tables. -/
theorem mayOverlap_sound_parsed (cat : Nat → Nat → Bool) (k : Consts) (hk : OracleFacts cat k) (ht : TableFacts k)
    (a b : Ast) (hoka : ∀ it ∈ a.items, it.Wf ∧ it.Ok) (hokb : ∀ it ∈ b.items, it.Wf ∧ it.Ok)
    (h : mayOverlap cat k (strip (Ast.parse cat a)) (strip (Ast.parse cat b)) = false) (r : Nat) (hr : r ≤ maxRune) :
    ¬ (Ast.mem cat a r = true ∧ Ast.mem cat b r = true) := by
  obtain ⟨a1, a2, a3⟩ := parsed_class_wellformed cat a hoka
  obtain ⟨b1, b2, b3⟩ := parsed_class_wellformed cat b hokb
  rw [← a3 r hr, ← b3 r hr]
  exact mayOverlap_sound cat k hk ht _ _ a1 a2 b1 b2 h r hr

/-- `[a-fx]` and `[g-z-[x]]` are declared disjoint (enumeration of the first inside the second) -/
example :
    let a : Ast := .leaf false [.range 97 102, .range 120 120]
    let b : Ast := .minus false [.range 103 122] (.leaf false [.range 120 120])
    (∀ it ∈ a.items, it.Wf ∧ it.Ok) ∧ (∀ it ∈ b.items, it.Wf ∧ it.Ok) ∧
    mayOverlap toyCat (srcConsts 0 1 2) (strip (Ast.parse toyCat a)) (strip (Ast.parse toyCat b)) = false := by
  refine ⟨?_, ?_, by decide⟩
  · intro it hit; simp [Ast.items] at hit; rcases hit with rfl | rfl <;> simp [Item.Wf, Item.Ok]
  · intro it hit; simp [Ast.items] at hit; rcases hit with rfl | rfl <;> simp [Item.Wf, Item.Ok]

end RegexVerif.Props.C16
