/-
C08 — Returned matches are well-formed and index conversion is exact.

Property theorems about the models `RegexVerif.Model.Utf8` (rune index → byte index: match.go
`stringByteOffsets`/`runeByteOffsets`/`byteRange`, regexp.go `newStringByteMapper`/`byteIndex`,
compat `bytesToRunesAndOffsets`/`readRunes`, the rune-start lookup) and
`RegexVerif.Model.MatchBuilder` (the capture arrays of match.go).  The models are tied to the Go
source by the correspondence legs of harness/internal/legs/c08.go.

A string is a list of segments `(rune, width)` as produced by Go's `for range` decoding; `WF` is the
unicode/utf8 decoding contract (invalid byte = U+FFFD of width 1, literal U+FFFD = width 3, otherwise
width = `utf8.RuneLen`).  `byteOffsetSpec segs i` = sum of the widths of the first `i` segments.
-/
import RegexVerif.Lemmas.Utf8
import RegexVerif.Lemmas.MatchBuilder

namespace RegexVerif.Props.C08
open RegexVerif.Utf8 RegexVerif.Lemmas.Utf8

/-- a string mixing 1–4 byte runes, a literal U+FFFD (3 bytes) and two invalid bytes (U+FFFD, 1 byte):
    `"a" "é" <0xff> "€" U+FFFD "😀" <0x80> "z"` -/
def sample : List (Int × Nat) :=
  [(97, 1), (0xE9, 2), (0xFFFD, 1), (0x20AC, 3), (0xFFFD, 3), (0x1F600, 4), (0xFFFD, 1), (122, 1)]

theorem sample_wf : WF sample := by decide +kernel

/-! ### the two string mappers, the rune-input table and the two adapter tables are exact -/

/-- **`stringByteOffsets` is the prefix-sum table.**  For every string, valid UTF-8 or not, the table behind
    `Capture.ByteRange` for string input — its "nil means identity" fast path included — answers the byte
    offset of every rune index. -/
theorem stringByteOffsets_eq_prefixSums (segs : List (Int × Nat)) (hwf : WF segs) (i : Nat) (hi : i ≤ segs.length) :
    offsetAt (stringByteOffsets segs) i = some (byteOffsetSpec segs i) := by
  unfold stringByteOffsets byteOffsetSpec widths
  exact offsetAt_lazy computedLen (·.2) true segs
    (by intro s hs h1; rw [← computedLen_eq_width s (hwf s hs)]; exact h1) i hi

example : (List.range 9).map (offsetAt (stringByteOffsets sample)) =
    [0, 1, 3, 4, 7, 10, 14, 15, 16].map some := by decide +kernel
example : stringByteOffsets [(97, 1), (98, 1)] = none := by decide +kernel

/-- **The delta table + binary search of `FindAllStringIndex` is exact.**  `byteIndex i` on the table built
    by `newStringByteMapper` (the identity when the mapper is nil) is the byte offset of rune `i`. -/
theorem stringByteMapper_eq (segs : List (Int × Nat)) (hwf : WF segs) (i : Nat) (hi : i ≤ segs.length) :
    mapIndex (newStringByteMapper segs) i = byteOffsetSpec segs i := by
  have hlin := linLookup_tbl segs 0 0 i hi
  simp only [Nat.zero_add] at hlin
  have hsum : byteOffsetSpec segs i = i + extra segs i := by
    unfold byteOffsetSpec extra
    rw [map_computedLen_eq segs hwf]
    have h1 : ∀ w ∈ (widths segs).take i, 1 ≤ w := by
      intro w hw
      obtain ⟨s, hs, rfl⟩ := List.mem_map.mp (List.mem_of_mem_take hw)
      exact (width_pos s (hwf s hs)).1
    rw [sum_eq_len_add_extra _ h1]
    have : i ≤ (widths segs).length := by simpa [widths] using hi
    simp [List.length_take, Nat.min_eq_left this]
  unfold newStringByteMapper
  rw [nsbmLoop_none]
  split
  · rename_i hnil
    rw [hnil] at hlin
    simp only [mapIndex, hsum]
    simp [linLookup] at hlin; omega
  · simp only [mapIndex]
    rw [byteIndex_eq_linLookup _ (tbl_sorted segs 0 0), hlin, hsum]

example : (List.range 9).map (mapIndex (newStringByteMapper sample)) = [0, 1, 3, 4, 7, 10, 14, 15, 16] := by decide +kernel
example : newStringByteMapper sample = some ⟨[2, 4, 5, 6], [1, 3, 5, 8]⟩ := by decide +kernel

/-- **compat `bytesToRunesAndOffsets` is exact** (no decoding contract needed: it uses the decoder's
    width directly): the runes are the decoded runes and the table answers the byte offset. -/
theorem bytesToRunes_offsets_eq (segs : List (Int × Nat)) (i : Nat) (hi : i ≤ segs.length) :
    (bytesToRunesAndOffsets segs).1 = runes segs ∧
    offsetAt (bytesToRunesAndOffsets segs).2 i = some (byteOffsetSpec segs i) := by
  refine ⟨rfl, ?_⟩
  unfold bytesToRunesAndOffsets byteOffsetSpec widths
  exact offsetAt_lazy (fun s : Int × Nat => s.2) (·.2) true segs (by intro s _ h; exact h) i hi

example : (List.range 9).map (offsetAt (bytesToRunesAndOffsets sample).2) = [0, 1, 3, 4, 7, 10, 14, 15, 16].map some := by decide +kernel

/-- **compat `readRunes` is exact**: the offsets of `FindReaderIndex`/`FindReaderSubmatchIndex`. -/
theorem readRunes_offsets_eq (segs : List (Int × Nat)) (i : Nat) (hi : i ≤ segs.length) :
    (readRunes segs).1 = runes segs ∧ (readRunes segs).2[i]? = some (byteOffsetSpec segs i) := by
  unfold readRunes
  rw [readRunesLoop_eq]
  refine ⟨by simp, ?_⟩
  have : [0] ++ (prefixSums (widths segs) 0).tail = prefixSums (widths segs) 0 := by
    conv => rhs; rw [prefixSums_eq_cons_tail]
    simp
  simp only [this]
  rw [prefixSums_get _ _ _ (by simpa [widths] using hi)]
  simp [byteOffsetSpec]

example : (readRunes sample).2 = [0, 1, 3, 4, 7, 10, 14, 15, 16] := by decide +kernel

/-- **`runeByteOffsets` is the prefix-sum table of the re-encoded text** — for every rune slice,
    including surrogates, negative values and values above U+10FFFF (each counted as the 3 bytes of
    U+FFFD, which is what `string(runes)` writes for them). -/
theorem runeByteOffsets_eq_encoded (rs : List Int) (i : Nat) (hi : i ≤ rs.length) :
    offsetAt (runeByteOffsets rs) i = some (((rs.map encLen).take i).sum) := by
  unfold runeByteOffsets
  exact offsetAt_lazy encLen encLen false rs (by intro s _ h; exact h) i hi

example : (List.range 6).map (offsetAt (runeByteOffsets [97, 0xD800, -5, 0x110000, 0x1F600])) =
    [0, 1, 4, 7, 10, 14].map some := by decide +kernel

/-- **`runeByteOffsets` agrees with the string tables on valid UTF-8**: if the string has no invalid
    byte (every U+FFFD segment is a literal one), the rune-input table for its runes gives the same
    byte offsets as the string. -/
theorem runeByteOffsets_eq (segs : List (Int × Nat)) (hwf : WF segs)
    (hvalid : ∀ s ∈ segs, s.1 = runeError → s.2 = 3) (i : Nat) (hi : i ≤ segs.length) :
    offsetAt (runeByteOffsets (runes segs)) i = some (byteOffsetSpec segs i) := by
  rw [runeByteOffsets_eq_encoded _ _ (by simpa [runes] using hi)]
  have : (runes segs).map encLen = widths segs := by
    unfold runes widths
    rw [List.map_map]
    apply List.map_congr_left
    intro s hs; exact encLen_eq_width s (hwf s hs) (hvalid s hs)
  rw [this]; rfl

example : (List.range 4).map (offsetAt (runeByteOffsets (runes [(0xFFFD, 3), (0x1F600, 4), (97, 1)]))) =
    (List.range 4).map (fun i => some (byteOffsetSpec [(0xFFFD, 3), (0x1F600, 4), (97, 1)] i)) := by decide +kernel

/-- **The string mappers agree.**  `stringByteOffsets` (Match.ByteRange), the delta table
    (`FindAllStringIndex`), compat's `bytesToRunesAndOffsets` (`FindAllIndex`) and `readRunes`
    (`FindReader*Index`) answer one and the same byte offset, so the byte span of a rune span is the same pair
    through each of them.  (`runeByteOffsets`, the table for rune input, agrees on valid UTF-8 only:
    `runeByteOffsets_eq`.) -/
theorem mappers_agree (segs : List (Int × Nat)) (hwf : WF segs) (i : Nat) (hi : i ≤ segs.length) :
    offsetAt (stringByteOffsets segs) i = some (mapIndex (newStringByteMapper segs) i) ∧
    offsetAt (bytesToRunesAndOffsets segs).2 i = some (mapIndex (newStringByteMapper segs) i) ∧
    (readRunes segs).2[i]? = some (mapIndex (newStringByteMapper segs) i) := by
  rw [stringByteMapper_eq segs hwf i hi]
  exact ⟨stringByteOffsets_eq_prefixSums segs hwf i hi, (bytesToRunes_offsets_eq segs i hi).2,
    (readRunes_offsets_eq segs i hi).2⟩

/-- **`ByteRange` is the byte span of exactly the addressed rune span**: index = bytes before rune
    `ri`, length = sum of the widths of segments `ri … ri+rl-1` (each invalid byte counting as one
    rune of one byte). -/
theorem byteRange_is_span (segs : List (Int × Nat)) (hwf : WF segs) (ri rl : Nat) (h : ri + rl ≤ segs.length) :
    byteRange (stringByteOffsets segs) ri rl =
      some (byteOffsetSpec segs ri, (((widths segs).drop ri).take rl).sum) := by
  refine byteRange_of_offsetAt _ _ _ _ _ (stringByteOffsets_eq_prefixSums segs hwf ri (by omega)) ?_
  rw [stringByteOffsets_eq_prefixSums segs hwf (ri + rl) h]
  exact congrArg some (sum_take_add _ _ _)

example : byteRange (stringByteOffsets sample) 2 4 = some (3, 11) := by decide +kernel

/-- the same for rune input: `ByteRange` is the span in the UTF-8 encoding of the rune slice. -/
theorem byteRange_runes_is_span (rs : List Int) (ri rl : Nat) (h : ri + rl ≤ rs.length) :
    byteRange (runeByteOffsets rs) ri rl =
      some (((rs.map encLen).take ri).sum, (((rs.map encLen).drop ri).take rl).sum) := by
  refine byteRange_of_offsetAt _ _ _ _ _ (runeByteOffsets_eq_encoded rs ri (by omega)) ?_
  rw [runeByteOffsets_eq_encoded rs (ri + rl) h, sum_take_add]

/-- byte offsets are strictly increasing in the rune index: distinct rune positions have distinct
    byte positions, so a byte span determines its rune span. -/
theorem byteOffsetSpec_strictMono (segs : List (Int × Nat)) (hwf : WF segs) (i j : Nat) (hij : i < j)
    (hj : j ≤ segs.length) : byteOffsetSpec segs i < byteOffsetSpec segs j := by
  unfold byteOffsetSpec
  apply sum_take_lt _ _ i j hij (by simpa [widths] using hj)
  intro w hw
  obtain ⟨s, hs, rfl⟩ := List.mem_map.mp hw
  exact (width_pos s (hwf s hs)).1

/-! ### byte index → rune index (start offsets of the string entry points) -/

/-- **`decodeStringWithStart`/`getRunesAndStart` invert the mapping**: the byte offset of rune `i`
    is reported as rune index `i`. -/
theorem runeStart_of_offset (segs : List (Int × Nat)) (hwf : WF segs) (i : Nat) (hi : i ≤ segs.length) :
    runeStart segs (byteOffsetSpec segs i : Nat) = (i : Int) := by
  have := runeStartLoop_at segs (fun s hs => (width_pos s (hwf s hs)).1) 0 0 i (-1) hi
  simpa [runeStart, byteOffsetSpec] using this

/-- … and conversely a reported rune index `k ≥ 0` means the byte index given was exactly the
    offset of rune `k` (a rune boundary); every other byte index yields −1. -/
theorem offset_of_runeStart (segs : List (Int × Nat)) (b : Int) :
    runeStart segs b = -1 ∨
    ∃ k, k ≤ segs.length ∧ runeStart segs b = (k : Int) ∧ b = (byteOffsetSpec segs k : Nat) := by
  rcases runeStartLoop_found b segs 0 0 (-1) with h | ⟨m, hm, h1, h2⟩
  · left; exact h
  · right; exact ⟨m, hm, by simpa [runeStart] using h1, by simpa [byteOffsetSpec] using h2⟩

example : (List.range 17).map (fun b => runeStart sample (b : Nat)) =
    [0, 1, -1, 2, 3, -1, -1, 4, -1, -1, 5, -1, -1, -1, 6, 7, 8] := by decide +kernel

/-! ### the capture arrays (match.go): `addMatch`, `balanceMatch`, `removeMatch`, `tidy`, `Groups()`

`Inv b` (Lemmas/MatchBuilder) is the representation invariant of the arrays: per slot the first
`2 * matchcount` entries were produced by pushes of well-formed intervals and by balancing entries
`(-3 - t, -4 - t)`, `t` the array position of the capture that is innermost after the cancellation (−2 if none);
the arrays are long enough; `balancing = false` implies that no entry is negative.  `absOf b c` is the abstract
view: the live captures of group `c`, oldest first. -/

open RegexVerif.MatchBuilder RegexVerif.Lemmas.MatchBuilder

/-- a fresh match satisfies the invariant and has no capture in any group -/
theorem newMatch_abs (k c : Nat) : Inv (newMatch k) ∧ absOf (newMatch k) c = [] :=
  ⟨newMatch_inv k, by rw [absOf_eq, live_newMatch]; rfl⟩

/-- **`addMatch` pushes.**  Adding a well-formed interval to group `c` appends it to the live
    captures of `c`, leaves every other group alone and keeps the invariant. -/
theorem addMatch_abs (b : Builder) (hb : Inv b) (c : Nat) (hc : c < b.matchcount.length) (s l : Int)
    (hs : 0 ≤ s) (hl : 0 ≤ l) :
    Inv (addMatch b c s l) ∧
    ∀ c', absOf (addMatch b c s l) c' = if c' = c then absOf b c ++ [(s, l)] else absOf b c' := by
  have h := addMatch_appends b hb c hc s l hs hl
  exact ⟨h.inv, fun c' => by rw [appends_abs h hb hc, if_neg (Int.not_lt.mpr hs)]⟩

/-- **`balanceMatch` cancels the innermost live capture.**  When group `c` is matched, the entry
    written by `balanceMatch` (back-pointer encoding included) removes exactly the last live capture
    of `c`, leaves every other group alone and keeps the invariant. -/
theorem balanceMatch_abs (b : Builder) (hb : Inv b) (c : Nat) (hc : c < b.matchcount.length)
    (hm : isMatched b c = true) :
    Inv (balanceMatch b c) ∧
    ∀ c', absOf (balanceMatch b c) c' = if c' = c then (absOf b c).dropLast else absOf b c' := by
  obtain ⟨x, y, hx, h⟩ := balanceMatch_appends b hb c hc hm
  exact ⟨h.inv, fun c' => by rw [appends_abs h hb hc, if_pos hx]⟩

/-- **`removeMatch` undoes the last `addMatch`** (what `uncapture` relies on when backtracking):
    counts and live captures of every group are as before, and the invariant holds again. -/
theorem removeMatch_undoes_addMatch (b : Builder) (hb : Inv b) (c : Nat) (hc : c < b.matchcount.length) (s l : Int)
    (hs : 0 ≤ s) (hl : 0 ≤ l) :
    Inv (removeMatch (addMatch b c s l) c) ∧
    ∀ c', absOf (removeMatch (addMatch b c s l) c) c' = absOf b c' ∧ cnt (removeMatch (addMatch b c s l) c) c' = cnt b c' :=
  appends_remove (addMatch_appends b hb c hc s l hs hl) hb hc

/-- **`removeMatch` undoes the last `balanceMatch`**: the cancelled capture is live again. -/
theorem removeMatch_undoes_balanceMatch (b : Builder) (hb : Inv b) (c : Nat) (hc : c < b.matchcount.length)
    (hm : isMatched b c = true) :
    Inv (removeMatch (balanceMatch b c) c) ∧
    ∀ c', absOf (removeMatch (balanceMatch b c) c) c' = absOf b c' ∧ cnt (removeMatch (balanceMatch b c) c) c' = cnt b c' := by
  obtain ⟨x, y, _, h⟩ := balanceMatch_appends b hb c hc hm
  exact appends_remove h hb hc

/-- `removeMatch` of any group with a positive count keeps the invariant (it exposes an earlier
    state of the slot). -/
theorem removeMatch_keeps_inv (b : Builder) (hb : Inv b) (c : Nat) (hc : c < b.matchcount.length)
    (hpos : 0 < cnt b c) : Inv (removeMatch b c) := removeMatch_inv b hb c hc hpos

/-- **`isMatched` is "has a live capture"**: the `(-1, -2)` test on the last entry is exact. -/
theorem isMatched_iff_live (b : Builder) (hb : Inv b) (c : Nat) (hc : c < b.matchcount.length) :
    isMatched b c = true ↔ absOf b c ≠ [] := by
  obtain ⟨st, hst⟩ := (hb.slot c hc).2
  rw [isMatched_iff b hb c hc st hst, absOf_eq, rep_live hst]
  cases st <;> simp [vals]

/-- **`matchIndex`/`matchLength` read the innermost live capture** (through the back-pointer when the
    last entry is a balancing entry) — the interval `transferCapture` and back-references use. -/
theorem matchIndex_matchLength_top (b : Builder) (hb : Inv b) (c : Nat) (hc : c < b.matchcount.length)
    (xs : List (Int × Int)) (s l : Int) (h : absOf b c = xs ++ [(s, l)]) :
    matchIndex b c = s ∧ matchLength b c = l := by
  obtain ⟨st, hst⟩ := (hb.slot c hc).2
  rw [absOf_eq, rep_live hst] at h
  have h' : vals st = (s, l) :: xs.reverse := by
    have := congrArg List.reverse h; simpa using this
  match st, hst, h' with
  | (q, s', l') :: st', hst, h' =>
    simp only [vals, List.map_cons, List.cons.injEq, Prod.mk.injEq] at h'
    obtain ⟨⟨rfl, rfl⟩, _⟩ := h'
    exact matchIndex_matchLength b hb c hc q _ _ st' hst

/-- **`tidy` leaves exactly the live captures** (also `compactBalancedMatches` of replace.go, the same
    loops): afterwards the first `2 * matchcount[c]` entries of `matches[c]` are the live captures of
    group `c`, flattened, oldest first; no entry is negative; `balancing` is false; the abstract view
    is unchanged.  (That the invariant holds again is `tidy_keeps_inv`.) -/
theorem tidy_abs (b : Builder) (hb : Inv b) (c : Nat) (hc : c < b.matchcount.length) :
    (arr (tidy b) c).take (2 * cnt (tidy b) c) = (absOf b c).flatMap (fun p => [p.1, p.2]) ∧
    cnt (tidy b) c = (absOf b c).length ∧
    (∀ x ∈ (arr (tidy b) c).take (2 * cnt (tidy b) c), 0 ≤ x) ∧
    (tidy b).balancing = false ∧
    absOf (tidy b) c = absOf b c := by
  obtain ⟨st, hst⟩ := (hb.slot c hc).2
  obtain ⟨t1, t2, _, ⟨st2, h1, h2⟩, t5⟩ := tidy_slot b hb c hc st hst
  have habs : absOf b c = (vals st).reverse := by rw [absOf_eq, rep_live hst]
  refine ⟨habs ▸ t1, by rw [t2, habs]; simp [vals], t5, ?_, by rw [absOf_eq, rep_live h1, h2, habs]⟩
  unfold tidy
  split
  · rfl
  · next h => simpa using h

/-- the invariant survives `tidy` (a tidied match can be handed to `FindNextMatch`'s machinery or
    inspected again) -/
theorem tidy_keeps_inv (b : Builder) (hb : Inv b) : Inv (tidy b) := by
  obtain ⟨hmc, har⟩ := tidy_length b hb
  refine ⟨har.trans hmc.symm, fun c hc => ?_, fun _ c hc => ?_⟩
  · rw [hmc] at hc
    obtain ⟨st, hst⟩ := (hb.slot c hc).2
    obtain ⟨t1, t2, t3, ⟨st2, h1, _⟩, _⟩ := tidy_slot b hb c hc st hst
    refine ⟨⟨?_, ?_⟩, st2, h1⟩
    · have := congrArg List.length t1
      rw [flat_length, live, List.length_take, t2] at this
      simp only [vals, List.length_reverse, List.length_map] at this
      omega
    · rcases (hb.slot c hc).1.2 with h0 | h2
      · exact .inl (List.eq_nil_of_length_eq_zero (by rw [t3, h0]; rfl))
      · exact .inr (t3 ▸ h2)
  · rw [hmc] at hc
    obtain ⟨st, hst⟩ := (hb.slot c hc).2
    exact (tidy_slot b hb c hc st hst).2.2.2.2

/-- **`Groups()` after `tidy`**: the `Captures` of group `c` are its live captures in order, and the
    embedded `Capture` of the group is the last of them (`(0, 0)` when there is none). -/
theorem groups_after_tidy (b : Builder) (hb : Inv b) (c : Nat) (hc : c < b.matchcount.length) :
    newGroup (arr (tidy b) c) (cnt (tidy b) c) = ((absOf b c).getLast?.getD (0, 0), absOf b c) := by
  obtain ⟨t1, t2, _⟩ := tidy_abs b hb c hc
  rw [t2]
  apply newGroup_of_flat
  rw [← t2]; exact t1

/-- builders the interpreter can reach when every interval it adds lies inside `[0, N]`, balancing
    only matched groups and removing only what it added -/
inductive Reach (N : Int) (k : Nat) : Builder → Prop
  | init : Reach N k (newMatch k)
  | add (b : Builder) (c : Nat) (s l : Int) : Reach N k b → c < k → 0 ≤ s → 0 ≤ l → s + l ≤ N → Reach N k (addMatch b c s l)
  | bal (b : Builder) (c : Nat) : Reach N k b → c < k → isMatched b c = true → Reach N k (balanceMatch b c)
  | rem (b : Builder) (c : Nat) : Reach N k b → c < k → 0 < cnt b c → Reach N k (removeMatch b c)

/-- every reachable builder satisfies the representation invariant, keeps its number of slots, and
    all real (non-negative) entries of its arrays — live or cancelled, so that an `uncapture` that
    revives a cancelled capture is covered — are intervals inside `[0, N]` -/
theorem reach_inv (N : Int) (k : Nat) (b : Builder) (h : Reach N k b) :
    Inv b ∧ b.matchcount.length = k ∧ ∀ c, c < k → Bounded N ((arr b c).take (2 * cnt b c)) := by
  induction h with
  | init => exact ⟨newMatch_inv k, by simp [newMatch], fun c _ => by rw [cnt_newMatch]; nofun⟩
  | add b c s l _ hc hs hl hN ih =>
    obtain ⟨hb, hk, hB⟩ := ih
    have h := addMatch_appends b hb c (hk ▸ hc) s l hs hl
    exact ⟨h.inv, h.len.trans hk, appends_bounded h hb (hk ▸ hc) (fun _ => ⟨hl, hN⟩) hc hB⟩
  | bal b c _ hc hm ih =>
    obtain ⟨hb, hk, hB⟩ := ih
    obtain ⟨x, y, hx, h⟩ := balanceMatch_appends b hb c (hk ▸ hc) hm
    exact ⟨h.inv, h.len.trans hk, appends_bounded h hb (hk ▸ hc) (fun h0 => absurd hx (Int.not_lt.mpr h0)) hc hB⟩
  | rem b c _ hc hpos ih =>
    obtain ⟨hb, hk, hB⟩ := ih
    have hc' : c < b.matchcount.length := hk ▸ hc
    refine ⟨removeMatch_inv b hb c hc' hpos, (length_removeMatch b c).trans hk, fun c' hck => ?_⟩
    show Bounded N (live _ c')
    rw [(live_removeMatch b c hc' c').1]
    split
    · obtain ⟨st, hst⟩ := (hb.slot c hc').2
      obtain ⟨P', x, y, heq, h1, h2, _⟩ := live_last b hb c hc' hpos hst
      have hB' : Bounded N (live b c) := hB c hc
      rw [h1]
      rw [heq] at hB'
      exact hB'.of_append (by omega)
    · exact hB c' hck

/-- **Captures stay inside the input.**  If every interval the interpreter adds lies inside `[0, N]`
    (N = number of runes), then whatever it adds, balances and removes, every live capture of every group lies
    inside `[0, N]`, and after `tidy` these are exactly the captures in the arrays that `Groups()` reads. -/
theorem captures_in_bounds (N : Int) (k : Nat) (b : Builder) (h : Reach N k b) (c : Nat) (hc : c < k) :
    (∀ p ∈ absOf b c, 0 ≤ p.1 ∧ 0 ≤ p.2 ∧ p.1 + p.2 ≤ N) ∧
    (newGroup (arr (tidy b) c) (cnt (tidy b) c)).2 = absOf b c := by
  obtain ⟨hb, hk, hB⟩ := reach_inv N k b h
  have hc' : c < b.matchcount.length := by omega
  refine ⟨?_, by rw [groups_after_tidy b hb c hc']⟩
  obtain ⟨st, hst⟩ := (hb.slot c hc').2
  intro p hp
  rw [absOf_eq, rep_live hst, List.mem_reverse] at hp
  have hmem := rep_mem_pairs hst p hp
  have hnn := vals_nonneg hst p (by simpa using hp)
  have := hB c hc p hmem hnn.1
  exact ⟨hnn.1, hnn.2, this.2⟩

/-- **The interval of `(?<b-a>…)` is always well-formed.**  `transferCapture` computes the new
    capture from the interval just matched `[s, e]` and the cancelled capture `[s2, e2]`; when both
    lie in `[0, N]` the result is an interval inside `[0, N]` — including the case where the content
    ends before the cancelled capture starts (the interval between the two; before /repo commit
    9024ff6 that case produced a negative length, which the arrays read as a back-pointer). -/
theorem transferInterval_in_bounds (N s e s2 e2 : Int) (h1 : 0 ≤ s) (h2 : s ≤ e) (h3 : e ≤ N)
    (h4 : 0 ≤ s2) (h5 : s2 ≤ e2) (h6 : e2 ≤ N) :
    0 ≤ (transferInterval s e s2 e2).1 ∧ (transferInterval s e s2 e2).1 ≤ (transferInterval s e s2 e2).2 ∧
    (transferInterval s e s2 e2).2 ≤ N := by
  unfold transferInterval
  split
  · next h => exact ⟨Int.le_trans h4 h5, h, Int.le_trans h2 h3⟩
  · split
    · next h => exact ⟨Int.le_trans h1 h2, h, Int.le_trans h5 h6⟩
    · simp only; omega

/-- content `[0,1]` strictly before the cancelled capture `[2,3]` gives the interval between them -/
example : transferInterval 0 1 2 3 = (1, 2) := by decide +kernel

/-! ### the interpreter primitives stay inside `Reach` -/

/-- **`Runner.Capture` keeps the arrays reachable**: both orders of `start`/`end` (left-to-right and
    right-to-left matching) add a well-formed interval when both ends lie in `[0, N]`. -/
theorem capture_reach (N : Int) (k : Nat) (r : Runner) (h : Reach N k r.m) (c : Nat) (hc : c < k) (s e : Int)
    (hs : 0 ≤ s) (hsN : s ≤ N) (he : 0 ≤ e) (heN : e ≤ N) : Reach N k (capture r c s e).m := by
  unfold capture
  by_cases hlt : e < s
  · simp only [hlt, ite_true]
    exact Reach.add _ c e (s - e) h hc he (by omega) (by omega)
  · simp only [hlt, ite_false]
    exact Reach.add _ c s (e - s) h hc hs (by omega) (by omega)

/-- **`Runner.transferCapture` keeps the arrays reachable.**  For `(?<cap-uncap>…)` with `uncap`
    matched and content `[s, e]` inside `[0, N]`, the balance step and the added interval are within
    the hypotheses of `captures_in_bounds`. -/
theorem transferCapture_reach (N : Int) (k : Nat) (r : Runner) (h : Reach N k r.m) (capnum uncapnum : Nat)
    (hc : capnum < k) (hu : uncapnum < k) (hm : isMatched r.m uncapnum = true) (s e : Int)
    (hs : 0 ≤ s) (hse : s ≤ e) (he : e ≤ N) :
    Reach N k (transferCapture r (capnum : Int) uncapnum s e).m := by
  obtain ⟨hb, hk, _⟩ := reach_inv N k r.m h
  have hu' : uncapnum < r.m.matchcount.length := by omega
  -- the innermost live capture of `uncapnum` and its bounds
  have hne := (isMatched_iff_live r.m hb uncapnum hu').mp hm
  obtain ⟨xs, p, hxs⟩ : ∃ xs p, absOf r.m uncapnum = xs ++ [p] := by
    cases hrev : (absOf r.m uncapnum).reverse with
    | nil => simp at hrev; exact absurd hrev hne
    | cons p t => exact ⟨t.reverse, p, by have := congrArg List.reverse hrev; simpa using this⟩
  obtain ⟨s2, l2⟩ := p
  obtain ⟨hmi, hml⟩ := matchIndex_matchLength_top r.m hb uncapnum hu' xs s2 l2 hxs
  have hbd := (captures_in_bounds N k r.m h uncapnum hu).1 (s2, l2) (by rw [hxs]; simp)
  simp only at hbd
  have hiv := transferInterval_in_bounds N s e s2 (s2 + l2) hs hse he hbd.1 (by omega) hbd.2.2
  have hnlt : ¬ e < s := by omega
  have hcap : ((capnum : Int) ≠ -1) := by omega
  unfold transferCapture
  simp only [hnlt, ite_false, hmi, hml, hcap, ne_eq, not_false_eq_true, ite_true, Int.toNat_natCast]
  exact Reach.add _ capnum _ _ (Reach.bal _ uncapnum h hu hm) hc hiv.1 (by omega) (by omega)

/-- `(?<-uncap>…)`: only the balance step. -/
theorem transferCapture_pop_reach (N : Int) (k : Nat) (r : Runner) (h : Reach N k r.m) (uncapnum : Nat)
    (hu : uncapnum < k) (hm : isMatched r.m uncapnum = true) (s e : Int) :
    Reach N k (transferCapture r (-1) uncapnum s e).m := by
  unfold transferCapture
  simp only [ne_eq, not_true_eq_false, ite_false]
  exact Reach.bal _ uncapnum h hu hm

example : (transferCapture ⟨addMatch (newMatch 3) 1 0 1, [1]⟩ 2 1 1 2).m.arrays = [[0, 0], [0, 1, -1, -2, 0, 0, 0, 0], [1, 0]] := by decide +kernel

/-! non-vacuity: a concrete run with nested captures, a balancing group and an undone balance -/

/-- `(?<a>x)(?<a>x)(?<b-a>x)` then a failed `(?<-a>x)` attempt (balance, then backtracked), then group 0 -/
def demoOps : List Op :=
  [.cap 1 0 1, .cap 1 1 2, .transfer 2 1 2 3, .transfer (-1) 1 3 4, .uncap, .cap 0 0 3]

example : (run 3 demoOps).m.arrays = [[0, 3], [0, 1, 1, 1, -3, -4, -1, -2], [2, 0]] := by decide +kernel
example : (run 3 demoOps).m.matchcount = [1, 3, 1] := by decide +kernel
example : abs (run 3 demoOps).m = [[(0, 3)], [(0, 1)], [(2, 0)]] := by decide +kernel
example : (tidy (run 3 demoOps).m).arrays = [[0, 3], [0, 1, 1, 1, -3, -4, -1, -2], [2, 0]] ∧
    (tidy (run 3 demoOps).m).matchcount = [1, 1, 1] := by decide +kernel
example : groups (tidy (run 3 demoOps).m) = [((0, 3), [(0, 3)]), ((0, 1), [(0, 1)]), ((2, 0), [(2, 0)])] := by decide +kernel

/-- the hypotheses of the theorems above are met along that run (so they are not vacuous): the
    state before the balancing group is reachable, group 1 is matched there, and the balance step
    drops its innermost capture -/
example : Reach 4 3 (addMatch (addMatch (newMatch 3) 1 0 1) 1 1 1) :=
  Reach.add _ 1 1 1 (Reach.add _ 1 0 1 Reach.init (by decide) (by decide) (by decide) (by decide))
    (by decide) (by decide) (by decide) (by decide)
example : isMatched (addMatch (addMatch (newMatch 3) 1 0 1) 1 1 1) 1 = true := by decide +kernel
example : absOf (balanceMatch (addMatch (addMatch (newMatch 3) 1 0 1) 1 1 1) 1) 1 = [(0, 1)] := by decide +kernel

end RegexVerif.Props.C08
