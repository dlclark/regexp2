/-
C04 — compile-time facts published for a pattern hold at every real match.

`syntax.FindOptimizations` publishes, for a compiled pattern, a minimum and (sometimes) a maximum
match length, a leading and a trailing anchor and a leading literal prefix; the scan loop uses them to
skip positions and to give up early.  `Model/Facts.lean` mirrors the Go analyses
(`ComputeMinLength`, `computeMaxLength`, `findLeadingOrTrailingAnchor`, `tryFindPrefix`) on the
specification's pattern AST, i.e. on the image of the engine's own reduced tree (the harness converts
it, leg F compares the model's answers with what the engine publishes).  The theorems here say that
what the analyses compute is true of EVERY success of the pattern under the specification semantics
`Spec.m` — for every input, direction, start state, and not only of the highest-priority success —
and hence of every result of `Spec.find`.

The SET-VALUED facts (first-character class, fixed-distance sets/characters/strings, the multi-prefix
and case-insensitive prefix lists, and the substitution of a leading positive lookahead's facts) are
not mirrored but VALIDATED: `Model/SetFacts.lean` computes, on the same tree, over-approximations of the
characters at and after a match start (`firstSet`, `setAt`, `prefixes`, `leadLook`), the theorems of
the second half of this file prove them sound against `Spec.m`, and the closing theorems
(`published_first_sound`, `published_set_sound`, `published_prefixes_sound`) say that a published set or
string list is sound as soon as it INCLUDES (covers) one of the over-approximations.  That inclusion is
what leg V of the harness checks, rune-exactly, with Go's `unicode` tables.

The facts about a pattern that starts with an unbounded set loop (literal after the loop, required-landmark
chain) are validated in the same way (`Model/LoopFacts.lean`, the last section of this file).

Not here: the Boyer-Moore tables (C03); the right-to-left prefix is not modelled (the engine does not use it).
-/
import RegexVerif.Lemmas.Facts
import RegexVerif.Lemmas.SetFacts
import RegexVerif.Lemmas.LoopFacts
import RegexVerif.Model.Scan

namespace RegexVerif.Props.C04
open RegexVerif.Spec RegexVerif.Facts RegexVerif.SetFacts

/-- **Positions only move in the direction of the match**: every success of every pattern ends at or
    after its start when matching left-to-right, at or before it when matching right-to-left
    (lookarounds and conditions restore the position). -/
theorem m_monotone (e : Env) (p : Pat) (rtl : Bool) (st st' : St) (h : st' ∈ m e p rtl st) :
    if rtl then st'.pos ≤ st.pos else st.pos ≤ st'.pos :=
  m_fwd e p rtl st st' h

/-- **`ComputeMinLength` is a lower bound**: every success consumes at least `minLen p` characters.
    (`FindOptimizations.MinRequiredLength`; the scan loop does not attempt where fewer characters
    remain.) -/
theorem minLen_sound (e : Env) (p : Pat) (rtl : Bool) (st st' : St) (h : st' ∈ m e p rtl st) :
    minLen p ≤ (if rtl then st.pos - st'.pos else st'.pos - st.pos) :=
  minLen_span e p rtl st st' h

/-- **`computeMaxLength` is an upper bound**: when it yields a length (`≠ -1`), no success consumes
    more.  (`FindOptimizations.MaxPossibleLength`, used with a trailing `\z`/`\Z` to jump to the only
    possible start.) -/
theorem maxLen_sound (e : Env) (p : Pat) (rtl : Bool) (st st' : St) (h : st' ∈ m e p rtl st)
    (k : Nat) (hk : maxLen p = some k) :
    (if rtl then st.pos - st'.pos else st'.pos - st.pos) ≤ k :=
  maxLen_span e p rtl st st' h k hk

/-- the two bounds together: a pattern whose minimum and maximum coincide matches exactly that many
    characters (the `TrailingAnchor_FixedLength` find modes) -/
theorem fixedLength_sound (e : Env) (p : Pat) (rtl : Bool) (st st' : St) (h : st' ∈ m e p rtl st)
    (hk : maxLen p = some (minLen p)) :
    (if rtl then st.pos - st'.pos else st'.pos - st.pos) = minLen p :=
  Nat.le_antisymm (maxLen_sound e p rtl st st' h _ hk) (minLen_sound e p rtl st st' h)

/-- **The leading anchor holds where the attempt starts**: if `findLeadingOrTrailingAnchor(root, true)`
    finds an anchor (`Bol, Eol, Beginning, Start, EndZ, End, Boundary`), that anchor is true at the
    start position of every success — so the scan loop may skip every start position where it is
    false. -/
theorem leadingAnchor_sound (e : Env) (p : Pat) (rtl : Bool) (a : Anchor) (ha : leadingAnchor rtl p = some a)
    (st st' : St) (h : st' ∈ m e p rtl st) : anchorHolds e a st.pos = true := by
  have := edgeAnchor_holds e p rtl rtl a st ha st' h
  simpa [edgePos] using this

/-- the published `LeadingAnchor` (right-to-left `Bol` filtered out) is a leading anchor -/
theorem publishedLeadingAnchor_sound (e : Env) (p : Pat) (rtl : Bool) (a : Anchor)
    (ha : publishedLeadingAnchor rtl p = some a)
    (st st' : St) (h : st' ∈ m e p rtl st) : anchorHolds e a st.pos = true := by
  apply leadingAnchor_sound e p rtl a _ st st' h
  unfold publishedLeadingAnchor at ha
  split at ha
  · split at ha
    · simp at ha
    · rename_i hl _; simp at ha; subst ha; exact hl
  · exact ha

/-- **The trailing anchor holds where the match ends**: if `findLeadingOrTrailingAnchor(root, false)`
    finds an anchor, it is true at the end position of every success. -/
theorem trailingAnchor_sound (e : Env) (p : Pat) (rtl : Bool) (a : Anchor) (ha : trailingAnchor rtl p = some a)
    (st st' : St) (h : st' ∈ m e p rtl st) : anchorHolds e a st'.pos = true := by
  have := edgeAnchor_holds e p (!rtl) rtl a st ha st' h
  cases rtl <;> simpa [edgePos] using this

/-- **The leading prefix is a prefix of every match** (left-to-right).  `findPrefix` builds a BYTE
    string (`bytes.Buffer`; an alternation's branches are intersected byte-wise, which can cut a
    multi-byte character: `aéx|aèy` publishes `"a\xc3"`), so the statement is about the encoded text:
    for any encoder `utf8`, the encoding of the text from the start position of a success begins with
    the prefix.  With Go's encoder this is what the byte-wise string prefix filter relies on. -/
theorem leadingPrefix_sound (e : Env) (utf8 : Nat → List Nat) (p : Pat) (st st' : St) (h : st' ∈ m e p false st) :
    ((e.text.drop st.pos).flatMap utf8).take (leadingPrefix utf8 p).1.length = (leadingPrefix utf8 p).1 := by
  obtain ⟨t, ht, _⟩ := leadingPrefix_ok e utf8 p st st' h
  unfold bytesFrom at ht
  rw [ht]; simp

/-- when `tryFindPrefix` returns "continue" the prefix is the whole match: the text consumed by any
    success encodes to exactly the prefix (this is what lets a concatenation go on appending) -/
theorem leadingPrefix_exact (e : Env) (utf8 : Nat → List Nat) (p : Pat) (st st' : St) (h : st' ∈ m e p false st)
    (hc : (leadingPrefix utf8 p).2 = true) :
    ((e.text.drop st.pos).take (st'.pos - st.pos)).flatMap utf8 = (leadingPrefix utf8 p).1 := by
  obtain ⟨t, ht, hcont⟩ := leadingPrefix_ok e utf8 p st st' h
  have hle : st.pos ≤ st'.pos := by simpa [Fwd] using m_fwd e p false st st' h
  rw [hcont hc, bytesFrom_split e utf8 st.pos st'.pos hle] at ht
  exact List.append_cancel_right ht

/-- the rune view: with the identity encoding the analysis yields a list of runes, and the text at the
    start of every success begins with those runes -/
theorem leadingPrefix_sound_runes (e : Env) (p : Pat) (st st' : St) (h : st' ∈ m e p false st) :
    (e.text.drop st.pos).take (leadingPrefix (fun r => [r]) p).1.length = (leadingPrefix (fun r => [r]) p).1 := by
  have := leadingPrefix_sound e (fun r => [r]) p st st' h
  simpa using this

/-- … and for a pattern whose literals are ASCII the byte prefix Go computes IS that rune prefix -/
theorem leadingPrefix_sound_ascii (e : Env) (p : Pat) (hp : asciiOnly p = true) (st st' : St)
    (h : st' ∈ m e p false st) :
    (e.text.drop st.pos).take (leadingPrefix utf8enc p).1.length = (leadingPrefix utf8enc p).1 := by
  rw [leadingPrefix_ascii p hp]; exact leadingPrefix_sound_runes e p st st' h

/-! ### at the level of a find call -/

/-- **Every find result respects the published lengths**: group 0 of a result (index, length) has
    `minLen p ≤ length`, and `length ≤ k` when `maxLen p = some k`. -/
theorem find_length_bounds (e : Env) (p : Pat) (rtl : Bool) (start : Nat) (st : St)
    (h : find e p rtl start = some st) :
    ∃ idx len, lastCap st.caps 0 = some (idx, len) ∧ minLen p ≤ len ∧ ∀ k, maxLen p = some k → len ≤ k := by
  obtain ⟨i, y, idx, len, hy, hcap, hlen, _⟩ := find_success e p rtl start st h
  have hw := m_within e p rtl _ y hy
  exact ⟨idx, len, hcap, hlen ▸ hw.2.1, hlen ▸ hw.2.2⟩

/-- **Every find result respects the published anchors**: the leading anchor holds at the side of the
    match where the attempt started (its index left-to-right, its end right-to-left), the trailing
    anchor at the other side. -/
theorem find_anchors (e : Env) (p : Pat) (rtl : Bool) (start : Nat) (st : St)
    (h : find e p rtl start = some st) :
    ∃ idx len, lastCap st.caps 0 = some (idx, len) ∧
      (∀ a, leadingAnchor rtl p = some a → anchorHolds e a (if rtl then idx + len else idx) = true) ∧
      (∀ a, trailingAnchor rtl p = some a → anchorHolds e a (if rtl then idx else idx + len) = true) := by
  obtain ⟨i, y, idx, len, hy, hcap, _, hi, hend⟩ := find_success e p rtl start st h
  exact ⟨idx, len, hcap, fun a ha => hi ▸ leadingAnchor_sound e p rtl a ha _ y hy,
    fun a ha => hend ▸ trailingAnchor_sound e p rtl a ha _ y hy⟩

/-- **Every left-to-right find result starts with the published prefix** (as bytes of the encoded
    text from the match index on). -/
theorem find_prefix (e : Env) (utf8 : Nat → List Nat) (p : Pat) (start : Nat) (st : St)
    (h : find e p false start = some st) :
    ∃ idx len, lastCap st.caps 0 = some (idx, len) ∧
      ((e.text.drop idx).flatMap utf8).take (leadingPrefix utf8 p).1.length = (leadingPrefix utf8 p).1 := by
  obtain ⟨i, y, len, hy, hcap⟩ := find_success_ltr e p start st h
  exact ⟨i, len, hcap, leadingPrefix_sound e utf8 p _ y hy⟩

/-- **`MinRequiredLength` as the scan loop consumes it**: an attempt can only succeed where at least
    `minLen p` characters remain in the direction of the scan — to the right of the attempt position
    left-to-right, to its left right-to-left. -/
theorem minLen_remaining (e : Env) (p : Pat) (rtl : Bool) (i : Nat) (hi : i ≤ e.n) (st : St)
    (h : attempt e p rtl i = some st) : if rtl then minLen p ≤ i else minLen p ≤ e.n - i := by
  obtain ⟨y, hy, _, _⟩ := attempt_success e p rtl i st h
  have h1 := minLen_span e p rtl _ y hy
  have h3 : y.pos ≤ e.n := (m_wf e p rtl { pos := i, caps := [] } (St.wf_start hi) y hy).1
  cases rtl
  · exact Nat.le_trans h1 (Nat.sub_le_sub_right h3 i)
  · exact Nat.le_trans h1 (Nat.sub_le i y.pos)

/-- … which is the hypothesis `MinLenSound` under which the scan-loop theorems of C03 are proved, here
    discharged for the specification's attempt (reported as group 0's index and length) -/
theorem minLenSound_spec (e : Env) (p : Pat) (rtl : Bool) :
    Scan.MinLenSound rtl e.n (minLen p) (fun i => (attempt e p rtl i).bind (fun st => lastCap st.caps 0)) := by
  intro pos i l hpos hat
  cases hst : attempt e p rtl pos with
  | none => simp [hst] at hat
  | some st => exact minLen_remaining e p rtl pos hpos st hst

/-! ## set-valued facts: proved over-approximations and the validator statements

`findFirstCharClass`, `findFixedDistanceSets` and `findPrefixes` are not mirrored.  `Model/SetFacts.lean`
computes over-approximations structurally; a published set `E` (a predicate on runes: "the engine's
`CharSet`/`Chars`/`Range` test accepts `r`") is sound if it includes one of them. -/

/-- **The first-character set is sound** (both directions): every success of `p` is non-empty and the first
    character it consumes — `text[st.pos]` left-to-right, `text[st.pos-1]` right-to-left — satisfies one of the
    leaf tests of `firstSet p rtl`.  This is the fact `findFirstCharClass` computes (`LeadingSet_LeftToRight` at
    distance 0, `LeadingSet_RightToLeft`, `LeadingChar_RightToLeft`, the legacy `FcPrefix`): the scan loop skips
    every position whose next character is outside the set. -/
theorem firstSet_sound (e : Env) (p : Pat) (rtl : Bool) (S : List Pred) (h : firstSet p rtl = some S)
    (st st' : St) (hm : st' ∈ m e p rtl st) :
    st'.pos ≠ st.pos ∧ ∃ r, charAt e rtl st.pos = some r ∧ memPreds e S r = true := by
  unfold firstSet at h
  split at h
  · rename_i s hf
    simp at h; subst h
    rcases first_ok e p rtl s false hf st st' hm with ⟨hn, _⟩ | hr
    · simp at hn
    · exact hr
  · simp at h

/-- **What the inclusion check of leg V gives** (first character): a published set `E` that includes
    `firstSet p rtl` holds at every success (Lean proves `S` sound, the harness checks `S ⊆ E` rune-exactly). -/
theorem firstSet_superset_sound (e : Env) (p : Pat) (rtl : Bool) (S : List Pred) (h : firstSet p rtl = some S)
    (E : Nat → Bool) (hsub : ∀ r, memPreds e S r = true → E r = true)
    (st st' : St) (hm : st' ∈ m e p rtl st) : ∃ r, charAt e rtl st.pos = some r ∧ E r = true := by
  obtain ⟨_, r, hr, hS⟩ := firstSet_sound e p rtl S h st st' hm
  exact ⟨r, hr, hsub r hS⟩

/-- **The fixed-offset set is sound** (left-to-right): the text has a character `k` positions after the start of
    every success and it satisfies `setAt p k`.  This is the fact `tryFindRawFixedSets` computes for each
    `FixedDistanceSet{Set, Distance}` (and for `FixedDistanceChar`/`FixedDistanceString`, whose sets are singletons). -/
theorem setAt_sound (e : Env) (p : Pat) (k : Nat) (S : List Pred) (h : setAt p k = some S)
    (st st' : St) (hm : st' ∈ m e p false st) :
    ∃ r, e.text[st.pos + k]? = some r ∧ memPreds e S r = true :=
  setAt_ok e p k S h st st' hm

/-- **Facts of a leading positive lookahead are facts of the pattern**: if `leadLook p` finds the
    lookahead `(?=b)`, any statement `F` about a text position that holds wherever `b` matches holds at
    the start of every success of `p`.  This is why `newFindOptimizations` may publish the
    `FindOptimizations` of the lookahead's body for the whole pattern. -/
theorem leadLook_transfer (e : Env) (p b : Pat) (k : Bool) (h : leadLook p = (some b, k)) (F : Nat → Prop)
    (hb : ∀ st0 st1 : St, st1 ∈ m e b false st0 → F st0.pos)
    (st st' : St) (hm : st' ∈ m e p false st) : F st.pos := by
  obtain ⟨st0, h0, hne⟩ := (leadLook_ok e p st st' hm).1 b k h
  cases hb0 : m e b false st0 with
  | nil => exact absurd hb0 hne
  | cons y ys => rw [← h0]; exact hb st0 y (by rw [hb0]; simp)

/-- **Every candidate set is sound**: each member of `setCandidates p k` — the fixed-offset set of `p`,
    at offset 0 its first-character set, and the same two for the body of a leading positive
    lookahead — contains the character `k` positions after the start of every left-to-right success.
    (With a lookahead candidate the success itself may be empty; the character exists all the same.) -/
theorem setCandidates_sound (e : Env) (p : Pat) (k : Nat) (S : List Pred) (hS : S ∈ setCandidates p k)
    (st st' : St) (hm : st' ∈ m e p false st) :
    ∃ r, e.text[st.pos + k]? = some r ∧ memPreds e S r = true := by
  have own : ∀ (q : Pat), S ∈ ownCandidates q k →
      ∀ (s s' : St), s' ∈ m e q false s → ∃ r, e.text[s.pos + k]? = some r ∧ memPreds e S r = true := by
    intro q hq s s' hs
    unfold ownCandidates at hq
    rw [List.mem_append] at hq
    rcases hq with hq | hq
    · exact setAt_sound e q k S (by simpa [Option.mem_toList] using hq) s s' hs
    · split at hq
      · rename_i hk
        subst hk
        obtain ⟨_, r, hr, hmem⟩ := firstSet_sound e q false S (by simpa [Option.mem_toList] using hq) s s' hs
        exact ⟨r, by simpa [charAt] using hr, hmem⟩
      · simp at hq
  unfold setCandidates at hS
  split at hS
  · rename_i b hb
    rw [List.mem_append] at hS
    rcases hS with hS | hS
    · exact own p hS st st' hm
    · exact leadLook_transfer e p b (leadLook p).2 (by rw [← hb]) (fun i => ∃ r, e.text[i + k]? = some r ∧ memPreds e S r = true)
        (fun s0 s1 h1 => own b hS s0 s1 h1) st st' hm
  · exact own p hS st st' hm

/-- **The leading strings are sound** (left-to-right): the text at the start of every success,
    normalised rune by rune with `norm`, begins with one of the strings of
    `prefixes norm maxLen maxCount p` (for any budget; `norm = id`: the text itself, the
    case-sensitive reading). -/
theorem prefixes_sound (e : Env) (norm : Nat → Nat) (maxLen maxCount : Nat) (p : Pat) (st st' : St)
    (hm : st' ∈ m e p false st) :
    ∃ l ∈ (prefixes norm maxLen maxCount p).1, l <+: (e.text.drop st.pos).map norm := by
  obtain ⟨l, hl, hp, _⟩ := prefixes_ok e norm maxLen p maxCount st st' hm
  exact ⟨l, hl, by simpa [ntext, List.map_drop] using hp⟩

/-- **The prefix validator is sound**: let `R x t` be the comparison the engine's search applies to a
    published rune `x` and a text rune `t` (equality for `LeadingStrings_LeftToRight`,
    `t == x || toLower t == x` for the ordinal-ignore-case modes) and `norm` a normalisation that `R`
    accepts (`R (norm t) t`: identity, resp. lower-casing).  If every string of a candidate list starts
    with a published string (`checkPrefixes`), then at the start of every success some published string
    matches the text under `R`: a `LeadingPrefixes` list that passes the check never makes the search skip a match. -/
theorem checkPrefixes_sound (e : Env) (norm : Nat → Nat) (maxLen maxCount : Nat) (p : Pat)
    (R : Nat → Nat → Bool) (hR : ∀ t, R (norm t) t = true)
    (E : List (List Nat)) (L : List (List Nat)) (hL : L ∈ prefixCandidates norm maxLen maxCount p)
    (hc : checkPrefixes E L = true)
    (st st' : St) (hm : st' ∈ m e p false st) : ∃ x ∈ E, rPrefix R x (e.text.drop st.pos) = true := by
  have own : ∀ (q : Pat), L = (prefixes norm maxLen maxCount q).1 → ∀ (s s' : St), s' ∈ m e q false s →
      ∃ x ∈ E, rPrefix R x (e.text.drop s.pos) = true := by
    intro q hq s s' hs
    obtain ⟨l, hl, hp⟩ := prefixes_sound e norm maxLen maxCount q s s' hs
    rw [← hq] at hl
    unfold checkPrefixes at hc
    rw [List.all_eq_true] at hc
    have := hc l hl
    rw [List.any_eq_true] at this
    obtain ⟨x, hx, hr⟩ := this
    exact ⟨x, hx, rPrefix_norm R norm hR x _ (rPrefix_mono _ x l _ hr hp)⟩
  unfold prefixCandidates at hL
  split at hL
  · rename_i b hb
    simp at hL
    rcases hL with hL | hL
    · exact own p hL st st' hm
    · exact leadLook_transfer e p b (leadLook p).2 (by rw [← hb]) (fun i => ∃ x ∈ E, rPrefix R x (e.text.drop i) = true)
        (fun s0 s1 h1 => own b hL s0 s1 h1) st st' hm
  · simp at hL
    exact own p hL st st' hm

/-! ### the validator statements at the level of a find call -/

/-- **A published first-character set that includes `firstSet p rtl` holds at every find result**: the
    match is non-empty and the character at its scan-direction start — `text[idx]` left-to-right,
    `text[idx+len-1]` right-to-left — is accepted by the published test `E`. -/
theorem published_first_sound (e : Env) (p : Pat) (rtl : Bool) (S : List Pred) (h : firstSet p rtl = some S)
    (E : Nat → Bool) (hsub : ∀ r, memPreds e S r = true → E r = true)
    (start : Nat) (st : St) (hf : find e p rtl start = some st) :
    ∃ idx len, lastCap st.caps 0 = some (idx, len) ∧ 0 < len ∧
      ∃ r, e.text[if rtl then idx + len - 1 else idx]? = some r ∧ E r = true := by
  obtain ⟨i, y, idx, len, hy, hcap, hlen, hi, hend⟩ := find_success e p rtl start st hf
  obtain ⟨hne, r, hr, hS⟩ := firstSet_sound e p rtl S h _ y hy
  have hne : y.pos ≠ i := hne
  have hf := m_fwd e p rtl _ y hy
  refine ⟨idx, len, hcap, ?_, r, ?_, hsub r hS⟩
  · cases rtl
    · have : i ≤ y.pos := hf
      have : len = y.pos - i := hlen
      omega
    · have : y.pos ≤ i := hf
      have : len = i - y.pos := hlen
      omega
  · unfold charAt at hr
    cases rtl
    · exact (hi : idx = i) ▸ hr
    · have hi : idx + len = i := hi
      have hi0 : i ≠ 0 := fun h0 => hne (by have : y.pos ≤ i := hf; omega)
      rw [if_pos rfl, if_neg hi0] at hr
      rw [if_pos rfl, hi]; exact hr

/-- **A published fixed-distance set that includes the intersection of the candidates holds at every
    find result** (left-to-right): the text has a character `k` positions after the match index and `E` accepts
    it.  `E` is what the runner evaluates for a
    `FixedDistanceSet` at `Distance = k` (`Chars`/`Range` with `Negated`, else `Set.CharIn`), the single
    character of `FixedDistanceChar`, character `i` of a `FixedDistanceString` or of a `LeadingPrefix`
    at `Distance + i`, or `FcPrefix` at 0.  (Including ONE candidate is the special case.) -/
theorem published_set_sound (e : Env) (p : Pat) (k : Nat) (hne : setCandidates p k ≠ [])
    (E : Nat → Bool) (hsub : ∀ r, (∀ S ∈ setCandidates p k, memPreds e S r = true) → E r = true)
    (start : Nat) (st : St) (hf : find e p false start = some st) :
    ∃ idx len, lastCap st.caps 0 = some (idx, len) ∧ ∃ r, e.text[idx + k]? = some r ∧ E r = true := by
  obtain ⟨i, y, len, hy, hcap⟩ := find_success_ltr e p start st hf
  obtain ⟨S0, hS0⟩ := List.exists_mem_of_ne_nil _ hne
  obtain ⟨r, hr, _⟩ := setCandidates_sound e p k S0 hS0 _ y hy
  refine ⟨i, len, hcap, r, hr, hsub r fun S hS => ?_⟩
  obtain ⟨r', hr', hmem⟩ := setCandidates_sound e p k S hS _ y hy
  cases hr.symm.trans hr'
  exact hmem

/-- **A published prefix list that passes the validator holds at every find result** (left-to-right):
    some published string matches the text at the match index under the search's comparison `R`. -/
theorem published_prefixes_sound (e : Env) (norm : Nat → Nat) (maxLen maxCount : Nat) (p : Pat)
    (R : Nat → Nat → Bool) (hR : ∀ t, R (norm t) t = true)
    (E : List (List Nat)) (L : List (List Nat)) (hL : L ∈ prefixCandidates norm maxLen maxCount p)
    (hc : checkPrefixes E L = true)
    (start : Nat) (st : St) (hf : find e p false start = some st) :
    ∃ idx len, lastCap st.caps 0 = some (idx, len) ∧ ∃ x ∈ E, rPrefix R x (e.text.drop idx) = true := by
  obtain ⟨i, y, len, hy, hcap⟩ := find_success_ltr e p start st hf
  exact ⟨i, len, hcap, checkPrefixes_sound e norm maxLen maxCount p R hR E L hL hc _ y hy⟩

/-! ### non-vacuity: concrete instances -/

/-- `^ab{1,3}(?:c|cd)$` (multiline) on "x\nabbc": Concatenate(Bol, One a, Oneloop b{1,3},
    Alternate(c, cd), Eol) -/
def demoPat : Pat :=
  .seq (.anchor .bol) (.seq (.chr (.one 97 false)) (.seq (.quant false 1 (some 3) (.chr (.one 98 false)))
    (.seq (.alt (.chr (.one 99 false)) (.seq (.chr (.one 99 false)) (.chr (.one 100 false)))) (.anchor .eol))))
def demoEnv : Env := { text := [120, 10, 97, 98, 98, 99], textstart := 0, named := [], word := [], fold := [] }
def demoStart : St := { pos := 2, caps := [] }
def demoEnd : St := { pos := 6, caps := [] }

theorem demo_success : demoEnd ∈ m demoEnv demoPat false demoStart := by decide

example : minLen demoPat = 3 ∧ maxLen demoPat = some 6 := by decide
example : leadingAnchor false demoPat = some .bol ∧ trailingAnchor false demoPat = some .eol := by decide
example : leadingPrefix utf8enc demoPat = ([97, 98], false) := by decide
example : find demoEnv demoPat false 0 = some { pos := 6, caps := [(0, 2, 4)] } := by decide
example : 3 ≤ 6 - 2 := minLen_sound demoEnv demoPat false demoStart demoEnd demo_success
example : 6 - 2 ≤ 6 := maxLen_sound demoEnv demoPat false demoStart demoEnd demo_success 6 (by decide)
example : anchorHolds demoEnv .bol 2 = true :=
  leadingAnchor_sound demoEnv demoPat false .bol (by decide) demoStart demoEnd demo_success
example : anchorHolds demoEnv .eol 6 = true :=
  trailingAnchor_sound demoEnv demoPat false .eol (by decide) demoStart demoEnd demo_success
example : (([97, 98, 98, 99] : List Nat).flatMap utf8enc).take 2 = [97, 98] :=
  leadingPrefix_sound demoEnv utf8enc demoPat demoStart demoEnd demo_success
example : asciiOnly demoPat = true := by decide
example : 3 ≤ demoEnv.n - 2 := minLen_remaining demoEnv demoPat false 2 (by decide) _ (by decide : attempt demoEnv demoPat false 2 = some { pos := 6, caps := [(0, 2, 4)] })

/-- right-to-left: `\bab$` matched leftwards from 5 on "x ab\n": the pattern-order LAST child leads -/
def demoRtl : Pat := .seq (.anchor .boundary) (.seq (.chr (.one 97 false)) (.seq (.chr (.one 98 false)) (.anchor .eol)))
def demoRtlEnv : Env := { text := [120, 32, 97, 98, 10], textstart := 5, named := [], word := [97, 98, 120], fold := [] }
example : leadingAnchor true demoRtl = some .eol ∧ trailingAnchor true demoRtl = some .boundary := by decide
example : find demoRtlEnv demoRtl true 5 = some { pos := 2, caps := [(0, 2, 2)] } := by decide
example : maxLen demoRtl = some (minLen demoRtl) := by decide

/-- a "continue" prefix: `(?>ab){2}` is exactly "abab" -/
example : leadingPrefix utf8enc (.quant false 2 (some 2) (.atomic (.seq (.chr (.one 97 false)) (.chr (.one 98 false)))))
    = ([97, 98, 97, 98], true) := by decide

/-- the byte-wise intersection cuts a character: `aéx|aèy` publishes `"a\xc3"` -/
example : leadingPrefix utf8enc (.seq (.chr (.one 97 false))
    (.alt (.seq (.chr (.one 233 false)) (.chr (.one 120 false))) (.seq (.chr (.one 232 false)) (.chr (.one 121 false)))))
    = ([97, 0xC3], false) := by decide

/-! ### non-vacuity of the set-valued theorems -/

-- `^ab{1,3}(?:c|cd)$`: first character `a`; `b` at offset 1; `c` at offset... not fixed (b{1,3})
example : firstSet demoPat false = some [.one 97 false] := by decide
example : setAt demoPat 1 = some [.one 98 false] ∧ setAt demoPat 2 = none := by decide
example : (prefixes id 8 16 demoPat).1 = [[97, 98]] := by decide
example : demoEnd.pos ≠ demoStart.pos ∧ ∃ r, charAt demoEnv false 2 = some r ∧ memPreds demoEnv [.one 97 false] r = true :=
  firstSet_sound demoEnv demoPat false _ (by decide) demoStart demoEnd demo_success
example : ∃ r, demoEnv.text[2 + 1]? = some r ∧ memPreds demoEnv [.one 98 false] r = true :=
  setAt_sound demoEnv demoPat 1 _ (by decide) demoStart demoEnd demo_success
example : ∃ l ∈ [[97, 98]], l <+: (demoEnv.text.drop 2).map id :=
  prefixes_sound demoEnv id 8 16 demoPat demoStart demoEnd demo_success
example : ∃ r, charAt demoEnv false 2 = some r ∧ (fun r => decide (97 ≤ r ∧ r ≤ 122)) r = true :=
  firstSet_superset_sound demoEnv demoPat false [.one 97 false] (by decide) (fun r => decide (97 ≤ r ∧ r ≤ 122))
    (by intro r h; simp [memPreds, Pred.test] at h; subst h; decide) demoStart demoEnd demo_success
example : ∃ idx len, lastCap ({ pos := 6, caps := [(0, 2, 4)] } : St).caps 0 = some (idx, len) ∧ 0 < len ∧
    ∃ r, demoEnv.text[if false then idx + len - 1 else idx]? = some r ∧ (fun r => r == 97) r = true :=
  published_first_sound demoEnv demoPat false [.one 97 false] (by decide) (fun r => r == 97)
    (by intro r h; simp [memPreds, Pred.test] at h; subst h; decide) 0 _ (by decide)

-- right-to-left `\bab$`: the LAST character in pattern order is consumed first
example : firstSet demoRtl true = some [.one 98 false] := by decide
example : ∃ idx len, lastCap ({ pos := 2, caps := [(0, 2, 2)] } : St).caps 0 = some (idx, len) ∧ 0 < len ∧
    ∃ r, demoRtlEnv.text[if true then idx + len - 1 else idx]? = some r ∧ (fun r => r == 98) r = true :=
  published_first_sound demoRtlEnv demoRtl true [.one 98 false] (by decide) (fun r => r == 98)
    (by intro r h; simp [memPreds, Pred.test] at h; subst h; decide) 5 _ (by decide)

/-- `(?=[a-b]x)(?:a[x-y]|b[^\n])z*` on "zaxz": a leading positive lookahead (its facts are candidates),
    an alternation of equal-width branches (union at each offset), a nullable tail -/
def demoSets : Pat :=
  .seq (.look false false (.seq (.chr (.set (.base false [(97, 98)] []) false)) (.chr (.one 120 false))))
    (.seq (.alt (.seq (.chr (.one 97 false)) (.chr (.set (.base false [(120, 121)] []) false)))
                (.seq (.chr (.one 98 false)) (.chr (.notone 10 false))))
      (.quant false 0 none (.chr (.one 122 false))))
def demoSetsEnv : Env := { text := [122, 97, 120, 122], textstart := 0, named := [], word := [], fold := [] }

theorem demoSets_success : ({ pos := 4, caps := [] } : St) ∈ m demoSetsEnv demoSets false { pos := 1, caps := [] } := by decide

example : firstSet demoSets false = some [.one 97 false, .one 98 false] := by decide
example : setAt demoSets 1 = some [.set (.base false [(120, 121)] []) false, .notone 10 false] := by decide
example : (leadLook demoSets).1 = some (.seq (.chr (.set (.base false [(97, 98)] []) false)) (.chr (.one 120 false))) := by decide
example : setCandidates demoSets 1 =
    [[.set (.base false [(120, 121)] []) false, .notone 10 false], [.one 120 false]] := by decide
example : setCandidates demoSets 0 =
    [[.one 97 false, .one 98 false], [.one 97 false, .one 98 false],
     [.set (.base false [(97, 98)] []) false], [.set (.base false [(97, 98)] []) false]] := by decide
example : prefixCandidates id 8 16 demoSets = [[[97, 120], [97, 121], [98]], [[97, 120], [98, 120]]] := by decide
example : ∃ r, demoSetsEnv.text[1 + 1]? = some r ∧ memPreds demoSetsEnv [.one 120 false] r = true :=
  setCandidates_sound demoSetsEnv demoSets 1 _ (by decide) _ _ demoSets_success
example : ∃ r, demoSetsEnv.text[1]? = some r ∧ memPreds demoSetsEnv [.one 97 false, .one 98 false] r = true :=
  leadLook_transfer demoSetsEnv demoSets
    (.seq (.chr (.set (.base false [(97, 98)] []) false)) (.chr (.one 120 false))) false (by decide)
    (fun i => ∃ r, demoSetsEnv.text[i]? = some r ∧ memPreds demoSetsEnv [.one 97 false, .one 98 false] r = true)
    (fun s0 s1 h1 => by
      obtain ⟨_, r, hr, hm⟩ := firstSet_sound demoSetsEnv _ false [.set (.base false [(97, 98)] []) false] (by decide) s0 s1 h1
      refine ⟨r, by simpa [charAt] using hr, ?_⟩
      simp [memPreds, Pred.test, Cls.mem, inRanges, inNames] at hm ⊢
      omega)
    _ _ demoSets_success
-- a published case-sensitive list {"ax","bx"} (the lookahead's) covers the lookahead's candidate list
example : checkPrefixes [[97, 120], [98, 120]] [[97, 120], [98, 120]] = true := by decide
example : ∃ x ∈ [[97, 120], [98, 120]], rPrefix (fun x t => x == t) x (demoSetsEnv.text.drop 1) = true :=
  checkPrefixes_sound demoSetsEnv id 8 16 demoSets (fun x t => x == t) (by intro t; simp) _ [[97, 120], [98, 120]]
    (by decide) (by decide) _ _ demoSets_success
example : find demoSetsEnv demoSets false 0 = some { pos := 4, caps := [(0, 1, 3)] } := by decide
example : ∃ idx len, lastCap ({ pos := 4, caps := [(0, 1, 3)] } : St).caps 0 = some (idx, len) ∧
    ∃ r, demoSetsEnv.text[idx + 1]? = some r ∧ (fun r => decide (r ≠ 10)) r = true :=
  published_set_sound demoSetsEnv demoSets 1 (by decide) (fun r => decide (r ≠ 10))
    (by
      intro r h
      have := h [.one 120 false] (by decide)
      simp [memPreds, Pred.test] at this
      subst this; decide) 0 _ (by decide)
/-- an upper-case text "zAXz" and the normalisation "ASCII lower-casing": the ordinal-ignore-case reading -/
def demoLower (r : Nat) : Nat := if 65 ≤ r ∧ r ≤ 90 then r + 32 else r
def demoCi : Pat := .seq (.chr (.set (.base false [(65, 65), (97, 97)] []) false)) (.chr (.set (.base false [(88, 88), (120, 120)] []) false))
def demoCiEnv : Env := { text := [122, 65, 88, 122], textstart := 0, named := [], word := [], fold := [] }
example : prefixCandidates demoLower 8 16 demoCi = [[[97, 120]]] := by decide
example : prefixCandidates id 8 16 demoCi = [[[65, 88], [65, 120], [97, 88], [97, 120]]] := by decide
example : find demoCiEnv demoCi false 0 = some { pos := 3, caps := [(0, 1, 2)] } := by decide
example : ∃ idx len, lastCap ({ pos := 3, caps := [(0, 1, 2)] } : St).caps 0 = some (idx, len) ∧
    ∃ x ∈ [[97, 120]], rPrefix (fun x t => t == x || demoLower t == x) x (demoCiEnv.text.drop idx) = true :=
  published_prefixes_sound demoCiEnv demoLower 8 16 demoCi (fun x t => t == x || demoLower t == x)
    (by intro t; simp) [[97, 120]] [[97, 120]] (by decide) (by decide) 0 _ (by decide)

/-! ### the first-character defect D13 (fixed by 0ead94b + 0185758), documented

For `(?:xx|.a)` the analysis merged `[^\n]` into the already collected `{x}` by NEGATING the accumulator
and published `[^\nx]`-like sets that exclude `x`; the match "xx" was skipped.  The over-approximation
is `{x} ∪ [^\n]`; a published set must include it, and no set without `x` does. -/
def d13Pat : Pat := .alt (.seq (.chr (.one 120 false)) (.chr (.one 120 false))) (.seq (.chr (.notone 10 false)) (.chr (.one 97 false)))
example : firstSet d13Pat false = some [.one 120 false, .notone 10 false] := by decide
example : ¬ ∀ r, memPreds demoEnv [.one 120 false, .notone 10 false] r = true → (fun r => decide (r ≠ 10 ∧ r ≠ 120)) r = true := by
  intro h; have := h 120 (by decide); simp at this

/-! ### the defect fixed by d917f9b, documented

Before the fix the `Alternate` case compared every later branch with the FIRST branch's whole prefix and
kept only the last comparison.  For `(a)bx|(a)cy|(a)bz` it published `"ab"`, which is not a prefix of
the match "acy" (the string-prefix filter then missed the match: `FindStringMatch("acy")` returned
nil).  The current code yields `"a"`. -/

def defectPat : Pat :=
  .alt (.seq (.cap 1 (.chr (.one 97 false))) (.seq (.chr (.one 98 false)) (.chr (.one 120 false))))
    (.alt (.seq (.cap 1 (.chr (.one 97 false))) (.seq (.chr (.one 99 false)) (.chr (.one 121 false))))
      (.seq (.cap 1 (.chr (.one 97 false))) (.seq (.chr (.one 98 false)) (.chr (.one 122 false)))))
def defectEnv : Env := { text := [97, 99, 121], textstart := 0, named := [], word := [], fold := [] }

example : leadingPrefixOldAlt utf8enc defectPat = [97, 98] := by decide
example : leadingPrefix utf8enc defectPat = ([97], false) := by decide
example : find defectEnv defectPat false 0 = some { pos := 3, caps := [(1, 0, 1), (0, 0, 3)] } := by decide
example : ¬ ((defectEnv.text.drop 0).flatMap utf8enc).take 2 = leadingPrefixOldAlt utf8enc defectPat := by decide

/-! ## facts about a leading set loop: the required-landmark chain and the literal after the loop

`findRequiredLandmarkChain` and `findLiteralFollowingLeadingLoop` are validated, not mirrored
(Model/LoopFacts.lean): Lean computes from the converted tree a record of the same shape and the theorems
below prove it true of every left-to-right match, in exactly the form the finders of C03 consume
(`LandmarkFact`, `LitAfterLoopFact`).  Leg L checks per pattern that the published record is that record
(sets compared rune by rune; landmarks may be missing from the tail). -/

section LoopFacts
open RegexVerif.LoopFacts RegexVerif.Finders RegexVerif.Lemmas.Finders RegexVerif.Lemmas.LoopFacts

/-- the specification's attempt as C03's scan model sees it (group 0) -/
def attemptSpan (e : Env) (p : Pat) : Nat → Option (Nat × Nat) :=
  fun i => (attempt e p false i).bind (fun st => lastCap st.caps 0)

/-- **The required-landmark chain is a fact about every match.**  If `chainOf k p = some sc` (the top
    concatenation of `p` starts with an unbounded loop over one character test, followed by zero-width
    children and then landmarks), then at every position where the specification matches the chain is present
    (`LandmarkAt`: loop run, whitespace and an alternative of the first landmark as
    `requiredLandmarkAlternativeMatch` tests it, every later landmark in order).  This is `LandmarkFact`, the
    hypothesis of `C03.finder_landmarkChain_sound`, for the chain read under the matcher's own oracle. -/
theorem landmarkChain_sound (e : Env) (k : Nat) (p : Pat) (sc : SymChain) (h : chainOf k p = some sc) :
    ∃ l ls, sc.landmarks = l :: ls ∧
      LandmarkFact (sc.loop.test e) (l.map (SymAlt.toLm e)) (lmOf e ls) e.text (attemptSpan e p) := by
  obtain ⟨l, ls, hl, hat⟩ := chainOf_at e k p sc h
  exact ⟨l, ls, hl, fun p0 _ hne => at_attempt e p _ hat p0 hne⟩

/-- **A published chain that is Lean's chain, possibly without some later landmarks, is sound**: the same
    loop set (as a set of runes), the same first landmark, and the remaining landmarks a sublist of Lean's. -/
theorem published_landmarkChain_sound (e : Env) (k : Nat) (p : Pat) (sc : SymChain) (h : chainOf k p = some sc)
    (S : Nat → Bool) (first : List LmAlt) (rest : List (List LmAlt))
    (hS : ∀ r, S r = sc.loop.test e r)
    (hfirst : ∀ l ls, sc.landmarks = l :: ls → first = l.map (SymAlt.toLm e) ∧ List.Sublist rest (lmOf e ls)) :
    LandmarkFact S first rest e.text (attemptSpan e p) := by
  obtain ⟨l, ls, hl, hF⟩ := landmarkChain_sound e k p sc h
  obtain ⟨h1, h2⟩ := hfirst l ls hl
  have : S = sc.loop.test e := funext hS
  rw [this, h1]
  exact landmarkFact_sublist _ _ h2 _ _ hF

/-- the hypotheses of `published_landmarkChain_sound` are met by Lean's own chain with its second landmark
    dropped (any sublist of the later landmarks will do) -/
example (e : Env) (ls : List (List SymAlt)) : List.Sublist (lmOf e ls.tail) (lmOf e ls) := by
  unfold lmOf; exact (List.tail_sublist ls).map _

/-- `[xy]*\s*ab(?:cd|c)z` (4 children): loop over {x, y}; landmarks `\s*ab`, `cd | c`, `z` -/
def lmPat : Pat :=
  .seq (.quant false 0 none (.chr (.set (.base false [(120, 121)] []) false)))
    (.seq (.cap 1 (.seq (.quant false 0 none (.chr (.set (.base false [(32, 32)] []) false)))
                    (.seq (.chr (.one 97 false)) (.chr (.one 98 false)))))
      (.seq (.alt (.seq (.chr (.one 99 false)) (.chr (.one 100 false))) (.chr (.one 99 false)))
        (.chr (.one 122 false))))
def lmEnv : Env := { text := [120, 32, 97, 98, 99, 122], textstart := 0, named := [], word := [], fold := [] }

example : ∃ sc, chainOf 4 lmPat = some sc ∧ sc.landmarks.length = 3 ∧ (sc.landmarks.map List.length) = [1, 2, 1] :=
  ⟨_, rfl, by decide⟩
example : attemptSpan lmEnv lmPat 0 = some (0, 6) ∧ attemptSpan lmEnv lmPat 1 = some (1, 5) ∧
    attemptSpan lmEnv lmPat 3 = none := by decide

/-- **The literal after the leading loop is a fact about every match** (character tests): if `lalOf k p =
    some sl`, from every matching position a run of the loop's test leads to a position where the tests of
    `sl.lit` hold one after the other. -/
theorem literalAfterLoop_sound (e : Env) (k : Nat) (p : Pat) (sl : SymLal) (h : lalOf k p = some sl) :
    ∀ p0, p0 ≤ e.text.length → attemptSpan e p p0 ≠ none →
      ∃ kk, p0 ≤ kk ∧ (∀ j, p0 ≤ j → j < kk → memAt (sl.loop.test e) e.text j = true) ∧
        ∀ i (hi : i < sl.lit.length), memAt ((sl.lit[i]'hi).test e) e.text (kk + i) = true :=
  fun p0 _ hne => at_attempt e p _ (lalOf_at e k p sl h) p0 hne

/-- **… and in the form of `tryFindPrefix`**: the rune prefix of what follows the loop (whatever its shape:
    alternation with a common prefix, loop with a minimum, capture) stands where the loop's run ends. -/
theorem literalAfterLoop_prefix_sound (e : Env) (p : Pat) (P : Pred) (w : List Nat) (h : lalPrefixOf p = some (P, w)) :
    w ≠ [] ∧ ∀ p0, p0 ≤ e.text.length → attemptSpan e p p0 ≠ none →
      ∃ kk, p0 ≤ kk ∧ (∀ j, p0 ≤ j → j < kk → memAt (P.test e) e.text j = true) ∧ ∃ t, e.text.drop kk = w ++ t := by
  obtain ⟨h1, h2⟩ := lalPrefixOf_at e p P w h
  exact ⟨h1, fun p0 _ hne => at_attempt e p _ h2 p0 hne⟩

/-- **The facts of the body of a leading positive lookahead are facts of the pattern's match starts**
    (`newFindOptimizations` publishes the body's `FindOptimizations` when the pattern itself yields
    nothing): the landmark chain, the literal after the loop (character tests) and its prefix form,
    computed from the body `b = leadLook p`, hold at every position where `p` matches. -/
theorem look_loopFacts_sound (e : Env) (p b : Pat) (kf : Bool) (hlook : leadLook p = (some b, kf)) (k : Nat) :
    (∀ sc, chainOf k b = some sc → ∃ l ls, sc.landmarks = l :: ls ∧
      LandmarkFact (sc.loop.test e) (l.map (SymAlt.toLm e)) (lmOf e ls) e.text (attemptSpan e p)) ∧
    (∀ sl, lalOf k b = some sl → ∀ p0, p0 ≤ e.text.length → attemptSpan e p p0 ≠ none → LalAt e sl p0) ∧
    (∀ P w, lalPrefixOf b = some (P, w) → ∀ p0, p0 ≤ e.text.length → attemptSpan e p p0 ≠ none → PrefAt e P w p0) := by
  refine ⟨?_, ?_, ?_⟩
  · intro sc h
    obtain ⟨l, ls, hl, hat⟩ := chainOf_at e k b sc h
    exact ⟨l, ls, hl, fun p0 _ hne => at_attempt e p _ (leadLook_transfer e p b kf hlook _ hat) p0 hne⟩
  · intro sl h p0 _ hne
    exact at_attempt e p _ (leadLook_transfer e p b kf hlook _ (lalOf_at e k b sl h)) p0 hne
  · intro P w h p0 _ hne
    exact at_attempt e p _ (leadLook_transfer e p b kf hlook _ (lalPrefixOf_at e b P w h).2) p0 hne

/-- `(?=b)x` hands its facts to the lookahead body `b`, for every `b` (`lalPat`, declared further down, is
    auto-bound as a variable here) -/
example : leadLook (.seq (.look false false lalPat) (.chr (.one 120 false))) = (some lalPat, false) := rfl

/-- what leg L checks of a published `LiteralAfterLoop` against Lean's character tests: the string's
    characters (under the comparison the finder selects), or `Chars`, or `Char`, include the tests.
    `lower` is `unicode.ToLower`, an oracle argument as in the finder models -/
def LalIncluded (e : Env) (lower : Nat → Nat) (l : LitAfterLoop) (lit : List Pred) : Prop :=
  if !l.str.isEmpty then
    l.str.length ≤ lit.length ∧
    ∀ i (h1 : i < l.str.length) (h2 : i < lit.length) r, (lit[i]'h2).test e r = true →
      stringEq lower l.strIgnoreCase l.str r (l.str[i]'h1) = true
  else if !l.chars.isEmpty then ∃ Q qs, lit = Q :: qs ∧ ∀ r, Q.test e r = true → l.chars.contains r = true
  else ∃ Q qs, lit = Q :: qs ∧ ∀ r, Q.test e r = true → r = l.char

/-- the step from Lean's record to a published one, at one position -/
theorem lalAt_included (e : Env) (sl : SymLal) (lower : Nat → Nat) (l : LitAfterLoop) (S : Nat → Bool)
    (hS : ∀ r, sl.loop.test e r = true → S r = true) (hinc : LalIncluded e lower l sl.lit)
    (p0 : Nat) (hat : LalAt e sl p0) :
    ∃ k, p0 ≤ k ∧ l.litAt lower e.text k = true ∧ ∀ j, p0 ≤ j → j < k → memAt S e.text j = true := by
  obtain ⟨kk, k1, k2, k3⟩ := hat
  refine ⟨kk, k1, ?_, fun j j1 j2 => memAt_mono hS (k2 j j1 j2)⟩
  unfold LalIncluded at hinc
  unfold LitAfterLoop.litAt
  by_cases hs : (!l.str.isEmpty) = true
  · rw [if_pos hs] at hinc ⊢
    obtain ⟨hlen, hchar⟩ := hinc
    unfold occursAt
    rw [prefixOf_iff]
    intro j hj
    have hj2 : j < sl.lit.length := Nat.lt_of_lt_of_le hj hlen
    obtain ⟨t, ht, hm⟩ := memAt_iff.mp (k3 j hj2)
    exact ⟨t, l.str[j]'hj, by rw [List.getElem?_drop]; exact ht, List.getElem?_eq_getElem hj, hchar j hj hj2 t hm⟩
  · rw [if_neg hs] at hinc ⊢
    -- `Chars` or `Char`: the first test
    have first : ∀ Q qs, sl.lit = Q :: qs → memAt (Q.test e) e.text kk = true := fun Q qs hq => by
      have hm := k3 0 (by rw [hq]; exact Nat.zero_lt_succ _)
      simpa only [hq, List.getElem_cons_zero, Nat.add_zero] using hm
    by_cases hc : (!l.chars.isEmpty) = true
    · rw [if_pos hc] at hinc ⊢
      obtain ⟨Q, qs, hq, hsub⟩ := hinc
      exact memAt_mono hsub (first Q qs hq)
    · rw [if_neg hc] at hinc ⊢
      obtain ⟨Q, qs, hq, hsub⟩ := hinc
      obtain ⟨t, ht, hm⟩ := memAt_iff.mp (first Q qs hq)
      rw [ht, hsub t hm]
      exact beq_self_eq_true _

/-- **A published `LiteralAfterLoop` that includes Lean's record is sound**: its loop set contains the
    loop's test and its literal (string / `Chars` / `Char`) includes the character tests — then
    `LitAfterLoopFact`, the hypothesis of `C03.finder_literalAfterLoop_sound`, holds. -/
theorem published_literalAfterLoop_sound (e : Env) (k : Nat) (p : Pat) (sl : SymLal) (h : lalOf k p = some sl)
    (lower : Nat → Nat) (l : LitAfterLoop) (S : Nat → Bool)
    (hS : ∀ r, sl.loop.test e r = true → S r = true) (hinc : LalIncluded e lower l sl.lit) :
    LitAfterLoopFact lower l S e.text (attemptSpan e p) :=
  fun p0 hp0 hne => lalAt_included e sl lower l S hS hinc p0 (literalAfterLoop_sound e k p sl h p0 hp0 hne)

/-- the same when the record comes from the body of a leading positive lookahead -/
theorem published_look_literalAfterLoop_sound (e : Env) (p b : Pat) (kf : Bool) (hlook : leadLook p = (some b, kf))
    (k : Nat) (sl : SymLal) (h : lalOf k b = some sl)
    (lower : Nat → Nat) (l : LitAfterLoop) (S : Nat → Bool)
    (hS : ∀ r, sl.loop.test e r = true → S r = true) (hinc : LalIncluded e lower l sl.lit) :
    LitAfterLoopFact lower l S e.text (attemptSpan e p) :=
  fun p0 hp0 hne => lalAt_included e sl lower l S hS hinc p0
    ((look_loopFacts_sound e p b kf hlook k).2.1 sl h p0 hp0 hne)

/-- `[xy]*ab…`: loop {x, y}, literal tests `a`, `b`; the published record `String = "ab"` includes them -/
def lalPat : Pat :=
  .seq (.quant false 0 none (.chr (.set (.base false [(120, 121)] []) false)))
    (.seq (.chr (.one 97 false)) (.seq (.chr (.one 98 false)) (.chr (.set (.base false [(99, 100)] []) false))))

example : lalOf 4 lalPat = some ⟨.set (.base false [(120, 121)] []) false,
    [.one 97 false, .one 98 false, .set (.base false [(99, 100)] []) false]⟩ := rfl
example : LalIncluded lmEnv id { str := [97, 98], loopSet := some (fun c => c == 120 || c == 121) }
    [.one 97 false, .one 98 false, .set (.base false [(99, 100)] []) false] := by
  unfold LalIncluded
  simp only [List.isEmpty_cons, Bool.not_false, if_true]
  refine ⟨by decide, ?_⟩
  intro i h1 h2 r hr
  match i, h1, h2, hr with
  | 0, _, _, hr => cases (beq_iff_eq.mp hr : 97 = r); rfl
  | 1, _, _, hr => cases (beq_iff_eq.mp hr : 98 = r); rfl
  | i + 2, h1, _, _ => exact absurd h1 (Nat.not_lt.mpr (Nat.le_add_left 2 i))
example : lalPrefixOf lalPat = some (.set (.base false [(120, 121)] []) false, [97, 98]) := rfl

/-- `(?i)[\d\-]+(?:aab){1,2}B\Z` as the parser delivers it: `[Aa]{2}[Bb]` inside the counted group (adjacent equal
    sets are coalesced into a fixed-count set loop).  `lalOf` reads the three tests `[Aa] [Aa] [Bb]` off the first
    iteration of the group; the published ignore-case string "aab" includes them (`LalIncluded`). -/
def ciLalPat : Pat :=
  .seq (.atomic (.quant false 1 none (.chr (.set (.base false [(45, 45), (48, 57)] []) false))))
    (.seq .empty
      (.seq (.quant false 1 (some 2)
              (.seq (.atomic (.quant false 2 (some 2) (.chr (.set (.base false [(65, 65), (97, 97)] []) false))))
                (.chr (.set (.base false [(66, 66), (98, 98)] []) false))))
        (.seq (.chr (.set (.base false [(66, 66), (98, 98)] []) false)) (.anchor .endz))))

example : lalOf 5 ciLalPat = some ⟨.set (.base false [(45, 45), (48, 57)] []) false,
    [.set (.base false [(65, 65), (97, 97)] []) false, .set (.base false [(65, 65), (97, 97)] []) false,
     .set (.base false [(66, 66), (98, 98)] []) false]⟩ := rfl
example : LalIncluded lmEnv id { str := [97, 97, 98], strIgnoreCase := true, loopSet := some (fun c => c == 45 || (48 ≤ c && c ≤ 57)) }
    [.set (.base false [(65, 65), (97, 97)] []) false, .set (.base false [(65, 65), (97, 97)] []) false,
     .set (.base false [(66, 66), (98, 98)] []) false] := by
  unfold LalIncluded
  simp only [List.isEmpty_cons, Bool.not_false, if_true]
  refine ⟨by decide, ?_⟩
  intro i h1 h2 r hr
  match i, h1, h2, hr with
  | 0, _, _, hr | 1, _, _, hr | 2, _, _, hr => rcases test_two hr with rfl | rfl <;> rfl
  | i + 3, h1, _, _ => exact absurd h1 (Nat.not_lt.mpr (Nat.le_add_left 3 i))

end LoopFacts

end RegexVerif.Props.C04
