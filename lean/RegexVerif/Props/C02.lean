/-
C02 — Every public entry point reports the same matches; a boolean call returns true exactly when the
corresponding find call returns a match.

Two things make the entry points of regexp2 differ internally; parts A and B treat them on the specification and on an
abstract filter, parts C and D put the models of the concrete filter and of the interpreter in their place:

A. **The bool-only program.**  `MatchString`, `MatchRunes` and `FindAll*Index` execute a second program
   (`re.quickCode`) from which `syntax/writer.go` has dropped the `Setmark`/`Capturemark` pair of every capture group
   whose slot `captureSlotsInUse` (syntax/code.go) found unobserved.  On the specification dropping that pair is
   removing the `cap g ·` constructor (`Spec.stripCaps`, Model/Quick.lean).  `quick_agrees`: this changes nothing but
   the capture log.

B. **Start position and program selection.**  Over the scan model of C03/C07 (`Model/Scan.lean`) `Model/Api.lean`
   writes each entry point as "which program, first scan from where, iterated how".  `api_agree`: all of them perform
   the same scans, given that the two programs agree on single attempts (part A, `spec_programs_agree`) and that the
   raw-string prefix filter is a sound accelerator.

C. **The concrete filter.**  `api_agree_concrete`: part B with the model of `stringprefixfilter.go`
   (Model/StringFilter.lean); the hypothesis left is about the pattern (the facts of the find mode hold at every
   match: C04).

D. **The interpreter.**  `compile_correct_quick`: on the fragment of C01's compiler-correctness theorem the interpreter
   model running the bool-only program decides what the main program and the specification decide.

Not a theorem here: that the interpreter executes a program according to `Spec.m` OUTSIDE that fragment (legs of
C01/C17 and the quick-vs-full oracle of leg A in harness/internal/legs/c02.go), captures other than group 0 at the API
level (C08, C13), the byte/rune index conversion (C08), balancing groups (outside the specification's fragment;
`captureSlotsInUse` keeps both of their slots).
-/
import RegexVerif.Lemmas.Quick
import RegexVerif.Lemmas.Api
import RegexVerif.Lemmas.StringFilter
import RegexVerif.Lemmas.QuickCompile

namespace RegexVerif.Props.C02
open RegexVerif RegexVerif.Spec RegexVerif.Scan RegexVerif.Api RegexVerif.Lemmas.Scan

/-! ## A. the bool-only program -/

/-- "aba" -/
def abaEnv : Env := { text := [97, 98, 97], textstart := 0, named := [], word := [], fold := [] }
/-- `(a)(b)\1` -/
def abaPat : Pat := .seq (.cap 1 (.chr (.one 97 false))) (.seq (.cap 2 (.chr (.one 98 false))) (.ref 1 false))
/-- keep group 1 only (and group 0, always) -/
def keep1 (g : Nat) : Bool := g == 1

/-- **The bool-only program agrees with the full one.**  If `keep` selects every group the pattern reads back (`\1`,
    `\k<n>`, `(?(1)…)`), the pattern with the `cap` of the other groups removed, started from a state with their log
    entries removed, has the successes of the original pattern with those entries removed: same number, same priority
    order, same positions, same captures of the kept groups. -/
theorem quick_agrees (e : Env) (keep : Nat → Bool) (p : Pat) (h : ∀ g ∈ refsOf p, keep g = true)
    (rtl : Bool) (st : St) :
    m e (stripCaps keep p) rtl (eraseCaps keep st) = (m e p rtl st).map (eraseCaps keep) :=
  m_strip e keep p (fun g hg => kept_of_keep (h g hg)) rtl st

example : (∀ g ∈ refsOf abaPat, keep1 g = true) ∧
    stripCaps keep1 abaPat = .seq (.cap 1 (.chr (.one 97 false))) (.seq (.chr (.one 98 false)) (.ref 1 false)) ∧
    m abaEnv abaPat false { pos := 0, caps := [] } = [{ pos := 3, caps := [(1, 0, 1), (2, 1, 1)] }] ∧
    m abaEnv (stripCaps keep1 abaPat) false { pos := 0, caps := [] } = [{ pos := 3, caps := [(1, 0, 1)] }] :=
  ⟨by decide +kernel, rfl, by decide +kernel, by decide +kernel⟩

/-- **What erasing preserves.**  A state and its erased image have the same position, and for every kept group (group 0
    always is) the same last capture and the same "has captured" flag — everything a later `\g`, `(?(g)…)` or the
    reported overall match can observe. -/
theorem erase_observations (keep : Nat → Bool) (st : St) (g : Nat) (hg : g = 0 ∨ keep g = true) :
    (eraseCaps keep st).pos = st.pos ∧
    lastCap (eraseCaps keep st).caps g = lastCap st.caps g ∧
    hasCap (eraseCaps keep st).caps g = hasCap st.caps g := by
  have hk : kept keep g = true := by
    rcases hg with h | h
    · subst h; rfl
    · exact kept_of_keep h
  exact ⟨rfl, lastCap_filter keep st.caps g hk, hasCap_filter keep st.caps g hk⟩

example : eraseCaps keep1 { pos := 3, caps := [(1, 0, 1), (2, 1, 1), (0, 0, 3)] } = { pos := 3, caps := [(1, 0, 1), (0, 0, 3)] } := by
  decide +kernel

/-- **One attempt.**  At every position the bool-only program's attempt (group 0 wrapped around the stripped pattern, as
    the compiler does) succeeds exactly when the full program's does, ends at the same position and reports the same
    overall match `(index, length)` and the same last capture of every other kept group. -/
theorem quick_attempt_agrees (e : Env) (keep : Nat → Bool) (p : Pat) (h : ∀ g ∈ refsOf p, keep g = true)
    (rtl : Bool) (i : Nat) :
    (attempt e (stripCaps keep p) rtl i).isSome = (attempt e p rtl i).isSome ∧
    (attempt e (stripCaps keep p) rtl i).map (fun st => (st.pos, lastCap st.caps 0)) =
      (attempt e p rtl i).map (fun st => (st.pos, lastCap st.caps 0)) ∧
    ∀ g, keep g = true →
      (attempt e (stripCaps keep p) rtl i).map (fun st => lastCap st.caps g) =
        (attempt e p rtl i).map (fun st => lastCap st.caps g) := by
  rw [attempt_strip e keep p (fun g hg => kept_of_keep (h g hg)) rtl i]
  cases attempt e p rtl i with
  | none => exact ⟨rfl, rfl, fun _ _ => rfl⟩
  | some st =>
    refine ⟨rfl, ?_, ?_⟩
    · simp only [Option.map_some, eraseCaps_pos, eraseCaps_caps, lastCap_filter keep st.caps 0 (kept_zero keep)]
    · intro g hg
      simp only [Option.map_some, eraseCaps_caps, lastCap_filter keep st.caps g (kept_of_keep hg)]

example : attempt abaEnv abaPat false 0 = some { pos := 3, caps := [(1, 0, 1), (2, 1, 1), (0, 0, 3)] } ∧
    attempt abaEnv (stripCaps keep1 abaPat) false 0 = some { pos := 3, caps := [(1, 0, 1), (0, 0, 3)] } ∧
    attempt abaEnv abaPat false 1 = none ∧ attempt abaEnv (stripCaps keep1 abaPat) false 1 = none :=
  ⟨by decide +kernel, by decide +kernel, by decide +kernel, by decide +kernel⟩

/-- **A whole search.**  `find` (the attempt at the first position in scan order where one succeeds) of the bool-only
    program is `find` of the full program with the unkept captures erased.  Conjuncts: the equation with `eraseCaps`;
    both succeed or both fail (`isSome`); the same end position and last capture of group 0. -/
theorem quick_find_agrees (e : Env) (keep : Nat → Bool) (p : Pat) (h : ∀ g ∈ refsOf p, keep g = true)
    (rtl : Bool) (start : Nat) :
    find e (stripCaps keep p) rtl start = (find e p rtl start).map (eraseCaps keep) ∧
    (find e (stripCaps keep p) rtl start).isSome = (find e p rtl start).isSome ∧
    (find e (stripCaps keep p) rtl start).map (fun st => (st.pos, lastCap st.caps 0)) =
      (find e p rtl start).map (fun st => (st.pos, lastCap st.caps 0)) := by
  have hf := find_strip e keep p (fun g hg => kept_of_keep (h g hg)) rtl start
  refine ⟨hf, ?_, ?_⟩
  · rw [hf]; cases find e p rtl start <;> rfl
  · rw [hf]
    cases find e p rtl start with
    | none => rfl
    | some st =>
      simp only [Option.map_some, eraseCaps_pos, eraseCaps_caps, lastCap_filter keep st.caps 0 (kept_zero keep)]

/-- "xaba": the search skips position 0 -/
def xabaEnv : Env := { abaEnv with text := [120, 97, 98, 97] }

example : find xabaEnv abaPat false 0 = some { pos := 4, caps := [(1, 1, 1), (2, 2, 1), (0, 1, 3)] } ∧
    find xabaEnv (stripCaps keep1 abaPat) false 0 = some { pos := 4, caps := [(1, 1, 1), (0, 1, 3)] } ∧
    find xabaEnv abaPat true 4 = none ∧ find xabaEnv (stripCaps keep1 abaPat) true 4 = none :=
  ⟨by decide +kernel, by decide +kernel, by decide +kernel, by decide +kernel⟩

/-- **`captureSlotsInUse` selects enough.**  The slots the compiler keeps for the bool-only program — slot 0 and every
    slot named by a `Ref` or `Testref` instruction (balancing groups, whose slots it also keeps, are outside the
    specification's fragment) — contain every group the pattern reads back; so `quickPat`, the program `Write`
    generates from them, agrees with the full program in the sense of `quick_agrees`. -/
theorem slotsInUse_sound (e : Env) (p : Pat) :
    (∀ g ∈ refsOf p, inUse (slotsInUse p) g = true) ∧
    ∀ (rtl : Bool) (st : St),
      m e (quickPat p) rtl (eraseCaps (inUse (slotsInUse p)) st) = (m e p rtl st).map (eraseCaps (inUse (slotsInUse p))) := by
  have h : ∀ g ∈ refsOf p, inUse (slotsInUse p) g = true := by
    intro g hg; simp [inUse, slotsInUse, hg]
  exact ⟨h, fun rtl st => quick_agrees e _ p h rtl st⟩

example : slotsInUse abaPat = [0, 1] ∧ hasQuick abaPat = true ∧ quickPat abaPat = stripCaps keep1 abaPat :=
  ⟨by decide +kernel, by decide +kernel, rfl⟩

/-- **The hypothesis is needed**: stripping a group that IS read back changes the result.
    `(a)(b)\1` on "aba" matches; with group 1 stripped the back-reference has nothing to compare with
    and the pattern fails. -/
theorem referenced_group_needed :
    (find abaEnv abaPat false 0).isSome = true ∧
    (find abaEnv (stripCaps (fun _ => false) abaPat) false 0).isSome = false := by decide

/-- **No second program, no difference**: when every capturing group of the pattern is in use,
    `Write` emits no bool-only program (`slices.Contains(code.CaptureSlotInUse, false)` is false) and
    the stripped pattern is the pattern itself. -/
theorem no_quick_program (p : Pat) (h : hasQuick p = false) : quickPat p = p := by
  apply stripCaps_id
  intro g hg
  apply kept_of_keep
  unfold hasQuick at h
  rw [List.any_eq_false] at h
  have := h g hg
  simpa using this

example : hasQuick (.seq (.cap 1 (.chr (.one 97 false))) (.ref 1 false)) = false := by decide +kernel

/-! ## B. the entry points over one scan -/

/-- **Part A feeds part B**: the specification of a pattern and of its bool-only program, taken as engines without
    accelerators, satisfy `Programs.Agree` — both are well-shaped and report the same overall span at every position
    for every `\G` origin.  A pattern without `\G` is `OriginFree`. -/
theorem spec_programs_agree (e : Env) (p : Pat) (rtl : Bool) :
    (specPrograms e p rtl).Agree rtl e.n ∧
    (usesStart p = false → OriginFree (specPrograms e p rtl).full e.n) :=
  ⟨specPrograms_agree e p rtl, fun h => specEngine_originFree e p rtl h⟩

/-- the two programs of `(a)(b)\1` on "xaba", and a prefix filter that proposes position 1 -/
def xabaPrograms : Programs := specPrograms xabaEnv abaPat false
def xabaFilter : Nat → Option Nat := fun _ => some 1

theorem xaba_filter_sound : FilterSound (xabaPrograms.full.attempt 0) 4 xabaFilter := by
  constructor
  · intro h; simp [xabaFilter] at h
  · intro c hc p hp _
    simp only [xabaFilter, Option.some.injEq] at hc
    have : p = 0 := by omega
    subst this; decide

/-- **A boolean call returns true exactly when the find call returns a match** (rune input):
    `MatchRunes` runs the bool-only program, `FindRunesMatch` the full one, both from the beginning
    in scan direction. -/
theorem matchRunes_iff_find (P : Programs) (rtl : Bool) (n : Nat) (hP : P.Agree rtl n) :
    matchRunes P rtl n = (findRunesMatch P rtl n).isSome := by
  unfold matchRunes findRunesMatch
  rw [firstMatch_congr P rtl n hP]

/-- **`FindStringMatch` finds what `FindRunesMatch` finds** (up to the byte/rune conversion of C08):
    right-to-left the filter is not consulted; left-to-right, for a pattern without `\G` and a sound
    filter, restarting the search at the filter's candidate — which also moves the `\G` origin
    there — returns the same match, and the filter's "no" is returned only when there is none. -/
theorem findStringMatch_eq (P : Programs) (filter : Nat → Option Nat) (rtl : Bool) (n : Nat) (hP : P.Agree rtl n)
    (hO : rtl = false → OriginFree P.full n) (hF : rtl = false → FilterSound (P.full.attempt 0) n filter) :
    findStringMatch P filter rtl n = findRunesMatch P rtl n := by
  unfold findStringMatch findRunesMatch
  cases rtl with
  | true => rw [stringStart_rtl]; rfl
  | false => exact stringStart_scan P.full n hP.full (hO rfl) filter (hF rfl)

/-- **`MatchString` answers what `MatchRunes` answers**, hence (previous two theorems) true exactly
    when `FindStringMatch` returns a match (the two conjuncts, in this order). -/
theorem matchString_eq (P : Programs) (filter : Nat → Option Nat) (rtl : Bool) (n : Nat) (hP : P.Agree rtl n)
    (hO : rtl = false → OriginFree P.full n) (hF : rtl = false → FilterSound (P.full.attempt 0) n filter) :
    matchString P filter rtl n = matchRunes P rtl n ∧
    matchString P filter rtl n = (findStringMatch P filter rtl n).isSome := by
  have h1 : matchString P filter rtl n = (findStringMatch P filter rtl n).isSome := by
    unfold matchString findStringMatch
    cases hs : stringStart filter rtl n with
    | none => rfl
    | some c =>
      have hc : c ≤ n := stringStart_le hs
      simp only
      rw [scanAt_congr P.quick P.full rtl n hP.quick hP.full c (-1) hc (fun p hp => hP.same c p hc hp)]
  refine ⟨?_, h1⟩
  rw [h1, findStringMatch_eq P filter rtl n hP hO hF, matchRunes_iff_find P rtl n hP]

/-- **The find-all calls enumerate the `FindNextMatch` sequence of the full program.**
    `FindAllRunesIndex(r, k)` — which runs the bool-only program — returns the sequence
    `FindRunesMatch, FindNextMatch, …` of the full program minus the empty matches adjacent to the
    previous match, truncated to `k`, `nil` when empty (the rule of C07, `findAllSpec`);
    `FindAllStringIndex(s, k)` returns the same list (up to the byte mapping of C08). -/
theorem findAll_eq (P : Programs) (filter : Nat → Option Nat) (rtl : Bool) (n : Nat) (k : Int) (hP : P.Agree rtl n)
    (hO : rtl = false → OriginFree P.full n) (hF : rtl = false → FilterSound (P.full.attempt 0) n filter) :
    findAllRunes P rtl n k = findAllSpec rtl k (iterate P.full rtl n) ∧
    findAllString P filter rtl n k = findAllRunes P rtl n k := by
  constructor
  · unfold findAllRunes
    rw [findAll_eq_spec, iterate_congr P rtl n hP]   -- `Props.C07.findAll_eq`
  · unfold findAllString findAllRunes findAll
    by_cases hk : k = 0
    · simp [hk]
    · simp only [hk, if_false]
      -- the first scan of the loop is the scan of `findStringMatch`/`findRunesMatch` on the bool-only program
      have hQO : rtl = false → OriginFree P.quick n := by
        intro hr ts ts' p h1 h2 h3
        rw [hP.same ts p h1 h3, hP.same ts' p h2 h3]; exact hO hr ts ts' p h1 h2 h3
      have hQF : rtl = false → FilterSound (P.quick.attempt 0) n filter := by
        intro hr
        have := hF hr
        exact ⟨fun h p hp => by rw [hP.same 0 p (Nat.zero_le n) hp]; exact this.1 h p hp,
          fun c h p hpc hp => by rw [hP.same 0 p (Nat.zero_le n) hp]; exact this.2 c h p hpc hp⟩
      have hfirst : (match stringStart filter rtl n with
          | none => none
          | some c => scanAt P.quick rtl n c (-1)) = scanAt P.quick rtl n (firstStart rtl n) (-1) := by
        cases rtl with
        | true => rw [stringStart_rtl]
        | false => exact stringStart_scan P.quick n hP.quick (hQO rfl) filter (hQF rfl)
      have hloop : ∀ c, scanAt P.quick rtl n c (-1) = scanAt P.quick rtl n (firstStart rtl n) (-1) →
          findAllLoop P.quick rtl n (n + 2) c (-1) (-1) k = findAllLoop P.quick rtl n (n + 2) (firstStart rtl n) (-1) (-1) k := by
        intro c hc
        simp only [findAllLoop, hc]
      cases hs : stringStart filter rtl n with
      | none =>
        rw [hs] at hfirst
        simp only [findAllLoop, hk, if_false, ← hfirst]
        rfl
      | some c =>
        rw [hs] at hfirst
        simp only [hloop c hfirst]

/-- **The enumeration inside `Replace`, `ReplaceFunc`, `Split` and the adapter is the same sequence.**
    The three drivers of replace.go substitute the first `count` matches (`count < 0`: all) of the
    sequence `FindRunesMatch, FindNextMatch, …`; `Split` and the adapter's `forEachStringMatch`, which
    start from `FindStringMatch`, walk that same sequence. -/
theorem replaceEnum_eq (P : Programs) (filter : Nat → Option Nat) (rtl : Bool) (n : Nat) (count : Int) (hP : P.Agree rtl n)
    (hO : rtl = false → OriginFree P.full n) (hF : rtl = false → FilterSound (P.full.attempt 0) n filter) :
    replaceEnum P rtl n count = takeK count (iterate P.full rtl n) ∧
    enumString P filter rtl n = iterate P.full rtl n := by
  constructor
  · unfold replaceEnum iterate
    by_cases hc : count = 0
    · simp [hc, takeK_zero]
    · simp only [hc, if_false]
      exact replaceLoop_eq P.full rtl n _ _ count hc
  · unfold enumString iterate
    rw [findStringMatch_eq P filter rtl n hP hO hF]
    rfl

/-- **All entry points agree.**  Conjuncts: `MatchRunes` = "`FindRunesMatch` finds a match"; `MatchString` = `MatchRunes`;
    `FindStringMatch` = `FindRunesMatch`; `FindAllRunesIndex` = the rule of C07 over the full program's sequence;
    `FindAllStringIndex` = `FindAllRunesIndex`; the `Replace*` enumeration = the first `count` of that sequence; the
    `Split` / adapter enumeration = that sequence. -/
theorem api_agree (P : Programs) (filter : Nat → Option Nat) (rtl : Bool) (n : Nat) (hP : P.Agree rtl n)
    (hO : rtl = false → OriginFree P.full n) (hF : rtl = false → FilterSound (P.full.attempt 0) n filter) :
    matchRunes P rtl n = (findRunesMatch P rtl n).isSome ∧
    matchString P filter rtl n = matchRunes P rtl n ∧
    findStringMatch P filter rtl n = findRunesMatch P rtl n ∧
    (∀ k, findAllRunes P rtl n k = findAllSpec rtl k (iterate P.full rtl n)) ∧
    (∀ k, findAllString P filter rtl n k = findAllRunes P rtl n k) ∧
    (∀ count, replaceEnum P rtl n count = takeK count (iterate P.full rtl n)) ∧
    enumString P filter rtl n = iterate P.full rtl n :=
  ⟨matchRunes_iff_find P rtl n hP, (matchString_eq P filter rtl n hP hO hF).1,
    findStringMatch_eq P filter rtl n hP hO hF,
    fun k => (findAll_eq P filter rtl n k hP hO hF).1, fun k => (findAll_eq P filter rtl n k hP hO hF).2,
    fun c => (replaceEnum_eq P filter rtl n c hP hO hF).1, (replaceEnum_eq P filter rtl n 1 hP hO hF).2⟩

-- the hypotheses are satisfiable by a non-trivial instance: `(a)(b)\1` on "xaba" with its bool-only
-- program `(a)b\1` and a filter that skips position 0 …
example : xabaPrograms.Agree false 4 ∧ OriginFree xabaPrograms.full 4 ∧ FilterSound (xabaPrograms.full.attempt 0) 4 xabaFilter :=
  ⟨specPrograms_agree xabaEnv abaPat false, specEngine_originFree xabaEnv abaPat false (by decide +kernel), xaba_filter_sound⟩
-- … and every entry point reports the match "aba" at 1
example : findRunesMatch xabaPrograms false 4 = some ⟨1, 3, 4⟩ ∧ findStringMatch xabaPrograms xabaFilter false 4 = some ⟨1, 3, 4⟩ ∧
    matchRunes xabaPrograms false 4 = true ∧ matchString xabaPrograms xabaFilter false 4 = true :=
  ⟨by decide +kernel, by decide +kernel, by decide +kernel, by decide +kernel⟩
example : findAllRunes xabaPrograms false 4 (-1) = some [(1, 4)] ∧ findAllString xabaPrograms xabaFilter false 4 (-1) = some [(1, 4)] ∧
    replaceEnum xabaPrograms false 4 (-1) = [⟨1, 3, 4⟩] ∧ enumString xabaPrograms xabaFilter false 4 = [⟨1, 3, 4⟩] :=
  ⟨by decide +kernel, by decide +kernel, by decide +kernel, by decide +kernel⟩
-- an unsound filter (it proposes position 2, beyond the match) makes the string calls miss the match:
-- `FilterSound` is needed
example : findStringMatch xabaPrograms (fun _ => some 2) false 4 = none ∧ matchString xabaPrograms (fun _ => some 2) false 4 = false :=
  ⟨by decide +kernel, by decide +kernel⟩
-- and so is `OriginFree`: `(?<=\Ga)b` on "ab" matches "b" at 1 when `\G` is bound to 0; position 0
-- fails, so a filter proposing candidate 1 is sound — but restarting there rebinds `\G` to 1 and the
-- match is lost.  /repo therefore builds no filter for patterns that use `\G` (`Code.UsesStartAnchor`).
def gPat : Pat := .seq (.look true false (.seq (.anchor .start) (.chr (.one 97 false)))) (.chr (.one 98 false))
def gPrograms : Programs := specPrograms { abaEnv with text := [97, 98] } gPat false

example : gPrograms.Agree false 2 ∧ FilterSound (gPrograms.full.attempt 0) 2 (fun _ => some 1) ∧
    findRunesMatch gPrograms false 2 = some ⟨1, 1, 2⟩ ∧ findStringMatch gPrograms (fun _ => some 1) false 2 = none := by
  refine ⟨specPrograms_agree _ gPat false, ⟨fun h => by simp at h, ?_⟩, by decide +kernel, by decide +kernel⟩
  intro c hc p hp _
  simp only [Option.some.injEq] at hc
  have : p = 0 := by omega
  subst this; decide

/-! ## C. the entry points with the CONCRETE raw-string prefix filter

The filter is the model of `stringprefixfilter.go` (`Model/StringFilter.lean`): `newStringPrefixFilter` on the record
the compiled program publishes, run on the BYTES of the input, its candidate mapped to a rune index as the entry points
do (`StringFilter.runeFilter`: `findStringMatchStart(s, -1)`, then `decodeStringWithStart` / `getRunesAndStart`).  The
hypothesis left is about the pattern: the facts of the find mode hold at every match (`StrFactsSound` — C04's side;
leg H of C04 per case). -/
section ConcreteFilter
open RegexVerif.Utf8 RegexVerif.StringFilter RegexVerif.Lemmas.StringFilter

/-- **The concrete filter satisfies `FilterSound`.**  If the facts of the record's find mode hold at every successful
    attempt on the decoded runes, the filter `newStringPrefixFilter` installs — or the absence of one — seen from the
    rune side, only skips rune positions at which the program fails and says "no" only when it fails everywhere. -/
theorem concrete_filter_sound (code : CodeB) (input : List Nat) (attempt : Nat → Option (Nat × Nat))
    (hF : ∀ o, code.opts = some o → StrFactsSound o input attempt) :
    FilterSound attempt (decodeB input).length (runeFilter ((newStringPrefixFilter code).map (·.2)) input) := by
  apply runeFilter_sound
  intro f hf
  cases hn : newStringPrefixFilter code with
  | none => rw [hn] at hf; simp at hf
  | some kf =>
    rw [hn] at hf
    simp only [Option.map_some, Option.some.injEq] at hf
    subst hf
    obtain ⟨o, ho⟩ := installed_has_opts code kf hn
    exact dispatch_sound code o kf.1 kf.2 input attempt ho hn (hF o ho)

/-- **All entry points agree, with the concrete filter**: `api_agree` with `FilterSound` discharged.  `input` is the
    string as bytes, `n` the number of runes it decodes to (one per invalid byte); the programs run on those runes, the
    string entry points start from the candidate of the byte-level filter (byte offsets through the mappers of C08). -/
theorem api_agree_concrete (P : Programs) (code : CodeB) (input : List Nat) (rtl : Bool)
    (hP : P.Agree rtl (decodeB input).length)
    (hO : rtl = false → OriginFree P.full (decodeB input).length)
    (hF : rtl = false → ∀ o, code.opts = some o → StrFactsSound o input (P.full.attempt 0)) :
    let n := (decodeB input).length
    let filter := runeFilter ((newStringPrefixFilter code).map (·.2)) input
    matchRunes P rtl n = (findRunesMatch P rtl n).isSome ∧
    matchString P filter rtl n = matchRunes P rtl n ∧
    findStringMatch P filter rtl n = findRunesMatch P rtl n ∧
    (∀ k, findAllRunes P rtl n k = findAllSpec rtl k (iterate P.full rtl n)) ∧
    (∀ k, findAllString P filter rtl n k = findAllRunes P rtl n k) ∧
    (∀ count, replaceEnum P rtl n count = takeK count (iterate P.full rtl n)) ∧
    enumString P filter rtl n = iterate P.full rtl n :=
  api_agree P _ rtl _ hP hO (fun hr => concrete_filter_sound code input (P.full.attempt 0) (hF hr))

/-- the string "xaba" as bytes (the programs `xabaPrograms` of part B run on its four runes), and the record of a
    pattern whose matches all start with "ab" and are at least 3 runes long -/
def cfInput : List Nat := [120, 97, 98, 97]
def cfCode : CodeB := { opts := some { mode := .leadingStringLtr, minLen := 3, leadingPrefix := [97, 98] } }

example : (decodeB cfInput).length = 4 ∧ runesOf cfInput = [120, 97, 98, 97] := by decide +kernel
-- the filter `newStringPrefixFilter` installs proposes byte 1 = rune 1
example : runeFilter ((newStringPrefixFilter cfCode).map (·.2)) cfInput 0 = some 1 := by decide +kernel
-- the facts of the record hold for `(a)(b)\1` on "xaba" (the only successful attempt is at 1) …
theorem cf_facts : StrFactsSound { mode := .leadingStringLtr, minLen := 3, leadingPrefix := [97, 98] } cfInput (xabaPrograms.full.attempt 0) := by
  have honly : ∀ p, p ≤ 4 → xabaPrograms.full.attempt 0 p ≠ none → p = 1 := by
    intro p hp h
    have : p = 0 ∨ p = 1 ∨ p = 2 ∨ p = 3 ∨ p = 4 := by omega
    rcases this with rfl | rfl | rfl | rfl | rfl
    · exact absurd (by decide) h
    · rfl
    · exact absurd (by decide) h
    · exact absurd (by decide) h
    · exact absurd (by decide) h
  have hlen : (decodeB cfInput).length = 4 := by decide
  refine ⟨?_, ?_⟩
  · intro p i l hp h
    rw [hlen] at hp ⊢
    have := honly p hp (by rw [h]; simp)
    subst this; simp
  · intro p hp h
    rw [hlen] at hp
    have := honly p hp h
    subst this
    unfold runeOcc; decide
-- … so every string entry point reports the match "aba" at 1 through the concrete filter
example : findStringMatch xabaPrograms (runeFilter ((newStringPrefixFilter cfCode).map (·.2)) cfInput) false 4 = some ⟨1, 3, 4⟩ ∧
    matchString xabaPrograms (runeFilter ((newStringPrefixFilter cfCode).map (·.2)) cfInput) false 4 = true := ⟨by decide +kernel, by decide +kernel⟩

end ConcreteFilter

/-! ## D. the bool-only program at INTERPRETER level

Part A is about the specification, `Props.C01.emitQuick_eq_emit_strip` about the writer (`QuickCodes` = the main
writer's code for `Writer.stripTree`), `Props.C01.compile_correct_T4e` about the interpreter running the MAIN program.
Composed: on `Compile.InFrag 8` the interpreter model running the bool-only program `Writer.emitQuick ti t` — what
`MatchString` / `MatchRunes` / `FindAll*Index` execute — halts without fault, decides at every position what the main
program decides, and ends at the same text position (from which the scan loop of `FindAll*Index` continues).

Spine: `toPat_stripTree` → `stripTree_keeps_fragment` → `Compile.compile_correct_prog` (the whole-attempt theorem for any
program sharing code words, tables and `Capsize` with `emit`) on the stripped tree → `Spec.attempt_strip` (part A, one
attempt). -/
section QuickCompile
-- the fixtures of the examples below: `ccInfo`, `ccTP`, `ccEnv`, `ccSe`, `ccRel`, `ccRun` are in Lemmas/CompileTop.lean,
-- `qkT1`, `qkT2`, `qkRun` in Lemmas/QuickCompile.lean (namespace `RegexVerif.Compile`, opened here)
open RegexVerif.Compile RegexVerif.Writer RegexVerif.Generated.Opcodes

/-- **The specification pattern of the stripped tree is the stripped specification pattern.**  The tree the second
    writer effectively compiles (`stripTree (quickCfg ti t) t`: a `Capture` whose `Setmark` / `Capturemark` pair
    `emitCapture` drops is a plain group) translates to `stripCaps keep pat` for `keep = quickKeep ti t` (`keep g` ⇔ the
    slot of `g` is marked in `CaptureSlotInUse` or lies outside it), and this `keep` satisfies the hypothesis of
    `quick_agrees`: every group `pat` reads back (`\g`, `(?(g)…)`) is kept, because `captureSlotsInUse` marks the operand
    of every `Ref` / `Testref` of the emitted code.

    `Spec.slotsInUse pat ⊆ {g | kept (quickKeep ti t) g}` is the direction soundness needs (a LARGER keep set strips
    fewer groups).  The converse — `stripCaps (quickKeep ti t) pat = Spec.quickPat pat` — is not proved (it needs: slots
    are in bijection with the groups of the tree, and no other instruction marks a slot); leg Cc compares the two
    patterns on every covered tree (`Cc:quickpat`). -/
theorem toPat_stripTree (ti : TreeInfo) (t : GoNode) (TPx : TP) (d : Bool) (pat : Pat) (hwf : treeWf ti t = true)
    (h0 : mapCapnum (mainCfg ti) 0 = 0) (hpat : toPatRoot TPx d t = some pat) :
    toPatRoot TPx d (stripTree (quickCfg ti t) t) = some (stripCaps (quickKeep ti t) pat) ∧
    (∀ g ∈ refsOf pat, quickKeep ti t g = true) ∧
    (∀ g, inUse (Spec.slotsInUse pat) g = true → kept (quickKeep ti t) g = true) ∧
    (∀ g : Nat, quickKeep ti t g = emitCapture (quickCfg ti t) (g : Int) (-1)) := by
  simp only [treeWf, Bool.and_eq_true] at hwf
  obtain ⟨⟨hok, hcaps⟩, _⟩ := hwf
  have hz := quickKeep_zero ti t hok hcaps h0
  obtain ⟨body, ht, hb⟩ := toPatRoot_some hpat
  have hrefs : ∀ g ∈ refsOf pat, quickKeep ti t g = true := by
    have hp : toPat TPx d t = some (.cap 0 pat) := by rw [ht]; simp [toPat, hb]
    intro g hg
    exact quickKeep_refs ti t TPx d _ hok hcaps hp g (by simpa [refsOf] using hg)
  refine ⟨toPatRoot_strip _ hz TPx d t pat hpat, hrefs, ?_, fun _ => rfl⟩
  intro g hg
  simp only [inUse, Spec.slotsInUse, List.contains_cons, Bool.or_eq_true, beq_iff_eq] at hg
  rcases hg with rfl | hg
  · rfl
  · exact kept_of_keep (hrefs g (by simpa using hg))

-- `(a)(b)\1`: the second writer keeps group 1 (read back by `\1`) and drops group 2 …
example : quickKeep (ccInfo 3) qkT1 1 = true ∧ quickKeep (ccInfo 3) qkT1 2 = false ∧ Writer.slotsInUse (ccInfo 3) qkT1 = [true, true, false] := by
  decide +kernel
-- … the stripped tree translates to `(a)b\1` = `stripCaps` of the translation = `quickPat` of the translation
example : toPatRoot ccTP false qkT1 = some abaPat ∧
    toPatRoot ccTP false (stripTree (quickCfg (ccInfo 3) qkT1) qkT1) = some (stripCaps keep1 abaPat) ∧
    stripCaps (quickKeep (ccInfo 3) qkT1) abaPat = stripCaps keep1 abaPat ∧ quickPat abaPat = stripCaps keep1 abaPat :=
  ⟨by rfl, by rfl, by rfl, by rfl⟩
-- `(x)y`: group 1 is dropped, the stripped tree translates to `xy`
example : toPatRoot ccTP false (stripTree (quickCfg (ccInfo 2) qkT2) qkT2) =
    some (.seq (.chr (.one 120 false)) (.chr (.one 121 false))) ∧ quickKeep (ccInfo 2) qkT2 1 = false := ⟨by rfl, by decide +kernel⟩
example : treeWf (ccInfo 3) qkT1 = true ∧ mapCapnum (mainCfg (ccInfo 3)) 0 = 0 ∧ treeWf (ccInfo 2) qkT2 = true := by decide +kernel

/-- **`stripTree` preserves the fragment and well-formedness**, so every theorem about `emit` on the fragment applies to
    the tree the second writer effectively compiles. -/
theorem stripTree_keeps_fragment (k : Nat) (ti : TreeInfo) (t : GoNode) (TPx : TP) (hfrag : InFrag k TPx ti t = true)
    (hwf : treeWf ti t = true) :
    InFrag k TPx ti (stripTree (quickCfg ti t) t) = true ∧ treeWf ti (stripTree (quickCfg ti t) t) = true := by
  have hwf' := hwf
  simp only [treeWf, Bool.and_eq_true] at hwf'
  have hz := quickKeep_zero ti t hwf'.1.1 hwf'.1.2 (inFrag_spec hfrag).slot0
  exact ⟨inFrag_strip _ hz k TPx ti t hfrag, treeWf_strip _ ti t hwf⟩

example : InFrag 6 ccTP (ccInfo 3) qkT1 = true ∧ InFrag 5 ccTP (ccInfo 3) qkT1 = false ∧
    InFrag 6 ccTP (ccInfo 3) (stripTree (quickCfg (ccInfo 3) qkT1) qkT1) = true ∧
    treeWf (ccInfo 3) (stripTree (quickCfg (ccInfo 3) qkT1) qkT1) = true :=
  have h : InFrag 6 ccTP (ccInfo 3) qkT1 = true := by decide +kernel
  ⟨h, by decide +kernel, stripTree_keeps_fragment 6 _ _ _ h (by decide +kernel)⟩
example : InFrag 1 ccTP (ccInfo 2) qkT2 = true ∧ InFrag 1 ccTP (ccInfo 2) (stripTree (quickCfg (ccInfo 2) qkT2) qkT2) = true :=
  have h : InFrag 1 ccTP (ccInfo 2) qkT2 = true := by decide +kernel
  ⟨h, (stripTree_keeps_fragment 1 _ _ _ h (by decide +kernel)).1⟩

/-- **The bool-only program decides exactly what the main program decides.**  Hypotheses of
    `Props.C01.compile_correct_T4e`; `qp` is the bool-only program `Write` / `makeQuickCode` build (there is none when
    every slot is in use).  Witnesses: `s0 s n` (start state, final state, sufficient fuel of the MAIN program) and
    `q0 qs qn` (the same of the bool-only program).  Conjuncts: main program starts; halts at `Stop` in `s` for every
    sufficient fuel; bool-only program starts; halts in `qs`; `matched qs` (`runmatch.matchcount[0] > 0`, what
    `MatchString` / `MatchRunes` return) = the specification's verdict; `matched qs = matched s`; on a match the same
    text position (what the scan loop of `FindAll*Index` reads from the bool-only run); and for every success `st` of
    the specification: `qs` stands at `st.pos`, `s` stands at `st.pos`, the captures of `qs` (the log with the dropped
    groups erased), the captures of `s` (the full log). -/
theorem compile_correct_quick (ti : TreeInfo) (t : GoNode) (TPx : TP) (env : VM.Env) (se : Spec.Env) (pat : Pat) (i : Nat)
    (qp : Code.Prog) (hfrag : InFrag 8 TPx ti t = true) (hwf : treeWf ti t = true)
    (hpat : toPatRoot TPx ti.rtl t = some pat) (hrel : EnvRel TPx (codeFromTree (mainCfg ti) t).2.sets env se)
    (hi : i ≤ se.n) (hlen : se.n < 2147483647) (henv : env.ecma = false) (hq : emitQuick ti t = some qp) :
    ∃ s0 s n q0 qs qn,
      VM.init (emit ti t) (i : Int) = .ok s0 ∧ (∀ fuel, n ≤ fuel → (VM.run (emit ti t) env fuel s0).1 = .done s) ∧
      VM.init qp (i : Int) = .ok q0 ∧ (∀ fuel, qn ≤ fuel → (VM.run qp env fuel q0).1 = .done qs) ∧
      VM.matched qs = (Spec.attempt se pat ti.rtl i).isSome ∧
      VM.matched qs = VM.matched s ∧
      (VM.matched s = true → qs.textpos = s.textpos) ∧
      ∀ st, Spec.attempt se pat ti.rtl i = some st →
        qs.textpos = (st.pos : Int) ∧ s.textpos = (st.pos : Int) ∧
        CapRep (slotOf ti) (capsize ti) qs.cap (eraseCaps (quickKeep ti t) st).caps ∧
        CapRep (slotOf ti) (capsize ti) s.cap st.caps := by
  obtain ⟨s0, s, n, h1, h2, hag⟩ :=
    compile_correct_upto 8 (by decide) ti t TPx env se pat i hfrag hwf hpat hrel hi (by omega) (fun _ => hlen) (fun _ => henv)
  obtain ⟨hfrag', hwf'⟩ := stripTree_keeps_fragment 8 ti t TPx hfrag hwf
  obtain ⟨hpat', hrefs, _, _⟩ := toPat_stripTree ti t TPx ti.rtl pat hwf (inFrag_spec hfrag).slot0 hpat
  obtain ⟨hc1, hc2, hc3, hc4, htab⟩ := emitQuick_prog ti t qp hq
  obtain ⟨q0, qs, qn, g1, g2, gag⟩ :=
    compile_correct_prog 8 (by decide) ti (stripTree (quickCfg ti t) t) TPx env se (stripCaps (quickKeep ti t) pat) i qp
      hc1 hc2 hc3 hc4 hfrag' hwf' hpat' (by rw [htab]; exact hrel) hi (by omega) (fun _ => hlen) (fun _ => henv)
  have hatt : Spec.attempt se (stripCaps (quickKeep ti t) pat) ti.rtl i =
      (Spec.attempt se pat ti.rtl i).map (eraseCaps (quickKeep ti t)) :=
    attempt_strip se _ pat (fun g hg => kept_of_keep (hrefs g hg)) ti.rtl i
  have hv : VM.matched qs = (Spec.attempt se pat ti.rtl i).isSome := by
    rw [gag.verdict, hatt]; cases Spec.attempt se pat ti.rtl i <;> rfl
  have hst : ∀ st, Spec.attempt se pat ti.rtl i = some st →
      qs.textpos = (st.pos : Int) ∧ s.textpos = (st.pos : Int) ∧
      CapRep (slotOf ti) (capsize ti) qs.cap (eraseCaps (quickKeep ti t) st).caps ∧
      CapRep (slotOf ti) (capsize ti) s.cap st.caps := by
    intro st h
    have h' : Spec.attempt se (stripCaps (quickKeep ti t) pat) ti.rtl i = some (eraseCaps (quickKeep ti t) st) := by
      rw [hatt, h]; rfl
    exact ⟨gag.pos (eraseCaps (quickKeep ti t) st) h', hag.pos st h, gag.caps (eraseCaps (quickKeep ti t) st) h', hag.caps st h⟩
  refine ⟨s0, s, n, q0, qs, qn, h1, h2, g1, g2, hv, by rw [hv, hag.verdict], ?_, hst⟩
  intro hm
  rw [hag.verdict] at hm
  cases h : Spec.attempt se pat ti.rtl i with
  | none => rw [h] at hm; cases hm
  | some st => obtain ⟨a, b, _, _⟩ := hst st h; rw [a, b]

-- `(a)(b)\1` on "aba": the bool-only program `Lazybranch; Setmark; Setmark; One a; Capturemark 1; One b; Ref 1;
-- Capturemark 0; Stop` (no marks for group 2) and the main program both match at 0 and end at 3; at 1 both fail
example : (emitQuick (ccInfo 3) qkT1).map (·.codes.toList) =
    some [23, 16, 31, 31, 9, 97, 32, 1, -1, 9, 98, 13, 1, 32, 0, -1, 40] := by decide +kernel
example : qkRun (ccInfo 3) qkT1 (ccEnv [] (ccSe [97, 98, 97])) 0 60 = some (true, 3, [[0, 3], [0, 1], []]) ∧
    ccRun (ccInfo 3) qkT1 (ccEnv [] (ccSe [97, 98, 97])) 0 60 = some (true, 3, [[0, 3], [0, 1], [1, 1]]) := by decide +kernel
example : (qkRun (ccInfo 3) qkT1 (ccEnv [] (ccSe [97, 98, 97])) 1 60).map (·.1) = some false ∧
    (ccRun (ccInfo 3) qkT1 (ccEnv [] (ccSe [97, 98, 97])) 1 60).map (·.1) = some false := by decide +kernel
-- `(x)y` on "xy": group 1 leaves no trace in the bool-only run
example : qkRun (ccInfo 2) qkT2 (ccEnv [] (ccSe [120, 121])) 0 60 = some (true, 2, [[0, 2], []]) ∧
    ccRun (ccInfo 2) qkT2 (ccEnv [] (ccSe [120, 121])) 0 60 = some (true, 2, [[0, 2], [0, 1]]) := by decide +kernel
/-- `compile_correct_quick` applies to `(a)(b)\1` on "aba" at 0: the bool-only program exists, halts, and says
    "matched" -/
example : ∃ qp q0 qs qn, emitQuick (ccInfo 3) qkT1 = some qp ∧ VM.init qp (0 : Nat) = .ok q0 ∧
    (∀ fuel, qn ≤ fuel → (VM.run qp (ccEnv [] (ccSe [97, 98, 97])) fuel q0).1 = .done qs) ∧ VM.matched qs = true := by
  obtain ⟨qp, hq⟩ := Option.isSome_iff_exists.1 (by decide +kernel : (emitQuick (ccInfo 3) qkT1).isSome = true)
  obtain ⟨_, _, _, q0, qs, qn, _, _, g1, g2, hv, _⟩ :=
    compile_correct_quick (ccInfo 3) qkT1 ccTP (ccEnv [] (ccSe [97, 98, 97])) (ccSe [97, 98, 97]) abaPat 0 qp (by decide +kernel)
      (by decide +kernel) (by rfl) (ccRel _ _) (by decide +kernel) (by decide +kernel) rfl hq
  exact ⟨qp, q0, qs, qn, hq, g1, g2, by rw [hv]; decide +kernel⟩

/-- **The scan.**  Under the hypotheses of `compile_correct_quick`, for every start of the scan: `Spec.find` (in the
    direction of the tree) returns `st` exactly when the scan order splits as `before ++ i :: after` such that at `i`
    BOTH programs halt matched at `st.pos` — the bool-only program with the kept captures of `st`, the main program with
    all of them, `st` being the specification's attempt at `i` — and at every position of `before` both halt unmatched.
    (The engine's `scan` is this naive scan up to the accelerations of C03.) -/
theorem compile_correct_find_quick (ti : TreeInfo) (t : GoNode) (TPx : TP) (env : VM.Env) (se : Spec.Env) (pat : Pat)
    (start : Nat) (qp : Code.Prog) (hstart : start ≤ se.n) (hfrag : InFrag 8 TPx ti t = true) (hwf : treeWf ti t = true)
    (hpat : toPatRoot TPx ti.rtl t = some pat) (hrel : EnvRel TPx (codeFromTree (mainCfg ti) t).2.sets env se)
    (hlen : se.n < 2147483647) (henv : env.ecma = false) (hq : emitQuick ti t = some qp) (st : St) :
    Spec.find se pat ti.rtl start = some st ↔
      ∃ (before : List Nat) (i : Nat) (after : List Nat), Spec.scanOrder ti.rtl start se.n = before ++ i :: after ∧
        (∃ s0 s n q0 qs qn,
          VM.init (emit ti t) (i : Int) = .ok s0 ∧ (∀ fuel, n ≤ fuel → (VM.run (emit ti t) env fuel s0).1 = .done s) ∧
          VM.init qp (i : Int) = .ok q0 ∧ (∀ fuel, qn ≤ fuel → (VM.run qp env fuel q0).1 = .done qs) ∧
          VM.matched qs = true ∧ VM.matched s = true ∧ qs.textpos = (st.pos : Int) ∧ s.textpos = (st.pos : Int) ∧
          CapRep (slotOf ti) (capsize ti) qs.cap (eraseCaps (quickKeep ti t) st).caps ∧
          CapRep (slotOf ti) (capsize ti) s.cap st.caps ∧ Spec.attempt se pat ti.rtl i = some st) ∧
        ∀ j ∈ before, ∃ s0 s n q0 qs qn,
          VM.init (emit ti t) (j : Int) = .ok s0 ∧ (∀ fuel, n ≤ fuel → (VM.run (emit ti t) env fuel s0).1 = .done s) ∧
          VM.init qp (j : Int) = .ok q0 ∧ (∀ fuel, qn ≤ fuel → (VM.run qp env fuel q0).1 = .done qs) ∧
          VM.matched qs = false ∧ VM.matched s = false := by
  have hatt := fun j (hj : j ≤ se.n) =>
    compile_correct_quick ti t TPx env se pat j qp hfrag hwf hpat hrel hj hlen henv hq
  have hpos : ∀ j ∈ Spec.scanOrder ti.rtl start se.n, j ≤ se.n := fun j hj => mem_scanOrder_le ti.rtl start se.n j hstart hj
  unfold find
  rw [List.findSome?_eq_some_iff]
  constructor
  · rintro ⟨before, i, after, hso, hat, hbef⟩
    refine ⟨before, i, after, hso, ?_, ?_⟩
    · obtain ⟨s0, s, n, q0, qs, qn, h1, h2, g1, g2, hv, hvs, _, hst⟩ := hatt i (hpos i (by rw [hso]; simp))
      obtain ⟨a, b, c, d⟩ := hst st hat
      have hqm : VM.matched qs = true := by rw [hv, hat]; rfl
      exact ⟨s0, s, n, q0, qs, qn, h1, h2, g1, g2, hqm, by rw [← hvs]; exact hqm, a, b, c, d, hat⟩
    · intro j hj
      obtain ⟨s0, s, n, q0, qs, qn, h1, h2, g1, g2, hv, hvs, _, _⟩ := hatt j (hpos j (by rw [hso]; simp [hj]))
      have hqm : VM.matched qs = false := by rw [hv, hbef j hj]; rfl
      exact ⟨s0, s, n, q0, qs, qn, h1, h2, g1, g2, hqm, by rw [← hvs]; exact hqm⟩
  · rintro ⟨before, i, after, hso, ⟨_, _, _, _, _, _, _, _, _, _, _, _, _, _, _, _, hat⟩, hbef⟩
    refine ⟨before, i, after, hso, hat, ?_⟩
    intro j hj
    obtain ⟨_, _, _, q0, qs, qn, _, _, g1, g2, hm, _⟩ := hbef j hj
    obtain ⟨_, _, _, q0', qs', qn', _, _, g1', g2', hv, _⟩ := hatt j (hpos j (by rw [hso]; simp [hj]))
    have hq0 : q0 = q0' := by rw [g1] at g1'; exact Except.ok.inj g1'
    subst hq0
    have hss : qs = qs' := run_done_unique' _ env q0 qs qs' _ _ (g2 (max qn qn') (by omega)) (g2' (max qn qn') (by omega))
    subst hss
    rw [hv] at hm
    cases hatt' : Spec.attempt se pat ti.rtl j with
    | none => rfl
    | some x => rw [hatt'] at hm; simp at hm

-- `(a)(b)\1` on "xaba" from 0: the specification finds the match at 1 ending at 4 (`xabaEnv`, part A); position 0 is the
-- only earlier one, there both programs fail, at 1 both match and stand at 4
example : Spec.find (ccSe [120, 97, 98, 97]) abaPat false 0 = some { pos := 4, caps := [(1, 1, 1), (2, 2, 1), (0, 1, 3)] } := by decide +kernel
example : Spec.scanOrder false 0 4 = [0] ++ 1 :: [2, 3, 4] := by decide +kernel
example : (qkRun (ccInfo 3) qkT1 (ccEnv [] (ccSe [120, 97, 98, 97])) 0 60).map (·.1) = some false ∧
    (ccRun (ccInfo 3) qkT1 (ccEnv [] (ccSe [120, 97, 98, 97])) 0 60).map (·.1) = some false ∧
    qkRun (ccInfo 3) qkT1 (ccEnv [] (ccSe [120, 97, 98, 97])) 1 60 = some (true, 4, [[1, 3], [1, 1], []]) ∧
    ccRun (ccInfo 3) qkT1 (ccEnv [] (ccSe [120, 97, 98, 97])) 1 60 = some (true, 4, [[1, 3], [1, 1], [2, 1]]) := by decide +kernel
/-- `compile_correct_find_quick` applies to this instance: some position of the scan order has the bool-only program
    matched and standing at 4 -/
example : ∃ qp i q0 qs qn, emitQuick (ccInfo 3) qkT1 = some qp ∧ i ∈ Spec.scanOrder false 0 4 ∧ VM.init qp (i : Int) = .ok q0 ∧
    (∀ fuel, qn ≤ fuel → (VM.run qp (ccEnv [] (ccSe [120, 97, 98, 97])) fuel q0).1 = .done qs) ∧
    VM.matched qs = true ∧ qs.textpos = 4 := by
  obtain ⟨qp, hq⟩ := Option.isSome_iff_exists.1 (by decide +kernel : (emitQuick (ccInfo 3) qkT1).isSome = true)
  obtain ⟨before, i, after, hso, ⟨_, _, _, q0, qs, qn, _, _, g1, g2, hm, _, hp, _⟩, _⟩ :=
    (compile_correct_find_quick (ccInfo 3) qkT1 ccTP (ccEnv [] (ccSe [120, 97, 98, 97])) (ccSe [120, 97, 98, 97]) abaPat 0 qp
      (by decide +kernel) (by decide +kernel) (by decide +kernel) (by rfl) (ccRel _ _) (by decide +kernel) rfl hq
      { pos := 4, caps := [(1, 1, 1), (2, 2, 1), (0, 1, 3)] }).mp (by decide +kernel)
  have hmem : i ∈ Spec.scanOrder false 0 4 := by
    have : Spec.scanOrder false 0 4 = before ++ i :: after := hso
    rw [this]; simp
  exact ⟨qp, i, q0, qs, qn, hq, hmem, g1, g2, hm, hp⟩

end QuickCompile

end RegexVerif.Props.C02
