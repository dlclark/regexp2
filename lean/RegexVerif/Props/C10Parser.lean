/-
C10 for the pattern parser: totality of the Lean model of `syntax/parser.go` (`Model/Parser.lean`: `countCaptures` +
`scanRegex` and everything they call, tied to the Go code by leg Pr: exact equality of the raw tree, the capture tables
and the ErrorCode with `syntax.VerifParseRaw` on every generated pattern and option set).

The model makes every Go run-time panic of the parser explicit (`Res.fault`: pattern index out of range, `moveLeft`
below 0, pop of an empty options / group stack, nil unit, slice bounds, `capnamelist[0]` on an empty list) and every loop
carries fuel (`Res.fuel`).  `wp m Q R s`: started in `s`, `m` returns normally into `Q` or with a Go `ErrorCode` into `R`,
never a fault, never out of fuel.

The proof of `parse_total`: every scanner is specified by symbolic execution (`Scans`, `ScansF`: position inside the
pattern and not behind a floor, only position / options / capture tables touched); the class scanner by an induction
over its fuel; the two outer loops by the loop rule with the invariants "capnames ≠ nil → capnamelist ≠ []" (pre-scan)
and "unit = nil at the head of a turn, depth of the options stack = depth of the group stack" (main scan), each turn
consuming at least one rune; the `{`-fallback of the quantifier scan, which would not consume, is dead after
`isTrueQuantifier`.
-/
import RegexVerif.Lemmas.ParserRoot

namespace RegexVerif.Props.C10
open RegexVerif.Parser

/-- **Loops of the parser terminate when every turn consumes input.**  If from every state with the invariant one turn
    leaves the loop or goes on strictly closer to the end of the pattern, the invariant kept, then fuel above the
    remaining runes is enough: no fuel exhaustion, no fault.  (`iter` is the model's one loop combinator:
    `countCaptures`, `scanRegex`, `skipOrdinary`, `scanECMACapname`; `parse` passes `length + 1` to the two outer loops.) -/
theorem loop_fuel_sufficient {β γ : Type} (E : Env) (f : β → M (Sum β γ)) (Inv : β → PS → Prop)
    (Q : γ → PS → Prop) (R : PS → Prop)
    (hstep : ∀ b s, Inv b s → wp (f b) (fun r s' => match r with
        | .inl b' => Inv b' s' ∧ E.pat.length - s'.pos < E.pat.length - s.pos
        | .inr c => Q c s') R s)
    (b : β) (s : PS) (hinv : Inv b s) :
    wp (iter f (E.pat.length + 1) b) Q R s :=
  wp_iter E f Inv Q R hstep _ b s (by omega) hinv

/-- non-vacuity: the name loop of `scanECMACapname` is such a loop (its proof instantiates the rule) -/
example (E : Env) : Scans E (scanECMACapname E) := scans_scanECMACapname E

/-- **The scanner layer is total (the first part; `scanners_total` has the large scanners).**  From every position
    inside the pattern each of these scanners returns, normally or with a Go `ErrorCode`, in a state not behind the
    start, inside the pattern, that differs from the start state only in position / options / ignoreNextParen / capture
    tables (`Adv`): no pattern index out of range, no fuel exhaustion.  `scanCharEscape` needs (and its callers give it)
    one rune to the right. -/
theorem scanners_total_partial (E : Env) :
    Scans E (scanBlank E) ∧ Scans E (scanDecimal E) ∧ Scans E (scanOptions E) ∧ Scans E (scanWord E) ∧
    (∀ c, Scans E (scanHex E c)) ∧ Scans E (scanHexUntilBrace E) ∧ Scans E (scanControl E) ∧
    ScansLt E (scanCharEscape E) ∧ Scans E (scanECMACapname E) ∧ Scans E (scanCapname E) ∧
    Scans E (parseProperty E) ∧ (∀ i, Scans E (noteCaptureSlot i)) ∧ (∀ n, Scans E (noteCaptureName E n)) ∧
    (∀ c, Scans E (consumeCaptureSlot E c)) :=
  ⟨scans_scanBlank E, scans_scanDecimal E, scans_scanOptions E, scans_scanWord E, scans_scanHex E,
   scans_scanHexUntilBrace E, scans_scanControl E, scansLt_scanCharEscape E, scans_scanECMACapname E,
   scans_scanCapname E, scans_parseProperty E, scans_noteCaptureSlot E, scans_noteCaptureName E,
   scans_consumeCaptureSlot E⟩

/-- non-vacuity: a state inside a concrete pattern, `\x4` (too few hex digits): the scanner returns an
    error, not a fault, and the position is inside the pattern -/
example : ∃ s', scanCharEscape
    { pat := [92, 120, 52], opts := {}, mco := false,
      orc := { isWord := fun _ => false, ecmaStart := fun _ => false, ecmaPart := fun _ => false, toLower := id,
               isLower := fun _ => false, isUpper := fun _ => false, orbit := fun _ => [], participates := fun _ => false,
               cat := fun _ _ => false, catName := fun _ => none } }
    { pos := 1 } = .err .tooFewHex s' ∧ s'.pos ≤ 3 := ⟨_, rfl, by decide⟩

/-- **`scanBlank` consumes no more than what is left**: the position after it is the start plus what `blankGo` counts. -/
theorem scanBlank_bounds (x : Bool) (r : List Nat) :
    (blankGo x .normal r 0).1 ≤ r.length := by
  have := blankGo_bounds x r .normal 0
  omega

example : blankGo true .normal [32, 35, 99, 10, 40, 63, 35, 120, 41, 97] 0 = (9, false) := by decide
example : blankGo false .normal [40, 63, 35, 120] 0 = (4, true) := by decide

/-- **The rest of the scanner layer is total.**  The same specification as in
    `scanners_total_partial` for the large scanners: `scanBasicBackslash`, `scanBackslash` (both modes),
    `scanCharSet` with the fuel the parser gives it (both modes; nested classes included),
    `scanGroupOpen` (every `(?…` construct: names, numbers, balancing groups, conditions, inline options,
    `(?P<…>`), `scanPythonNamedBackref` (given the three runes `?P=` its caller has seen).  `scanCondition` may end
    one rune to the left of its start (the inner `(` of `(?(`), never further (`ScansBack`); `scanGroupName` is
    specified against the `start` its caller saved as floor (its error `unrecognizedGrouping` slices the pattern from
    there). -/
theorem scanners_total (E : Env) :
    (∀ so, Scans E (scanBasicBackslash E so)) ∧ (∀ so, Scans E (scanBackslash E so)) ∧
    (∀ ci so, Scans E (scanCharSet E (2 * E.pat.length + 4) ci so)) ∧
    Scans E (scanGroupOpen E) ∧ ScansBack E (scanCondition E) ∧
    (∀ start close, ScansF E start 1 start (scanGroupName E start close)) ∧
    ScansK E 3 (scanPythonNamedBackref E) :=
  ⟨scans_scanBasicBackslash E, scans_scanBackslash E, scans_scanCharSet E, scans_scanGroupOpen E,
   scansBack_scanCondition E, scansF_scanGroupName E, scansK_scanPythonNamedBackref E⟩

/-- an oracle that says no to everything, and (`env0`) the environment of a pattern with it and no options: what the
    examples run in -/
def orc0 : Oracles where
  isWord := fun _ => false
  ecmaStart := fun _ => false
  ecmaPart := fun _ => false
  toLower := fun r => r
  isLower := fun _ => false
  isUpper := fun _ => false
  orbit := fun _ => []
  participates := fun _ => false
  cat := fun _ _ => false
  catName := fun _ => none
def env0 (p : List Nat) : Env := { pat := p, opts := {}, mco := false, orc := orc0 }

/-- non-vacuity: `[a` — the class scanner started after the `[` returns `unterminatedBracket` at the end
    of the pattern; `(?<` at the end of the pattern: `scanGroupOpen` returns `unrecognizedGrouping` -/
example : ∃ s', scanCharSet (env0 [91, 97]) 8 false false { pos := 1 } = .err .unterminatedBracket s' ∧ s'.pos = 2 :=
  ⟨_, rfl, rfl⟩
example : ∃ s', scanGroupOpen (env0 [40, 63, 60]) { pos := 1 } = .err .unrecognizedGrouping s' ∧ s'.pos = 3 :=
  ⟨_, rfl, rfl⟩

/-- **One turn of the capture pre-scan consumes at least one rune** and keeps "capnames ≠ nil →
    capnamelist ≠ []"; it never pops an empty options stack (the `)` case tests it, the `(?i)` case
    pops what the same turn pushed).  So `countCaptures` terminates within `length` turns. -/
theorem countStep_progress (E : Env) (s : PS) (hs : s.pos < E.pat.length) :
    wp (countStep E) (fun _ s' => AdvC E (s.pos + 1) s s') (AdvC E (s.pos + 1) s) s :=
  wp_countStep E s hs

/-- non-vacuity: the pre-scan of `(` from position 0: one rune consumed, the options pushed -/
example : ∃ s', countStep (env0 [40]) {} = .ok () s' ∧ s'.pos = 1 ∧ s'.optionsStack.length = 1 := ⟨_, rfl, rfl, rfl⟩

/-- **The capture pre-scan is total**: from any position inside the pattern, with any fuel above the
    number of runes left, `countCaptures` returns its tables or an `ErrorCode` (`duplicateGroupName`,
    `captureGroupOutOfRange`, …) — no fault (in particular `assignNameSlots` never indexes an empty
    `capnamelist`), no fuel exhaustion. -/
theorem countCaptures_total (E : Env) (s : PS) (hs : s.pos ≤ E.pat.length) (n : Nat)
    (hn : E.pat.length - s.pos < n) :
    wp (countCaptures E n) (fun _ s' => s'.pos ≤ E.pat.length) (fun _ => True) s :=
  wp_countCaptures E s hs n hn

example : ∃ t s', countCaptures (env0 [40, 97, 41]) 4 {} = .ok t s' ∧ t.captop = 2 := ⟨_, _, rfl, rfl⟩

/-- **One turn of `scanRegex` leaves the loop or consumes at least one rune**, and re-establishes the
    invariant of the loop head: position inside the pattern, unit = nil, depth of the options stack =
    depth of the group stack.  In particular `)` never pops an empty options or group stack,
    `addConcatenate` never meets a nil unit, `addToConcatenate` never slices outside the pattern, and
    the quantifier scan never takes its `{`-fallback (which would move the position back to the `{`). -/
theorem scanStep_progress (E : Env) (b : Bool) (s : PS) (hs : s.pos < E.pat.length) (hu : s.unit = none)
    (hl : s.optionsStack.length = s.stack.length) :
    wp (scanStep E b)
      (fun r s' => match r with
        | .inl _ => TurnInv E s' ∧ E.pat.length - s'.pos < E.pat.length - s.pos
        | .inr _ => True)
      (fun _ => True) s :=
  wp_scanStep E b s hs hu hl

/-- non-vacuity: the state `Parse` starts the main scan in satisfies the hypotheses -/
example (E : Env) (t : Groups.Tables) (h : 0 < E.pat.length) :
    (resetState E t).pos < E.pat.length ∧ (resetState E t).unit = none ∧
    (resetState E t).optionsStack.length = (resetState E t).stack.length := ⟨h, rfl, rfl⟩

/-- **`isTrueQuantifier` guarantees the quantifier syntax**: at a `{` that `isTrueQuantifier` accepted,
    `{n}` / `{n,}` / `{n,m}` is read to its closing brace — the "not a quantifier after all" branch of
    `scanRegex` (add the unit, go back to the `{`) is dead code.  An overflowing number is the error
    `captureGroupOutOfRange`. -/
theorem quantifier_fallback_dead (E : Env) (s : PS) (hb : EscapeParse.isTrueBrace (E.pat.drop s.pos) = true) :
    wp (quantBrace E) (fun r s' => r.isSome = true ∧ s.pos ≤ s'.pos ∧ s'.pos ≤ E.pat.length) (fun _ => True) s :=
  wp_quantBrace E s hb _ (fun _ _ _ h1 h2 => ⟨rfl, h1, h2⟩)

example : EscapeParse.isTrueBrace ((env0 [97, 123, 50, 44, 125]).pat.drop 2) = true := by decide

/-- **The main scan is total**: started at the head of a turn (unit = nil, stacks of equal depth) with
    any fuel above the number of runes left, `scanRegex` returns the root node or an `ErrorCode`. -/
theorem scanRegex_total (E : Env) (s : PS) (hs : s.pos ≤ E.pat.length) (hu : s.unit = none)
    (hl : s.optionsStack.length = s.stack.length) (n : Nat) (hn : E.pat.length - s.pos < n) :
    wp (scanRegex E n) (fun _ _ => True) (fun _ => True) s :=
  wp_mono (wp_scanRegex_root E s hs hu hl n hn) (fun _ _ _ => trivial) (fun _ h => h)

/-- non-vacuity: the main scan of `a|b` from the state `Parse` starts it in returns the root Capture -/
example : ∃ r s', scanRegex (env0 [97, 124, 98]) 4 { g := { caps := [0], captop := 1, autocap := 1 } } = .ok r s' ∧
    r.t = .capture ∧ s'.pos = 3 := Res.exists_ok (by decide +kernel)

/-- **C10 for the parser: `Parse` is total.**  For every pattern (any list of runes), option set,
    `MaintainCaptureOrder` flag and oracle, the parser model with the fuel `length + 1` that `parse` gives its two outer
    loops (or any larger fuel) returns a raw tree with its capture tables or a Go `ErrorCode`; never `fault` (a Go
    run-time panic), never `fuel`.  Leg Pr ties the model to `syntax.VerifParseRaw` by exact equality of trees, tables
    and ErrorCodes. -/
theorem parse_total (pat : List Nat) (opts : Opts) (mco : Bool) (orc : Oracles) (fuel : Nat)
    (hf : pat.length < fuel) :
    let E : Env := { pat := pat, opts := opts, mco := mco, orc := orc }
    (∃ t, parseFuel E fuel = .ok t) ∨ (∃ c, parseFuel E fuel = .error c) :=
  parseFuel_total { pat := pat, opts := opts, mco := mco, orc := orc } fuel hf

/-- `parse` itself (fuel `length + 1`) -/
theorem parse_total' (E : Env) : (∃ t, parse E = .ok t) ∨ (∃ c, parse E = .error c) :=
  parseFuel_total E _ (Nat.lt_succ_self _)

/-- both outcomes occur: the empty pattern, `a`, `)`, `a{2,1}` -/
example : ∃ t, parse (env0 []) = .ok t := ⟨_, by rfl⟩
set_option maxRecDepth 8000 in
example : ∃ t, parse (env0 [97]) = .ok t := ⟨_, by rfl⟩
example : parse (env0 [41]) = .error .unexpectedParen := by rfl
set_option maxRecDepth 8000 in
example : parse (env0 [97, 123, 50, 44, 49, 125]) = .error .invalidRepeatSize := by rfl

/-- **The root of the raw tree (partial `parse_wf`).**  Whenever `Parse` returns a tree, its root is
    the Capture node number 0 with exactly one child (the Alternate node of the whole pattern): the
    first two conjuncts of `wfTree` and the child count of the root.  Invariant: the group at the bottom
    of the group stack is the Capture 0 that `scanRegex` starts with, without children until the final
    `addGroup`.

    Not proved: the whole of `parse_wf : parseFuel E fuel = .ok t → wfTree t = true` — every node locally well-formed
    (child count per node type, which is `parse_tree_shape` in `Props/C10Chain.lean`; a set exactly on the set family,
    `0 ≤ M ≤ N`, Multi of at least two runes) and every Ref / BackRefCond / Capture number registered in `caps`.  The
    last part needs a simulation between the capture pre-scan and the main scan (they must agree on which parentheses
    capture); the driver evaluates `wfTree` on every answer of leg Pr instead. -/
theorem parse_wf_partial (pat : List Nat) (opts : Opts) (mco : Bool) (orc : Oracles) (fuel : Nat)
    (hf : pat.length < fuel) (t : RawTree)
    (h : parseFuel { pat := pat, opts := opts, mco := mco, orc := orc } fuel = .ok t) :
    t.root.t = .capture ∧ t.root.m = 0 ∧ t.root.kids.length = 1 :=
  parseFuel_root { pat := pat, opts := opts, mco := mco, orc := orc } fuel hf t h

set_option maxRecDepth 8000 in
/-- non-vacuity: `a` parses (so the hypothesis holds for its tree) -/
example : ∃ t, parseFuel (env0 [97]) 2 = .ok t ∧ t.root.kids.length = 1 := ⟨_, by rfl, by rfl⟩

end RegexVerif.Props.C10
