/-
C15 — right-to-left mode is the mirror image of left-to-right.

`Spec.m` is direction-parametric; the theorems of C01 are stated for both directions.  This file states the
direction-specific facts the property lists, and the mirror theorem: matching right-to-left on a text is matching
the mirrored pattern (`Spec.mirrorPat`: concatenations swapped, `^`↔`$`, `\A`↔`\z`, lookahead↔lookbehind, `\Z` ↦ its
mirror image `begz`) left-to-right on the reversed text (`Spec.revEnv`), with positions and captures reflected
(`Spec.mirrorSt`).  Definitions and the induction are in `Lemmas/SpecMirror.lean`.
-/
import RegexVerif.Props.C01
import RegexVerif.Lemmas.SpecMirror

namespace RegexVerif.Props.C15
open RegexVerif RegexVerif.Spec

/-- **Attempt positions descend from the start offset**: with `rtl = true` find returns the attempt
    at the *largest* position `≤ start` at which an attempt succeeds. -/
theorem find_rtl_descends (e : Env) (p : Pat) (start : Nat) (st : St) (i : Nat)
    (hfind : find e p true start = some st)
    (hi : i ≤ start) (hsucc : (attempt e p true i).isSome) :
    ∃ j, i ≤ j ∧ j ≤ start ∧ attempt e p true j = some st := by
  obtain ⟨before, j, after, hso, hat, hbefore⟩ := (C01.find_eq_some_iff e p true start st).mp hfind
  have hj : j ∈ scanOrder true start e.n := by rw [hso]; simp
  have hjs := (C01.mem_scanOrder_rtl start e.n j).mp hj
  refine ⟨j, ?_, hjs, hat⟩
  -- i is in the scan order; it is not in `before` (its attempt succeeds), so it is j or after j
  have himem : i ∈ scanOrder true start e.n := (C01.mem_scanOrder_rtl start e.n i).mpr hi
  rw [hso] at himem
  have hsorted := C01.scanOrder_sorted true start e.n
  rw [hso] at hsorted
  simp only [List.mem_append, List.mem_cons] at himem
  rcases himem with hb | rfl | ha
  · have := hbefore i hb; rw [this] at hsucc; simp at hsucc
  · exact Nat.le_refl _
  · have := (List.pairwise_append.mp hsorted).2.1
    have := (List.pairwise_cons.mp this).1 i ha
    simp at this; omega

/-- **Right-to-left consumes leftwards**, at the leaf where runes are consumed: a single-character item ends one
    position to the left and tested the rune before the position. -/
theorem chr_rtl (e : Env) (p : Pred) (st st' : St) (h : st' ∈ m e (.chr p) true st) :
    st'.pos + 1 = st.pos ∧ st'.caps = st.caps ∧ ∃ r, e.text[st'.pos]? = some r ∧ p.test e r = true := by
  rw [m] at h
  split at h
  · rename_i r pos' hstep
    rw [List.mem_ite_nil_right, List.mem_singleton] at h
    obtain ⟨ht, rfl⟩ := h
    have hs := (stepChar_eq_some e true st.pos r pos').mp hstep
    exact ⟨hs.1, rfl, r, hs.2, ht⟩
  · cases h

/-- **Concatenations are evaluated last-to-first** under right-to-left. -/
theorem seq_rtl (e : Env) (a b : Pat) (st : St) :
    m e (.seq a b) true st = (m e b true st).flatMap (m e a true) := by
  simp [m]

/-- **Lookahead still looks rightwards, lookbehind leftwards**, whatever the direction of the
    enclosing pattern. -/
theorem look_direction (e : Env) (behind neg : Bool) (body : Pat) (rtl : Bool) (st : St) :
    m e (.look behind neg body) rtl st = m e (.look behind neg body) (!rtl) st := by
  simp [m]

/-- **Captures are ordinary (start, length) spans** in both directions. -/
theorem cap_span (e : Env) (g : Nat) (body : Pat) (rtl : Bool) (st st' : St) (h : st' ∈ m e (.cap g body) rtl st) :
    ∃ caps, st'.caps = caps ++ [(g, min st.pos st'.pos, max st.pos st'.pos - min st.pos st'.pos)] := by
  simp only [m, List.mem_map] at h
  obtain ⟨y, _, rfl⟩ := h
  exact ⟨y.caps, rfl⟩

/-- non-vacuity: `a(b)` matched right-to-left on "xab" from the end -/
example : find { text := [120, 97, 98], textstart := 3, named := [], word := [], fold := [] }
    (.seq (.chr (.one 97 false)) (.cap 1 (.chr (.one 98 false)))) true 3
    = some { pos := 1, caps := [(1, 2, 1), (0, 1, 2)] } := by decide

/-! ## the mirror theorem -/

/-- the text "xabc" searched right-to-left from its end -/
private def exEnv : Env := { text := [120, 97, 98, 99], textstart := 4, named := [], word := [], fold := [] }
/-- `a(b)(?=c)` -/
private def exPat : Pat :=
  .seq (.chr (.one 97 false)) (.seq (.cap 1 (.chr (.one 98 false))) (.look false false (.chr (.one 99 false))))

/-- **The mirror theorem, both directions.**  The start offset and the state lie inside the text: reflection
    `p ↦ n - p` is only invertible there (the interpreter never leaves the text, `Spec.m_wf`). -/
theorem mirror (e : Env) (hts : e.textstart ≤ e.n) (p : Pat) (rtl : Bool) (st : St) (h : St.wf e.n st) :
    m e p rtl st = (m (revEnv e) (mirrorPat p) (!rtl) (mirrorSt e.n st)).map (mirrorSt e.n) :=
  m_mirror e hts p rtl st h

/-- **Right-to-left matching is the mirror image of left-to-right matching** (the case `rtl = true`). -/
theorem rtl_mirror (e : Env) (hts : e.textstart ≤ e.n) (p : Pat) (st : St) (h : St.wf e.n st) :
    m e p true st = (m (revEnv e) (mirrorPat p) false (mirrorSt e.n st)).map (mirrorSt e.n) :=
  m_mirror e hts p true st h

/-- non-vacuity: `a(b)(?=c)` read leftwards from position 3 of "xabc" is `(?<=c)(b)a` read
    rightwards from position 1 of "cbax" -/
example : mirrorPat exPat
    = .seq (.seq (.look true false (.chr (.one 99 false))) (.cap 1 (.chr (.one 98 false)))) (.chr (.one 97 false)) ∧
    m exEnv exPat true { pos := 3, caps := [] } = [{ pos := 1, caps := [(1, 2, 1)] }] ∧
    m (revEnv exEnv) (mirrorPat exPat) false { pos := 1, caps := [] } = [{ pos := 3, caps := [(1, 1, 1)] }] :=
  ⟨rfl, by decide +kernel, by decide +kernel⟩

/-- **A right-to-left find call is the mirror image of a left-to-right find call**: searching downwards from
    `start` returns the reflection of what searching the mirrored pattern upwards from `n - start` in the reversed
    text returns (same attempt order, same winner, reflected group 0 and captures). -/
theorem find_rtl_mirror (e : Env) (hts : e.textstart ≤ e.n) (p : Pat) (start : Nat) (hs : start ≤ e.n) :
    find e p true start = (find (revEnv e) (mirrorPat p) false (e.n - start)).map (mirrorSt e.n) :=
  find_mirror e hts p true start hs

/-- … and conversely a left-to-right find call is the mirror image of a right-to-left one. -/
theorem find_ltr_mirror (e : Env) (hts : e.textstart ≤ e.n) (p : Pat) (start : Nat) (hs : start ≤ e.n) :
    find e p false start = (find (revEnv e) (mirrorPat p) true (e.n - start)).map (mirrorSt e.n) :=
  find_mirror e hts p false start hs

/-- non-vacuity: `a(b)(?=c)` on "xabc" right-to-left from 4 finds [1,3) with group 1 = [2,3);
    `(?<=c)(b)a` on "cbax" left-to-right from 0 finds [1,3) with group 1 = [1,2) -/
example : find exEnv exPat true 4 = some { pos := 1, caps := [(1, 2, 1), (0, 1, 2)] } ∧
    find (revEnv exEnv) (mirrorPat exPat) false (exEnv.n - 4) = some { pos := 3, caps := [(1, 1, 1), (0, 1, 2)] } ∧
    mirrorSt exEnv.n { pos := 3, caps := [(1, 1, 1), (0, 1, 2)] } = { pos := 1, caps := [(1, 2, 1), (0, 1, 2)] } := by
  decide +kernel

/-- non-vacuity for the asymmetric anchor: `b\Z` right-to-left on "ab\n" (matches before the final
    newline) is `begz b` left-to-right on "\nba" (matches after the initial newline) -/
example : let e : Env := { text := [97, 98, 10], textstart := 3, named := [], word := [], fold := [] }
    let p : Pat := .seq (.chr (.one 98 false)) (.anchor .endz)
    mirrorPat p = .seq (.anchor .begz) (.chr (.one 98 false)) ∧
    find e p true 3 = some { pos := 1, caps := [(0, 1, 1)] } ∧
    find (revEnv e) (mirrorPat p) false 0 = some { pos := 2, caps := [(0, 1, 1)] } :=
  ⟨rfl, by decide +kernel, by decide +kernel⟩

/-- **Reflection is an involution** on states inside the text (so the mirror theorem can be read in either
    direction), and keeps them inside. -/
theorem mirrorSt_involutive (n : Nat) (st : St) (h : St.wf n st) :
    mirrorSt n (mirrorSt n st) = st ∧ St.wf n (mirrorSt n st) :=
  ⟨mirrorSt_mirrorSt n st h, mirrorSt_wf n st h⟩

example : mirrorSt 4 (mirrorSt 4 { pos := 1, caps := [(1, 2, 1), (0, 1, 2)] }) = { pos := 1, caps := [(1, 2, 1), (0, 1, 2)] } := by
  decide

/-- **Reversing the input twice gives the input back** (start offset inside the text). -/
theorem revEnv_involutive (e : Env) (h : e.textstart ≤ e.n) : revEnv (revEnv e) = e :=
  revEnv_revEnv e h

example : (revEnv (revEnv exEnv)).text = exEnv.text ∧ (revEnv (revEnv exEnv)).textstart = exEnv.textstart := by decide

/-- **Mirroring a pattern twice gives the pattern back.** -/
theorem mirrorPat_involutive (p : Pat) : mirrorPat (mirrorPat p) = p :=
  mirrorPat_mirrorPat p

/-- the mirror of `a(b)(?=c)` is a different pattern, `(?<=c)(b)a` -/
example : mirrorPat exPat ≠ exPat ∧ mirrorPat (mirrorPat exPat) = exPat :=
  ⟨by simp [mirrorPat, exPat], rfl⟩

end RegexVerif.Props.C15
