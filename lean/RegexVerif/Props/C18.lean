/-
C18 — Inline options equal compile-time options.

Theorems about `Options.resolve` (the option threading of `syntax/parser.go`: `p.options`, the
options stack, `scanOptions`) and about the list of option readers regenerated from the Go source.
Leg O of the harness ties `resolve` to the real parser: for every generated pattern and all 32
option sets it prints the fully explicit spelling from `resolve` and checks that Go parses it to
the same tree, tables and program as the original.  The last section states the prefix law for the
`scanOptions` loop of the real parser model (`Model/Parser.lean`).
-/
import RegexVerif.Lemmas.Options
import RegexVerif.Generated.OptionReaders
import RegexVerif.Model.Parser

namespace RegexVerif.Props.C18
open RegexVerif.Options

/-- **C18, leading `(?O)`.** Parsing a pattern under compile options `O` stamps the same options on
    every leaf and decides the same capturing status for every group as parsing `(?O)` followed by the
    pattern without options: the token lists are identical. -/
theorem prefix_eq_compile (O : Opts) (p : List Pat) :
    resolve O p = resolve Opts.none (.opt (onSeq O) :: p) := by
  simp [resolve_cons, resolveOne, applySeq_none_onSeq]

example : resolve { i := true, x := true } [.leaf 0, .group 1 .unnamed [.opt [(.i, false)], .leaf 2], .leaf 3]
    = resolve Opts.none [.opt (onSeq { i := true, x := true }), .leaf 0,
        .group 1 .unnamed [.opt [(.i, false)], .leaf 2], .leaf 3] := prefix_eq_compile _ _

/-- **C18, wrapping `(?O: … )`.** Wrapping the pattern in a scoped group adds one non-capturing
    group around exactly the token list of the pattern parsed under compile options `O`; in
    particular every leaf gets the same effective options. -/
theorem wrap_eq_compile (O : Opts) (id : Nat) (p : List Pat) :
    resolve Opts.none [.scoped id (onSeq O) p] = .gopen id false O :: resolve O p ++ [.gclose id] ∧
    leaves (resolve Opts.none [.scoped id (onSeq O) p]) = leaves (resolve O p) := by
  have h : resolve Opts.none [.scoped id (onSeq O) p] = .gopen id false O :: resolve O p ++ [.gclose id] := by
    simp [resolve_cons, resolve_nil, resolveOne, applySeq_none_onSeq]
  refine ⟨h, ?_⟩
  rw [h]
  simp [leaves, leaves_append]

example : leaves (resolve Opts.none [.scoped 9 (onSeq { n := true, s := true }) [.leaf 0, .opt [(.s, false)], .leaf 1]])
    = [(0, { n := true, s := true }), (1, { n := true })] := by decide

/-- **C18, scope of a group.** Whatever the body of a group does to the options — inline `(?O)`,
    `(?-O)`, nested groups — the items after its closing parenthesis are parsed under the options
    that were in force at its opening parenthesis (`pushOptions` / `popOptions`). The same holds
    for a scoped group `(?on-off: … )`, whose own options apply inside only. -/
theorem off_scoped (o : Opts) (id : Nat) (k : GroupKind) (seq : List (Flag × Bool)) (body rest : List Pat) :
    resolve o (.group id k body :: rest) =
      .gopen id (captures o k) o :: resolve o body ++ .gclose id :: resolve o rest ∧
    resolve o (.scoped id seq body :: rest) =
      .gopen id false (applySeq o seq) :: resolve (applySeq o seq) body ++ .gclose id :: resolve o rest := by
  constructor <;> simp [resolve_cons, resolveOne]

/-- **C18, `(?-O)`.** An inline `(?-O)` switches exactly the options of `O` off for the items that
    follow it in the same group (until another inline item changes them again). -/
theorem off_switches_rest_of_group (o O : Opts) (rest : List Pat) :
    resolve o (.opt (offSeq O) :: rest) =
      resolve { i := o.i && !O.i, m := o.m && !O.m, n := o.n && !O.n, s := o.s && !O.s, x := o.x && !O.x } rest := by
  simp [resolve_cons, resolveOne, applySeq_offSeq]

/-- non-vacuity of both: `(?i)` … `((?-i)b)c`: `b` is case-sensitive, `c` after the group is not. -/
example : leaves (resolve Opts.none [.opt (onSeq { i := true }), .leaf 0,
      .group 1 .unnamed [.opt (offSeq { i := true }), .leaf 2], .leaf 3])
    = [(0, { i := true }), (2, {}), (3, { i := true })] := by decide

/-- **C18, the parser's stack discipline.** `resolve` (recursion over the pattern tree) is what the
    parser's single left-to-right pass with an explicit options stack computes: push at `(`,
    `scanOptions`, keep for a bare `(?…)`, pop at `)`. -/
theorem stack_machine_eq_resolve (o : Opts) (p : List Pat) :
    run o [] (flatten p) = resolve o p := by
  have := run_flatten_aux o [] [] p
  simpa [run] using this

example : run { m := true } [] (flatten [.group 0 .unnamed [.opt [(.n, true)], .group 1 .unnamed [.leaf 2]], .group 3 .unnamed []])
    = [.gopen 0 true { m := true }, .gopen 1 false { m := true, n := true }, .leaf 2 { m := true, n := true },
       .gclose 1, .gclose 0, .gopen 3 true { m := true }, .gclose 3] := by decide

/-! ### who reads option bits after the parser -/

open RegexVerif.Generated in
/-- option bits that code outside the parser may look at -/
def postParserBits : List String := ["RightToLeft", "IgnoreCase", "ECMAScript", "RE2", "Unicode"]

open RegexVerif.Generated in
/-- functions of `syntax/tree.go` that compare two whole option words. They run inside `Parse`
    (`reduce`, `finalOptimize`), i.e. before the tree the certificate compares exists. -/
def parseTimeComparers : List String :=
  ["RegexNode.canBeMadeAtomic", "RegexNode.extractCommonPrefixOneNotoneSet",
   "RegexNode.extractCommonPrefixText", "RegexNode.reduceConcatenationWithAdjacentLoops"]

open RegexVerif.Generated in
/-- a use is harmless for the certificate when it tests/clears/sets only post-parser bits, moves the
    whole word on unchanged (into a new node, a variable, a callee that is itself listed), compares
    whole words at parse time, or is the debug printer `RegexNode.Description` -/
def harmless (u : OptionUse) : Bool :=
  if u.kind = "mask" ∨ u.kind = "clear" ∨ u.kind = "set" ∨ u.kind = "maskout" then
    u.mask.all (fun b => postParserBits.contains b) || (u.file = "syntax/tree.go" && u.fn = "RegexNode.Description")
  else if u.kind = "copy" ∨ u.kind = "pass" then true
  else if u.kind = "cmp" then u.file = "syntax/tree.go" && parseTimeComparers.contains u.fn
  else false

/-- **C18, certificate soundness fact.** Every use of a `.Options` / `.options` / `.RegexOptions`
    field outside `syntax/parser.go` — regenerated from the Go source on every run — is harmless in
    the sense above: after `Parse` nobody looks at the `m`, `s`, `n`, `x` bits, so two parses that
    agree up to these bits compile to the same program. -/
theorem options_readers_expected : Generated.optionReaders.all harmless = true := by
  decide +kernel

/-- the list is not empty and contains the readers one expects (writer, runner, match) -/
example : (Generated.optionReaders.map (·.file)).contains "syntax/writer.go" = true ∧
    (Generated.optionReaders.map (·.file)).contains "runner.go" = true ∧
    Generated.optionReaders.length ≥ 40 := by decide +kernel

/-- the run-time readers of `Regexp.options` (root package) look at RightToLeft, ECMAScript, RE2 only,
    apart from handing the word to the replacement parser -/
theorem regexp_options_runtime_readers :
    (Generated.optionReaders.filter (fun u => u.pkg = "regexp2")).all
      (fun u => u.kind = "pass" ∨ (u.kind = "mask" ∧ u.mask.all (fun b => ["RightToLeft", "ECMAScript", "RE2"].contains b))) = true := by
  decide +kernel

/-! ### the real parser model (`Model/Parser.lean`, tied to `syntax/parser.go` by leg Pr)

The full statement (not proved: the model addresses the pattern by index, so every scanner would need a lemma for a
pattern shifted by the length of the prefix): for every pattern `p` and compile options `opts`, with `O ⊆ {i,m,n,s,x}`,

    Parser.parse {pat := "(?O)" ++ p, opts := opts, …}  and  Parser.parse {pat := p, opts := opts ∪ O, …}

both fail with the same `ErrorCode` or yield trees with the same tables that differ only in the option
word of the three nodes created before the prefix is read (root Capture, its Alternate and its
Concatenate).  Leg O of this property checks it on the Go side (tree + table + program equality), leg Pr
ties the Lean parser to the Go parser on the same generators.  What is proved below is the step
the statement rests on: how the real `scanOptions` reads the prefix. -/

/-- the letters of `(?imnsx` for an option set, in the order `i m n s x` -/
def onText (O : Opts) : List Nat :=
  (if O.i then [105] else []) ++ (if O.m then [109] else []) ++ (if O.n then [110] else []) ++
  (if O.s then [115] else []) ++ (if O.x then [120] else [])

/-- **C18 on the real parser model, partial (`scanOptions` only).**  Reading the text of `(?O)` after
    its `(?`, the parser's `scanOptions` (`Parser.optionsGo`, the loop of `syntax/parser.go`'s
    `scanOptions`) switches on exactly the flags of `O` in whatever option word `o` is in force, leaves
    every other bit (RightToLeft, ECMAScript, RE2, Unicode and the flags not in `O`) alone, and
    stops in front of the closing parenthesis having consumed exactly the letters. -/
theorem scanOptions_prefix_partial (O : Opts) (o : Parser.Opts) (rest : List Nat) :
    Parser.optionsGo (onText O ++ 41 :: rest) false o 0 =
      ({ o with i := o.i || O.i, m := o.m || O.m, n := o.n || O.n, s := o.s || O.s, x := o.x || O.x },
       (onText O).length) := by
  obtain ⟨i, m, n, s, x⟩ := O
  cases i <;> cases m <;> cases n <;> cases s <;> cases x <;> simp only [Bool.or_true, Bool.or_false] <;> rfl

example : Parser.optionsGo ([105, 120] ++ 41 :: [97]) false { m := true, re2 := true } 0
    = ({ i := true, m := true, x := true, re2 := true }, 2) := by decide

end RegexVerif.Props.C18
